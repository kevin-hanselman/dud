import DudModel.Model
/-!
# Specification vocabulary for the cache operations

Pure reference notions the property theorems are stated with: plain / sorted trees, the logical
content of a workspace node (links into the cache followed), the digest a tree *should* get.
-/
namespace Dud

variable {κ : Type}

mutual
/-- only regular files and directories -/
def Node.plain : Node κ → Bool
  | .file _ => true
  | .dir es => plainList es
  | .link _ => false
  | .other => false
def plainList : List (Name × Node κ) → Bool
  | [] => true
  | (_, n) :: r => n.plain && plainList r
end

/-- first name of a listing, if any -/
def headName (es : List (Name × Node κ)) : Option Name := es.head?.map (·.1)

mutual
/-- entry names strictly increasing (bytewise) in every directory: the canonical representation of
a tree as a finite map (hence also duplicate-free) -/
def Node.sorted : Node κ → Bool
  | .dir es => sortedList es
  | _ => true
def sortedList : List (Name × Node κ) → Bool
  | [] => true
  | (nm, n) :: r =>
    n.sorted && sortedList r &&
      (match headName r with
       | none => true
       | some nm2 => decide (nm < nm2))
end

mutual
def depth : Node κ → Nat
  | .dir es => depthList es + 1
  | _ => 1
def depthList : List (Name × Node κ) → Nat
  | [] => 0
  | (_, t) :: r => max (depth t) (depthList r)
end

mutual
/-- logical content: a link that resolves to a cache object counts as a regular file with the
object's bytes -/
def deref (ctx : Ctx κ) (s : Store κ) : Node κ → Node κ
  | .file c => .file c
  | .link (.obj d) => match s.get d with
    | some o => .file (o.bytes ctx)
    | none => .link (.obj d)
  | .link (.foreign l) => .link (.foreign l)
  | .other => .other
  | .dir es => .dir (derefList ctx s es)
def derefList (ctx : Ctx κ) (s : Store κ) : List (Name × Node κ) → List (Name × Node κ)
  | [] => []
  | (nm, n) :: r => (nm, deref ctx s n) :: derefList ctx s r
end

mutual
/-- the checksum a tree must get: a function of the (path, tree) alone -/
def treeDigest (ctx : Ctx κ) : Bytes → Node κ → Digest
  | _, .file c => ctx.H c
  | nm, .dir es => (Obj.man .new nm (sortChildren (childrenOf ctx es)) : Obj κ).digest ctx
  | _, .link _ => ""
  | _, .other => ""
def childrenOf (ctx : Ctx κ) : List (Name × Node κ) → List Child
  | [] => []
  | (nm, n) :: r => { name := nm, sum := treeDigest ctx nm n, isDir := n.isDir } :: childrenOf ctx r
end

mutual
def allNames : Node κ → List Name
  | .dir es => allNamesList es
  | _ => []
def allNamesList : List (Name × Node κ) → List Name
  | [] => []
  | (nm, n) :: r => nm :: (allNames n ++ allNamesList r)
end

/-- every object sits under the digest of its bytes -/
def Consistent (ctx : Ctx κ) (s : Store κ) : Prop := ∀ d o, s.get d = some o → o.digest ctx = d

/-- `s'` holds at least the bytes `s` holds, under the same names -/
def Store.le (ctx : Ctx κ) (s s' : Store κ) : Prop :=
  ∀ d o, s.get d = some o → ∃ o', s'.get d = some o' ∧ o'.bytes ctx = o.bytes ctx

/-- assumptions on the hash and the manifest codec -/
structure Good (ctx : Ctx κ) : Prop where
  inj : ∀ a b, ctx.H a = ctx.H b → a = b
  len : ∀ a, 3 ≤ (ctx.H a).length
  dec : ∀ sch p cs, ctx.decBlob (ctx.encMan sch p cs) = some (cs.map (ctx.reload sch))

/-- commit accepts every entry name of the tree (valid UTF-8), the decoder returns entries
with these names unchanged, and the names are what a directory listing can contain (not empty,
not "." or "..", no separator), so that `readManifest` accepts them -/
def NamesOK (ctx : Ctx κ) (t : Node κ) : Prop :=
  ∀ nm, nm ∈ allNames t → ctx.nameOK nm = true ∧
    (∀ sch sum isDir, ctx.reload sch ⟨nm, sum, isDir⟩ = ⟨nm, sum, isDir⟩) ∧
    entryNameOK nm = true

/-- every entry names a direct child (`entryNameOK`): what `readManifest` checks -/
def ChildrenOK (cs : List Child) : Prop := ∀ c ∈ cs, entryNameOK c.name = true

theorem childrenOK_iff_all (cs : List Child) :
    (cs.all fun c => entryNameOK c.name) = true ↔ ChildrenOK cs := by
  simp [ChildrenOK, List.all_eq_true]

theorem ChildrenOK.nil : ChildrenOK [] := fun _ h => by cases h

theorem ChildrenOK.cons {c : Child} {cs : List Child} (h : entryNameOK c.name = true)
    (hr : ChildrenOK cs) : ChildrenOK (c :: cs) := by
  intro x hx
  rcases List.mem_cons.1 hx with rfl | hx
  · exact h
  · exact hr x hx

theorem ChildrenOK.head {c : Child} {cs : List Child} (h : ChildrenOK (c :: cs)) :
    entryNameOK c.name = true := h c (by simp)

theorem ChildrenOK.tail {c : Child} {cs : List Child} (h : ChildrenOK (c :: cs)) :
    ChildrenOK cs := fun x hx => h x (by simp [hx])

/-- the validation step of `readManifest` -/
def checkedChildren (cs : List Child) : Except Err (List Child) :=
  if cs.all (fun c => entryNameOK c.name) then .ok cs else .error .badManifest

theorem checkedChildren_ok {cs : List Child} (h : ChildrenOK cs) : checkedChildren cs = .ok cs := by
  simp [checkedChildren, (childrenOK_iff_all cs).2 h]

theorem checkedChildren_bad {cs : List Child} (h : ¬ ChildrenOK cs) :
    checkedChildren cs = .error .badManifest := by
  have : ¬ (cs.all fun c => entryNameOK c.name) = true := fun h' => h ((childrenOK_iff_all cs).1 h')
  simp only [checkedChildren, this]
  rfl

theorem checkedChildren_eq_ok {cs cs' : List Child} (h : checkedChildren cs = .ok cs') :
    cs' = cs ∧ ChildrenOK cs := by
  unfold checkedChildren at h
  split at h
  · next hall => cases h; exact ⟨rfl, (childrenOK_iff_all _).1 hall⟩
  · cases h

/-- `readManifest` with the validation step named -/
theorem readManifest_eq (ctx : Ctx κ) (s : Store κ) (d : Digest) :
    readManifest ctx s d = match s.get d with
      | none => .error .missingFromCache
      | some (.man sch _ cs) => checkedChildren (cs.map (ctx.reload sch))
      | some (.blob c) => match ctx.decBlob c with
        | some cs => checkedChildren cs
        | none => .error .badManifest := rfl

theorem readManifest_childrenOK {ctx : Ctx κ} {s : Store κ} {d : Digest} {cs : List Child}
    (h : readManifest ctx s d = .ok cs) : ChildrenOK cs := by
  rw [readManifest_eq] at h
  split at h
  · cases h
  · exact (checkedChildren_eq_ok h).1 ▸ (checkedChildren_eq_ok h).2
  · split at h
    · exact (checkedChildren_eq_ok h).1 ▸ (checkedChildren_eq_ok h).2
    · cases h

/-- a stored manifest whose (reloaded) entries have valid names reads back as before -/
theorem readManifest_man {ctx : Ctx κ} {s : Store κ} {d : Digest} {sch : Schema} {p : Bytes}
    {cs : List Child} (h : s.get d = some (.man sch p cs))
    (hok : ChildrenOK (cs.map (ctx.reload sch))) :
    readManifest ctx s d = .ok (cs.map (ctx.reload sch)) := by
  rw [readManifest_eq, h]
  exact checkedChildren_ok hok

theorem readManifest_man_bad {ctx : Ctx κ} {s : Store κ} {d : Digest} {sch : Schema} {p : Bytes}
    {cs : List Child} (h : s.get d = some (.man sch p cs))
    (hbad : ¬ ChildrenOK (cs.map (ctx.reload sch))) :
    readManifest ctx s d = .error .badManifest := by
  rw [readManifest_eq, h]
  exact checkedChildren_bad hbad

end Dud
