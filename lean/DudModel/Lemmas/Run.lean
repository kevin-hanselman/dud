import DudModel.World
import DudModel.Lemmas.InsertSort
import DudModel.Lemmas.MapE
/-!
# Lemmas about `setStage`, `allMatch`, `runAct`, `statusArt` and `statusAct`

`runDecision` is the value Go's `Index.Run` stores in `ran[stagePath]` (`doRun`), written without
the `exec` parameter; `runAct_eq` factors `runAct` through it.  The terms of the decision are defined
here (`plainInputs`, `upOwners`, `upRan`, `ownedStale`, `Stage.sumOk`, `Stage.noInputs`).  `statusArt` is `dirStatus` or
`fileStatus` by the kind of the artifact (`statusArt_dir`, `statusArt_file`), `statusArts` a `mapE`
(`statusArts_eq_mapE`).
-/
namespace Dud

variable {κ : Type}

/-- a hypothesis "for every stage looked up in the index" follows from the statement over the
entries of the index, which is decidable on a concrete index -/
theorem lookup_forall {idx : Index} {P : Bytes → Stage → Prop} (h : ∀ e ∈ idx, P e.1 e.2) (sp : Bytes)
    (stg : Stage) (hs : alookup idx sp = some stg) : P sp stg := h _ (alookup_mem hs)

theorem alookup_of_mem_nodup {β : Type} {l : List (Bytes × β)} (hn : (l.map (·.1)).Nodup) {k : Bytes}
    {v : β} (hm : (k, v) ∈ l) : alookup l k = some v := by
  induction l with
  | nil => cases hm
  | cons e r ih =>
    obtain ⟨a, b⟩ := e
    rw [List.map_cons, List.nodup_cons] at hn
    rcases List.mem_cons.1 hm with h | h
    · cases h; exact alookup_cons_self r k v
    · rw [alookup_cons_ne r b fun hk : a = k => hn.1 (hk ▸ List.mem_map.2 ⟨(k, v), h, rfl⟩)]
      exact ih hn.2 h

theorem alookup_setStage_ne (idx : Index) {sp x : Bytes} (s : Stage) (h : x ≠ sp) :
    alookup (setStage idx sp s) x = alookup idx x := by
  induction idx with
  | nil => rfl
  | cons e r ih =>
    obtain ⟨k, v⟩ := e
    simp only [setStage, List.map_cons] at ih ⊢
    by_cases hk : k = sp
    · subst hk
      have : (k == x) = false := by simpa using fun e => h e.symm
      simp only [beq_self_eq_true, if_true, alookup, this, Bool.false_eq_true, if_false]
      exact ih
    · have hk' : (k == sp) = false := by simpa using hk
      simp only [hk', Bool.false_eq_true, if_false, alookup]
      split
      · rfl
      · exact ih

theorem alookup_setStage_self (idx : Index) {sp : Bytes} (s : Stage) {s0 : Stage}
    (h : alookup idx sp = some s0) : alookup (setStage idx sp s) sp = some s := by
  induction idx with
  | nil => simp [alookup] at h
  | cons e r ih =>
    obtain ⟨k, v⟩ := e
    simp only [setStage, List.map_cons] at ih ⊢
    by_cases hk : k = sp
    · subst hk
      simp [alookup]
    · have hk' : (k == sp) = false := by simpa using hk
      simp only [alookup, hk', Bool.false_eq_true, if_false] at h ⊢
      exact ih h

variable [DecidableEq κ]

theorem allMatch_eq_true_iff (cfg : Cfg κ) (w : World κ) (l : List Art) :
    allMatch cfg w l = .ok true ↔ ∀ a, a ∈ l → matchShort cfg w a = .ok true := by
  induction l with
  | nil => simp [allMatch]
  | cons x xs ih =>
    simp only [allMatch, List.mem_cons, forall_eq_or_imp]
    cases hm : matchShort cfg w x with
    | error e => simp
    | ok b =>
      cases b with
      | false => simp
      | true => simpa using ih

/-- `allMatch` says `false` exactly when it meets an artifact that does not match, all earlier
ones matching; later ones are not looked at (Go's loop over the outputs `break`s; its loop over the
inputs goes on, which shows only if the status of a later input fails) -/
theorem allMatch_eq_false_iff (cfg : Cfg κ) (w : World κ) (l : List Art) :
    allMatch cfg w l = .ok false ↔
      ∃ l1 a l2, l = l1 ++ a :: l2 ∧ (∀ x, x ∈ l1 → matchShort cfg w x = .ok true) ∧
        matchShort cfg w a = .ok false := by
  induction l with
  | nil => simp [allMatch]
  | cons x xs ih =>
    simp only [allMatch]
    cases hm : matchShort cfg w x with
    | error e =>
      simp only [reduceCtorEq, false_iff]
      rintro ⟨l1, a, l2, hl, h1, h2⟩
      cases l1 with
      | nil => simp only [List.nil_append, List.cons.injEq] at hl; rw [← hl.1, hm] at h2; cases h2
      | cons y ys =>
        simp only [List.cons_append, List.cons.injEq] at hl
        have := h1 y List.mem_cons_self
        rw [← hl.1, hm] at this; cases this
    | ok b =>
      cases b with
      | false =>
        simp only [true_iff]
        exact ⟨[], x, xs, rfl, by simp, hm⟩
      | true =>
        simp only
        rw [ih]
        constructor
        · rintro ⟨l1, a, l2, hl, h1, h2⟩
          refine ⟨x :: l1, a, l2, by simp [hl], ?_, h2⟩
          intro y hy
          rcases List.mem_cons.1 hy with rfl | hy
          · exact hm
          · exact h1 y hy
        · rintro ⟨l1, a, l2, hl, h1, h2⟩
          cases l1 with
          | nil =>
            simp only [List.nil_append, List.cons.injEq] at hl
            rw [← hl.1, hm] at h2; cases h2
          | cons y ys =>
            simp only [List.cons_append, List.cons.injEq] at hl
            exact ⟨ys, a, l2, hl.2, fun z hz => h1 z (List.mem_cons_of_mem _ hz), h2⟩

def Stage.hasCmd (stg : Stage) : Bool := !stg.cmd.isEmpty

/-- `checksumUpToDate` -/
def Stage.sumOk (cfg : Cfg κ) (stg : Stage) : Bool := !stg.sum.isEmpty && stg.defSum cfg == stg.sum

/-- "has command and no inputs" -/
def Stage.noInputs (stg : Stage) : Bool := stg.hasCmd && stg.inputs.isEmpty

def plainInputs (cfg : Cfg κ) (idx : Index) (stg : Stage) : List Art :=
  stg.inputs.filter (fun a => (findOwner cfg.walkAccumulates idx a.path).isNone)

def upOwners (cfg : Cfg κ) (idx : Index) (stg : Stage) : List Bytes :=
  stg.inputs.filterMap (fun a => (findOwner cfg.walkAccumulates idx a.path).map (·.1))

/-- "upstream stage out-of-date" -/
def upRan (cfg : Cfg κ) (recursive : Bool) (w : World κ) (stg : Stage) : Bool :=
  recursive && (upOwners cfg w.idx stg).any (didRun w)

/-- an owned input whose recorded checksum differs from what its owner records now -/
def ownedStale (cfg : Cfg κ) (idx : Index) (stg : Stage) : Bool :=
  stg.inputs.any fun a =>
    match findOwner cfg.walkAccumulates idx a.path with
    | some (_, oa) => a.sum != oa.sum
    | none => false

omit [DecidableEq κ] in
theorem ownedStale_eq_false_iff (cfg : Cfg κ) (idx : Index) (stg : Stage) :
    ownedStale cfg idx stg = false ↔
      ∀ a, a ∈ stg.inputs → ∀ sp' oa, findOwner cfg.walkAccumulates idx a.path = some (sp', oa) → a.sum = oa.sum := by
  simp only [ownedStale, List.any_eq_false]
  constructor
  · intro h a ha sp' oa ho
    have := h a ha
    rw [ho] at this
    simpa using this
  · intro h a ha
    cases ho : findOwner cfg.walkAccumulates idx a.path with
    | none => simp
    | some p =>
      obtain ⟨sp', oa⟩ := p
      simp [h a ha sp' oa ho]

/-- `doRun` of `Index.Run` as a function of the world after the upstream recursion -/
def runDecision (cfg : Cfg κ) (recursive : Bool) (w : World κ) (stg : Stage) : Except Err Bool :=
  match allMatch cfg w (sortArts (plainInputs cfg w.idx stg)) with
  | .error e => .error e
  | .ok plainOk =>
    if stg.noInputs || !stg.sumOk cfg || !plainOk || upRan cfg recursive w stg ||
        ownedStale cfg w.idx stg then .ok true
    else match allMatch cfg w (sortArts stg.outputs) with
      | .error e => .error e
      | .ok oo => .ok (!oo)

omit [DecidableEq κ] in
/-- the shape of the decision: `pre` short-circuits the output check -/
theorem decision_shape {α : Type} (pre : Bool) (X : Except Err Bool) (K : Bool → Except Err α) :
    (match (if pre then (.ok true : Except Err Bool) else X) with
      | .error e => (.error e : Except Err α)
      | .ok oo => K (pre || !oo)) =
    (match (if pre then (.ok true : Except Err Bool) else
        (match X with | .error e => (.error e : Except Err Bool) | .ok oo => .ok (!oo))) with
      | .error e => (.error e : Except Err α)
      | .ok d => K d) := by
  cases pre with
  | true => rfl
  | false => cases X <;> rfl

theorem runAct_eq (cfg : Cfg κ) (exec : Exec κ) (recursive : Bool) (sp : Bytes) (w : World κ) :
    runAct cfg exec recursive sp w =
      match w.stage sp with
      | .error e => .error e
      | .ok stg =>
        match runDecision cfg recursive w stg with
        | .error e => .error e
        | .ok d =>
          if d && stg.hasCmd then
            match exec stg w with
            | .error e => .error e
            | .ok w' => .ok { w' with ran := (sp, true) :: w'.ran, log := w'.log ++ [sp] }
          else .ok { w with ran := (sp, d) :: w.ran } := by
  rw [runAct]
  cases w.stage sp with
  | error e => rfl
  | ok stg =>
    dsimp only [runDecision]
    rw [show plainInputs cfg w.idx stg = stg.inputs.filter
        (fun a => (findOwner cfg.walkAccumulates w.idx a.path).isNone) from rfl,
      show stg.hasCmd = !stg.cmd.isEmpty from rfl]
    cases allMatch cfg w (sortArts (stg.inputs.filter
        (fun a => (findOwner cfg.walkAccumulates w.idx a.path).isNone))) with
    | error e => rfl
    | ok plainOk =>
      exact decision_shape
        (stg.noInputs || !stg.sumOk cfg || !plainOk || upRan cfg recursive w stg || ownedStale cfg w.idx stg)
        (allMatch cfg w (sortArts stg.outputs))
        (fun d => if d && !stg.cmd.isEmpty then
            match exec stg w with
            | .error e => .error e
            | .ok w' => .ok { w' with ran := (sp, true) :: w'.ran, log := w'.log ++ [sp] }
          else .ok { w with ran := (sp, d) :: w.ran })

theorem runDecision_eq_false_iff (cfg : Cfg κ) (recursive : Bool) (w : World κ) (stg : Stage) :
    runDecision cfg recursive w stg = .ok false ↔
      stg.noInputs = false ∧ stg.sumOk cfg = true ∧
      allMatch cfg w (sortArts (plainInputs cfg w.idx stg)) = .ok true ∧
      upRan cfg recursive w stg = false ∧ ownedStale cfg w.idx stg = false ∧
      allMatch cfg w (sortArts stg.outputs) = .ok true := by
  simp only [runDecision]
  cases allMatch cfg w (sortArts (plainInputs cfg w.idx stg)) with
  | error e => simp
  | ok plainOk =>
    simp only
    split
    · rename_i hpre
      simp only [Bool.or_eq_true, Bool.not_eq_true'] at hpre
      simp only [Except.ok.injEq, false_iff, Bool.true_eq_false]
      rintro ⟨h1, h2, h3, h4, h5, _⟩
      rcases hpre with (((h | h) | h) | h) | h
      · rw [h1] at h; cases h
      · rw [h2] at h; cases h
      · rw [h] at h3; cases h3
      · rw [h4] at h; cases h
      · rw [h5] at h; cases h
    · rename_i hpre
      simp only [Bool.or_eq_true, Bool.not_eq_true', not_or, Bool.not_eq_true, Bool.not_eq_false] at hpre
      obtain ⟨⟨⟨⟨h1, h2⟩, h3⟩, h4⟩, h5⟩ := hpre
      cases allMatch cfg w (sortArts stg.outputs) with
      | error e => simp
      | ok oo => cases oo <;> simp [h1, h2, h3, h4, h5]

theorem runDecision_eq_true_iff (cfg : Cfg κ) (recursive : Bool) (w : World κ) (stg : Stage) :
    runDecision cfg recursive w stg = .ok true ↔
      ∃ plainOk, allMatch cfg w (sortArts (plainInputs cfg w.idx stg)) = .ok plainOk ∧
        (stg.noInputs = true ∨ stg.sumOk cfg = false ∨ plainOk = false ∨
          upRan cfg recursive w stg = true ∨ ownedStale cfg w.idx stg = true ∨
          allMatch cfg w (sortArts stg.outputs) = .ok false) := by
  simp only [runDecision]
  cases allMatch cfg w (sortArts (plainInputs cfg w.idx stg)) with
  | error e => simp
  | ok plainOk =>
    simp only [Except.ok.injEq, exists_eq_left']
    split
    · rename_i hpre
      simp only [Bool.or_eq_true, Bool.not_eq_true'] at hpre
      simp only [true_iff]
      rcases hpre with (((h | h) | h) | h) | h
      · exact .inl h
      · exact .inr (.inl h)
      · exact .inr (.inr (.inl h))
      · exact .inr (.inr (.inr (.inl h)))
      · exact .inr (.inr (.inr (.inr (.inl h))))
    · rename_i hpre
      simp only [Bool.or_eq_true, Bool.not_eq_true', not_or, Bool.not_eq_true, Bool.not_eq_false] at hpre
      obtain ⟨⟨⟨⟨h1, h2⟩, h3⟩, h4⟩, h5⟩ := hpre
      cases allMatch cfg w (sortArts stg.outputs) with
      | error e => simp [h1, h2, h3, h4, h5]
      | ok oo => cases oo <;> simp [h1, h2, h3, h4, h5]

omit [DecidableEq κ] in
theorem World.stage_eq_ok {w : World κ} {sp : Bytes} {stg : Stage} :
    w.stage sp = .ok stg ↔ alookup w.idx sp = some stg := by
  simp only [World.stage]
  cases alookup w.idx sp <;> simp

theorem runAct_inv (cfg : Cfg κ) (exec : Exec κ) (recursive : Bool) (sp : Bytes) (w w' : World κ)
    (h : runAct cfg exec recursive sp w = .ok w') :
    ∃ stg d, alookup w.idx sp = some stg ∧ runDecision cfg recursive w stg = .ok d ∧
      ((d && stg.hasCmd) = true →
        ∃ w1, exec stg w = .ok w1 ∧ w' = { w1 with ran := (sp, true) :: w1.ran, log := w1.log ++ [sp] }) ∧
      ((d && stg.hasCmd) = false → w' = { w with ran := (sp, d) :: w.ran }) := by
  rw [runAct_eq] at h
  cases hs : w.stage sp with
  | error e => rw [hs] at h; cases h
  | ok stg =>
    rw [hs] at h
    simp only at h
    cases hd : runDecision cfg recursive w stg with
    | error e => rw [hd] at h; cases h
    | ok d =>
      rw [hd] at h
      simp only at h
      refine ⟨stg, d, World.stage_eq_ok.1 hs, hd, ?_, ?_⟩
      · intro hx
        rw [if_pos hx] at h
        cases he : exec stg w with
        | error e => rw [he] at h; cases h
        | ok w1 => rw [he] at h; cases h; exact ⟨w1, rfl, rfl⟩
      · intro hx
        rw [if_neg (by simp [hx])] at h
        cases h; rfl

/-- `runAct` changes the world through `exec` (if at all) and its own bookkeeping -/
theorem runAct_cases {cfg : Cfg κ} {exec : Exec κ} {recursive : Bool} {sp : Bytes} {w w' : World κ}
    (h : runAct cfg exec recursive sp w = .ok w') :
    ∃ w1 b log, (w1 = w ∨ ∃ stg, exec stg w = .ok w1) ∧
      w' = { w1 with ran := (sp, b) :: w1.ran, log := log } := by
  obtain ⟨stg, d, -, -, h1, h2⟩ := runAct_inv cfg exec recursive sp w w' h
  cases hx : (d && stg.hasCmd) with
  | true =>
    obtain ⟨w1, he, rfl⟩ := h1 hx
    exact ⟨w1, true, _, .inr ⟨stg, he⟩, rfl⟩
  | false => exact ⟨w, d, w.log, .inl rfl, h2 hx⟩

theorem statusArt_dir (ctx : Ctx κ) (s : Store κ) (fuel : Nat) {a : Art} (hd : a.isDir = true)
    (cur : Option (Node κ)) :
    statusArt ctx s fuel a cur =
      (dirStatus ctx s fuel a.path a.noRec a.sum cur).map fun st => { st with skip := a.skip } := by
  rw [statusArt, if_pos hd]
  cases dirStatus ctx s fuel a.path a.noRec a.sum cur <;> rfl

theorem statusArt_file (ctx : Ctx κ) (s : Store κ) (fuel : Nat) {a : Art} (hd : a.isDir = false)
    (cur : Option (Node κ)) :
    statusArt ctx s fuel a cur = .ok (fileStatus ctx s a.path a.skip a.sum cur) := by
  rw [statusArt, if_neg (by simp [hd])]

theorem statusArts_eq_mapE (cfg : Cfg κ) (w : World κ) : ∀ l, statusArts cfg w l =
    mapE (fun a => statusArt cfg.ctx w.store cfg.fuel a (getPath w.ws (Path.comps a.path))) l
  | [] => rfl
  | a :: r => by
    rw [statusArts, mapE, statusArts_eq_mapE cfg w r]
    cases statusArt cfg.ctx w.store cfg.fuel a (getPath w.ws (Path.comps a.path)) with
    | error e => rfl
    | ok st => cases mapE _ r <;> rfl

theorem statusAct_inv {cfg : Cfg κ} {sp : Bytes} {w w' : World κ} (h : statusAct cfg sp w = .ok w') :
    ∃ stg sts, alookup w.idx sp = some stg ∧
      statusArts cfg w (sortArts (plainInputs cfg w.idx stg ++ stg.outputs)) = .ok sts ∧
      w' = { w with
        stat := w.stat ++ [(sp, !stg.sum.isEmpty, stg.sumOk cfg, sts)], done := sp :: w.done } := by
  unfold statusAct at h
  split at h
  · cases h
  rename_i stg hs
  dsimp only at h
  split at h
  · cases h
  rename_i sts hst
  cases h
  exact ⟨stg, sts, World.stage_eq_ok.1 hs, hst, rfl⟩

omit [DecidableEq κ] in
theorem isSome_alookup_cons (sp : Bytes) (b : Bool) (ran : List (Bytes × Bool)) (x : Bytes) :
    (alookup ((sp, b) :: ran) x).isSome = (x == sp || (alookup ran x).isSome) := by
  by_cases h : sp = x
  · rw [h, alookup_cons_self, beq_self_eq_true]; rfl
  · rw [alookup_cons_ne _ _ h, beq_eq_false_iff_ne.2 (Ne.symm h)]; rfl

end Dud
