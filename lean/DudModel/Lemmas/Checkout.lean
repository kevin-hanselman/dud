import DudModel.FrameSpec
import DudModel.Lemmas.Tree
import DudModel.Lemmas.Trav
import DudModel.Lemmas.CheckoutEq
/-!
# Lemmas about `checkoutFile` / `checkoutChildren` / `checkoutNode`, and their lifting to
`checkoutArts` / `checkoutAct` / `cmdCheckout`

The equations and inversions of the three functions are in `Lemmas/CheckoutEq.lean`; here the inversions
at the level of worlds (`checkoutArtW_inv`, `checkoutAct_inv`).  `Keeps` (FrameSpec.lean) is a
preorder that every checkout step and every write of a checkout result at a path respects
(`checkoutNode_keeps`, `setPath_keeps`); what a step establishes for the entry it writes and `Keeps`
keeps holds of every manifest entry at the end (`checkoutChildren_post`).  With pairwise distinct
manifest names (`ManifestsNodup`) the loop is entry-wise on the initial listing
(`checkoutChildren_char`).
`cmdCheckout_rel_ws` lifts any preorder on workspaces from the write of one artifact to the command,
`cmdCheckout_invariant` any invariant of `checkoutAct`.
-/
namespace Dud

variable {κ : Type}

theorem checkoutArtW_inv {cfg : Cfg κ} {strat : Strat} {a : Art} {w w' : World κ}
    (h : checkoutArtW cfg strat a w = .ok w') :
    (a.skip = true ∧ w' = w) ∨
    (a.skip = false ∧ ∃ n ws', checkoutNode cfg.ctx strat w.store cfg.fuel
        (getPath w.ws (Path.comps a.path)) a.child = .ok n ∧
      setPath w.ws (Path.comps a.path) n = some ws' ∧ w' = { w with ws := ws' }) := by
  cases hsk : a.skip with
  | true =>
    rw [checkoutArtW_skip cfg strat a w hsk] at h
    exact .inl ⟨rfl, (Except.ok.inj h).symm⟩
  | false =>
    rw [checkoutArtW_noskip cfg strat a w hsk] at h
    split at h
    · cases h
    rename_i n hn
    split at h
    · cases h
    rename_i ws' hs
    exact .inr ⟨rfl, n, ws', hn, hs, (Except.ok.inj h).symm⟩

theorem checkoutAct_inv {cfg : Cfg κ} {strat : Strat} {sp : Bytes} {w w' : World κ}
    (h : checkoutAct cfg strat sp w = .ok w') :
    ∃ stg w1, alookup w.idx sp = some stg ∧
      checkoutArts cfg strat (sortArts stg.outputs) w = .ok w1 ∧
      w' = { w1 with done := sp :: w1.done } := by
  unfold checkoutAct World.stage at h
  cases hl : alookup w.idx sp with
  | none => simp [hl] at h
  | some stg =>
    simp only [hl] at h
    split at h
    · cases h
    rename_i w1 h1
    simp only [Except.ok.injEq] at h
    exact ⟨stg, w1, rfl, h1, h.symm⟩

theorem checkoutAct_of {cfg : Cfg κ} {strat : Strat} {sp : Bytes} {w w1 : World κ} {stg : Stage}
    (hl : alookup w.idx sp = some stg)
    (h1 : checkoutArts cfg strat (sortArts stg.outputs) w = .ok w1) :
    checkoutAct cfg strat sp w = .ok { w1 with done := sp :: w1.done } := by
  unfold checkoutAct World.stage
  simp only [hl, h1]

theorem Keeps_dir {ctx : Ctx κ} {s : Store κ} {strat : Strat} {es : List (Name × Node κ)}
    {n' : Node κ} :
    Keeps ctx s strat (.dir es) n' ↔ ∃ es', n' = .dir es' ∧ KeepsList ctx s strat es es' := by
  rw [Keeps]

theorem Keeps_obj {ctx : Ctx κ} {s : Store κ} {strat : Strat} {d : Digest} {n' : Node κ} :
    Keeps ctx s strat (.link (.obj d)) n' ↔
      n' = .link (.obj d) ∨ (strat = .copy ∧ ∃ o, s.get d = some o ∧ n' = .file (o.bytes ctx)) := by
  rw [Keeps]

/-- anything but a directory or a link into the cache is kept only as it is -/
theorem Keeps_leaf {ctx : Ctx κ} {s : Store κ} {strat : Strat} {n n' : Node κ}
    (hd : ∀ es, n ≠ .dir es) (hl : ∀ d, n ≠ .link (.obj d)) : Keeps ctx s strat n n' ↔ n' = n := by
  cases n with
  | dir es => exact absurd rfl (hd es)
  | link l =>
    cases l with
    | obj d => exact absurd rfl (hl d)
    | foreign b => rw [Keeps]
  | file x => rw [Keeps]
  | other => rw [Keeps]

theorem Keeps_file {ctx : Ctx κ} {s : Store κ} {strat : Strat} {x : κ} {n' : Node κ}
    (h : Keeps ctx s strat (.file x) n') : n' = .file x :=
  (Keeps_leaf (by nofun) (by nofun)).1 h

theorem KeepsList_nil {ctx : Ctx κ} {s : Store κ} {strat : Strat} (es' : List (Name × Node κ)) :
    KeepsList ctx s strat [] es' := by
  rw [KeepsList]; trivial

theorem KeepsList_cons {ctx : Ctx κ} {s : Store κ} {strat : Strat} {nm : Name} {n : Node κ}
    {r es' : List (Name × Node κ)} :
    KeepsList ctx s strat ((nm, n) :: r) es' ↔
      ∃ n' r', es' = (nm, n') :: r' ∧ Keeps ctx s strat n n' ∧ KeepsList ctx s strat r r' := by
  rw [KeepsList]

mutual
theorem Keeps_refl (ctx : Ctx κ) (s : Store κ) (strat : Strat) : ∀ n : Node κ, Keeps ctx s strat n n
  | .dir es => Keeps_dir.2 ⟨es, rfl, KeepsList_refl ctx s strat es⟩
  | .link (.obj d) => Keeps_obj.2 (.inl rfl)
  | .link (.foreign l) => (Keeps_leaf (by nofun) (by nofun)).2 rfl
  | .file c => (Keeps_leaf (by nofun) (by nofun)).2 rfl
  | .other => (Keeps_leaf (by nofun) (by nofun)).2 rfl
theorem KeepsList_refl (ctx : Ctx κ) (s : Store κ) (strat : Strat) :
    ∀ es : List (Name × Node κ), KeepsList ctx s strat es es
  | [] => KeepsList_nil _
  | (_, n) :: r =>
    KeepsList_cons.2 ⟨n, r, rfl, Keeps_refl ctx s strat n, KeepsList_refl ctx s strat r⟩
end

mutual
theorem Keeps_trans (ctx : Ctx κ) (s : Store κ) (strat : Strat) :
    ∀ (a b c : Node κ), Keeps ctx s strat a b → Keeps ctx s strat b c → Keeps ctx s strat a c
  | .dir es, b, c, h1, h2 => by
    obtain ⟨es1, rfl, k1⟩ := Keeps_dir.1 h1
    obtain ⟨es2, rfl, k2⟩ := Keeps_dir.1 h2
    exact Keeps_dir.2 ⟨es2, rfl, KeepsList_trans ctx s strat es es1 es2 k1 k2⟩
  | .link (.obj d), b, c, h1, h2 => by
    rcases Keeps_obj.1 h1 with rfl | ⟨hs, o, ho, rfl⟩
    · exact h2
    · cases Keeps_file h2; exact Keeps_obj.2 (.inr ⟨hs, o, ho, rfl⟩)
  | .link (.foreign l), b, c, h1, h2 => by cases (Keeps_leaf (by nofun) (by nofun)).1 h1; exact h2
  | .file x, b, c, h1, h2 => by cases (Keeps_leaf (by nofun) (by nofun)).1 h1; exact h2
  | .other, b, c, h1, h2 => by cases (Keeps_leaf (by nofun) (by nofun)).1 h1; exact h2
theorem KeepsList_trans (ctx : Ctx κ) (s : Store κ) (strat : Strat) :
    ∀ (a b c : List (Name × Node κ)),
      KeepsList ctx s strat a b → KeepsList ctx s strat b c → KeepsList ctx s strat a c
  | [], _, _, _, _ => KeepsList_nil _
  | (nm, n) :: r, b, c, h1, h2 => by
    obtain ⟨n1, r1, rfl, hn1, hr1⟩ := KeepsList_cons.1 h1
    obtain ⟨n2, r2, rfl, hn2, hr2⟩ := KeepsList_cons.1 h2
    exact KeepsList_cons.2 ⟨n2, r2, rfl, Keeps_trans ctx s strat n n1 n2 hn1 hn2,
      KeepsList_trans ctx s strat r r1 r2 hr1 hr2⟩
end

theorem KeepsList_setEntry (ctx : Ctx κ) (s : Store κ) (strat : Strat)
    (es : List (Name × Node κ)) (nm : Name) (n : Node κ)
    (h : ∀ old, alookup es nm = some old → Keeps ctx s strat old n) :
    KeepsList ctx s strat es (setEntry es nm n) := by
  induction es with
  | nil => exact KeepsList_nil _
  | cons e r ih =>
    obtain ⟨k, v⟩ := e
    by_cases hk : k = nm
    · subst hk
      simp only [setEntry, beq_self_eq_true, if_true]
      exact KeepsList_cons.2 ⟨n, r, rfl, h v (by simp [alookup]), KeepsList_refl ctx s strat r⟩
    · simp only [setEntry, beq_iff_eq, hk, if_false]
      refine KeepsList_cons.2 ⟨v, _, rfl, Keeps_refl ctx s strat v, ih ?_⟩
      intro old ho; exact h old (by simp [alookup, hk, ho])

/-- the finite-map reading of `KeepsList` (no duplicate-freeness needed) -/
theorem KeepsList_alookup {ctx : Ctx κ} {s : Store κ} {strat : Strat} :
    ∀ {es es' : List (Name × Node κ)}, KeepsList ctx s strat es es' →
      ∀ {nm n}, alookup es nm = some n → ∃ n', alookup es' nm = some n' ∧ Keeps ctx s strat n n' := by
  intro es
  induction es with
  | nil => intro _ _ _ _ h; cases h
  | cons e r ih =>
    obtain ⟨k, v⟩ := e
    intro es' hk nm n h
    obtain ⟨v', r', rfl, hv, hr⟩ := KeepsList_cons.1 hk
    by_cases hkn : k = nm
    · subst hkn; simp only [alookup, beq_self_eq_true, if_true, Option.some.injEq] at h ⊢
      subst h; exact ⟨v', rfl, hv⟩
    · simp only [alookup, beq_iff_eq, hkn, if_false] at h ⊢
      exact ih hr h

theorem KeepsList_length {ctx : Ctx κ} {s : Store κ} {strat : Strat} :
    ∀ {es es' : List (Name × Node κ)}, KeepsList ctx s strat es es' → es.length ≤ es'.length := by
  intro es
  induction es with
  | nil => exact fun _ => Nat.zero_le _
  | cons e r ih =>
    obtain ⟨k, v⟩ := e
    intro es' hk
    obtain ⟨v', r', rfl, _, hr⟩ := KeepsList_cons.1 hk
    exact Nat.succ_le_succ (ih hr)

theorem checkoutFile_keeps {ctx : Ctx κ} {strat : Strat} {n n' : Node κ} {sum : Digest}
    {s : Store κ} (h : checkoutFile ctx strat (some n) sum s = .ok n') :
    Keeps ctx s strat n n' := by
  obtain ⟨-, -, o, ho, ⟨c, hc, -, rfl⟩ | ⟨-, hn, hr⟩⟩ := checkoutFile_ok h
  · cases hc
    exact Keeps_refl ctx s strat _
  · rcases hn with hn | hn
    · cases hn
    · obtain rfl := Option.some.inj hn
      rcases hr with ⟨-, rfl⟩ | ⟨hs, rfl, -⟩
      · exact Keeps_obj.2 (.inl rfl)
      · exact Keeps_obj.2 (.inr ⟨hs, o, ho, rfl⟩)

theorem checkoutChildren_keeps {ctx : Ctx κ} {s : Store κ} {strat : Strat}
    {f : Option (Node κ) → Child → Except Err (Node κ)}
    (hf : ∀ n c n', f (some n) c = .ok n' → Keeps ctx s strat n n') :
    ∀ (cs : List Child) (es es' : List (Name × Node κ)),
      checkoutChildren f es cs = .ok es' → KeepsList ctx s strat es es' := by
  intro cs
  induction cs with
  | nil =>
    intro es es' h
    cases h
    exact KeepsList_refl ctx s strat es
  | cons c cs ih =>
    intro es es' h
    obtain ⟨n, hn, h⟩ := checkoutChildren_cons_inv h
    refine KeepsList_trans ctx s strat _ _ _ (KeepsList_setEntry ctx s strat es c.name n ?_)
      (ih _ _ h)
    intro old ho
    exact hf old c n (ho ▸ hn)

theorem checkoutNode_keeps (ctx : Ctx κ) (strat : Strat) (s : Store κ) :
    ∀ (fuel : Nat) (n : Node κ) (c : Child) (n' : Node κ),
      checkoutNode ctx strat s fuel (some n) c = .ok n' → Keeps ctx s strat n n' := by
  intro fuel
  induction fuel with
  | zero => intro _ _ _ h; cases h
  | succ fuel ih =>
    intro n c n' h
    rcases checkoutNode_ok h with ⟨-, h⟩ | ⟨-, -, -, es, cs, es', hcur, -, hes, rfl⟩
    · exact checkoutFile_keeps h
    · rcases hcur with hcur | ⟨hcur, -⟩
      · obtain rfl := Option.some.inj hcur
        exact Keeps_dir.2 ⟨es', rfl, checkoutChildren_keeps ih cs es es' hes⟩
      · cases hcur

/-- what `f` establishes for the entry it writes, and `Keeps` keeps, holds of every manifest entry
in the final listing: the later entries of the loop only write over it what `Keeps` allows -/
theorem checkoutChildren_post {ctx : Ctx κ} {s : Store κ} {strat : Strat}
    {f : Option (Node κ) → Child → Except Err (Node κ)} (P : Child → Node κ → Prop)
    (hf : ∀ n c n', f (some n) c = .ok n' → Keeps ctx s strat n n')
    (hP : ∀ cur c n, f cur c = .ok n → P c n)
    (hPk : ∀ c n n', P c n → Keeps ctx s strat n n' → P c n') :
    ∀ (cs : List Child) (es es' : List (Name × Node κ)), checkoutChildren f es cs = .ok es' →
      ∀ k ∈ cs, ∃ m, alookup es' k.name = some m ∧ P k m := by
  intro cs
  induction cs with
  | nil => intro _ _ _ k hk; cases hk
  | cons c cs ih =>
    intro es es' h k hk
    obtain ⟨n, hn, h⟩ := checkoutChildren_cons_inv h
    rcases List.mem_cons.mp hk with rfl | hk
    · obtain ⟨m, hm, hnm⟩ := KeepsList_alookup (checkoutChildren_keeps hf cs _ _ h)
        (alookup_setEntry_self es k.name n)
      exact ⟨m, hm, hPk k n m (hP _ _ _ hn) hnm⟩
    · exact ih _ _ h k hk

/-- **addressing.**  Writing `v` at path `p` keeps the whole tree, provided `v` keeps whatever was
found at `p` (nothing is required when the path was absent: the intermediate directories are then
created, existing ones are entered, entries are replaced at their position or appended). -/
theorem setPath_keeps (ctx : Ctx κ) (s : Store κ) (strat : Strat) :
    ∀ (p : List Name) (ws v ws' : Node κ), setPath ws p v = some ws' →
      (∀ old, getPath ws p = some old → Keeps ctx s strat old v) → Keeps ctx s strat ws ws'
  | [], ws, v, ws', h, hk => by
    simp only [setPath, Option.some.injEq] at h
    subst h
    exact hk ws rfl
  | c :: r, ws, v, ws', h, hk => by
    obtain ⟨es, n, rfl, hn, rfl⟩ := setPath_cons_inv h
    refine Keeps_dir.2 ⟨_, rfl, KeepsList_setEntry ctx s strat es c n fun old hold => ?_⟩
    rw [hold, Option.getD_some] at hn
    exact setPath_keeps ctx s strat r old v n hn fun o ho =>
      hk o (by simp only [getPath, hold]; exact ho)

theorem setPath_checkoutNode_keeps {ctx : Ctx κ} {strat : Strat} {s : Store κ} {fuel : Nat}
    {c : Child} {p : List Name} {ws ws' n : Node κ}
    (hn : checkoutNode ctx strat s fuel (getPath ws p) c = .ok n) (hsp : setPath ws p n = some ws') :
    Keeps ctx s strat ws ws' :=
  setPath_keeps ctx s strat p ws n ws' hsp fun _ ho => checkoutNode_keeps ctx strat s fuel _ c n (ho ▸ hn)

/-- finite-map reading at any path: whatever was found at a path before is found there afterwards,
kept (for a regular file, a foreign link or a special file: literally the same node). -/
theorem Keeps_getPath {ctx : Ctx κ} {s : Store κ} {strat : Strat} :
    ∀ (p : List Name) (ws ws' n : Node κ), Keeps ctx s strat ws ws' → getPath ws p = some n →
      ∃ n', getPath ws' p = some n' ∧ Keeps ctx s strat n n'
  | [], ws, ws', n, hk, h => by
    simp only [getPath, Option.some.injEq] at h; subst h; exact ⟨ws', rfl, hk⟩
  | c :: r, ws, ws', n, hk, h => by
    obtain ⟨es, m, rfl, hm, h⟩ := getPath_cons_inv h
    obtain ⟨es', rfl, hl⟩ := Keeps_dir.1 hk
    obtain ⟨m', hm', hkm⟩ := KeepsList_alookup hl hm
    obtain ⟨n', hn', hkn⟩ := Keeps_getPath r m m' n hkm h
    exact ⟨n', by simp only [getPath, hm']; exact hn', hkn⟩

theorem checkoutChildren_untracked {f : Option (Node κ) → Child → Except Err (Node κ)} :
    ∀ (cs : List Child) (es es' : List (Name × Node κ)) (nm : Name),
      checkoutChildren f es cs = .ok es' → (∀ k ∈ cs, k.name ≠ nm) →
      alookup es' nm = alookup es nm := by
  intro cs
  induction cs with
  | nil => intro es es' nm h _; cases h; rfl
  | cons c cs ih =>
    intro es es' nm h hnm
    obtain ⟨n, -, h⟩ := checkoutChildren_cons_inv h
    rw [ih _ _ nm h (fun k hk => hnm k (List.mem_cons_of_mem _ hk)),
      alookup_setEntry_ne es n (hnm c (List.mem_cons_self ..))]

/-- every manifest entry was processed successfully (on whatever was there at that moment) -/
theorem checkoutChildren_each {f : Option (Node κ) → Child → Except Err (Node κ)} :
    ∀ (cs : List Child) (es es' : List (Name × Node κ)),
      checkoutChildren f es cs = .ok es' → ∀ k ∈ cs, ∃ cur n, f cur k = .ok n := by
  intro cs
  induction cs with
  | nil => intro _ _ _ k hk; cases hk
  | cons c cs ih =>
    intro es es' h k hk
    obtain ⟨n, hn, h⟩ := checkoutChildren_cons_inv h
    rcases List.mem_cons.mp hk with rfl | hk
    · exact ⟨_, n, hn⟩
    · exact ih _ _ h k hk

/-- what `checkoutChildren` computes when the manifest names are pairwise distinct: every entry is
processed on the node the *initial* listing has at its name; the final listing has the results
under these names and is unchanged elsewhere; an error is the error of some entry. -/
theorem checkoutChildren_char (f : Option (Node κ) → Child → Except Err (Node κ))
    (cs : List Child) :
    ∀ (es : List (Name × Node κ)), (cs.map (·.name)).Nodup →
      (∀ es1, checkoutChildren f es cs = .ok es1 →
        (∀ c ∈ cs, ∃ n, f (alookup es c.name) c = .ok n ∧ alookup es1 c.name = some n) ∧
        (∀ nm, (∀ c ∈ cs, c.name ≠ nm) → alookup es1 nm = alookup es nm)) ∧
      (∀ e, checkoutChildren f es cs = .error e → ∃ c ∈ cs, f (alookup es c.name) c = .error e) := by
  induction cs with
  | nil =>
    intro es _
    refine ⟨fun es1 h => ?_, fun e h => (nomatch h)⟩
    cases h
    exact ⟨fun c hc => (nomatch hc), fun _ _ => rfl⟩
  | cons c cs ih =>
    intro es hnd
    simp only [List.map_cons, List.nodup_cons, List.mem_map, not_exists, not_and] at hnd
    obtain ⟨hc, hnd'⟩ := hnd
    cases hf : f (alookup es c.name) c with
    | error e0 =>
      refine ⟨fun es1 h => ?_, fun e h => ?_⟩ <;> rw [checkoutChildren_cons, hf] at h <;> cases h
      exact ⟨c, List.mem_cons_self .., hf⟩
    | ok n =>
      obtain ⟨ih1, ih2⟩ := ih (setEntry es c.name n) hnd'
      have hlook : ∀ c' ∈ cs, alookup (setEntry es c.name n) c'.name = alookup es c'.name :=
        fun c' hc' => alookup_setEntry_ne es n (fun e => hc c' hc' e.symm)
      refine ⟨fun es1 h => ⟨fun c' hc' => ?_, fun nm => checkoutChildren_untracked _ es es1 nm h⟩,
        fun e h => ?_⟩ <;> rw [checkoutChildren_cons, hf] at h
      · rcases List.mem_cons.1 hc' with rfl | hc'
        · refine ⟨n, hf, ?_⟩
          rw [checkoutChildren_untracked cs _ es1 c'.name h fun k hk => hc k hk,
            alookup_setEntry_self]
        · obtain ⟨n', hn', hl⟩ := (ih1 es1 h).1 c' hc'
          rw [hlook c' hc'] at hn'
          exact ⟨n', hn', hl⟩
      · obtain ⟨c', hc', he⟩ := ih2 e h
        rw [hlook c' hc'] at he
        exact ⟨c', List.mem_cons_of_mem _ hc', he⟩

section World
variable {cfg : Cfg κ} {strat : Strat} {s : Store κ} {R : Node κ → Node κ → Prop}

-- the store is a variable of its own: the hypothesis on artifacts must not mention the world, which changes
theorem checkoutArts_rel (hrefl : ∀ n, R n n) (htrans : ∀ {a b c}, R a b → R b c → R a c)
    (as : List Art) : (∀ a, a ∈ as → ∀ (ws ws' n : Node κ),
      checkoutNode cfg.ctx strat s cfg.fuel (getPath ws (Path.comps a.path)) a.child = .ok n →
      setPath ws (Path.comps a.path) n = some ws' → R ws ws') →
    ∀ {w w' : World κ}, w.store = s → checkoutArts cfg strat as w = .ok w' →
      w' = { w with ws := w'.ws } ∧ R w.ws w'.ws := by
  induction as with
  | nil =>
    intro _ w w' _ h
    cases h
    exact ⟨rfl, hrefl _⟩
  | cons a r ih =>
    intro hart w w' hs h
    rw [checkoutArts] at h
    split at h
    · cases h
    rename_i w1 h1
    have ⟨e1, r1⟩ : w1 = { w with ws := w1.ws } ∧ R w.ws w1.ws := by
      rcases checkoutArtW_inv h1 with ⟨-, rfl⟩ | ⟨-, n, ws', hn, hsp, rfl⟩
      · exact ⟨rfl, hrefl _⟩
      · exact ⟨rfl, hart a List.mem_cons_self _ _ _ (hs ▸ hn) hsp⟩
    obtain ⟨e2, r2⟩ := ih (fun b hb => hart b (List.mem_cons_of_mem _ hb)) (w := w1)
      (by rw [e1]; exact hs) h
    exact ⟨by rw [e2, e1], htrans r1 r2⟩

theorem checkoutAct_rel (hrefl : ∀ n, R n n) (htrans : ∀ {a b c}, R a b → R b c → R a c)
    {sp : Bytes} {w w' : World κ}
    (hart : ∀ stg, alookup w.idx sp = some stg → ∀ a, a ∈ sortArts stg.outputs → ∀ (ws ws' n : Node κ),
      checkoutNode cfg.ctx strat s cfg.fuel (getPath ws (Path.comps a.path)) a.child = .ok n →
      setPath ws (Path.comps a.path) n = some ws' → R ws ws')
    (hs : w.store = s) (h : checkoutAct cfg strat sp w = .ok w') :
    w' = { w with ws := w'.ws, done := sp :: w.done } ∧ R w.ws w'.ws := by
  obtain ⟨stg, w1, hl, h1, rfl⟩ := checkoutAct_inv h
  obtain ⟨e1, r1⟩ := checkoutArts_rel hrefl htrans _ (hart stg hl) hs h1
  exact ⟨by rw [e1], r1⟩

theorem checkoutAct_world {sp : Bytes} {w w' : World κ} (h : checkoutAct cfg strat sp w = .ok w') :
    w' = { w with ws := w'.ws, done := sp :: w.done } :=
  (checkoutAct_rel (R := fun _ _ => True) (fun _ => trivial) (fun _ _ => trivial)
    (fun _ _ _ _ _ _ _ _ _ => trivial) rfl h).1

theorem cmdCheckout_invariant {single : Bool} {targets : List Bytes} {w w' : World κ}
    (P : World κ → Prop) (hact : ∀ sp a b, P a → checkoutAct cfg strat sp a = .ok b → P b)
    (h0 : P (fresh w)) (h : cmdCheckout cfg strat single targets w = .ok w') : P w' :=
  runTargets_keeps P hact h0 (cmdCheckout_ok_iff.1 h).2

/-- `dud checkout` writes the workspace and its memo only, and a preorder on workspaces that contains
the write of every checked-out artifact contains the command's: for every index (a refused
traversal is an error), target list and `--single-stage` -/
theorem cmdCheckout_rel_ws (hrefl : ∀ n, R n n) (htrans : ∀ {a b c}, R a b → R b c → R a c)
    {single : Bool} {targets : List Bytes} {w w' : World κ}
    (hart : ∀ sp stg, alookup w.idx sp = some stg → ∀ a, a ∈ sortArts stg.outputs →
      ∀ (ws ws' n : Node κ),
      checkoutNode cfg.ctx strat w.store cfg.fuel (getPath ws (Path.comps a.path)) a.child = .ok n →
      setPath ws (Path.comps a.path) n = some ws' → R ws ws')
    (h : cmdCheckout cfg strat single targets w = .ok w') :
    w' = { fresh w with ws := w'.ws, done := w'.done } ∧ R w.ws w'.ws := by
  refine cmdCheckout_invariant (fun x => x = { fresh w with ws := x.ws, done := x.done } ∧ R w.ws x.ws)
    ?_ ⟨rfl, hrefl _⟩ h
  intro sp a b ⟨ea, ra⟩ hb
  obtain ⟨eb, rb⟩ := checkoutAct_rel hrefl htrans (fun stg hl => hart sp stg (by rw [ea] at hl; exact hl))
    (by rw [ea]; rfl) hb
  exact ⟨by rw [eb, ea], htrans ra rb⟩

end World

end Dud
