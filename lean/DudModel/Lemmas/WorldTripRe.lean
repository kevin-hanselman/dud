import DudModel.Lemmas.WorldCheckout
import DudModel.Props.C16
import DudModel.Lemmas.Recommit
/-!
# Re-commit at artifact and world level: any recorded checksum, links into the cache

`Props/C01world.lean` lifts the commit of a plain tree with a fresh artifact to stages and commands.
The second `dud commit` of a project meets neither hypothesis: after a link commit the workspace is
full of links into the cache, and the stage file records the checksum of the previous version.  The
node-level induction for that situation is in `Lemmas/Recommit.lean` (`recommitNodeL_post`, under the
hypothesis `RecommitOK`); this file lifts it:

* one artifact: `commitArt_post` (what `commitArt` does to a node whose links resolve, whatever
  checksum is recorded; `Lemmas/RetryArt.lean` instantiates it too), and under the bundled hypothesis
  `ArtPreRe` its round-trip form `commitArt_roundtrip_re'`;
* world level: `commitArts` / `commitAct` / the commit traversal with a precondition that depends on
  the cache and is monotone in it (`PipelineOKRe`, `CommitInvRe`; `StageStep` and `CommitPend` are
  what the invariants of all commit traversals share), and `dud checkout` in a clone afterwards
  (`cmdCheckout_in_clone`);
* what a commit leaves makes the next commit's old manifests readable (`RecommitOK.of_holds_new`; the
  other sufficient conditions for `RecommitOK` are in `Lemmas/Recommit.lean` and `Lemmas/Compat.lean`).
-/
namespace Dud.Re

variable {κ : Type}

theorem dropSubdirs_derefList (ctx : Ctx κ) (s : Store κ) : ∀ (es : List (Name × Node κ)),
    dropSubdirs (derefList ctx s es) = derefList ctx s (dropSubdirs es)
  | [] => rfl
  | (nm, n) :: r => by
    have ih := dropSubdirs_derefList ctx s r
    simp only [dropSubdirs] at ih ⊢
    simp only [derefList, List.filter_cons, deref_isDir]
    cases n.isDir <;> simp [derefList, ih]

theorem trackedOf_deref (ctx : Ctx κ) (s : Store κ) (a : Art) (n : Node κ) :
    trackedOf a (deref ctx s n) = deref ctx s (trackedOf a n) := by
  cases n with
  | file _ => rfl
  | dir es =>
    simp only [deref, trackedOf]
    split
    · simp [deref, dropSubdirs_derefList]
    · simp [deref]
  | link l =>
    cases l with
    | obj d =>
      simp only [deref, trackedOf]
      cases s.get d <;> rfl
    | foreign _ => rfl
  | other => rfl

/-- every link of a listing whose logical content is plain resolves, also in the filtered listing -/
theorem plainList_derefList_filter (ctx : Ctx κ) (s : Store κ) (p : Name × Node κ → Bool) :
    ∀ (es : List (Name × Node κ)), plainList (derefList ctx s es) = true →
      plainList (derefList ctx s (es.filter p)) = true
  | [], _ => by simp [derefList, plainList]
  | (nm, n) :: r, h => by
    simp only [derefList, plainList, Bool.and_eq_true] at h
    simp only [List.filter_cons]
    split
    · simp only [derefList, plainList, Bool.and_eq_true]
      exact ⟨h.1, plainList_derefList_filter ctx s p r h.2⟩
    · exact plainList_derefList_filter ctx s p r h.2

theorem plain_trackedOf_deref (ctx : Ctx κ) (s : Store κ) (a : Art) (n : Node κ)
    (h : (deref ctx s n).plain = true) : (deref ctx s (trackedOf a n)).plain = true := by
  rcases trackedOf_cases a n with e | ⟨es, rfl, e⟩ <;> rw [e]
  · exact h
  · exact plainList_derefList_filter ctx s _ es h

/-- `RecommitOK` for the whole directory gives it for the part a non-recursive artifact tracks -/
theorem RecommitOK.trackedOf {ctx : Ctx κ} {s : Store κ} (a : Art) {n : Node κ} {sum : Digest}
    (h : RecommitOK ctx s n sum) : RecommitOK ctx s (trackedOf a n) sum := by
  rcases trackedOf_cases a n with e | ⟨es, rfl, e⟩ <;> rw [e]
  · exact h
  · intro s' hle hc
    have := h s' hle hc
    simp only [ReadableNode] at this ⊢
    obtain ⟨old, hold, hl⟩ := this
    exact ⟨old, hold, readableList_filter _ es old hl⟩

theorem plain_deref_mem {ctx : Ctx κ} {s : Store κ} : ∀ {es : List (Name × Node κ)}
    {e : Name × Node κ}, plainList (derefList ctx s es) = true → e ∈ es →
      (deref ctx s e.2).plain = true
  | (nm, n) :: r, e, h, he => by
    simp only [derefList, plainList, Bool.and_eq_true] at h
    rcases List.mem_cons.1 he with rfl | he'
    · exact h.1
    · exact plain_deref_mem h.2 he'

/-- what a commit of the artifact `a` with tracked (logical) tree `t` leaves in the cache `s`: a
non-skip artifact has the `RoundTrip` property; for a directory artifact the cache holds `t` with
current-format manifests (this is what makes the NEXT commit's old manifests readable) -/
def Kept (cfg : Cfg κ) (a : Art) (t : Node κ) (s : Store κ) : Prop :=
  (a.skip = false → RoundTrip cfg a t s) ∧
    (a.isDir = true → HoldsNode cfg.ctx s newChoice a.path t)

theorem Kept.mono {cfg : Cfg κ} {a : Art} {t : Node κ} {s s' : Store κ}
    (h : Kept cfg a t s) (hle : Store.le cfg.ctx s s') : Kept cfg a t s' :=
  ⟨fun hs => (h.1 hs).mono hle, fun hd => HoldsNode.mono hle t _ _ (h.2 hd)⟩

theorem roundTrip_of_holds (cfg : Cfg κ) (g : Good cfg.ctx) (a : Art) (L : Node κ) (s : Store κ)
    (hskip : a.skip = false) (hk : L.isDir = a.isDir) (hp : L.plain = true) (hs : L.sorted = true)
    (hn : NamesOK cfg.ctx L) (hf : depth L ≤ cfg.fuel)
    (hh : HoldsNode cfg.ctx s newChoice a.path L) : RoundTrip cfg a L s := by
  intro s'' hle strat2
  have hh' := HoldsNode.mono hle L _ _ hh
  have h1 := checkoutNode_holds g s'' strat2 L newChoice a.path cfg.fuel hp hs hn hh' hf
  rw [digestAs_new, hk] at h1
  exact ⟨wsAfter cfg.ctx strat2 L, checkoutArt_noskip hskip h1, deref_wsAfter hp hh' strat2⟩

theorem sorted_trackedOf (a : Art) {n : Node κ} (h : n.sorted = true) :
    (trackedOf a n).sorted = true := by
  rcases trackedOf_cases a n with e | ⟨es, rfl, e⟩ <;> rw [e]
  · exact h
  · exact sortedList_filter _ es h

theorem namesOK_trackedOf {ctx : Ctx κ} (a : Art) {n : Node κ} (h : NamesOK ctx n) :
    NamesOK ctx (trackedOf a n) := by
  rcases trackedOf_cases a n with e | ⟨es, rfl, e⟩ <;> rw [e]
  · exact h
  · exact fun x hx => h x (mem_allNamesList_filter _ es x hx)

theorem trackedOf_isDir (a : Art) (n : Node κ) : (trackedOf a n).isDir = n.isDir := by
  rcases trackedOf_cases a n with e | ⟨es, rfl, e⟩ <;> rw [e] <;> rfl

/-- the hypotheses of the re-commit round trip on an output artifact `a`, the node `n` found at its
path and the cache `s`: the kinds agree; every link in `n` resolves to an object of `s` (the logical
content `deref ctx s n` is plain); `n` is sorted with acceptable names; a `skip-cache` file artifact
is a regular file (or the link to the object it records); the old manifests a re-commit of the
tracked part reads are readable (`RecommitOK`; for a file artifact this says nothing); the fuel
covers the tracked tree.  The artifact may record ANY checksum. -/
structure ArtPreRe (ctx : Ctx κ) (fuel : Nat) (s : Store κ) (a : Art) (n : Node κ) : Prop where
  kind : n.isDir = a.isDir
  resolved : (deref ctx s n).plain = true
  sorted : n.sorted = true
  names : NamesOK ctx n
  skipfile : a.skip = true → a.isDir = false → n.plain = true ∨ n = .link (.obj a.sum)
  old : RecommitOK ctx s (trackedOf a n) a.sum
  fuel : depth (trackedOf a n) ≤ fuel

theorem ArtPreRe.mono {ctx : Ctx κ} {fuel : Nat} {s s1 : Store κ} {a : Art} {n : Node κ}
    (hle : Store.le ctx s s1) (h : ArtPreRe ctx fuel s a n) : ArtPreRe ctx fuel s1 a n where
  kind := h.kind
  resolved := deref_eq_le ctx hle rfl h.resolved ▸ h.resolved
  sorted := h.sorted
  names := h.names
  skipfile := h.skipfile
  old := h.old.mono hle
  fuel := h.fuel

/-- a first commit: `ArtPre` (plain tree, fresh directory artifact) is an instance -/
theorem ArtPreRe.of_artPre {ctx : Ctx κ} {fuel : Nat} (s : Store κ) {a : Art} {n : Node κ}
    (h : ArtPre ctx fuel a n) : ArtPreRe ctx fuel s a n where
  kind := h.kind
  resolved := by rw [deref_plain ctx s n h.plain]; exact h.plain
  sorted := h.sorted
  names := h.names
  skipfile := fun _ _ => .inl h.plain
  old := by
    cases hd : a.isDir with
    | true => rw [(h.fresh hd).1]; exact RecommitOK.empty ctx s _
    | false =>
      exact RecommitOK.of_not_dir ctx s _ (by rw [trackedOf_isDir, h.kind, hd])
  fuel := h.fuel

/-- unless it is a `skip-cache` file artifact, `commitArt` is `commitNode` on the tracked part of the
node, from the artifact's own record; the node left is `artAfter` -/
theorem commitArt_tracked (ctx : Ctx κ) (strat : Strat) {a : Art} {n : Node κ} (hk : n.isDir = a.isDir)
    (hsk : a.isDir = false → a.skip = false) (s : Store κ) :
    commitArt ctx strat a (some n) s =
      (commitNode ctx strat (trackedOf a n) a.child s).map fun r =>
        (artAfter ctx strat a n, r.2.1.sum, r.2.2) := by
  by_cases hnr : a.isDir = true → a.noRec = false
  · rw [WStat.Recursive.tracked_eq hnr hk, commitArt_eq_commitNode ctx strat hk hnr hsk,
      artAfter_eq_wsAfter ctx strat hk hnr hsk]
    cases h : commitNode ctx strat n a.child s with
    | error e => rfl
    | ok r => rw [← ((commit_shape ctx strat).1 _ _ _ _ _ _ h).1]; rfl
  · have hd : a.isDir = true ∧ a.noRec = true := by
      cases h1 : a.isDir <;> cases h2 : a.noRec <;> simp_all
    cases n with
    | dir es =>
      rw [commitArt_noRec ctx strat hd.1 hd.2]
      simp only [trackedOf, hd.2, if_true, artAfter, dropSubdirs]
    | file _ => rw [hd.1] at hk; cases hk
    | link _ => rw [hd.1] at hk; cases hk
    | other => rw [hd.1] at hk; cases hk

/-- **One artifact, committed.**  `n` is the node at the artifact's path: every link in it resolves in
`s` (its logical content is plain), its names are acceptable, a `skip-cache` file artifact is a regular
file or the link to the object it records, and the old manifests a commit of the tracked part reads
are readable; the artifact may record any checksum.  Then `commitArt` succeeds, leaves `artAfter`,
records `treeDigest` of the tracked part of the logical content, and keeps the logical content; the
cache stays consistent, grows by objects of the tracked tree only and, unless the artifact is a
`skip-cache` file (then nothing is stored), holds the tracked tree in the current format. -/
theorem commitArt_post {ctx : Ctx κ} (g : Good ctx) (a : Art) (n : Node κ) (s : Store κ)
    (hk : n.isDir = a.isDir) (hres : (deref ctx s n).plain = true) (hna : NamesOK ctx n)
    (hsf : a.skip = true → a.isDir = false → n.plain = true ∨ n = .link (.obj a.sum))
    (hold : RecommitOK ctx s (trackedOf a n) a.sum) (hc : Consistent ctx s) (strat : Strat) :
    ∃ s', commitArt ctx strat a (some n) s =
        .ok (artAfter ctx strat a n, treeDigest ctx a.path (trackedOf a (deref ctx s n)), s') ∧
      Consistent ctx s' ∧ Store.le ctx s s' ∧
      deref ctx s' (artAfter ctx strat a n) = deref ctx s n ∧
      (a.isDir = true ∨ a.skip = false →
        HoldsNode ctx s' newChoice a.path (trackedOf a (deref ctx s n))) ∧
      (a.isDir = false → a.skip = true → s' = s) ∧
      ∀ d, s'.has d = true →
        s.has d = true ∨ d ∈ allDigests ctx a.path (trackedOf a (deref ctx s n)) := by
  rw [trackedOf_deref]
  by_cases hskf : a.isDir = false ∧ a.skip = true
  · -- nothing is stored: the file's hash, or the checksum of the object linked to, is recorded
    obtain ⟨hd, hskip⟩ := hskf
    have hT : trackedOf a n = n := WStat.Recursive.tracked_eq (fun h => by rw [hd] at h; cases h) hk
    rw [hT, artAfter_skip ctx strat hk hd hskip]
    refine ⟨s, ?_, hc, Store.le_refl _ _, rfl, fun h => ?_, fun _ _ => rfl, fun d hd => .inl hd⟩
    · rcases hsf hskip hd with hpl | rfl
      · cases n with
        | file c =>
          simp only [deref, treeDigest]
          exact commitArt_file_skip ctx a c hd hskip s strat
        | dir _ => simp [Node.isDir] at hk; rw [hd] at hk; cases hk
        | link _ => simp [Node.plain] at hpl
        | other => simp [Node.plain] at hpl
      · cases hg : s.get a.sum with
        | none => simp [deref, hg, Node.plain] at hres
        | some o =>
          have hdig : ctx.H (o.bytes ctx) = a.sum := hc a.sum o hg
          have hhs : hasSum a.sum = true := by rw [← hdig]; exact hasSum_H g _
          simp [commitArt_file ctx strat hd, commitFile_link_obj, hhs, Store.has_of_get hg, deref, hg,
            treeDigest, hdig]
    · rcases h with h | h
      · rw [hd] at h; cases h
      · rw [hskip] at h; cases h
  · have hsk : a.isDir = false → a.skip = false := fun hd => by
      cases h : a.skip with
      | false => rfl
      | true => exact absurd ⟨hd, h⟩ hskf
    -- `commitNode` on the tracked part
    obtain ⟨s', hcn, hc', hle, hh, hdT, _, hkeys⟩ := recommitNodeL_post g (trackedOf a n)
      (namesOK_trackedOf a hna) a.child s strat
      (by rw [trackedOf_isDir, hk]; rfl) (plain_trackedOf_deref _ s a n hres) hold hc
    refine ⟨s', ?_, hc', hle, ?_, fun _ => hh, fun h1 h2 => absurd ⟨h1, h2⟩ hskf, hkeys⟩
    · rw [commitArt_tracked ctx strat hk hsk, hcn]
      rfl
    · by_cases hnr : a.isDir = true → a.noRec = false
      · rw [WStat.Recursive.tracked_eq hnr hk] at hdT
        rw [artAfter_eq_wsAfter ctx strat hk hnr hsk, hdT]
      · have hd : a.isDir = true ∧ a.noRec = true := by
          cases h1 : a.isDir <;> cases h2 : a.noRec <;> simp_all
        cases n with
        | dir es =>
          have hpl : plainList (derefList ctx s es) = true := by
            simpa [deref, Node.plain] using hres
          simp only [trackedOf, hd.2, if_true, wsAfter_dir, deref, Node.dir.injEq, artAfter]
            at hdT ⊢
          exact derefList_wsAfterSk s s' es
            (fun e he _ => deref_le ctx hle e.2 (plain_deref_mem hpl he)) hdT
        | file _ => rw [hd.1] at hk; cases hk
        | link _ => rw [hd.1] at hk; cases hk
        | other => rw [hd.1] at hk; cases hk

/-- **One artifact, re-commit.** For an artifact recording any checksum and any node `n` at its
path satisfying `ArtPreRe`, `commitArt` succeeds, records `treeDigest` of the tracked part of the
logical content, leaves the logical content unchanged, and a non-skip artifact has the `RoundTrip`
property. -/
theorem commitArt_roundtrip_re' (cfg : Cfg κ) (g : Good cfg.ctx) (a : Art) (n : Node κ) (s : Store κ)
    (hpre : ArtPreRe cfg.ctx cfg.fuel s a n) (hc : Consistent cfg.ctx s) (strat : Strat) :
    ∃ t' s', commitArt cfg.ctx strat a (some n) s
        = .ok (t', treeDigest cfg.ctx a.path (trackedOf a (deref cfg.ctx s n)), s') ∧
      Consistent cfg.ctx s' ∧ Store.le cfg.ctx s s' ∧
      deref cfg.ctx s' t' = deref cfg.ctx s n ∧
      Kept cfg a (trackedOf a (deref cfg.ctx s n)) s' := by
  obtain ⟨s', hca, hc', hle, hd, hh, _⟩ := commitArt_post g a n s hpre.kind hpre.resolved hpre.names
    hpre.skipfile hpre.old hc strat
  refine ⟨_, s', hca, hc', hle, hd, fun hskip => ?_, fun hdir => hh (.inl hdir)⟩
  rw [trackedOf_deref] at hh ⊢
  exact roundTrip_of_holds cfg g a _ s' hskip (by rw [deref_isDir, trackedOf_isDir, hpre.kind])
    (plain_trackedOf_deref _ s a n hpre.resolved) (sorted_deref _ s _ (sorted_trackedOf a hpre.sorted))
    (namesOK_deref s (namesOK_trackedOf a hpre.names)) (by rw [depth_deref]; exact hpre.fuel)
    (hh (.inr hskip))

open WT

theorem getPath_deref (ctx : Ctx κ) (s : Store κ) : ∀ (p : List Name) (n : Node κ),
    getPath (deref ctx s n) p = (getPath n p).map (deref ctx s)
  | [], n => by simp [getPath]
  | c :: r, .dir es => by
    simp only [deref, getPath, alookup_derefList]
    cases alookup es c with
    | none => rfl
    | some m => exact getPath_deref ctx s r m
  | c :: r, .file _ => by simp [deref, getPath]
  | c :: r, .other => by simp [deref, getPath]
  | c :: r, .link (.foreign _) => by simp [deref, getPath]
  | c :: r, .link (.obj d) => by
    simp only [deref]
    cases s.get d <;> simp [getPath]

/-- the logical content of the workspace of a world: links into its cache followed -/
def logWs (cfg : Cfg κ) (w : World κ) : Node κ := deref cfg.ctx w.store w.ws

def logWorld (cfg : Cfg κ) (w : World κ) : World κ := { w with ws := logWs cfg w }

theorem origAt_deref (ctx : Ctx κ) (s : Store κ) (ws : Node κ) (a : Art) :
    origAt (deref ctx s ws) a = deref ctx s (origAt ws a) := by
  simp only [origAt, getPath_deref]
  cases getPath ws (Path.comps a.path) <;> simp [deref]

theorem origAt_logWs_of_getPath {cfg : Cfg κ} {w : World κ} {a : Art} {n : Node κ}
    (h : getPath w.ws (Path.comps a.path) = some n) :
    origAt (logWs cfg w) a = deref cfg.ctx w.store n := by
  rw [logWs, origAt_deref, origAt_of_getPath h]

/-- the logical content at an artifact's path is the same in two worlds that have the same node
there (all of whose links resolve in the first) and whose caches are ordered -/
theorem origAt_logWs_congr {cfg : Cfg κ} {w w1 : World κ} {a : Art} {n : Node κ}
    (hn : getPath w.ws (Path.comps a.path) = some n)
    (hsame : getPath w1.ws (Path.comps a.path) = getPath w.ws (Path.comps a.path))
    (hle : Store.le cfg.ctx w.store w1.store) (hres : (deref cfg.ctx w.store n).plain = true) :
    origAt (logWs cfg w1) a = origAt (logWs cfg w) a := by
  rw [origAt_logWs_of_getPath hn, origAt_logWs_of_getPath (hsame.trans hn), deref_le cfg.ctx hle n hres]

theorem committedArt_congr_orig (ctx : Ctx κ) {ws ws' : Node κ} {a : Art}
    (h : origAt ws' a = origAt ws a) : committedArt ctx ws' a = committedArt ctx ws a := by
  simp [committedArt, h]

/-- `commitArts` on apart artifacts satisfying `ArtPreRe`, with one more fact `P a t' s` about the node
`t'` a commit leaves at the path of `a` and the cache `s`: anything monotone in the cache that the
one `commitArt` establishes (`hest`; the node committed is the one found in `w`, the cache any later
one, the checksum returned the one `committedArt` records) holds of every artifact at the end. -/
theorem commitArts_postP (cfg : Cfg κ) (g : Good cfg.ctx) (strat : Strat)
    (P : Art → Node κ → Store κ → Prop)
    (P_mono : ∀ {a t' s s1}, P a t' s → Store.le cfg.ctx s s1 → P a t' s1)
    (as as' : List Art) (w w' : World κ) (hap : ApartArts as)
    (hpre : ∀ a, a ∈ as → ∃ n, getPath w.ws (Path.comps a.path) = some n ∧
      ArtPreRe cfg.ctx cfg.fuel w.store a n)
    (hest : ∀ a, a ∈ as → ∀ n, getPath w.ws (Path.comps a.path) = some n → ∀ s,
      Store.le cfg.ctx w.store s → Consistent cfg.ctx s → ∀ t' s',
      commitArt cfg.ctx strat a (some n) s
        = .ok (t', (committedArt cfg.ctx (logWs cfg w) a).sum, s') → P a t' s')
    (hc : Consistent cfg.ctx w.store) (h : commitArts cfg strat as w = .ok (as', w')) :
    as' = as.map (committedArt cfg.ctx (logWs cfg w)) ∧ Consistent cfg.ctx w'.store ∧
      Store.le cfg.ctx w.store w'.store ∧ w'.idx = w.idx ∧ w'.done = w.done ∧
      (∀ a, a ∈ as → ∃ t', getPath w'.ws (Path.comps a.path) = some t' ∧
        deref cfg.ctx w'.store t' = origAt (logWs cfg w) a ∧ P a t' w'.store) ∧
      (∀ a, a ∈ as → Kept cfg a (trackedOf a (origAt (logWs cfg w) a)) w'.store) ∧
      (∀ q, (∀ a, a ∈ as → Apart (Path.comps a.path) q) → getPath w'.ws q = getPath w.ws q) := by
  -- the logical content at the path of `a` stays `origAt (logWs cfg w) a`: it is plain, and the cache grows
  obtain ⟨u2, h2, c2, l2, i2, d2, f2, fr2⟩ := commitArts_apart cfg strat id
    (committedArt cfg.ctx (logWs cfg w)) (Store.le cfg.ctx)
    (fun a s t => (ArtPreRe cfg.ctx cfg.fuel s a t ∧ deref cfg.ctx s t = origAt (logWs cfg w) a) ∧
      getPath w.ws (Path.comps a.path) = some t ∧ Store.le cfg.ctx w.store s)
    (fun a s t => (deref cfg.ctx s t = origAt (logWs cfg w) a ∧
      (origAt (logWs cfg w) a).plain = true ∧ Kept cfg a (trackedOf a (origAt (logWs cfg w) a)) s) ∧
      P a t s)
    (Store.le_refl _) Store.le_trans
    (fun ⟨⟨hp, hd⟩, hn, hl⟩ hle =>
      ⟨⟨hp.mono hle, deref_eq_le cfg.ctx hle hd (hd ▸ hp.resolved)⟩, hn, Store.le_trans hl hle⟩)
    (fun ⟨⟨hd, hpl, hk⟩, hP⟩ hle =>
      ⟨⟨deref_eq_le cfg.ctx hle hd hpl, hpl, hk.mono hle⟩, P_mono hP hle⟩)
    as (fun a ha s t hcs ⟨⟨hp, hd⟩, hn, hl⟩ => by
      obtain ⟨t', s', hca, hc', hle, hd', hk⟩ := commitArt_roundtrip_re' cfg g a t s hp hcs strat
      rw [hd] at hca hd' hk
      exact ⟨rfl, t', _, s', hca, rfl, hc', hle, ⟨hd', hd ▸ hp.resolved, hk⟩,
        hest a ha t hn s hl hcs t' s' hca⟩)
    w hap hc (fun a ha => by
      obtain ⟨n, hn, hp⟩ := hpre a ha
      exact ⟨n, hn, ⟨hp, (origAt_logWs_of_getPath hn).symm⟩, hn, Store.le_refl _ _⟩)
  rw [List.map_id, h] at h2
  simp only [Except.ok.injEq, Prod.mk.injEq] at h2
  obtain ⟨rfl, rfl⟩ := h2
  exact ⟨rfl, c2, l2, i2, d2, fun a ha => let ⟨t', gt, ⟨hd, _⟩, hP⟩ := f2 a ha; ⟨t', gt, hd, hP⟩,
    fun a ha => let ⟨_, _, ⟨_, _, hk⟩, _⟩ := f2 a ha; hk, fr2⟩

/-- **Stage level, any commit.** `commitAct` on a stage whose outputs do not overlap and satisfy
`ArtPreRe` (w.r.t. the cache of the world): as `commitAct_post`, with the logical workspace
`logWs cfg w` as the reference, and with one more fact `P` about each output as in
`commitArts_postP`. -/
theorem commitAct_postP (cfg : Cfg κ) (g : Good cfg.ctx) (strat : Strat)
    (P : Art → Node κ → Store κ → Prop)
    (P_mono : ∀ {a t' s s1}, P a t' s → Store.le cfg.ctx s s1 → P a t' s1)
    (sp : Bytes) (w w' : World κ)
    (stg : Stage) (hs : alookup w.idx sp = some stg) (hap : ApartArts stg.outputs)
    (hpre : ∀ a, a ∈ stg.outputs → ∃ n, getPath w.ws (Path.comps a.path) = some n ∧
      ArtPreRe cfg.ctx cfg.fuel w.store a n)
    (hest : ∀ a, a ∈ stg.outputs → ∀ n, getPath w.ws (Path.comps a.path) = some n → ∀ s,
      Store.le cfg.ctx w.store s → Consistent cfg.ctx s → ∀ t' s',
      commitArt cfg.ctx strat a (some n) s
        = .ok (t', (committedArt cfg.ctx (logWs cfg w) a).sum, s') → P a t' s')
    (hin : ∀ a, a ∈ stg.outputs → PlainInputsApart cfg w.idx stg (Path.comps a.path))
    (hc : Consistent cfg.ctx w.store) (h : commitAct cfg strat sp w = .ok w') :
    Consistent cfg.ctx w'.store ∧ Store.le cfg.ctx w.store w'.store ∧ w'.done = sp :: w.done ∧
      (∃ stg', w'.idx = setStage w.idx sp stg' ∧ alookup w'.idx sp = some stg' ∧
        stg'.outputs = (sortArts stg.outputs).map (committedArt cfg.ctx (logWs cfg w))) ∧
      (∀ a, a ∈ stg.outputs → ∃ t', getPath w'.ws (Path.comps a.path) = some t' ∧
        deref cfg.ctx w'.store t' = origAt (logWs cfg w) a ∧ P a t' w'.store) ∧
      (∀ a, a ∈ stg.outputs → Kept cfg a (trackedOf a (origAt (logWs cfg w) a)) w'.store) ∧
      (∀ q, (∀ a, a ∈ stg.outputs → Apart (Path.comps a.path) q) →
        PlainInputsApart cfg w.idx stg q → getPath w'.ws q = getPath w.ws q) := by
  obtain ⟨pl, w1, outs, w2, h1, h2, rfl⟩ := WStat.commitAct_inv hs h
  generalize hS : WStat.newStage cfg stg (sortArts (WStat.ownedIn cfg w.idx stg ++ pl)) outs = S
  replace hS : S.outputs = outs := by rw [← hS]; rfl
  obtain ⟨st1, i1, d1, f1⟩ := WT.commitArts_elsewhere g strat _ h1
  have hpl : ∀ q, PlainInputsApart cfg w.idx stg q → ∀ b,
      b ∈ sortArts (WStat.plainIn cfg w.idx stg) →
      (b.skip = true ∧ b.isDir = false) ∨ Apart (Path.comps b.path) q := by
    intro q hq b hb
    obtain ⟨b0, hin0, hown, rfl⟩ := WStat.mem_plainIn (mem_of_mem_sortArts hb)
    rcases hq b0 hin0 hown with hf | ha
    · exact .inl ⟨rfl, hf⟩
    · exact .inr ha
  -- the un-owned inputs are committed first and leave the output paths alone: what is known at `w` holds at `w1`
  have hsame : ∀ a, a ∈ stg.outputs →
      getPath w1.ws (Path.comps a.path) = getPath w.ws (Path.comps a.path) :=
    fun a ha => f1 _ (hpl _ (hin a ha))
  obtain ⟨c1, l1⟩ := st1 hc
  have hpre1 : ∀ a, a ∈ sortArts stg.outputs → ∃ n, getPath w1.ws (Path.comps a.path) = some n ∧
      ArtPreRe cfg.ctx cfg.fuel w1.store a n := by
    intro a ha
    have ha' := mem_of_mem_sortArts ha
    obtain ⟨n, hn, hp⟩ := hpre a ha'
    exact ⟨n, by rw [hsame a ha']; exact hn, hp.mono l1⟩
  have horig : ∀ a, a ∈ stg.outputs → origAt (logWs cfg w1) a = origAt (logWs cfg w) a := by
    intro a ha
    obtain ⟨n, hn, hp⟩ := hpre a ha
    exact origAt_logWs_congr hn (hsame a ha) l1 hp.resolved
  obtain ⟨e2, c2, l2, i2, d2, lg2, rt2, f2⟩ :=
    commitArts_postP cfg g strat P P_mono (sortArts stg.outputs) outs w1 w2 hap.sortArts hpre1
      (fun a ha n hn s hle hcs t' s' hca => by
        have ha' := mem_of_mem_sortArts ha
        rw [committedArt_congr_orig cfg.ctx (horig a ha')] at hca
        exact hest a ha' n ((hsame a ha').symm.trans hn) s (Store.le_trans l1 hle) hcs t' s' hca)
      c1 h2
  have hmem : ∀ a, a ∈ stg.outputs → a ∈ sortArts stg.outputs :=
    fun a ha => mem_sortArts_of_mem hap.paths_ne ha
  have hidx : w2.idx = w.idx := i2.trans i1
  refine ⟨c2, Store.le_trans l1 l2, ?_, ⟨S, ?_, ?_, ?_⟩, ?_, ?_, ?_⟩
  · show sp :: w2.done = sp :: w.done
    rw [d2, d1]
  · show setStage w2.idx sp S = setStage w.idx sp S
    rw [hidx]
  · show alookup (setStage w2.idx sp S) sp = some S
    rw [hidx]
    exact alookup_setStage_self _ _ hs
  · rw [hS, e2]
    exact List.map_congr_left
      (fun a ha => committedArt_congr_orig cfg.ctx (horig a (mem_of_mem_sortArts ha)))
  · intro a ha
    obtain ⟨t', gt, dt, pt⟩ := lg2 a (hmem a ha)
    exact ⟨t', gt, by rw [dt, horig a ha], pt⟩
  · intro a ha
    rw [← horig a ha]
    exact rt2 a (hmem a ha)
  · intro q hq hpq
    show getPath w2.ws q = getPath w.ws q
    rw [f2 q (fun a ha => hq a (mem_of_mem_sortArts ha)), f1 q (hpl q hpq)]

theorem commitAct_postR (cfg : Cfg κ) (g : Good cfg.ctx) (strat : Strat) (sp : Bytes) (w w' : World κ)
    (stg : Stage) (hs : alookup w.idx sp = some stg) (hap : ApartArts stg.outputs)
    (hpre : ∀ a, a ∈ stg.outputs → ∃ n, getPath w.ws (Path.comps a.path) = some n ∧
      ArtPreRe cfg.ctx cfg.fuel w.store a n)
    (hin : ∀ a, a ∈ stg.outputs → PlainInputsApart cfg w.idx stg (Path.comps a.path))
    (hc : Consistent cfg.ctx w.store) (h : commitAct cfg strat sp w = .ok w') :
    Consistent cfg.ctx w'.store ∧ Store.le cfg.ctx w.store w'.store ∧ w'.done = sp :: w.done ∧
      (∃ stg', w'.idx = setStage w.idx sp stg' ∧ alookup w'.idx sp = some stg' ∧
        stg'.outputs = (sortArts stg.outputs).map (committedArt cfg.ctx (logWs cfg w))) ∧
      (∀ a, a ∈ stg.outputs → ∃ t', getPath w'.ws (Path.comps a.path) = some t' ∧
        deref cfg.ctx w'.store t' = origAt (logWs cfg w) a) ∧
      (∀ a, a ∈ stg.outputs → Kept cfg a (trackedOf a (origAt (logWs cfg w) a)) w'.store) ∧
      (∀ q, (∀ a, a ∈ stg.outputs → Apart (Path.comps a.path) q) →
        PlainInputsApart cfg w.idx stg q → getPath w'.ws q = getPath w.ws q) :=
  have ⟨c, l, d, i, lg, rt, f⟩ := commitAct_postP cfg g strat (fun _ _ _ => True) (fun _ _ => trivial)
    sp w w' stg hs hap hpre (fun _ _ _ _ _ _ _ _ _ _ => trivial) hin hc h
  ⟨c, l, d, i, fun a ha => let ⟨t', gt, hd, _⟩ := lg a ha; ⟨t', gt, hd⟩, rt, f⟩

/-- hypotheses on the pipeline, for the stages in the scope `Sc`: as `PipelineOK`, with `ArtPreRe`
(w.r.t. the initial cache) in place of `ArtPre`: distinct stage paths; all outputs (within a stage
and across stages) have pairwise non-overlapping paths; every output is present and satisfies
`ArtPreRe`; every input that no stage owns is a file, or a directory apart from every output. -/
structure PipelineOKRe (cfg : Cfg κ) (Sc : Bytes → Prop) (w0 : World κ) : Prop where
  keys : (w0.idx.map (·.1)).Nodup
  apart_in : ∀ sp stg, Sc sp → alookup w0.idx sp = some stg → ApartArts stg.outputs
  apart_across : ∀ sp1 sp2 stg1 stg2, Sc sp1 → Sc sp2 → sp1 ≠ sp2 →
    alookup w0.idx sp1 = some stg1 → alookup w0.idx sp2 = some stg2 →
    ∀ a, a ∈ stg1.outputs → ∀ b, b ∈ stg2.outputs → Apart (Path.comps a.path) (Path.comps b.path)
  pre : ∀ sp stg, Sc sp → alookup w0.idx sp = some stg → ∀ a, a ∈ stg.outputs →
    ∃ n, getPath w0.ws (Path.comps a.path) = some n ∧ ArtPreRe cfg.ctx cfg.fuel w0.store a n
  inputs : ∀ sp stg, Sc sp → alookup w0.idx sp = some stg → ∀ sp' stg', Sc sp' →
    alookup w0.idx sp' = some stg' → ∀ a, a ∈ stg'.outputs →
    PlainInputsApart cfg w0.idx stg (Path.comps a.path)

/-- a first commit (`PipelineOK`) is an instance -/
theorem PipelineOKRe.of_pipelineOK {cfg : Cfg κ} {Sc : Bytes → Prop} {w0 : World κ}
    (h : PipelineOK cfg Sc w0) : PipelineOKRe cfg Sc w0 where
  keys := h.keys
  apart_in := h.apart_in
  apart_across := h.apart_across
  pre := fun sp stg hsc hs a ha => by
    obtain ⟨n, hn, hp⟩ := h.pre sp stg hsc hs a ha
    exact ⟨n, hn, ArtPreRe.of_artPre w0.store hp⟩
  inputs := h.inputs

/-- invariant of the commit traversal started in `w0` (`CommitInv`, with the logical workspace of
`w0` as the reference): the cache is consistent and extends the initial one; a stage that is not
done has its original entry in the index and its outputs are as in `w0`; a stage that is done is
recorded with the outputs `committedArt …`, has the `Kept` property, and the logical content
found at its outputs is the original one -/
structure CommitInvRe (cfg : Cfg κ) (Sc : Bytes → Prop) (w0 w : World κ) : Prop where
  cons : Consistent cfg.ctx w.store
  le : Store.le cfg.ctx w0.store w.store
  pending_idx : ∀ sp, w.done.contains sp = false → alookup w.idx sp = alookup w0.idx sp
  pending_ws : ∀ sp stg, Sc sp → w.done.contains sp = false → alookup w0.idx sp = some stg →
    ∀ a, a ∈ stg.outputs →
      getPath w.ws (Path.comps a.path) = getPath w0.ws (Path.comps a.path)
  finished : ∀ sp, Sc sp → w.done.contains sp = true → ∃ stg stg', alookup w0.idx sp = some stg ∧
    alookup w.idx sp = some stg' ∧
    stg'.outputs = (sortArts stg.outputs).map (committedArt cfg.ctx (logWs cfg w0)) ∧
    (∀ a, a ∈ stg.outputs → Kept cfg a (trackedOf a (origAt (logWs cfg w0) a)) w.store) ∧
    (∀ a, a ∈ stg.outputs → ∃ t', getPath w.ws (Path.comps a.path) = some t' ∧
      deref cfg.ctx w.store t' = origAt (logWs cfg w0) a)

theorem CommitInvRe.init (cfg : Cfg κ) (Sc : Bytes → Prop) (w0 : World κ)
    (hc : Consistent cfg.ctx w0.store) : CommitInvRe cfg Sc w0 (fresh w0) where
  cons := hc
  le := Store.le_refl _ _
  pending_idx := fun _ _ => rfl
  pending_ws := fun _ _ _ _ _ _ _ => rfl
  finished := fun sp _ h => by simp [fresh] at h

/-- what the action of the stage `sp`, whose outputs lie at the paths of `stg.outputs`, does to the world:
the cache stays consistent and grows, `sp` is done, the other index entries stay, and so does every path
apart from the outputs (and from the directory inputs no stage owns, which are committed too).  The
invariants of the commit traversal are kept by any world change of this kind. -/
structure StageStep (cfg : Cfg κ) (idx0 : Index) (sp : Bytes) (stg : Stage) (w w1 : World κ) : Prop where
  cons : Consistent cfg.ctx w1.store
  le : Store.le cfg.ctx w.store w1.store
  done : w1.done = sp :: w.done
  idx : ∀ x, x ≠ sp → alookup w1.idx x = alookup w.idx x
  frame : ∀ q, (∀ a, a ∈ stg.outputs → Apart (Path.comps a.path) q) →
    PlainInputsApart cfg idx0 stg q → getPath w1.ws q = getPath w.ws q

section StageStep
variable {cfg : Cfg κ} {Sc : Bytes → Prop} {w0 w w1 : World κ} {sp x : Bytes} {stg : Stage}

theorem StageStep.was_done {idx0 : Index} (h : StageStep cfg idx0 sp stg w w1)
    (hx : w1.done.contains x = true) : x = sp ∨ (x ≠ sp ∧ w.done.contains x = true) :=
  contains_cons_true (h.done ▸ hx)

theorem StageStep.not_done {idx0 : Index} (h : StageStep cfg idx0 sp stg w w1)
    (hx : w1.done.contains x = false) : x ≠ sp ∧ w.done.contains x = false :=
  contains_cons_false (h.done ▸ hx)

/-- the outputs of the other stages in scope are left alone -/
theorem StageStep.outputs (h : StageStep cfg w0.idx sp stg w w1) (hok : PipelineOKRe cfg Sc w0)
    (hsc : Sc sp) (hs0 : alookup w0.idx sp = some stg) {stgx : Stage} (hscx : Sc x) (hne : x ≠ sp)
    (hsx : alookup w0.idx x = some stgx) {a : Art} (ha : a ∈ stgx.outputs) :
    getPath w1.ws (Path.comps a.path) = getPath w.ws (Path.comps a.path) :=
  h.frame _ (fun b hb => hok.apart_across sp x stg stgx hsc hscx (Ne.symm hne) hs0 hsx b hb a ha)
    (hok.inputs sp stg hsc hs0 x stgx hscx hsx a ha)

end StageStep

/-- the part every invariant of a commit traversal shares (`CommitInv`, `CommitInvRe`; `Retry.commit_canon`):
the cache is consistent and extends that of the world `w0` the traversal started in; a stage that is not
done has in the index the entry `w0` had, and its outputs are as in `w0` -/
structure CommitPend (cfg : Cfg κ) (Sc : Bytes → Prop) (w0 w : World κ) : Prop where
  cons : Consistent cfg.ctx w.store
  le : Store.le cfg.ctx w0.store w.store
  pending_idx : ∀ sp, w.done.contains sp = false → alookup w.idx sp = alookup w0.idx sp
  pending_ws : ∀ sp stg, Sc sp → w.done.contains sp = false → alookup w0.idx sp = some stg →
    ∀ a, a ∈ stg.outputs →
      getPath w.ws (Path.comps a.path) = getPath w0.ws (Path.comps a.path)

theorem CommitPend.init (cfg : Cfg κ) (Sc : Bytes → Prop) (w0 : World κ)
    (hc : Consistent cfg.ctx w0.store) : CommitPend cfg Sc w0 (fresh w0) :=
  ⟨hc, Store.le_refl _ _, fun _ _ => rfl, fun _ _ _ _ _ _ _ => rfl⟩

theorem CommitPend.step {cfg : Cfg κ} {Sc : Bytes → Prop} {w0 w w1 : World κ} {sp : Bytes}
    {stg : Stage} (hp : CommitPend cfg Sc w0 w) (hok : PipelineOKRe cfg Sc w0) (hsc : Sc sp)
    (hs0 : alookup w0.idx sp = some stg) (h : StageStep cfg w0.idx sp stg w w1) :
    CommitPend cfg Sc w0 w1 :=
  ⟨h.cons, Store.le_trans hp.le h.le,
    fun x hx => let ⟨hne, hx'⟩ := h.not_done hx; (h.idx x hne).trans (hp.pending_idx x hx'),
    fun x stgx hscx hx hsx a ha => let ⟨hne, hx'⟩ := h.not_done hx
      (h.outputs hok hsc hs0 hscx hne hsx ha).trans (hp.pending_ws x stgx hscx hx' hsx a ha)⟩

theorem CommitInvRe.pend {cfg : Cfg κ} {Sc : Bytes → Prop} {w0 w : World κ}
    (h : CommitInvRe cfg Sc w0 w) : CommitPend cfg Sc w0 w :=
  ⟨h.cons, h.le, h.pending_idx, h.pending_ws⟩

/-- **One stage action of the commit traversal**, for a stage in scope that is not done: what it
establishes for its own stage (w.r.t. the logical workspace of `w0`; `P` is one more fact about each
output, as in `commitArts_postP`), and that it is a `StageStep`. -/
theorem commitPend_step (cfg : Cfg κ) (g : Good cfg.ctx) (strat : Strat)
    (P : Art → Node κ → Store κ → Prop)
    (P_mono : ∀ {a t' s s1}, P a t' s → Store.le cfg.ctx s s1 → P a t' s1) (Sc : Bytes → Prop)
    (w0 : World κ) (hok : PipelineOKRe cfg Sc w0) (sp : Bytes) (w w1 : World κ) (hsc : Sc sp)
    (hsh : SameShape w.idx w0.idx) (hinv : CommitPend cfg Sc w0 w)
    (hnd : w.done.contains sp = false)
    (hest : ∀ stg, alookup w0.idx sp = some stg → ∀ a, a ∈ stg.outputs → ∀ n,
      getPath w0.ws (Path.comps a.path) = some n → ∀ s, Consistent cfg.ctx s → ∀ t' s',
      commitArt cfg.ctx strat a (some n) s
        = .ok (t', (committedArt cfg.ctx (logWs cfg w0) a).sum, s') → P a t' s')
    (h : commitAct cfg strat sp w = .ok w1) :
    ∃ stg stg', alookup w0.idx sp = some stg ∧ alookup w1.idx sp = some stg' ∧
      stg'.outputs = (sortArts stg.outputs).map (committedArt cfg.ctx (logWs cfg w0)) ∧
      (∀ a, a ∈ stg.outputs → Kept cfg a (trackedOf a (origAt (logWs cfg w0) a)) w1.store) ∧
      (∀ a, a ∈ stg.outputs → ∃ t', getPath w1.ws (Path.comps a.path) = some t' ∧
        deref cfg.ctx w1.store t' = origAt (logWs cfg w0) a ∧ P a t' w1.store) ∧
      StageStep cfg w0.idx sp stg w w1 := by
  obtain ⟨stg, hs⟩ := WStat.commitAct_stage h
  have hs0 : alookup w0.idx sp = some stg := by rw [← hinv.pending_idx sp hnd]; exact hs
  have hws := hinv.pending_ws sp stg hsc hnd hs0
  have horig : ∀ a, a ∈ stg.outputs → origAt (logWs cfg w) a = origAt (logWs cfg w0) a := by
    intro a ha
    obtain ⟨n, hn, hp⟩ := hok.pre sp stg hsc hs0 a ha
    exact origAt_logWs_congr hn (hws a ha) hinv.le hp.resolved
  obtain ⟨c1, l1, d1, ⟨stg', hi1, hl1, ho1⟩, lg1, rt1, f1⟩ :=
    commitAct_postP cfg g strat P P_mono sp w w1 stg hs (hok.apart_in sp stg hsc hs0)
    (fun a ha => by
      obtain ⟨n, hn, hp⟩ := hok.pre sp stg hsc hs0 a ha
      exact ⟨n, by rw [hws a ha]; exact hn, hp.mono hinv.le⟩)
    (fun a ha n hn s _ hcs t' s' hca => by
      rw [committedArt_congr_orig cfg.ctx (horig a ha)] at hca
      exact hest stg hs0 a ha n ((hws a ha).symm.trans hn) s hcs t' s' hca)
    (fun a ha => (hok.inputs sp stg hsc hs0 sp stg hsc hs0 a ha).sim hsh) hinv.cons h
  refine ⟨stg, stg', hs0, hl1, ?_, fun a ha => horig a ha ▸ rt1 a ha, fun a ha => ?_,
    c1, l1, d1, fun x hx => by rw [hi1, alookup_setStage_ne _ _ hx],
    fun q hq hpq => f1 q hq (hpq.sim hsh)⟩
  · rw [ho1]
    exact List.map_congr_left (fun a ha =>
      committedArt_congr_orig cfg.ctx (horig a (mem_of_mem_sortArts ha)))
  · obtain ⟨t', gt, dt, pt⟩ := lg1 a ha
    exact ⟨t', gt, by rw [dt, horig a ha], pt⟩

theorem commitInv_stepR (cfg : Cfg κ) (g : Good cfg.ctx) (strat : Strat) (Sc : Bytes → Prop)
    (w0 : World κ) (hok : PipelineOKRe cfg Sc w0) (sp : Bytes) (w w1 : World κ) (hsc : Sc sp)
    (hsh : SameShape w.idx w0.idx) (hinv : CommitInvRe cfg Sc w0 w)
    (hnd : w.done.contains sp = false) (h : commitAct cfg strat sp w = .ok w1) :
    CommitInvRe cfg Sc w0 w1 := by
  obtain ⟨stg, stg', hs0, hl1, ho1, rt1, lg1, hst⟩ :=
    commitPend_step cfg g strat (fun _ _ _ => True) (fun _ _ => trivial) Sc w0 hok sp w w1 hsc hsh
      hinv.pend hnd (fun _ _ _ _ _ _ _ _ _ _ _ => trivial) h
  have hp1 := hinv.pend.step hok hsc hs0 hst
  refine ⟨hp1.cons, hp1.le, hp1.pending_idx, hp1.pending_ws, fun x hscx hx => ?_⟩
  rcases hst.was_done hx with rfl | ⟨hxs, hx'⟩
  · exact ⟨stg, stg', hs0, hl1, ho1, rt1, fun a ha => let ⟨t', gt, dt, _⟩ := lg1 a ha; ⟨t', gt, dt⟩⟩
  · obtain ⟨s0, s1, e0, e1, e2, e3, e4⟩ := hinv.finished x hscx hx'
    refine ⟨s0, s1, e0, (hst.idx x hxs).trans e1, e2, fun a ha => (e3 a ha).mono hst.le, fun a ha => ?_⟩
    obtain ⟨t', gt, dt⟩ := e4 a ha
    refine ⟨t', (hst.outputs hok hsc hs0 hscx hxs e0 ha).trans gt, deref_eq_le cfg.ctx hst.le dt ?_⟩
    -- the logical content at a finished output is plain, so a larger cache resolves it alike
    obtain ⟨n, hn, hp⟩ := hok.pre x s0 hscx e0 a ha
    rw [origAt_logWs_of_getPath hn]
    exact hp.resolved

/-- **`dud commit`, any commit.** After a successful `cmdCommit` on a pipeline satisfying
`PipelineOKRe` the invariant holds, and the stages done are exactly those in scope. -/
theorem cmdCommit_invR (cfg : Cfg κ) (g : Good cfg.ctx) (strat : Strat) (targets : List Bytes)
    (w0 w' : World κ) (hc : Consistent cfg.ctx w0.store)
    (hok : PipelineOKRe cfg (InScope cfg w0 targets) w0)
    (h : cmdCommit cfg strat targets w0 = .ok w') :
    CommitInvRe cfg (InScope cfg w0 targets) w0 w' ∧ SameShape w'.idx w0.idx ∧
      ∃ l' : List Bytes, l'.Nodup ∧ (∀ x, x ∈ l' ↔ InScope cfg w0 targets x) ∧
        (∀ x, w'.done.contains x = l'.contains x) ∧
        (∀ x, x ∈ l' → ∀ o, o ∈ ownIdx cfg w0.idx x → Before l' o x) ∧
        (∀ t, t ∈ (if targets.isEmpty then allStages w0 else targets) → t ∈ l') ∧ (∃ t, t ∈ l') :=
  ⟨cmdCommit_preserves hok.keys _ (CommitInvRe.init cfg _ w0 hc)
    (fun sp v v1 hsc hi hq hnd _ hs => commitInv_stepR cfg g strat _ w0 hok sp v v1 hsc hi hq hnd hs) h,
    cmdCommit_scope hok.keys h⟩

/-- one stage action of the checkout traversal succeeds and keeps `CheckoutInv` (stated for the
world `logWorld cfg w0`, i.e. with the logical workspace of `w0` as the reference) -/
theorem checkoutInv_stepR (cfg : Cfg κ) (strat2 : Strat) (Sc : Bytes → Prop) (w0 w' : World κ)
    (hok : PipelineOKRe cfg Sc w0) (hci : CommitInvRe cfg Sc w0 w')
    (hall : ∀ sp, Sc sp → w'.done.contains sp = true) (sC : Store κ)
    (hle : Store.le cfg.ctx w'.store sC) (sp : Bytes) (v : World κ) (hsc : Sc sp)
    (hidx : v.idx = w'.idx) (hinv : CheckoutInv cfg Sc (logWorld cfg w0) sC v)
    (hnd : v.done.contains sp = false) :
    ∃ v1, checkoutAct cfg strat2 sp v = .ok v1 ∧ CheckoutInv cfg Sc (logWorld cfg w0) sC v1 := by
  refine checkoutInv_step_of_roundTrip cfg strat2 Sc (logWorld cfg w0) w'.idx hok.apart_in hok.apart_across
    (fun x hx => ?_) sC (fun x stg hx hs a ha hsk => ?_) sp v hsc hidx hinv hnd
  · obtain ⟨stg, stg', e0, e1, e2, _⟩ := hci.finished x hx (hall x hx)
    exact ⟨stg, stg', e0, e1, e2⟩
  · obtain ⟨stg0, _, e0, _, _, e3, _⟩ := hci.finished x hx (hall x hx)
    cases e0.symm.trans (show alookup w0.idx x = some stg from hs)
    exact ((e3 a ha).1 hsk).mono hle

/-- **The checkout half of the command-level round trip.** After a successful `cmdCommit` on a
pipeline satisfying `PipelineOKRe`, `dud checkout [targets]` in any world `v` that has the committed
index, a cache extending the committed one, and the non-skip outputs in scope absent and writable,
succeeds and rebuilds the tracked part of the logical content of every such output. -/
theorem cmdCheckout_in_clone (cfg : Cfg κ) (g : Good cfg.ctx) (strat strat2 : Strat)
    (targets : List Bytes) (w0 w' : World κ) (hc : Consistent cfg.ctx w0.store)
    (hok : PipelineOKRe cfg (InScope cfg w0 targets) w0)
    (h : cmdCommit cfg strat targets w0 = .ok w') (v : World κ) (hv : v.idx = w'.idx)
    (hle : Store.le cfg.ctx w'.store v.store)
    (hfresh : ∀ sp stg, InScope cfg w0 targets sp → alookup w0.idx sp = some stg →
      ∀ a, a ∈ stg.outputs → a.skip = false →
        getPath v.ws (Path.comps a.path) = none ∧ Writable v.ws (Path.comps a.path)) :
    ∃ v', cmdCheckout cfg strat2 false targets v = .ok v' ∧ v'.store = v.store ∧ v'.idx = v.idx ∧
      ∀ sp stg, InScope cfg w0 targets sp → alookup w0.idx sp = some stg →
        ∀ a, a ∈ stg.outputs → a.skip = false →
          ∃ r, getPath v'.ws (Path.comps a.path) = some r ∧
            deref cfg.ctx v'.store r = trackedOf a (origAt (logWs cfg w0) a) := by
  have hci := (cmdCommit_invR cfg g strat targets w0 w' hc hok h).1
  have hall : ∀ sp, InScope cfg w0 targets sp → w'.done.contains sp = true :=
    fun sp hsp => (cmdCommit_stage hok.keys h hsp).1
  have hstage : ∀ sp, InScope cfg w0 targets sp → ∃ stg stg', alookup w0.idx sp = some stg ∧
      alookup w'.idx sp = some stg' ∧
      stg'.outputs = (sortArts stg.outputs).map (committedArt cfg.ctx (logWs cfg w0)) := by
    intro sp hsp
    obtain ⟨stg, stg', e0, e1, e2, _⟩ := hci.finished sp hsp (hall sp hsp)
    exact ⟨stg, stg', e0, e1, e2⟩
  refine cmdCheckout_after_commit strat2 hok.keys h (logWs cfg w0) hok.apart_in
    hok.apart_across hstage v hv (fun sp stg hsp hs a ha hsk => ?_) hfresh
  obtain ⟨stg0, _, e0, _, _, e3, _⟩ := hci.finished sp hsp (hall sp hsp)
  cases e0.symm.trans hs
  exact ((e3 a ha).1 hsk).mono hle

/-- a cache that holds the (sorted, well-named) tree `t` committed under the path `p`: whatever
directory `n'` is found there next time, a commit starting from the recorded checksum
`treeDigest ctx p t` reads only readable old manifests -/
theorem RecommitOK.of_holds_new {ctx : Ctx κ} (g : Good ctx) {s : Store κ} {p : Bytes} {t : Node κ}
    (hh : HoldsNode ctx s newChoice p t) (hs : t.sorted = true) (hn : NamesOK ctx t) (n' : Node κ)
    (hd : t.isDir = n'.isDir) : RecommitOK ctx s n' (treeDigest ctx p t) := by
  rw [← digestAs_new]
  exact RecommitOK.of_holds g n' t newChoice p hs hn hh hd

/-- **The typical instance of `ArtPreRe`**: the hypotheses on the present workspace node, and on the
old state only that a directory artifact records no checksum or the checksum of SOME older version
`t1` of its tracked tree (sorted, acceptable names; any schemas) — present in the cache or not. -/
theorem ArtPreRe.of_older {ctx : Ctx κ} (g : Good ctx) {fuel : Nat} {s : Store κ} {a : Art}
    {n : Node κ} (kind : n.isDir = a.isDir) (resolved : (deref ctx s n).plain = true)
    (sorted : n.sorted = true) (names : NamesOK ctx n)
    (skipfile : a.skip = true → a.isDir = false → n.plain = true ∨ n = .link (.obj a.sum))
    (older : a.isDir = true → a.sum = "" ∨ ∃ (t1 : Node κ) (ch : Choice), t1.sorted = true ∧
      NamesOK ctx t1 ∧ t1.isDir = true ∧ a.sum = digestAs ctx ch a.path t1)
    (fuel_ok : depth (trackedOf a n) ≤ fuel) : ArtPreRe ctx fuel s a n where
  kind := kind
  resolved := resolved
  sorted := sorted
  names := names
  skipfile := skipfile
  old := by
    cases hd : a.isDir with
    | false => exact RecommitOK.of_not_dir ctx s _ (by rw [trackedOf_isDir, kind, hd])
    | true =>
      rcases older hd with h | ⟨t1, ch, h1, h2, h3, h4⟩
      · rw [h]; exact RecommitOK.empty ctx s _
      · rw [h4]
        exact RecommitOK.of_digestAs g s _ t1 ch a.path h1 h2 (by rw [trackedOf_isDir, kind, hd, h3])
  fuel := fuel_ok

end Dud.Re
