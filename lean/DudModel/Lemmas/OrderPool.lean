import DudModel.Lemmas.Pool
/-!
# The worker-pool protocol with the entries made explicit (helpers for C13)

`DudModel/Pool.lean` counts goroutines; `TState` below carries, next to the counters `P`, the
entries themselves: `pend` (not yet handed to a worker, in feeding order), `act` (held by busy
workers), `done` (completely processed, **in completion order**), `lost` (dropped by a worker that
failed or saw the cancellation).  Every `TStep` is a `Step` of the protocol on the counters, and
every `Step` can be performed on the instrumented state.  For a run that ends without error the
list `done` is a permutation of the entries: this is the order "the protocol run induces"
(`terminal_done_perm`).  Conversely every permutation of the entries is the completion order of some
run that ends without error (`every_order_occurs`).
-/
namespace Dud.Pool

structure TState (ι : Type) where
  p : P
  pend : List ι
  act : List ι
  done : List ι
  lost : List ι

variable {ι : Type}

/-- a worker hands its result on -/
def Label.finishes : Label → Bool
  | .deliver | .deliverShort => true
  | _ => false

inductive TStep (D : Nat) : TState ι → TState ι → Prop
  /-- a step that neither takes nor gives back an entry -/
  | loc {s : TState ι} (l : Label) : enabled D l s.p = true → l.consumes = false → l ≠ .take →
      TStep D s { s with p := fire l s.p }
  /-- a worker takes the next entry -/
  | take {s : TState ι} (x : ι) (rest : List ι) : enabled D .take s.p = true →
      s.pend = x :: rest → TStep D s ⟨fire .take s.p, rest, x :: s.act, s.done, s.lost⟩
  /-- a busy worker (any of them) has processed its entry completely and hands the result on -/
  | finish {s : TState ι} (l : Label) (pre : List ι) (x : ι) (post : List ι) :
      enabled D l s.p = true → l.finishes = true → s.act = pre ++ x :: post →
      TStep D s ⟨fire l s.p, s.pend, pre ++ post, s.done ++ [x], s.lost⟩
  /-- a busy worker returns an error, or sees the cancellation instead of sending its result -/
  | drop {s : TState ι} (l : Label) (pre : List ι) (x : ι) (post : List ι) :
      enabled D l s.p = true → l.consumes = true → l.finishes = false →
      s.act = pre ++ x :: post →
      TStep D s ⟨fire l s.p, s.pend, pre ++ post, s.done, x :: s.lost⟩

/-- start of the call for a directory with entries `es` -/
def tinit (es : List ι) (coll : Bool := true) : TState ι :=
  ⟨init es.length coll, es, [], [], []⟩

theorem TStep.step {D : Nat} {s t : TState ι} (h : TStep D s t) : Step D s.p t.p := by
  cases h with
  | loc l he _ _ => exact Step.mk l he
  | take x rest he _ => exact Step.mk .take he
  | finish l pre x post he _ _ => exact Step.mk l he
  | drop l pre x post he _ _ _ => exact Step.mk l he

structure TInv (es : List ι) (s : TState ι) : Prop where
  wf : WF s.p
  n_eq : s.p.n = es.length
  pend_len : s.pend.length + s.p.fed = s.p.n
  act_len : s.act.length = s.p.busy
  done_len : s.done.length = s.p.got
  perm : (s.done ++ (s.lost ++ (s.act ++ s.pend))).Perm es

theorem TInv.entries {es : List ι} {s : TState ι} (i : TInv es s) : Entries s.p s.pend s.act :=
  ⟨i.wf, i.pend_len, i.act_len⟩

theorem tinv_init (es : List ι) (coll : Bool) : TInv es (tinit es coll) :=
  ⟨wf_init _ _, rfl, by simp [tinit, init], rfl, rfl, by simp [tinit]⟩

theorem finishes_consumes {l : Label} (h : l.finishes = true) : l.consumes = true := by
  cases l <;> first | rfl | cases h

theorem fire_got_finish (l : Label) (p : P) (h : l.finishes = true) :
    (fire l p).got = p.got + 1 := by
  cases l <;> first | rfl | cases h

theorem fire_got_other (l : Label) (p : P) (h : l.finishes = false) : (fire l p).got = p.got := by
  cases l <;> first | rfl | cases h

/-- an entry leaving `act` for the end of `done` or the front of `lost` -/
theorem cons_perm_middle (x : ι) (lost pre post pend : List ι) :
    (x :: (lost ++ (pre ++ (post ++ pend)))).Perm (lost ++ (pre ++ (x :: (post ++ pend)))) := by
  simpa [List.append_assoc] using
    (List.perm_middle (l₁ := lost ++ pre) (a := x) (l₂ := post ++ pend)).symm

theorem tinv_step {D : Nat} {es : List ι} {s t : TState ι} (i : TInv es s) (h : TStep D s t) :
    TInv es t := by
  have k := i.entries
  obtain ⟨-, hn, -, -, hd, hperm⟩ := i
  cases h with
  | loc l he hcons hne =>
    have k' := k.loc he hcons hne
    have hf : l.finishes = false := by
      cases l <;> first | rfl | cases hcons
    exact ⟨k'.wf, by simp only [fire_n]; exact hn, k'.pend_len, k'.act_len,
      by simp only [fire_got_other l _ hf]; exact hd, hperm⟩
  | take x rest he hpend =>
    have k' := (hpend ▸ k).take he x
    refine ⟨k'.wf, by simp only [fire_n]; exact hn, k'.pend_len, k'.act_len, hd, ?_⟩
    rw [hpend] at hperm
    refine List.Perm.trans ?_ hperm
    refine List.Perm.append_left _ (List.Perm.append_left _ ?_)
    exact (List.perm_middle (l₁ := s.act) (a := x) (l₂ := rest)).symm
  | finish l pre x post he hfin hact =>
    have k' := (hact ▸ k).consume he (finishes_consumes hfin)
    refine ⟨k'.wf, by simp only [fire_n]; exact hn, k'.pend_len, k'.act_len, ?_, ?_⟩
    · simp only [fire_got_finish l _ hfin, List.length_append, List.length_cons, List.length_nil, hd]
    · rw [hact] at hperm
      refine List.Perm.trans ?_ hperm
      simpa [List.append_assoc] using
        List.Perm.append_left s.done (cons_perm_middle x s.lost pre post s.pend)
  | drop l pre x post he hcons hfin hact =>
    have k' := (hact ▸ k).consume he hcons
    refine ⟨k'.wf, by simp only [fire_n]; exact hn, k'.pend_len, k'.act_len,
      by simp only [fire_got_other l _ hfin]; exact hd, ?_⟩
    rw [hact] at hperm
    refine List.Perm.trans ?_ hperm
    simpa [List.append_assoc] using
      List.Perm.append_left s.done (cons_perm_middle x s.lost pre post s.pend)

abbrev TSteps (D : Nat) : TState ι → Nat → TState ι → Prop := Run (TStep D)

theorem tsteps_inv {D : Nat} {es : List ι} {s t : TState ι} {k : Nat} (i : TInv es s)
    (h : TSteps D s k t) : TInv es t := by
  induction h with
  | refl => exact i
  | cons hs _ ih => exact ih (tinv_step i hs)

/-- an instrumented run is a run of the protocol -/
theorem tsteps_steps {D : Nat} {s t : TState ι} {k : Nat} (h : TSteps D s k t) :
    Steps D s.p k t.p := by
  induction h with
  | refl => exact .refl
  | cons hs _ ih => exact .cons hs.step ih

/-- every step of the protocol can be performed on the instrumented state -/
theorem tstep_of_step {D : Nat} {es : List ι} {s : TState ι} (i : TInv es s) {q : P}
    (h : Step D s.p q) : ∃ t, TStep D s t ∧ t.p = q := by
  have k := i.entries
  cases h with
  | mk l he =>
    by_cases ht : l = .take
    · subst ht
      obtain ⟨x, rest, hpend⟩ := k.pend_cons he
      exact ⟨_, TStep.take x rest he hpend, rfl⟩
    · cases hc : l.consumes with
      | false => exact ⟨_, TStep.loc l he hc ht, rfl⟩
      | true =>
        obtain ⟨x, post, hact⟩ := k.act_cons he hc
        cases hf : l.finishes with
        | true => exact ⟨_, TStep.finish l [] x post he hf hact, rfl⟩
        | false => exact ⟨_, TStep.drop l [] x post he hc hf hact, rfl⟩

/-- **The order a run induces.**  When the call returns without error, every entry has been
processed exactly once: the completion order `done` is a permutation of the entries, nothing is
pending, held or lost. -/
theorem terminal_done_perm {D : Nat} {es : List ι} {coll : Bool} {k : Nat} {s : TState ι}
    (h : TSteps D (tinit es coll) k s) (t : Terminal s.p) (nf : s.p.failed = false) :
    s.done.Perm es ∧ s.pend = [] ∧ s.act = [] ∧ s.lost = [] := by
  have i := tsteps_inv (tinv_init es coll) h
  obtain ⟨hact, hpend⟩ := i.entries.terminal t
  have hpend := hpend nf
  have hgot := (terminal_counts i.wf t nf).2
  have hperm := i.perm
  rw [hpend, hact] at hperm
  simp only [List.append_nil] at hperm
  have hlost : s.lost = [] := by
    have hl := hperm.length_eq
    have := i.done_len
    have := i.n_eq
    simp only [List.length_append] at hl
    exact List.eq_nil_of_length_eq_zero (by omega)
  rw [hlost] at hperm
  simp only [List.append_nil] at hperm
  exact ⟨hperm, hpend, hact, hlost⟩

/-- at any time: what is done, lost, held and pending is exactly the entries, each once -/
theorem entries_accounted {D : Nat} {es : List ι} {coll : Bool} {k : Nat} {s : TState ι}
    (h : TSteps D (tinit es coll) k s) :
    (s.done ++ (s.lost ++ (s.act ++ s.pend))).Perm es :=
  (tsteps_inv (tinv_init es coll) h).perm

/-! ## every order occurs

With enough tokens from the shared pool (`spawnS`, the environment) all entries are held by
workers at the same time, and the workers may finish in any order: every permutation of the
entries is the completion order of some run that ends without error.  So "for every schedule"
really means "for every permutation". -/

/-- counters while the workers are being spawned / entries are being taken / results delivered -/
def pMid (n : Nat) (coll : Bool) (fed got idle busy spawned : Nat) (loopDone : Bool)
    (exited : Nat) : P :=
  { n := n, coll := coll, fed := fed, got := got, idle := idle, busy := busy, spawned := spawned,
    ded := 0, exited := exited, loopDone := loopDone, failed := false, feedStop := false,
    collStop := false }

/-- phase 1: `i` workers spawned on shared tokens -/
theorem phase_spawn (D : Nat) (es : List ι) (coll : Bool) (i : Nat) (hi : i ≤ es.length) :
    TSteps D (tinit es coll) i ⟨pMid es.length coll 0 0 i 0 i false 0, es, [], [], []⟩ := by
  induction i with
  | zero => exact .refl
  | succ i ih =>
    refine Run.append (ih (by omega)) (.cons ?_ .refl)
    have he : enabled D .spawnS (pMid es.length coll 0 0 i 0 i false 0) = true := by
      simp [enabled, pMid]
      exact decide_eq_true (by omega)
    exact TStep.loc (s := ⟨pMid es.length coll 0 0 i 0 i false 0, es, [], [], []⟩) .spawnS he rfl
      (by decide)

/-- phase 2: the idle workers take the pending entries one after the other -/
theorem phase_take (D : Nat) (n : Nat) (coll : Bool) (r : List ι) :
    ∀ a : List ι, a.length + r.length = n →
      TSteps D ⟨pMid n coll a.length 0 r.length a.length n false 0, r, a, [], []⟩ r.length
        ⟨pMid n coll n 0 0 n n false 0, [], r.reverse ++ a, [], []⟩ := by
  induction r with
  | nil =>
    intro a h
    subst h
    exact .refl
  | cons x r ih =>
    intro a h
    have he : enabled D .take (pMid n coll a.length 0 (r.length+1) a.length n false 0) = true := by
      simp [enabled, pMid]
      exact decide_eq_true (by simp at h; omega)
    refine .cons (TStep.take (s := ⟨pMid n coll a.length 0 (r.length+1) a.length n false 0,
      x :: r, a, [], []⟩) x r he rfl) ?_
    have hf : fire .take (pMid n coll a.length 0 (r.length+1) a.length n false 0) =
        pMid n coll (a.length+1) 0 r.length (a.length+1) n false 0 := rfl
    rw [hf]
    simpa [List.reverse_cons, List.append_assoc] using ih (x :: a) (by simp at h ⊢; omega)

/-- phase 3: the busy workers finish in the order `σ` -/
theorem phase_deliver (D : Nat) (n : Nat) (coll : Bool) (σ : List ι) :
    ∀ (a d : List ι) (g b : Nat), a.Perm σ → d.length = g → a.length = b → g + b = n →
      TSteps D ⟨pMid n coll n g g b n false 0, [], a, d, []⟩ σ.length
        ⟨pMid n coll n n n 0 n false 0, [], [], d ++ σ, []⟩ := by
  induction σ with
  | nil =>
    intro a d g b hp hd ha hn
    have : a = [] := hp.eq_nil
    subst this
    simp only [List.length_nil] at ha
    subst ha
    have : g = n := by omega
    subst this
    simpa using (Run.refl : TSteps D _ 0 _)
  | cons x σ ih =>
    intro a d g b hp hd ha hn
    have hx : x ∈ a := hp.mem_iff.2 (List.mem_cons_self ..)
    obtain ⟨pre, post, rfl⟩ := List.append_of_mem hx
    cases b with
    | zero => simp at ha
    | succ b =>
      have he : enabled D .deliver (pMid n coll n g g (b+1) n false 0) = true := by
        simp [enabled, pMid]
      refine .cons (TStep.finish (s := ⟨pMid n coll n g g (b+1) n false 0, [], pre ++ x :: post,
        d, []⟩) .deliver pre x post he rfl rfl) ?_
      have hp' : (pre ++ post).Perm σ :=
        (List.perm_middle.symm.trans hp).cons_inv
      have ih := ih (pre ++ post) (d ++ [x]) (g+1) b hp'
        (by simp [hd]) (by simp at ha ⊢; omega) (by omega)
      have hf : fire .deliver (pMid n coll n g g (b+1) n false 0) =
          pMid n coll n (g+1) (g+1) b n false 0 := rfl
      rw [hf]
      simpa [List.append_assoc] using ih

/-- phase 5: the idle workers find the channel closed and return -/
theorem phase_exit (D : Nat) (n : Nat) (coll : Bool) (done : List ι) (i : Nat) :
    ∀ e, i + e = n →
      TSteps D ⟨pMid n coll n n i 0 n true e, [], [], done, []⟩ i
        ⟨pMid n coll n n 0 0 n true n, [], [], done, []⟩ := by
  induction i with
  | zero =>
    intro e h
    have : e = n := by omega
    subst this
    exact .refl
  | succ i ih =>
    intro e h
    have he : enabled D .exitS (pMid n coll n n (i+1) 0 n true e) = true := by
      simp [enabled, pMid]
    exact .cons (TStep.loc (s := ⟨pMid n coll n n (i+1) 0 n true e, [], [], done, []⟩) .exitS he
      rfl (by decide)) (ih (e+1) (by omega))

/-- **Every permutation is the completion order of some error-free run** (the shared pool grants
one token per entry, so that all entries are in progress at the same time). -/
theorem every_order_occurs (D : Nat) (es σ : List ι) (coll : Bool) (hp : σ.Perm es) :
    ∃ k s, TSteps D (tinit es coll) k s ∧ Terminal s.p ∧ s.p.failed = false ∧ s.done = σ := by
  have h1 := phase_spawn D es coll es.length (Nat.le_refl _)
  have h2 := phase_take D es.length coll es [] (Nat.zero_add _)
  have h3 := phase_deliver D es.length coll σ (es.reverse ++ []) [] 0 es.length
    (by simpa using (List.reverse_perm es).trans hp.symm) rfl (by simp) (by omega)
  have he : enabled D .loopEndN (pMid es.length coll es.length es.length es.length 0 es.length
      false 0) = true := by
    simp [enabled, pMid]
  have h4 : TStep D (⟨pMid es.length coll es.length es.length es.length 0 es.length false 0, [],
      [], [] ++ σ, []⟩ : TState ι) ⟨pMid es.length coll es.length es.length es.length 0 es.length
      true 0, [], [], [] ++ σ, []⟩ :=
    TStep.loc (s := ⟨pMid es.length coll es.length es.length es.length 0 es.length false 0, [],
      [], [] ++ σ, []⟩) .loopEndN he rfl (by decide)
  have h5 := phase_exit D es.length coll ([] ++ σ) es.length 0 (by omega)
  refine ⟨_, _, Run.append (Run.append (Run.append h1 h2) h3) (.cons h4 h5), ?_, rfl, by simp⟩
  simp [Terminal, pMid]

end Dud.Pool
