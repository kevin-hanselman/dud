import DudModel.SysConc
import DudModel.Lemmas.CrashCmdGo
import DudModel.Lemmas.CrashCheckoutStep
import DudModel.Lemmas.SysCheckoutRefine
/-!
# The real command traces never write the lock path between lock and unlock — WITHOUT hypotheses

"No body call writes `P.lock`" needs no hypothesis on the world (`uniqNode`, `Consistent`, `Good`, `hemp`): a
call of the commit body is a cache/workspace call of an artifact or a stage-file call of the meta phase, a call
of the checkout body writes workspace paths only.  This file proves it for EVERY configuration and EVERY world,
for `commitBody` / `checkoutBody`: the calls of `cmdCommitGoT` / `cmdCheckoutT` strictly between the first
(`createExcl lock`) and the last (`unlink lock`) call; `cmdCommitGoT_lock_window_any` and
`cmdCheckoutT_lock_window_any` are the lock windows that follow.
-/
namespace Dud.Sys.Conc

open Dud Dud.Sys

variable {κ : Type}

/-- the calls of `dud commit` between lock and unlock (`[]` when the command fails at the logical level: such
a run has no trace in the model) -/
def commitBody (c : CmdCfg κ) (strat : Strat) (targets : List Bytes) (w : World κ) : List (Call κ) :=
  match cmdCommitGoSegs c strat targets w with
  | .ok (_, segs) => flatSegs segs
  | .error _ => []

theorem commitBody_trace {c : CmdCfg κ} {strat : Strat} {targets : List Bytes} {w w' : World κ}
    {calls : List (Call κ)} (h : cmdCommitGoT c strat targets w = .ok (w', calls)) :
    calls = .createExcl .lock :: (commitBody c strat targets w ++ [.unlink .lock]) := by
  obtain ⟨segs, hs, rfl⟩ := cmdCommitGoT_segs_inv h
  simp [commitBody, hs, goCalls, flatSegs]

/-- **No call of the body of `dud commit` writes the lock path** — any configuration, any world. -/
theorem commitBody_noLock (c : CmdCfg κ) (strat : Strat) (targets : List Bytes) (w : World κ) :
    ∀ x ∈ commitBody c strat targets w, P.lock ∉ callWrites x := by
  unfold commitBody
  cases hs : cmdCommitGoSegs c strat targets w with
  | error e => intro x hx; simp at hx
  | ok v =>
    obtain ⟨w1, segs⟩ := v
    -- a call of an artifact touches cache and workspace only, a call of the meta phase a stage file
    have := goTargets_segs (Q := fun _ sg => ∀ seg ∈ sg, ∀ x ∈ seg.2, P.lock ∉ callWrites x)
      (fun _ _ _ _ _ _ _ hq h1 => List.forall_mem_append.2 ⟨hq, List.forall_mem_singleton.2
        fun x hx => cacheOnly_not_writes (commitArtWT_cacheOnly h1 x hx) rfl⟩)
      (fun _ _ _ _ _ _ _ _ _ hq => hq)
      (fun w sp _ hq => List.forall_mem_append.2 ⟨hq, List.forall_mem_singleton.2
        (stageWriteCalls_noLock c w.idx sp)⟩)
      (p := (fresh w, [])) (by simp) (cmdCommitGoSegs_ok_inv hs)
    intro x hx
    obtain ⟨l, hl, hxl⟩ := List.mem_flatten.1 hx
    obtain ⟨seg, hseg, rfl⟩ := List.mem_map.1 hl
    exact this seg hseg x hxl

/-- **The lock window of `dud commit` from ANY state without a lock file**: no hypothesis on the configuration
or the world (`cmdCommitGoT_lock_window` of `Props/C03cmdGo.lean` is the case `fsOfWorld c w`). -/
theorem cmdCommitGoT_lock_window_any {c : CmdCfg κ} {strat : Strat} {targets : List Bytes} {w w' : World κ}
    {calls : List (Call κ)} (emp : κ) {fs0 : FS κ} (hfs : fs0.get .lock = none)
    (h : cmdCommitGoT c strat targets w = .ok (w', calls)) :
    2 ≤ calls.length ∧ calls.head? = some (.createExcl .lock) ∧ calls.getLast? = some (.unlink .lock) ∧
    ∀ k, (replay emp fs0 (calls.take k)).get .lock =
      if 0 < k ∧ k < calls.length then some (.file emp 0o600) else none :=
  lock_window_cmd emp (by rw [commitBody_trace h]; simp) hfs (commitBody_noLock c strat targets w)

/-- every write of the trace is a workspace path -/
def WsW (calls : List (Call κ)) : Prop := ∀ c ∈ calls, ∀ p ∈ callWrites c, ∃ r, p = P.ws r

theorem WsW.nil : WsW ([] : List (Call κ)) := by intro c hc; cases hc

theorem WsW.append {l1 l2 : List (Call κ)} (h1 : WsW l1) (h2 : WsW l2) : WsW (l1 ++ l2) := by
  intro c hc
  rcases List.mem_append.1 hc with hc | hc
  · exact h1 c hc
  · exact h2 c hc

theorem mkdir_writes_ws (q : List Name) : ∀ p ∈ callWrites (Call.mkdir (.ws q) : Call κ), ∃ r, p = P.ws r := by
  intro p hp
  simp [callWrites, callPaths] at hp
  exact ⟨q, hp⟩

theorem WsW.noLock {l : List (Call κ)} (h : WsW l) : ∀ x ∈ l, P.lock ∉ callWrites x := by
  intro x hx hmem
  obtain ⟨r, hr⟩ := h x hx _ hmem
  cases hr

theorem checkoutTrace_wsW {t : TCfg κ} {s : Store κ} {pre : List Name} {cs : List Child}
    {cur : Option (Node κ)} {r : Node κ} {full : Bool} {calls : List (Call κ)}
    (h : CheckoutTrace t s pre cs cur r full calls) : WsW calls :=
  fun c hc p hp => let ⟨_, hrel⟩ := h.writes_below c hc p hp; ⟨_, hrel⟩

theorem parentMkdirs_wsW (ws : Node κ) (comps : List Name) : WsW (parentMkdirs ws comps) := by
  intro c hc
  simp only [parentMkdirs, List.mem_map, List.mem_filter] at hc
  obtain ⟨q, -, rfl⟩ := hc
  exact mkdir_writes_ws q

theorem checkoutArtWT_wsW {c : CmdCfg κ} {strat : Strat} {a : Art} {w w' : World κ}
    {calls : List (Call κ)} (h : checkoutArtWT c strat a w = .ok (w', calls)) : WsW calls := by
  obtain ⟨n, l, ws', hT, -, -, rfl⟩ := checkoutArtWT_inv h
  exact WsW.append (parentMkdirs_wsW _ _) (checkoutTrace_wsW (checkoutNodeT_trace _ hT))

/-- the calls of `dud checkout` between lock and unlock (`[]` when the command fails at the logical level) -/
def checkoutBody (c : CmdCfg κ) (strat : Strat) (single : Bool) (targets : List Bytes) (w : World κ) :
    List (Call κ) :=
  match cmdCheckoutSegs c strat single targets w with
  | .ok (_, segs) => segs.flatten
  | .error _ => []

theorem checkoutBody_trace {c : CmdCfg κ} {strat : Strat} {single : Bool} {targets : List Bytes}
    {w w' : World κ} {calls : List (Call κ)}
    (h : cmdCheckoutT c strat single targets w = .ok (w', calls)) :
    calls = .createExcl .lock :: (checkoutBody c strat single targets w ++ [.unlink .lock]) := by
  obtain ⟨segs, hs, rfl⟩ := cmdCheckoutT_ok_segs h
  simp [checkoutBody, hs, coCalls]

/-- **Every call of the body of `dud checkout` writes workspace paths only** — any configuration, any
world; in particular none writes the lock path. -/
theorem checkoutBody_wsW (c : CmdCfg κ) (strat : Strat) (single : Bool) (targets : List Bytes)
    (w : World κ) : WsW (checkoutBody c strat single targets w) := by
  unfold checkoutBody
  cases hs : cmdCheckoutSegs c strat single targets w with
  | error e => exact WsW.nil
  | ok v =>
    exact (cmdCheckoutSegs_induct (Q := fun _ sg => WsW sg.flatten)
      (fun a _ w1 w2 seg sg _ hq h1 => by simpa using WsW.append hq (checkoutArtWT_wsW h1)) hs WsW.nil).1

theorem checkoutBody_noLock (c : CmdCfg κ) (strat : Strat) (single : Bool) (targets : List Bytes)
    (w : World κ) : ∀ x ∈ checkoutBody c strat single targets w, P.lock ∉ callWrites x :=
  (checkoutBody_wsW c strat single targets w).noLock

/-- **The lock window of `dud checkout` from ANY state without a lock file**, no hypothesis on the configuration
or the world -/
theorem cmdCheckoutT_lock_window_any {c : CmdCfg κ} {strat : Strat} {single : Bool} {targets : List Bytes}
    {w w' : World κ} {calls : List (Call κ)} (emp : κ) {fs0 : FS κ} (hfs : fs0.get .lock = none)
    (h : cmdCheckoutT c strat single targets w = .ok (w', calls)) :
    2 ≤ calls.length ∧ calls.head? = some (.createExcl .lock) ∧ calls.getLast? = some (.unlink .lock) ∧
    ∀ k, (replay emp fs0 (calls.take k)).get .lock =
      if 0 < k ∧ k < calls.length then some (.file emp 0o600) else none :=
  lock_window_cmd emp (by rw [checkoutBody_trace h]; simp) hfs (checkoutBody_noLock c strat single targets w)

end Dud.Sys.Conc
