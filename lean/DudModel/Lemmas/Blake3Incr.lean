import DudModel.Blake3Incr
import DudModel.Lemmas.Blake3Eval
/-!
# Lemmas: the incremental BLAKE3 hasher computes the recursive tree hash (tree layer)

Core-only.  The `update` loops are folds of a one-byte step (`ByteFold`, `Loop.byteFold`), and a
byte fold from a reset is a fold over chunks (`foldl_pushByte_chunks`), so the state after an input
is given in closed form (`write_reset_spec`).  The stack is a binary counter over the completed
chunks (`Stk`): closing a chunk is an increment with carries (`addChunkCV_stk`), and finalisation
walks the right spine of the tree (`fold_stk`).
-/
namespace Dud.Blake3Incr
open Dud.Blake3Spec

variable {CV Digest : Type}

/-! ## Loops that absorb bytes piecewise

`writeF`, `ChunkState.updateF` and `bwriteF` have one shape: while input remains, normalise the state
(close a full chunk, flush a full block) and absorb as many bytes as fit.  On states that are `ok`
such a loop is the fold of its one-byte step. -/

/-- `w` consumes a byte string as the fold of `push`, on states that are `ok`. -/
structure ByteFold {σ : Type} (w : σ → Bytes → σ) (push : σ → UInt8 → σ) (ok : σ → Prop) : Prop where
  eq_foldl : ∀ {s}, ok s → ∀ x, w s x = x.foldl push s
  ok_push : ∀ {s}, ok s → ∀ b, ok (push s b)

namespace ByteFold
variable {σ : Type} {w : σ → Bytes → σ} {push : σ → UInt8 → σ} {ok : σ → Prop}

theorem ok_foldl (hp : ∀ {s}, ok s → ∀ b, ok (push s b)) {s : σ} (h : ok s) (xs : Bytes) :
    ok (xs.foldl push s) := by
  induction xs generalizing s with
  | nil => exact h
  | cons x xs ih => exact ih (hp h x)

variable (f : ByteFold w push ok)
include f

theorem ok_write {s : σ} (h : ok s) (x : Bytes) : ok (w s x) := by
  rw [f.eq_foldl h]; exact ok_foldl f.ok_push h x

theorem append {s : σ} (h : ok s) (a b : Bytes) : w (w s a) b = w s (a ++ b) := by
  rw [f.eq_foldl (f.ok_write h a), f.eq_foldl h a, f.eq_foldl h (a ++ b), List.foldl_append]

theorem foldl_eq (chunks : List Bytes) {s : σ} (h : ok s) :
    chunks.foldl w s = chunks.flatten.foldl push s := by
  induction chunks generalizing s with
  | nil => rfl
  | cons c rest ih =>
    rw [List.foldl_cons, ih (f.ok_write h c), f.eq_foldl h, List.flatten_cons, List.foldl_append]

theorem ok_foldl_write (chunks : List Bytes) {s : σ} (h : ok s) : ok (chunks.foldl w s) := by
  rw [f.foldl_eq chunks h]; exact ok_foldl f.ok_push h _

end ByteFold

/-- A loop of that shape: `norm` empties a full buffer, `room` is what the buffer still takes,
`absorb` puts in bytes that fit and `add` one byte; nothing is normalised while there is room. -/
structure Loop {σ : Type} (F : Nat → σ → Bytes → σ) (norm : σ → σ) (room : σ → Nat)
    (absorb : σ → Bytes → σ) (add : σ → UInt8 → σ) (ok : σ → Prop) : Prop where
  zero : ∀ s input, F 0 s input = s
  succ : ∀ fuel s input, F (fuel + 1) s input =
      if input.length = 0 then s
      else F fuel (absorb (norm s) (input.take (min (room (norm s)) input.length)))
        (input.drop (min (room (norm s)) input.length))
  norm_eq : ∀ s, 0 < room s → norm s = s
  norm_ok : ∀ s, ok s → ok (norm s) ∧ 0 < room (norm s)
  add_ok : ∀ s b, ok s → 0 < room s → ok (add s b) ∧ room (add s b) = room s - 1
  absorb_eq : ∀ s xs, ok s → xs.length ≤ room s → absorb s xs = xs.foldl add s

namespace Loop
variable {σ : Type} {F : Nat → σ → Bytes → σ} {norm : σ → σ} {room : σ → Nat}
  {absorb : σ → Bytes → σ} {add : σ → UInt8 → σ} {ok : σ → Prop} (L : Loop F norm room absorb add ok)
include L

/-- While the bytes fit, the one-byte step `fun s b => add (norm s) b` does not normalise. -/
theorem foldl_eq_absorb {s : σ} (h : ok s) (xs : Bytes) (hl : xs.length ≤ room s) :
    xs.foldl (fun s b => add (norm s) b) s = absorb s xs ∧ ok (absorb s xs) := by
  rw [L.absorb_eq s xs h hl]
  induction xs generalizing s with
  | nil => exact ⟨rfl, h⟩
  | cons x xs ih =>
    simp only [List.length_cons] at hl
    obtain ⟨h1, h2⟩ := L.add_ok s x h (by omega)
    rw [List.foldl_cons, List.foldl_cons, L.norm_eq s (by omega)]
    exact ih h1 (by omega)

/-- Normalising first changes nothing once a byte follows. -/
theorem foldl_norm {s : σ} (h : ok s) {xs : Bytes} (hne : xs ≠ []) :
    xs.foldl (fun s b => add (norm s) b) (norm s) = xs.foldl (fun s b => add (norm s) b) s := by
  cases xs with
  | nil => exact absurd rfl hne
  | cons x xs => rw [List.foldl_cons, List.foldl_cons, L.norm_eq _ (L.norm_ok s h).2]

/-- Run with the input length as fuel, the loop is the fold of the one-byte step. -/
theorem byteFold : ByteFold (fun s input => F input.length s input) (fun s b => add (norm s) b) ok := by
  have hpush : ∀ {s}, ok s → ∀ b, ok (add (norm s) b) := fun {s} hs b =>
    (L.add_ok _ b (L.norm_ok s hs).1 (L.norm_ok s hs).2).1
  refine ⟨fun {s} hs input => ?_, hpush⟩
  generalize hn : input.length = fuel
  have hl : input.length ≤ fuel := Nat.le_of_eq hn
  clear hn
  induction fuel generalizing s input with
  | zero => rw [L.zero, List.eq_nil_of_length_eq_zero (Nat.le_zero.1 hl)]; rfl
  | succ fuel ih =>
    rw [L.succ]
    split
    · rename_i h0
      rw [List.eq_nil_of_length_eq_zero h0]; rfl
    · obtain ⟨hok, hr⟩ := L.norm_ok s hs
      have ht : (input.take (min (room (norm s)) input.length)).length
          = min (room (norm s)) input.length := by simp only [List.length_take]; omega
      obtain ⟨he, hok'⟩ := L.foldl_eq_absorb hok (input.take (min (room (norm s)) input.length)) (by omega)
      rw [← he, L.foldl_norm hs (List.ne_nil_of_length_pos (by omega))] at hok' ⊢
      rw [ih hok' _ (by simp only [List.length_drop]; omega), ← List.foldl_append, List.take_append_drop]

end Loop

theorem write_loop (P : Params CV Digest) :
    Loop (writeF P) (closeIfFull P) (fun s => 1024 - s.cur.length)
      (fun s xs => { s with cur := s.cur ++ xs }) (fun s b => { s with cur := s.cur ++ [b] }) WF where
  zero _ _ := rfl
  succ _ _ _ := rfl
  norm_eq s h := if_neg (by omega)
  norm_ok s h := by
    unfold WF closeIfFull at *
    split
    · exact ⟨Nat.zero_le _, Nat.zero_lt_succ _⟩
    · omega
  add_ok s b h hr := by
    simp only [WF, List.length_append, List.length_singleton] at *; omega
  absorb_eq s xs hs hl := by
    clear hs hl
    induction xs generalizing s with
    | nil => simp
    | cons x xs ih => rw [List.foldl_cons, ← ih]; simp

theorem write_fold (P : Params CV Digest) : ByteFold (write P) (pushByte P) WF :=
  (write_loop P).byteFold

theorem write_eq_foldl (P : Params CV Digest) {s : State CV} (h : WF s) (input : Bytes) :
    write P s input = input.foldl (pushByte P) s :=
  (write_fold P).eq_foldl h input

theorem reset_wf (s : State CV) : WF (reset s) := by simp [WF, reset]

/-- The hasher at the granularity of chunks: absorbing full chunks `done` and then `cur` closes each
of `done` in turn and leaves `cur` open. -/
theorem foldl_pushByte_chunks (P : Params CV Digest) (done : List Bytes) (cur : Bytes)
    (hfull : ∀ c ∈ done, c.length = 1024) (hcur : cur.length ≤ 1024) (hne : done ≠ [] → cur ≠ [])
    (s : State CV) (hs : s.cur = []) :
    (done.flatten ++ cur).foldl (pushByte P) s
      = { done.foldl (fun s c => closeChunk P { s with cur := c }) s with cur := cur } := by
  have fit (s : State CV) (xs : Bytes) (h : s.cur.length + xs.length ≤ 1024) :
      xs.foldl (pushByte P) s = { s with cur := s.cur ++ xs } :=
    ((write_loop P).foldl_eq_absorb (show WF s by unfold WF; omega) xs (by omega)).1
  have closeFirst (s : State CV) (h : WF s) {xs : Bytes} (hx : xs ≠ []) :
      xs.foldl (pushByte P) (closeIfFull P s) = xs.foldl (pushByte P) s := (write_loop P).foldl_norm h hx
  induction done generalizing s with
  | nil =>
    rw [List.flatten_nil, List.nil_append, fit s cur (by rw [hs]; simpa using hcur), hs]
    rfl
  | cons c done ih =>
    have hc : c.length = 1024 := hfull c (List.mem_cons_self ..)
    have hrest : done.flatten ++ cur ≠ [] := fun h =>
      hne (List.cons_ne_nil _ _) (List.append_eq_nil_iff.1 h).2
    rw [List.flatten_cons, List.append_assoc, List.foldl_append,
      fit s c (by rw [hs, hc]; exact Nat.le_refl _), hs, List.nil_append,
      ← closeFirst _ (Nat.le_of_eq hc) hrest, closeIfFull, if_pos hc,
      ih (fun x hx => hfull x (List.mem_cons_of_mem _ hx)) (fun h => hne (List.cons_ne_nil _ _)) _ rfl]
    rfl

/-- The state after writing an input of known length, chunk by chunk. -/
theorem write_reset_closeChunks (P : Params CV Digest) (s0 : State CV) (xs : Bytes) (k : Nat)
    (hk : Pieces 1024 k xs.length) :
    write P (reset s0) xs =
      { ((List.range k).map (chunkAt xs)).foldl (fun s c => closeChunk P { s with cur := c }) (reset s0)
          with cur := xs.drop (1024 * k) } := by
  obtain ⟨hfull, hcur, hne⟩ := pieces_spec 1024 xs (f := chunkAt xs) (fun _ => rfl) k hk
  have h := foldl_pushByte_chunks P _ _ hfull hcur hne (reset s0) rfl
  rwa [flatten_pieces 1024 xs (f := chunkAt xs) fun _ => rfl, ← write_eq_foldl P (reset_wf s0)] at h

/-- A state that is not well-formed (more than 1024 bytes in the open chunk; unreachable) is stuck:
the model's loop makes no progress and returns it unchanged. -/
theorem writeF_stuck (P : Params CV Digest) {s : State CV} (h : ¬ WF s) :
    ∀ (fuel : Nat) (input : Bytes), writeF P fuel s input = s := by
  unfold WF at h
  intro fuel
  induction fuel with
  | zero => intro input; rfl
  | succ fuel ih =>
    intro input
    simp only [writeF]
    split
    · rfl
    · have h1 : ¬ s.cur.length = 1024 := by omega
      have h2 : 1024 - s.cur.length = 0 := by omega
      simp only [closeIfFull, h1, if_false, h2, Nat.zero_min, List.take_zero, List.append_nil,
        List.drop_zero]
      exact ih input

/-- `Stk P j t pre st`: the stack `st` (top first) represents the completed chunks `pre` (counters
from 0), which are `t` units of `2^j` chunks: bit 0 of `t` says whether the top of the stack is a
subtree of `2^j` chunks, and the rest of the stack represents `t / 2` units of `2^(j+1)` chunks. -/
inductive Stk (P : Params CV Digest) : Nat → Nat → List Bytes → List CV → Prop
  | zero (j : Nat) : Stk P j 0 [] []
  | even {j u : Nat} {pre : List Bytes} {st : List CV} :
      Stk P (j + 1) u pre st → Stk P j (2 * u) pre st
  | odd {j u : Nat} {pre : List Bytes} {st : List CV} {seg : List Bytes} :
      Stk P (j + 1) u pre st → seg.length = 2 ^ j →
      Stk P j (2 * u + 1) (pre ++ seg) (treeCV P pre.length seg :: st)

/-- At level 0 the unit count is the number of chunks. -/
theorem Stk.length_eq {P : Params CV Digest} {j t : Nat} {pre : List Bytes} {st : List CV}
    (h : Stk P j t pre st) : pre.length = t * 2 ^ j := by
  induction h with
  | zero => simp
  | even h' ih =>
    rename_i j u pre st
    rw [ih, Nat.pow_succ, Nat.mul_comm 2 u, Nat.mul_assoc, Nat.mul_comm 2]
  | odd h' hseg ih =>
    rename_i j u pre st seg
    rw [List.length_append, ih, hseg, Nat.pow_succ, Nat.add_mul, Nat.one_mul, Nat.mul_comm 2 u,
      Nat.mul_assoc, Nat.mul_comm 2]

/-- The stack is no deeper than the unit count has binary digits. -/
theorem Stk.pow_length_le {P : Params CV Digest} {j t : Nat} {pre : List Bytes} {st : List CV}
    (h : Stk P j t pre st) : 2 ^ st.length ≤ t + 1 := by
  induction h with
  | zero => exact Nat.le_refl 1
  | even _ ih => omega
  | odd _ _ ih => rw [List.length_cons, Nat.pow_succ]; omega

/-- A full unit `seg` of `2^j` chunks that follows `pre`, and up to as many chunks after it, make
one parent node. -/
theorem treeNode_unit (P : Params CV Digest) (pre : List Bytes) {j : Nat} {seg tail : List Bytes}
    (hseg : seg.length = 2 ^ j) (h1 : 1 ≤ tail.length) (h2 : tail.length ≤ 2 ^ j) :
    treeNode P pre.length (seg ++ tail)
      = .parent (treeCV P pre.length seg) (treeCV P (pre ++ seg).length tail) := by
  rw [treeNode_append P pre.length hseg h1 h2, List.length_append, hseg]

theorem addChunkCV_odd (P : Params CV Digest) (st : List CV) (cv : CV) {total : Nat}
    (h : total % 2 = 1) : addChunkCV P st cv total = cv :: st := by
  cases st with
  | nil => rfl
  | cons top rest => simp only [addChunkCV, h, if_true]

/-- **Push and merge = binary increment.**  If the stack represents `t` units of `2^j` chunks and
`seg` is the next unit, then `add_chunk_chaining_value` with the subtree chaining value of `seg` and
the new unit count `t + 1` yields the stack representing `t + 1` units. -/
theorem addChunkCV_stk (P : Params CV Digest) {st : List CV} {j t : Nat} {pre : List Bytes}
    (h : Stk P j t pre st) : ∀ seg : List Bytes, seg.length = 2 ^ j →
      Stk P j (t + 1) (pre ++ seg) (addChunkCV P st (treeCV P pre.length seg) (t + 1)) := by
  induction h with
  | zero j => intro seg hseg; exact Stk.odd (Stk.zero (j + 1)) hseg
  | even h' _ =>
    intro seg hseg
    rw [addChunkCV_odd P _ _ (by omega)]
    exact Stk.odd h' hseg
  | odd h' hseg' ih =>
    -- a carry: the top unit and `seg` merge into one unit of the next level
    rename_i j u pre st seg'
    intro seg hseg
    have hmerge : treeCV P pre.length (seg' ++ seg) = P.parentCV _ _ :=
      congrArg (Node.cv P) (treeNode_unit P pre hseg' (hseg ▸ Nat.two_pow_pos j) (Nat.le_of_eq hseg))
    have := Stk.even (ih (seg' ++ seg) (by rw [List.length_append, hseg', hseg, Nat.pow_succ]; omega))
    rw [addChunkCV, if_neg (by omega), ← hmerge, List.append_assoc,
      show (2 * u + 1 + 1) / 2 = u + 1 by omega]
    exact this

/-- **Finalisation = the right spine of the tree.**  Folding the node over the last `tail` chunks
(`1 ≤ |tail| ≤ 2^j`) with the stack from top to bottom gives the top node of the tree over all
chunks. -/
theorem fold_stk (P : Params CV Digest) {j t : Nat} {pre : List Bytes} {st : List CV}
    (h : Stk P j t pre st) :
    ∀ (tail : List Bytes), 1 ≤ tail.length → tail.length ≤ 2 ^ j →
      st.foldl (fun (out : Node CV) (cv : CV) => Node.parent cv (out.cv P))
        (treeNode P pre.length tail) = treeNode P 0 (pre ++ tail) := by
  induction h with
  | zero => intro tail _ _; simp
  | even _ ih =>
    intro tail h1 h2
    exact ih tail h1 (Nat.le_trans h2 (Nat.pow_le_pow_right (by decide) (Nat.le_succ _)))
  | odd h' hseg ih =>
    rename_i j u pre st seg
    intro tail h1 h2
    rw [List.foldl_cons]
    rw [← treeCV, ← treeNode_unit P pre hseg h1 h2, ih (seg ++ tail) (by rw [List.length_append]; omega)
      (by rw [List.length_append, hseg, Nat.pow_succ]; omega), List.append_assoc]

/-- Closing chunk after chunk counts in binary: the stack represents the chunks closed so far. -/
theorem stk_closeChunks (P : Params CV Digest) (done : List Bytes) (s : State CV) (pre : List Bytes)
    (h : Stk P 0 s.n pre s.stack) :
    Stk P 0 (done.foldl (fun s c => closeChunk P { s with cur := c }) s).n (pre ++ done)
      (done.foldl (fun s c => closeChunk P { s with cur := c }) s).stack := by
  induction done generalizing s pre with
  | nil => rwa [List.append_nil]
  | cons c done ih =>
    have h1 := addChunkCV_stk P h [c] rfl
    rw [treeCV_one, h.length_eq, Nat.pow_zero, Nat.mul_one] at h1
    have := ih (closeChunk P { s with cur := c }) (pre ++ [c]) h1
    rwa [List.append_assoc, List.singleton_append] at this

/-- What the hasher holds after `xs` has been written since the last reset, `xs` being `k` full
chunks and something more (or anything up to one chunk, `k = 0`): the rest is open, `k` chunks are
closed and the stack represents them. -/
theorem write_reset_spec (P : Params CV Digest) (s0 : State CV) (xs : Bytes) (k : Nat)
    (hk : Pieces 1024 k xs.length) :
    (write P (reset s0) xs).cur = xs.drop (1024 * k) ∧ (write P (reset s0) xs).n = k ∧
      Stk P 0 k ((List.range k).map (chunkAt xs)) (write P (reset s0) xs).stack := by
  have h := stk_closeChunks P ((List.range k).map (chunkAt xs)) (reset s0) [] (Stk.zero 0)
  rw [List.nil_append] at h
  have hn := h.length_eq
  rw [List.length_map, List.length_range, Nat.pow_zero, Nat.mul_one] at hn
  rw [← hn] at h
  rw [write_reset_closeChunks P s0 xs k hk]
  exact ⟨rfl, hn.symm, h⟩

theorem sum_write_reset (P : Params CV Digest) (s0 : State CV) (xs : Bytes) :
    sum P (write P (reset s0) xs) = hashSpec P xs := by
  obtain ⟨k, hk⟩ := exists_pieces (m := 1024) (by decide) xs.length
  obtain ⟨hcur, hn, hstk⟩ := write_reset_spec P s0 xs k hk
  have := fold_stk P hstk [xs.drop (1024 * k)] (Nat.le_refl 1) (Nat.le_refl 1)
  rw [treeNode_one, List.length_map, List.length_range] at this
  rw [hashSpec, splitChunks_eq_chunkAt xs k hk, treeHash, ← this, sum, hcur, hn]

end Dud.Blake3Incr
