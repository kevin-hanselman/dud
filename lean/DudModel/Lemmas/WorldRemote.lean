import DudModel.Lemmas.Remote
import DudModel.Lemmas.Tree
import DudModel.Props.C08
import DudModel.Lemmas.WorldCheckout
/-!
# World-level helpers for the lift of C11 (`Props/C11world.lean`)

The stages a `simpleTrav` command acts on (`CmdScope`) and what happens to a closure (`Reaches`) when
the store is exchanged for another consistent one.  Namespace `Dud.WR`.  (What a successful traversal
did in terms of a preorder its actions respect: `WR.runTargets_acted`, `WR.simpleCmd_acted` in
`Props/C08.lean`.)
-/
namespace Dud.WR

variable {κ : Type}

/-- the stages `dud push/fetch/checkout [--single-stage] [targets]` acts on: the targets (all stages
if none is given) plus, unless `--single-stage` is given together with targets, everything upstream
of them through input ownership -/
def CmdScope (cfg : Cfg κ) (w : World κ) (single : Bool) (targets : List Bytes) (sp : Bytes) : Prop :=
  TravScope (ownIdx cfg w.idx) (targets.isEmpty || !single)
    (if targets.isEmpty then allStages w else targets) sp

/-- the scope of `dud push/fetch` (recursive) in the committed world is the scope of `dud commit` -/
theorem cmdScope_iff_inScope (cfg : Cfg κ) {w0 w1 : World κ} (hsh : SameShape w1.idx w0.idx)
    (targets : List Bytes) (sp : Bytes) :
    CmdScope cfg w1 false targets sp ↔ InScope cfg w0 targets sp := by
  have hk : allStages w1 = allStages w0 := by simp only [allStages]; exact hsh.keys
  simp only [CmdScope, TravScope, InScope, Bool.not_false, Bool.or_true, if_true, hk]
  constructor
  · rintro ⟨t, ht, hr⟩
    exact ⟨t, ht, reach_congr_own (fun s x hx => (ownIdx_sim cfg hsh s x).1 hx) hr⟩
  · rintro ⟨t, ht, hr⟩
    exact ⟨t, ht, reach_congr_own (fun s x hx => (ownIdx_sim cfg hsh s x).2 hx) hr⟩

/-- a closure of `s` is a closure of `s'` when `s'` holds everything it reaches from the entry -/
theorem reaches_transfer {ctx : Ctx κ} (g : Good ctx) {s s' : Store κ} (hc : Consistent ctx s)
    (hc' : Consistent ctx s') (c : Child) (d : Digest) (h : Reaches ctx s c d) :
    Closed ctx s' c → Reaches ctx s' c d :=
  h.into fun _ _ hm hx => readManifest_consistent g hc hc' (readManifest_ok_has hm) hx ▸ hm

theorem cmdScope_congr (cfg : Cfg κ) {w v : World κ} (h : v.idx = w.idx) (single : Bool)
    (targets : List Bytes) (sp : Bytes) :
    CmdScope cfg v single targets sp ↔ CmdScope cfg w single targets sp := by
  simp only [CmdScope, allStages, h]

end Dud.WR
