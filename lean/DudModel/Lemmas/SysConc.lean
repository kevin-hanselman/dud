import DudModel.SysConc
/-!
# Lemmas for the concurrent system-call model (`SysConc.lean`): the invariant of every run

`Inv`: the shared file system is the replay of the ghost history; every completed block of the history is a
complete command planned on the file system the serial execution produced; the lock file exists iff the
history has a block in progress, whose owner is the one and only `holding` process and whose calls plus
the owner's remaining calls are `lock ++ plan`.  `execH_inv`: every event preserves it.  Namespace `Inv`:
what follows from it in one state (the holder owns the block in progress and is unique, the lock file exists
iff somebody holds, nobody holding means no block in progress); the theorems of `Props/C12sys.lean` apply
these to the state reached.  `complete_serial`: the replay of complete blocks is `serialRun` of their
owners.  `HistOK`, for steps only: the owners of the completed blocks are the `done` processes, each once.
`runH_fst`, `run_eq_runH`: the run instrumented with the history projects to the plain run.
-/
namespace Dud.Sys.Conc

open Dud Dud.Sys

variable {κ : Type}

theorem lockFree_iff (fs : FS κ) : lockFree fs = true ↔ fs.get .lock = none := by
  unfold lockFree; cases fs.get P.lock <;> simp

/-- on an existing path `createExcl` changes nothing: this is how `apply` represents its failure -/
theorem createExcl_lock_busy (emp : κ) (fs : FS κ) (h : lockFree fs = false) :
    apply emp fs (.createExcl .lock) = fs := by
  unfold lockFree at h
  cases he : fs.get P.lock with
  | none => rw [he] at h; cases h
  | some e => simp only [apply, he]

theorem createExcl_lock_get (emp : κ) (fs : FS κ) (h : lockFree fs = true) :
    (apply emp fs (.createExcl .lock)).get .lock = some (.file emp 0o600) := by
  simp only [apply, (lockFree_iff fs).1 h, FS.get_set, if_true]

theorem replay_singleton (emp : κ) (fs : FS κ) (c : Call κ) : replay emp fs [c] = apply emp fs c := rfl

theorem lockFree_createExcl (emp : κ) (fs : FS κ) (h : lockFree fs = true) :
    lockFree (apply emp fs (.createExcl .lock)) = false := by
  unfold lockFree; rw [createExcl_lock_get emp _ h]; rfl

theorem lockFree_unlink (emp : κ) (fs : FS κ) : lockFree (apply emp fs (.unlink .lock)) = true := by
  unfold lockFree; simp only [apply, FS.get_del, if_true]; rfl

theorem get_set_self {procs : List (PSt κ)} {i : Nat} {b : PSt κ} (h : procs[i]? = some b) (a : PSt κ) :
    (procs.set i a)[i]? = some a :=
  List.getElem?_set_self (List.getElem?_eq_some_iff.1 h).1

theorem set_same {α : Type} {l : List α} {i : Nat} {a : α} (h : l[i]? = some a) : l.set i a = l := by
  obtain ⟨hlt, rfl⟩ := List.getElem?_eq_some_iff.1 h
  exact List.set_getElem_self hlt

theorem set_holding_imp {procs : List (PSt κ)} {i : Nat} {a : PSt κ} (ha : a.isHolding = false)
    {j : Nat} {r : List (Call κ)} (h : (procs.set i a)[j]? = some (.holding r)) :
    procs[j]? = some (.holding r) ∧ j ≠ i := by
  by_cases hij : i = j
  · subst hij
    rw [List.getElem?_set] at h
    simp only [if_true] at h
    split at h <;> cases h
    cases ha
  · rw [List.getElem?_set_ne hij] at h
    exact ⟨h, fun e => hij e.symm⟩

theorem countP_le_one_of_unique {α : Type} (p : α → Bool) :
    ∀ (l : List α) (i : Nat), (∀ j a, l[j]? = some a → p a = true → j = i) → l.countP p ≤ 1 := by
  intro l
  induction l with
  | nil => exact fun _ _ => Nat.zero_le 1
  | cons a l ih =>
    intro i h
    rw [List.countP_cons]
    cases hp : p a with
    | true =>
      -- the head is the one: nothing in the tail satisfies `p`
      have hz : l.countP p = 0 := List.countP_eq_zero.2 fun b hb hpb => by
        obtain ⟨j, hj⟩ := List.mem_iff_getElem?.1 hb
        have h0 := h 0 a rfl hp
        have hj1 := h (j + 1) b hj hpb
        omega
      rw [hz]; exact Nat.le_refl 1
    | false =>
      exact ih (i - 1) fun j b hj hpb => by
        have := h (j + 1) b hj hpb
        omega

theorem holdingCount_pos_iff (st : State κ) :
    0 < st.holdingCount ↔ ∃ (j : Nat) (r : List (Call κ)), st.procs[j]? = some (.holding r) := by
  unfold State.holdingCount
  rw [List.countP_pos_iff]
  constructor
  · rintro ⟨a, ha, hp⟩
    obtain ⟨j, hj⟩ := List.mem_iff_getElem?.1 ha
    cases a <;> cases hp
    exact ⟨j, _, hj⟩
  · rintro ⟨j, r, hj⟩
    exact ⟨_, List.mem_of_getElem? hj, rfl⟩

/-- nobody holds iff the count is zero (a decidable test for the hypothesis of the quiescent theorems) -/
theorem no_holder_iff (st : State κ) :
    st.holdingCount = 0 ↔ ∀ (j : Nat) (r : List (Call κ)), st.procs[j]? ≠ some (PSt.holding r) := by
  rw [← Nat.le_zero, ← Nat.not_lt, holdingCount_pos_iff]
  simp only [not_exists, ne_eq]

theorem step_idle_free {emp : κ} {plans : List (Plan κ)} {st : State κ} {i : Nat}
    (hi : st.procs[i]? = some .idle) (hf : lockFree st.fs = true) :
    step emp plans st i = ⟨apply emp st.fs (.createExcl .lock),
      st.procs.set i (.holding (planOf plans i (apply emp st.fs (.createExcl .lock))))⟩ := by
  simp only [step, stepX, hi, hf, lockCall, Bool.true_and, Bool.not_true, Bool.false_eq_true, if_false, if_true]

theorem step_idle_busy {emp : κ} {plans : List (Plan κ)} {st : State κ} {i : Nat}
    (hi : st.procs[i]? = some .idle) (hf : lockFree st.fs = false) :
    step emp plans st i = { st with procs := st.procs.set i .refused } := by
  simp only [step, stepX, hi, hf, Bool.true_and, Bool.not_false, if_true]

theorem planOf_bodyOK {plans : List (Plan κ)} (hb : ∀ pl ∈ plans, BodyOK pl) (i : Nat) :
    BodyOK (planOf plans i) := by
  unfold planOf
  rw [List.getD_eq_getElem?_getD]
  cases h : plans[i]? with
  | none => intro fs x hx; simp at hx
  | some pl => exact hb pl (List.mem_of_getElem? h)

theorem failing_bodyOK {plan : Plan κ} (h : BodyOK plan) (k : Nat) : BodyOK (failing plan k) :=
  fun fs x hx => h fs x (List.mem_of_mem_take hx)

theorem flatBlocks_snoc (bs : List (Nat × List (Call κ))) (b : Nat × List (Call κ)) :
    flatBlocks (bs ++ [b]) = flatBlocks bs ++ b.2 := by
  simp [flatBlocks]

theorem flatBlocks_cons (b : Nat × List (Call κ)) (bs : List (Nat × List (Call κ))) :
    flatBlocks (b :: bs) = b.2 ++ flatBlocks bs := by
  simp [flatBlocks]

theorem complete_snoc (emp : κ) (plans : List (Plan κ)) :
    ∀ (bs : List (Nat × List (Call κ))) (fs : FS κ) (b : Nat × List (Call κ)),
      Complete emp plans fs (bs ++ [b]) ↔
        Complete emp plans fs bs ∧ b.2 = fullBlock emp (planOf plans b.1) (replay emp fs (flatBlocks bs)) := by
  intro bs
  induction bs with
  | nil => intro fs b; simp [Complete, flatBlocks, replay]
  | cons a bs ih =>
    intro fs b
    simp only [List.cons_append, Complete, ih, flatBlocks_cons, replay_append, and_assoc]

theorem complete_serial (emp : κ) (plans : List (Plan κ)) :
    ∀ (bs : List (Nat × List (Call κ))) (fs : FS κ), Complete emp plans fs bs →
      replay emp fs (flatBlocks bs) = serialRun emp plans fs (bs.map (·.1)) := by
  intro bs
  induction bs with
  | nil => exact fun _ _ => rfl
  | cons b bs ih =>
    intro fs h
    rw [flatBlocks_cons, replay_append, ih _ h.2]
    simp only [serialRun, List.map_cons, List.foldl_cons]
    rw [← h.1]

structure Inv (emp : κ) (plans : List (Plan κ)) (fs0 : FS κ) (st : State κ) (h : Hist κ) : Prop where
  fsEq : st.fs = replay emp fs0 h.calls
  complete : Complete emp plans fs0 h.done
  idleH : h.cur = none → st.fs.get .lock = none ∧ ∀ (j : Nat) (r : List (Call κ)), st.procs[j]? ≠ some (.holding r)
  busyH : ∀ (i : Nat) (cs : List (Call κ)), h.cur = some (i, cs) →
    st.fs.get .lock = some (.file emp 0o600) ∧
    (∀ (j : Nat) (r : List (Call κ)), st.procs[j]? = some (.holding r) → j = i) ∧
    ∃ (pre rest : List (Call κ)), st.procs[i]? = some (.holding rest) ∧ cs = .createExcl .lock :: pre ∧
      pre ++ rest = planOf plans i (apply emp (replay emp fs0 (flatBlocks h.done)) (.createExcl .lock))

theorem inv_init (emp : κ) (plans : List (Plan κ)) (fs0 : FS κ) (h0 : fs0.get .lock = none) (n : Nat) :
    Inv emp plans fs0 (init fs0 n) Hist.empty where
  fsEq := rfl
  complete := trivial
  idleH := fun _ => ⟨h0, fun j r hj => by
    simp only [init, List.getElem?_replicate] at hj
    split at hj <;> cases hj⟩
  busyH := fun i cs hc => by cases hc

theorem Hist.calls_idle {h : Hist κ} (hc : h.cur = none) : h.calls = flatBlocks h.done := by
  rw [Hist.calls, Hist.curCalls, hc, List.append_nil]

theorem Hist.calls_busy {h : Hist κ} {i : Nat} {cs : List (Call κ)} (hc : h.cur = some (i, cs)) :
    h.calls = flatBlocks h.done ++ cs := by
  rw [Hist.calls, Hist.curCalls, hc]

namespace Inv

variable {emp : κ} {plans : List (Plan κ)} {fs0 : FS κ} {st : State κ} {h : Hist κ}

theorem cur_of_holding (hi : Inv emp plans fs0 st h) {i : Nat} {rest : List (Call κ)}
    (hp : st.procs[i]? = some (.holding rest)) : ∃ cs, h.cur = some (i, cs) := by
  cases hc : h.cur with
  | none => exact absurd hp ((hi.idleH hc).2 i rest)
  | some b =>
    obtain ⟨i0, cs⟩ := b
    cases (hi.busyH i0 cs hc).2.1 i rest hp
    exact ⟨cs, rfl⟩

theorem cur_none (hi : Inv emp plans fs0 st h)
    (hq : ∀ (j : Nat) (r : List (Call κ)), st.procs[j]? ≠ some (.holding r)) : h.cur = none := by
  cases hc : h.cur with
  | none => rfl
  | some b =>
    obtain ⟨-, -, pre, rest, hp, -⟩ := hi.busyH b.1 b.2 hc
    exact absurd hp (hq _ rest)

/-- the next call of the holder is a call of its plan: it does not write the lock -/
theorem next_call (hb : ∀ i, BodyOK (planOf plans i)) (hi : Inv emp plans fs0 st h) {i : Nat} {c : Call κ}
    {r : List (Call κ)} (hp : st.procs[i]? = some (.holding (c :: r))) : P.lock ∉ callWrites c := by
  obtain ⟨cs, hc⟩ := hi.cur_of_holding hp
  obtain ⟨-, -, pre, rest, hp0, -, hpl⟩ := hi.busyH i cs hc
  cases hp.symm.trans hp0
  exact hb i _ c (by rw [← hpl]; exact List.mem_append_right _ List.mem_cons_self)

theorem holder_unique (hi : Inv emp plans fs0 st h) {i j : Nat} {r r' : List (Call κ)}
    (hpi : st.procs[i]? = some (.holding r)) (hpj : st.procs[j]? = some (.holding r')) : i = j := by
  obtain ⟨cs, hc⟩ := hi.cur_of_holding hpj
  exact (hi.busyH j cs hc).2.1 i r hpi

theorem holdingCount_le_one (hi : Inv emp plans fs0 st h) : st.holdingCount ≤ 1 := by
  -- the one index: the owner of the block in progress (any index will do when there is none)
  refine countP_le_one_of_unique _ _ ((h.cur.map (·.1)).getD 0) fun j a hj ha => ?_
  cases a <;> cases ha
  obtain ⟨cs, hc⟩ := hi.cur_of_holding hj
  rw [hc]; rfl

theorem lock_cases (hi : Inv emp plans fs0 st h) :
    st.fs.get .lock = none ∨ st.fs.get .lock = some (.file emp 0o600) := by
  cases hc : h.cur with
  | none => exact .inl (hi.idleH hc).1
  | some b => exact .inr (hi.busyH b.1 b.2 hc).1

theorem lock_iff_holder (hi : Inv emp plans fs0 st h) :
    (st.fs.get .lock).isSome = true ↔
      ∃ (i : Nat) (r : List (Call κ)), st.procs[i]? = some (.holding r) := by
  cases hc : h.cur with
  | none =>
    rw [(hi.idleH hc).1]
    exact ⟨fun hn => (nomatch hn), fun ⟨i, r, hp⟩ => absurd hp ((hi.idleH hc).2 i r)⟩
  | some b =>
    obtain ⟨hl, -, pre, rest, hp, -⟩ := hi.busyH b.1 b.2 hc
    rw [hl]
    exact ⟨fun _ => ⟨_, rest, hp⟩, fun _ => rfl⟩

/-- refusal and retry: a process that is not holding gets a state that is not holding either -/
theorem set_nonholder (hi : Inv emp plans fs0 st h) {i : Nat} {b a : PSt κ} (hpi : st.procs[i]? = some b)
    (hnb : b.isHolding = false) (hna : a.isHolding = false) :
    Inv emp plans fs0 { st with procs := st.procs.set i a } h := by
  refine ⟨hi.fsEq, hi.complete, fun hc => ⟨(hi.idleH hc).1, fun j r hj => ?_⟩, fun i0 cs hc => ?_⟩
  · exact (hi.idleH hc).2 j r (set_holding_imp hna hj).1
  · obtain ⟨hl, hu, pre, rest, hp, hcs, hpl⟩ := hi.busyH i0 cs hc
    refine ⟨hl, fun j r hj => hu j r (set_holding_imp hna hj).1, pre, rest, ?_, hcs, hpl⟩
    have hne : i ≠ i0 := by
      rintro rfl; cases hpi.symm.trans hp; cases hnb
    exact (List.getElem?_set_ne hne).trans hp

end Inv

theorem retry_inv {emp : κ} {plans : List (Plan κ)} {fs0 : FS κ} {st : State κ} {h : Hist κ}
    (hi : Inv emp plans fs0 st h) (i : Nat) : Inv emp plans fs0 (retry st i) h := by
  unfold retry
  split
  · rename_i hb; exact hi.set_nonholder hb rfl rfl
  · rename_i hb; exact hi.set_nonholder hb rfl rfl
  · exact hi

theorem step_inv {emp : κ} {plans : List (Plan κ)} (hb : ∀ i, BodyOK (planOf plans i)) {fs0 : FS κ}
    {st : State κ} {h : Hist κ} (hi : Inv emp plans fs0 st h) (i : Nat) :
    Inv emp plans fs0 (step emp plans st i) (histStep st h i) := by
  unfold step stepX histStep
  cases hp : st.procs[i]? with
  | none => exact hi
  | some b =>
    cases b with
    | refused => exact hi
    | done => exact hi
    | idle =>
      simp only [Bool.true_and]
      cases hf : lockFree st.fs with
      | false =>
        simp only [Bool.not_false, if_true]
        exact hi.set_nonholder hp rfl rfl
      | true =>
        simp only [Bool.not_true, Bool.false_eq_true, if_false, if_true, lockCall]
        have hcur : h.cur = none := by
          cases hc : h.cur with
          | none => rfl
          | some b => exact nomatch ((hi.busyH b.1 b.2 hc).1.symm.trans ((lockFree_iff _).1 hf))
        have hfs : st.fs = replay emp fs0 (flatBlocks h.done) := by rw [hi.fsEq, Hist.calls_idle hcur]
        refine ⟨?_, hi.complete, (fun hc => nomatch hc), fun i0 cs hc => ?_⟩
        · rw [Hist.calls_busy rfl, replay_append, ← hfs]; rfl
        · cases hc
          refine ⟨createExcl_lock_get emp _ hf, fun j r hj => ?_, [], _, get_set_self hp _, rfl, by rw [hfs]; rfl⟩
          by_cases hij : i = j
          · exact hij.symm
          · exact absurd ((List.getElem?_set_ne hij).symm.trans hj) ((hi.idleH hcur).2 j r)
    | holding rest =>
      -- the history has a block in progress, owned by `i`
      obtain ⟨cs, hc⟩ := hi.cur_of_holding hp
      obtain ⟨hl, hu, pre, rest', hp0, hcs, hpl⟩ := hi.busyH i cs hc
      cases hp.symm.trans hp0
      have hfs : st.fs = replay emp fs0 (flatBlocks h.done ++ cs) := by rw [hi.fsEq, Hist.calls_busy hc]
      cases rest with
      | nil =>
        simp only [hc, Option.map_some, Option.toList_some]
        rw [List.append_nil] at hpl
        refine ⟨?_, ?_, fun _ => ⟨?_, fun j r hj => ?_⟩, fun i0 cs0 hc0 => nomatch hc0⟩
        · rw [Hist.calls_idle rfl, flatBlocks_snoc, ← List.append_assoc, replay_append, ← hfs]; rfl
        · rw [complete_snoc]
          exact ⟨hi.complete, by simp only [fullBlock, hcs, hpl, List.cons_append]⟩
        · simp only [apply, FS.get_del, if_true]
        · obtain ⟨hj1, hj2⟩ := set_holding_imp (by rfl) hj
          exact hj2 (hu j r hj1)
      | cons c r =>
        simp only [hc, Option.map_some]
        refine ⟨?_, hi.complete, (fun hc0 => nomatch hc0), fun i0 cs0 hc0 => ?_⟩
        · rw [Hist.calls_busy rfl, ← List.append_assoc, replay_append, ← hfs]; rfl
        · cases hc0
          refine ⟨?_, fun j r' hj => ?_, pre ++ [c], r, get_set_self hp _, by rw [hcs]; rfl, by simpa using hpl⟩
          · exact (apply_get_frame emp _ c _ (hi.next_call hb hp)).trans hl
          · by_cases hij : i = j
            · exact hij.symm
            · exact hu j r' ((List.getElem?_set_ne hij).symm.trans hj)

/-- invariant tying the ghost history to the process states, for steps only -/
structure HistOK (st : State κ) (h : Hist κ) : Prop where
  doneIff : ∀ i : Nat, st.procs[i]? = some PSt.done ↔ i ∈ h.order
  nodup : h.order.Nodup

theorem histOK_init (fs0 : FS κ) (n : Nat) : HistOK (init fs0 n) Hist.empty :=
  ⟨fun i => (by
    simp only [init, List.getElem?_replicate, Hist.order, Hist.empty, List.map_nil, List.not_mem_nil,
      iff_false]
    intro h
    split at h <;> cases h),
   by simp [Hist.order, Hist.empty]⟩

theorem histOK_step {emp : κ} {plans : List (Plan κ)} {fs0 : FS κ} {st : State κ} {h : Hist κ}
    (inv : Inv emp plans fs0 st h) (hk : HistOK st h) (i : Nat) :
    HistOK (step emp plans st i) (histStep st h i) := by
  -- a state that is not `done`, overwritten by one that is not `done`: nobody's `done`-ness changes, and in
  -- these cases `histStep` leaves the completed blocks alone
  have keep : ∀ {b a : PSt κ} {h' : Hist κ}, st.procs[i]? = some b → b ≠ .done → a ≠ .done →
      h'.order = h.order → ∀ {fs' : FS κ}, HistOK ⟨fs', st.procs.set i a⟩ h' := by
    intro b a h' hb hbd had ho fs'
    refine ⟨fun j => ?_, ho ▸ hk.nodup⟩
    rw [ho, ← hk.doneIff j]
    by_cases hij : i = j
    · subst hij
      rw [get_set_self hb, hb]
      exact ⟨fun e => absurd (Option.some.inj e) had, fun e => absurd (Option.some.inj e) hbd⟩
    · rw [List.getElem?_set_ne hij]
  unfold step stepX histStep
  cases hp : st.procs[i]? with
  | none => exact hk
  | some b =>
    cases b with
    | refused => exact hk
    | done => exact hk
    | idle =>
      simp only [Bool.true_and]
      cases hf : lockFree st.fs with
      | true =>
        simp only [Bool.not_true, Bool.false_eq_true, if_false, if_true]
        exact keep hp (by nofun) (by nofun) (by rfl)
      | false =>
        simp only [Bool.not_false, Bool.false_eq_true, if_true, if_false]
        exact keep hp (by nofun) (by nofun) (by rfl)
    | holding rest =>
      obtain ⟨cs, hc⟩ := inv.cur_of_holding hp
      cases rest with
      | cons c r =>
        simp only
        exact keep hp (by nofun) (by nofun) (by rfl)
      | nil =>
        -- `i` completes: it was not `done`, so it owns no completed block yet
        have hni : i ∉ h.order := fun hin => nomatch hp.symm.trans ((hk.doneIff i).2 hin)
        simp only [hc, Option.map_some, Option.toList_some]
        refine ⟨fun j => ?_, ?_⟩
        · simp only [Hist.order, List.map_append, List.map_cons, List.map_nil, List.mem_append,
            List.mem_singleton]
          by_cases hij : i = j
          · subst hij
            rw [get_set_self hp]; simp
          · rw [List.getElem?_set_ne hij, hk.doneIff j]
            exact ⟨.inl, fun h => h.resolve_right fun e => hij e.symm⟩
        · simp only [Hist.order, List.map_append, List.map_cons, List.map_nil]
          exact List.nodup_append.2 ⟨hk.nodup, by simp, fun a ha b hb e =>
            hni (by rw [← List.mem_singleton.1 hb, ← e]; exact ha)⟩

theorem execH_inv {emp : κ} {plans : List (Plan κ)} (hb : ∀ i, BodyOK (planOf plans i)) {fs0 : FS κ}
    {p : State κ × Hist κ} (hi : Inv emp plans fs0 p.1 p.2) (e : Ev) :
    Inv emp plans fs0 (execH emp plans p e).1 (execH emp plans p e).2 := by
  cases e with
  | step i => exact step_inv hb hi i
  | retry i => exact retry_inv hi i

theorem runH_inv {emp : κ} {plans : List (Plan κ)} (hb : ∀ i, BodyOK (planOf plans i)) {fs0 : FS κ} :
    ∀ (evs : List Ev) (p : State κ × Hist κ), Inv emp plans fs0 p.1 p.2 →
      Inv emp plans fs0 (runH emp plans p evs).1 (runH emp plans p evs).2 := fun evs _ hi =>
  List.foldlRecOn (motive := fun q : State κ × Hist κ => Inv emp plans fs0 q.1 q.2) evs _ hi
    fun _ hq e _ => execH_inv hb hq e

theorem runH_fst (emp : κ) (plans : List (Plan κ)) :
    ∀ (evs : List Ev) (p : State κ × Hist κ), (runH emp plans p evs).1 = runE emp plans p.1 evs := fun _ _ =>
  (List.foldl_hom Prod.fst fun _ e => by cases e <;> rfl).symm

theorem run_eq_runE (emp : κ) (plans : List (Plan κ)) (st : State κ) (sched : List Nat) :
    run emp plans st sched = runE emp plans st (sched.map .step) := by
  simp only [run, runE, List.foldl_map]; rfl

theorem run_eq_runH (emp : κ) (plans : List (Plan κ)) (st : State κ) (h : Hist κ) (sched : List Nat) :
    run emp plans st sched = (runH emp plans (st, h) (sched.map .step)).1 := by
  rw [runH_fst, run_eq_runE]

theorem stepX_length (excl : Bool) (emp : κ) (plans : List (Plan κ)) (st : State κ) (i : Nat) :
    (stepX excl emp plans st i).procs.length = st.procs.length := by
  unfold stepX
  split
  · rfl
  · split <;> simp
  · simp
  · simp
  · rfl
  · rfl

theorem stepX_other (excl : Bool) (emp : κ) (plans : List (Plan κ)) (st : State κ) (j i : Nat) (h : j ≠ i) :
    (stepX excl emp plans st j).procs[i]? = st.procs[i]? := by
  unfold stepX
  split
  · rfl
  · split <;> simp only <;> rw [List.getElem?_set_ne h]
  · simp only; rw [List.getElem?_set_ne h]
  · simp only; rw [List.getElem?_set_ne h]
  · rfl
  · rfl

theorem retry_length (st : State κ) (i : Nat) : (retry st i).procs.length = st.procs.length := by
  unfold retry
  split <;> simp

theorem runE_length (emp : κ) (plans : List (Plan κ)) :
    ∀ (evs : List Ev) (st : State κ), (runE emp plans st evs).procs.length = st.procs.length := fun evs st =>
  List.foldlRecOn (motive := fun s : State κ => s.procs.length = st.procs.length) evs _ rfl fun s hs e _ => by
    cases e
    · exact (stepX_length true emp plans s _).trans hs
    · exact (retry_length s _).trans hs

end Dud.Sys.Conc
