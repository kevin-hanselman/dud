import DudModel.Lemmas.Checkout
import DudModel.Lemmas.CheckoutEq
/-!
# The fixed points of checkout

Namespace `Dud.CI` (checkout idempotence).  Everything here holds for ARBITRARY stores and workspaces
(no `Good`, `Consistent`, `HoldsNode`, `plain`, `sorted` hypothesis anywhere).  `Conf ctx strat s fuel n c`, "the node `n` is a checked-out
copy of the child artifact `c`", describes the fixed points of `checkoutNode` recursively
(`conf_iff_fix`).  Whatever a successful checkout returns is `Conf` (`conf_of_checkout`), and the
frame relation `Keeps` keeps `Conf` (`Conf.keeps`, along paths `ConfAt.keeps`): so does every
successful checkout of ANY other artifact over the node or written at a path above, below, equal to
or apart from it, since all of these are `Keeps` (`checkoutNode_keeps`, `setPath_keeps`).
For the whole command: after a successful `dud checkout` every stage that is done has all its outputs
`Conf` (`CheckoutInv1`, `cmdCheckout_inv1`) and every target is done (`cmdCheckout_targets`).
-/
namespace Dud.CI

variable {κ : Type}

/-- the workspace entry `n` is what a `strat` checkout of a file artifact with checksum `sum`
leaves alone: the object is in the cache and `n` is a regular file with the recorded checksum, or
(link strategy) the link to the object -/
def ConfFile (ctx : Ctx κ) (strat : Strat) (s : Store κ) (n : Node κ) (sum : Digest) : Prop :=
  hasSum sum = true ∧ s.has sum = true ∧
    (upToDateCopy ctx (some n) sum = true ∨ (strat = .link ∧ n = .link (.obj sum)))

/-- `n` is a checked-out copy of the child artifact `c` (within manifest nesting `fuel`): a file
artifact is `ConfFile`; for a directory artifact the manifest is readable, `n` is a directory, and
every manifest entry is found in it, checked out.  (The same recursion as `UpToDate` of
`StatusSpec.lean`, but for what checkout leaves alone: entries the manifest does not list are
allowed, and in the file case (`ConfFile`) a regular file need only hash to the checksum, while the
link is accepted for the link strategy alone; no lemma relates the two, nothing here needs one.) -/
def Conf (ctx : Ctx κ) (strat : Strat) (s : Store κ) : Nat → Node κ → Child → Prop
  | 0, _, _ => False
  | fuel+1, n, c =>
    if c.isDir then
      hasSum c.sum = true ∧ s.has c.sum = true ∧
        ∃ es cs, n = .dir es ∧ readManifest ctx s c.sum = .ok cs ∧
          ∀ k, k ∈ cs → ∃ m, alookup es k.name = some m ∧ Conf ctx strat s fuel m k
    else ConfFile ctx strat s n c.sum

theorem conf_succ_dir {ctx : Ctx κ} {strat : Strat} {s : Store κ} {fuel : Nat} {n : Node κ} {c : Child}
    (hd : c.isDir = true) :
    Conf ctx strat s (fuel+1) n c ↔ (hasSum c.sum = true ∧ s.has c.sum = true ∧
        ∃ es cs, n = .dir es ∧ readManifest ctx s c.sum = .ok cs ∧
          ∀ k, k ∈ cs → ∃ m, alookup es k.name = some m ∧ Conf ctx strat s fuel m k) := by
  simp only [Conf, hd, if_true]

theorem conf_succ_file {ctx : Ctx κ} {strat : Strat} {s : Store κ} {fuel : Nat} {n : Node κ} {c : Child}
    (hd : c.isDir = false) :
    Conf ctx strat s (fuel+1) n c ↔ ConfFile ctx strat s n c.sum := by
  simp only [Conf, hd, Bool.false_eq_true, if_false]

theorem ConfFile.of_copy {ctx : Ctx κ} {s : Store κ} {n : Node κ} {sum : Digest}
    (h : ConfFile ctx .copy s n sum) (strat : Strat) : ConfFile ctx strat s n sum := by
  obtain ⟨h1, h2, h3⟩ := h
  refine ⟨h1, h2, ?_⟩
  rcases h3 with h3 | ⟨h3, _⟩
  · exact .inl h3
  · cases h3

theorem Conf.of_copy {ctx : Ctx κ} {s : Store κ} (strat : Strat) (fuel : Nat) : ∀ (n : Node κ) (c : Child),
    Conf ctx .copy s fuel n c → Conf ctx strat s fuel n c := by
  induction fuel with
  | zero => intro _ _ h; exact h.elim
  | succ fuel ih =>
    intro n c h
    cases hd : c.isDir with
    | true =>
      rw [conf_succ_dir hd] at h ⊢
      obtain ⟨h1, h2, es, cs, h3, h4, h5⟩ := h
      refine ⟨h1, h2, es, cs, h3, h4, fun k hk => ?_⟩
      obtain ⟨m, hm, hc⟩ := h5 k hk
      exact ⟨m, hm, ih m k hc⟩
    | false =>
      rw [conf_succ_file hd] at h ⊢
      exact h.of_copy strat

theorem conf_of_checkoutFile {ctx : Ctx κ} {strat : Strat} {s : Store κ} {cur : Option (Node κ)}
    {sum : Digest} {r : Node κ} (h : checkoutFile ctx strat cur sum s = .ok r) :
    ConfFile ctx strat s r sum := by
  obtain ⟨h1, h2, o, -, ⟨c, -, hH, rfl⟩ | ⟨-, -, ⟨hs, rfl⟩ | ⟨-, rfl, hH⟩⟩⟩ := checkoutFile_ok h
  · exact ⟨h1, h2, .inl (beq_iff_eq.2 hH)⟩
  · exact ⟨h1, h2, .inr ⟨hs, rfl⟩⟩
  · exact ⟨h1, h2, .inl (beq_iff_eq.2 hH)⟩

theorem checkoutFile_conf {ctx : Ctx κ} {strat : Strat} {s : Store κ} {n : Node κ} {sum : Digest}
    (h : ConfFile ctx strat s n sum) : checkoutFile ctx strat (some n) sum s = .ok n := by
  obtain ⟨h1, h2, h3 | ⟨rfl, rfl⟩⟩ := h
  · exact checkoutFile_upToDate h1 h2 h3
  · exact checkoutFile_link h1 h2 (.inr rfl)

theorem checkoutChildren_fix {f : Option (Node κ) → Child → Except Err (Node κ)}
    (cs : List Child) : ∀ (es : List (Name × Node κ)),
      (∀ k, k ∈ cs → ∃ m, alookup es k.name = some m ∧ f (some m) k = .ok m) →
      checkoutChildren f es cs = .ok es := by
  induction cs with
  | nil => intro es _; rfl
  | cons c cs ih =>
    intro es h
    obtain ⟨m, hm, hf⟩ := h c List.mem_cons_self
    simp only [checkoutChildren_cons, hm, hf, setEntry_same es c.name m hm]
    exact ih es (fun k hk => h k (List.mem_cons_of_mem _ hk))

theorem checkoutNode_conf {ctx : Ctx κ} {strat : Strat} {s : Store κ} (fuel : Nat) : ∀ (n : Node κ)
    (c : Child), Conf ctx strat s fuel n c → checkoutNode ctx strat s fuel (some n) c = .ok n := by
  induction fuel with
  | zero => intro _ _ h; exact h.elim
  | succ fuel ih =>
    intro n c h
    cases hd : c.isDir with
    | true =>
      rw [conf_succ_dir hd] at h
      obtain ⟨h1, h2, es, cs, rfl, hcs, hall⟩ := h
      have hfix := checkoutChildren_fix (f := checkoutNode ctx strat s fuel) cs es (fun k hk => by
        obtain ⟨m, hm, hc⟩ := hall k hk
        exact ⟨m, hm, ih m k hc⟩)
      rw [checkoutNode_dir hd h1 h2 hcs (.inl rfl), hfix]
    | false =>
      rw [conf_succ_file hd] at h
      rw [checkoutNode_file hd]
      exact checkoutFile_conf h

theorem ConfFile.keeps {ctx : Ctx κ} {strat : Strat} {s : Store κ} {n n' : Node κ} {sum : Digest}
    (h : ConfFile ctx strat s n sum) (hk : Keeps ctx s strat n n') : ConfFile ctx strat s n' sum := by
  obtain ⟨h1, h2, h3 | ⟨rfl, rfl⟩⟩ := h
  · obtain ⟨c, rfl, -⟩ := upToDateCopy_some h3
    exact Keeps_file hk ▸ ⟨h1, h2, .inl h3⟩
  · rcases Keeps_obj.1 hk with rfl | ⟨hs, -⟩
    · exact ⟨h1, h2, .inr ⟨rfl, rfl⟩⟩
    · cases hs

/-- **`Conf` is kept by `Keeps`**, hence by every successful checkout of anything over the node
(`checkoutNode_keeps`) and by every write of such a result at any path (`setPath_keeps`): two
artifacts can be checked out over each other only if they agree wherever they meet. -/
theorem Conf.keeps {ctx : Ctx κ} {strat : Strat} {s : Store κ} (fuel : Nat) : ∀ (n n' : Node κ)
    (c : Child), Conf ctx strat s fuel n c → Keeps ctx s strat n n' → Conf ctx strat s fuel n' c := by
  induction fuel with
  | zero => intro _ _ _ h; exact h.elim
  | succ fuel ih =>
    intro n n' c h hk
    cases hd : c.isDir with
    | false =>
      rw [conf_succ_file hd] at h ⊢
      exact h.keeps hk
    | true =>
      rw [conf_succ_dir hd] at h ⊢
      obtain ⟨h1, h2, es, cs, rfl, hcs, hall⟩ := h
      obtain ⟨es', rfl, hl⟩ := Keeps_dir.1 hk
      refine ⟨h1, h2, es', cs, rfl, hcs, fun k hkm => ?_⟩
      obtain ⟨m, hm, hc⟩ := hall k hkm
      obtain ⟨m', hm', hkk⟩ := KeepsList_alookup hl hm
      exact ⟨m', hm', ih m m' k hc hkk⟩

/-- **Whatever a successful checkout returns is `Conf`**, whatever was there before. -/
theorem conf_of_checkout {ctx : Ctx κ} {strat : Strat} {s : Store κ} (fuel : Nat) :
    ∀ (cur : Option (Node κ)) (c : Child) (r : Node κ),
    checkoutNode ctx strat s fuel cur c = .ok r → Conf ctx strat s fuel r c := by
  induction fuel with
  | zero => intro _ _ _ h; cases h
  | succ fuel ih =>
    intro cur c r h
    rcases checkoutNode_ok h with ⟨hd, h⟩ | ⟨hd, h1, h2, es, cs, es', -, hcs, hch, rfl⟩
    · rw [conf_succ_file hd]
      exact conf_of_checkoutFile h
    · rw [conf_succ_dir hd]
      exact ⟨h1, h2, es', cs, rfl, hcs,
        checkoutChildren_post (fun k m => Conf ctx strat s fuel m k) (checkoutNode_keeps ctx strat s fuel)
          (fun cur c r => ih cur c r) (fun k m m' => Conf.keeps fuel m m' k) cs es es' hch⟩

theorem conf_iff_fix {ctx : Ctx κ} {strat : Strat} {s : Store κ} (fuel : Nat) (n : Node κ) (c : Child) :
    Conf ctx strat s fuel n c ↔ checkoutNode ctx strat s fuel (some n) c = .ok n :=
  ⟨checkoutNode_conf fuel n c, conf_of_checkout fuel (some n) c n⟩

/-- the entry found at path `p` below `w` is a checked-out copy of `c` -/
def ConfAt (ctx : Ctx κ) (strat : Strat) (s : Store κ) (fuel : Nat) (w : Node κ) (p : List Name)
    (c : Child) : Prop :=
  ∃ m, getPath w p = some m ∧ Conf ctx strat s fuel m c

theorem ConfAt.keeps {ctx : Ctx κ} {strat : Strat} {s : Store κ} {fuel : Nat} {w w' : Node κ}
    {p : List Name} {c : Child} (h : ConfAt ctx strat s fuel w p c) (hk : Keeps ctx s strat w w') :
    ConfAt ctx strat s fuel w' p c := by
  obtain ⟨m, hm, hc⟩ := h
  obtain ⟨m', hm', hkm⟩ := Keeps_getPath p w w' m hk hm
  exact ⟨m', hm', Conf.keeps fuel m m' c hc hkm⟩

def ArtConf (cfg : Cfg κ) (strat : Strat) (s : Store κ) (W : Node κ) (a : Art) : Prop :=
  a.skip = true ∨ ConfAt cfg.ctx strat s cfg.fuel W (Path.comps a.path) a.child

theorem ArtConf.of_copy {cfg : Cfg κ} {s : Store κ} {W : Node κ} {a : Art}
    (h : ArtConf cfg .copy s W a) (strat : Strat) : ArtConf cfg strat s W a := by
  rcases h with h | ⟨m, hm, hc⟩
  · exact .inl h
  · exact .inr ⟨m, hm, Conf.of_copy strat _ _ _ hc⟩

/-- a file artifact that is checked out with copies is a regular file hashing to the recorded
checksum -/
theorem ArtConf.copy_file {cfg : Cfg κ} {s : Store κ} {W : Node κ} {a : Art}
    (h : ArtConf cfg .copy s W a) (hskip : a.skip = false) (hfile : a.isDir = false) :
    ∃ b, getPath W (Path.comps a.path) = some (.file b) ∧ cfg.ctx.H b = a.sum := by
  rcases h with h | ⟨m, hm, hc⟩
  · rw [hskip] at h; cases h
  · cases hf : cfg.fuel with
    | zero => rw [hf] at hc; exact hc.elim
    | succ f =>
      rw [hf, conf_succ_file (c := a.child) hfile] at hc
      obtain ⟨-, -, hup | ⟨hs, -⟩⟩ := hc
      · obtain ⟨b, rfl, hH⟩ := upToDateCopy_some hup
        exact ⟨b, hm, hH⟩
      · cases hs

theorem checkoutArtW_noop {cfg : Cfg κ} {strat : Strat} {a : Art} {w : World κ}
    (h : ArtConf cfg strat w.store w.ws a) : checkoutArtW cfg strat a w = .ok w := by
  cases hsk : a.skip with
  | true => exact checkoutArtW_skip cfg strat a w hsk
  | false =>
    obtain ⟨m, hm, hc⟩ := h.resolve_left (by simp [hsk])
    simp only [checkoutArtW_noskip cfg strat a w hsk, hm, checkoutNode_conf _ _ _ hc,
      setPath_getPath_same _ _ _ hm]

theorem ArtConf.keeps {cfg : Cfg κ} {strat : Strat} {s : Store κ} {W W' : Node κ} {a : Art}
    (h : ArtConf cfg strat s W a) (hk : Keeps cfg.ctx s strat W W') : ArtConf cfg strat s W' a :=
  h.imp_right fun h => h.keeps hk

theorem checkoutArtW_conf {cfg : Cfg κ} {strat : Strat} {a : Art} {w w' : World κ}
    (h : checkoutArtW cfg strat a w = .ok w') :
    w' = { w with ws := w'.ws } ∧ ArtConf cfg strat w.store w'.ws a := by
  rcases checkoutArtW_inv h with ⟨hsk, rfl⟩ | ⟨_, n, ws', hn, hs, rfl⟩
  · exact ⟨rfl, .inl hsk⟩
  · exact ⟨rfl, .inr ⟨n, getPath_setPath_self _ _ _ _ hs, conf_of_checkout _ _ _ _ hn⟩⟩

/-- every artifact of the list is checked out when it is written, and stays so: the later writes
are `Keeps` -/
theorem checkoutArts_conf {cfg : Cfg κ} {strat : Strat} (as : List Art) {w w' : World κ}
    (h : checkoutArts cfg strat as w = .ok w') :
    w' = { w with ws := w'.ws } ∧ (∀ a, a ∈ as → ArtConf cfg strat w.store w'.ws a) ∧
      ∀ b, ArtConf cfg strat w.store w.ws b → ArtConf cfg strat w.store w'.ws b := by
  have hrel := fun (r : List Art) (u : World κ) (hu : checkoutArts cfg strat r u = .ok w') =>
    checkoutArts_rel (Keeps_refl cfg.ctx u.store strat) (Keeps_trans cfg.ctx u.store strat _ _ _) r
      (fun _ _ _ _ _ => setPath_checkoutNode_keeps) rfl hu
  refine ⟨(hrel as w h).1, ?_, fun b hb => hb.keeps (hrel as w h).2⟩
  induction as generalizing w with
  | nil => nofun
  | cons a r ih =>
    rw [checkoutArts] at h
    split at h
    · cases h
    rename_i w1 h1
    obtain ⟨e1, c1⟩ := checkoutArtW_conf h1
    have hst : w1.store = w.store := by rw [e1]
    intro x hx
    rcases List.mem_cons.1 hx with rfl | hx
    · exact c1.keeps (hst ▸ (hrel r w1 h).2)
    · exact hst ▸ ih h x hx

theorem checkoutArts_noop {cfg : Cfg κ} {strat : Strat} (as : List Art) {w : World κ}
    (h : ∀ a, a ∈ as → ArtConf cfg strat w.store w.ws a) : checkoutArts cfg strat as w = .ok w := by
  induction as with
  | nil => rfl
  | cons a r ih =>
    rw [checkoutArts, checkoutArtW_noop (h a List.mem_cons_self)]
    exact ih (fun x hx => h x (List.mem_cons_of_mem _ hx))

theorem checkoutAct_done {cfg : Cfg κ} {strat : Strat} {sp : Bytes} {a b : World κ}
    (h : checkoutAct cfg strat sp a = .ok b) : b.done = sp :: a.done := by
  rw [checkoutAct_world h]

theorem perTarget_checkout_done {cfg : Cfg κ} {strat : Strat} {r : Bool} (ts : List Bytes) :
    ∀ (a b : World κ),
      perTarget (fun t w => visit (checkoutTrav cfg strat) r (w.idx.length + 1) (allStages w) t w) ts a
        = .ok b → ∀ t, t ∈ ts → t ∈ b.done := by
  induction ts with
  | nil => intro _ _ _ t ht; cases ht
  | cons t0 ts ih =>
    intro a b h t ht
    obtain ⟨_, w1, h1, h2⟩ := perTarget_cons_inv h
    rcases List.mem_cons.1 ht with rfl | ht
    · have hd : t ∈ w1.done := by
        have := visit_root_done (checkoutTrav cfg strat) r
          (fun sp x y hxy => by
            show y.done.contains sp = true
            rw [checkoutAct_done hxy]; simp) _ _ t a w1 h1
        simpa [checkoutTrav] using this
      exact perTarget_keeps (fun x : World κ => t ∈ x.done)
        (fun t' x y hx hv => visit_keeps (checkoutTrav cfg strat) r (fun x : World κ => t ∈ x.done)
          (fun sp x y hx hxy => by
            show t ∈ y.done
            rw [checkoutAct_done hxy]; exact List.mem_cons_of_mem _ hx) _ _ t' x y hx hv)
        ts w1 b hd h2
    · exact ih w1 b h2 t ht

theorem cmdCheckout_targets {cfg : Cfg κ} {strat : Strat} {single : Bool} {targets : List Bytes}
    {w w' : World κ} (h : cmdCheckout cfg strat single targets w = .ok w') :
    ∀ t, t ∈ (if targets.isEmpty then allStages w else targets) → t ∈ w'.done :=
  perTarget_checkout_done _ _ _ (cmdCheckout_ok_iff.1 h).2

end Dud.CI

namespace Dud

open CI

variable {κ : Type}

/-- the outputs of the stage `sp`, as `checkoutAct` walks them (`sortArts`: one artifact per path),
are all checked out -/
def CI.StageConf (cfg : Cfg κ) (strat : Strat) (idx : Index) (s : Store κ) (W : Node κ) (sp : Bytes) : Prop :=
  ∀ stg, alookup idx sp = some stg → ∀ a, a ∈ sortArts stg.outputs → ArtConf cfg strat s W a

/-- invariant of the checkout traversal started in `w0`: only the workspace and the memo change,
and every stage that is done has all its outputs checked out -/
def CheckoutInv1 (cfg : Cfg κ) (strat : Strat) (w0 a : World κ) : Prop :=
  (∃ ws d, a = { w0 with ws := ws, done := d }) ∧
    ∀ sp, sp ∈ a.done → StageConf cfg strat a.idx a.store a.ws sp

theorem checkoutInv1_step {cfg : Cfg κ} {strat : Strat} {w0 a a' : World κ} {sp : Bytes}
    (h : CheckoutInv1 cfg strat w0 a) (hact : checkoutAct cfg strat sp a = .ok a') :
    CheckoutInv1 cfg strat w0 a' := by
  obtain ⟨stg, a1, hl, harts, rfl⟩ := checkoutAct_inv hact
  obtain ⟨e1, c1, k1⟩ := checkoutArts_conf _ harts
  obtain ⟨⟨ws0, d0, rfl⟩, hconf⟩ := h
  generalize a1.ws = ws1 at e1 c1 k1
  subst e1
  refine ⟨⟨ws1, sp :: d0, rfl⟩, ?_⟩
  intro sp' hsp' stg' hl' x hx
  rcases List.mem_cons.1 hsp' with rfl | hsp'
  · cases hl'.symm.trans hl
    exact c1 x hx
  · exact k1 x (hconf sp' hsp' stg' hl' x hx)

theorem cmdCheckout_inv1 {cfg : Cfg κ} {strat : Strat} {single : Bool} {targets : List Bytes}
    {w w' : World κ} (h : cmdCheckout cfg strat single targets w = .ok w') :
    CheckoutInv1 cfg strat (fresh w) w' :=
  cmdCheckout_invariant _ (fun _ _ _ hx hxy => checkoutInv1_step hx hxy)
    ⟨⟨_, _, rfl⟩, fun sp hsp => by cases hsp⟩ h

end Dud
