import DudModel.Lemmas.Shuffle
import DudModel.Lemmas.Interleave
/-!
# Interleavings of n disciplined traces; the final state of a schedule (C03 + C13)

Nothing here refers to the commit functions.  A worker is `Disciplined` for a set `A` of private paths
when its trace, run ALONE from the common start, is an `AllowedTrace` and every call is `Owned A`.  Two
such workers with disjoint private paths are simulated step by step (`Sim`, `interleaving_sim`): every
call of every interleaving is allowed in the state it meets.  n workers follow by interleaving the first
with a schedule of the others, which is again disciplined, for the union of the private paths
(`interleavingN_disciplined`; the same step gives nested workers).  The final state of a schedule is the
`Merged` of the solo final states, so all schedules agree (`Merged.agree`) — also on the permission bits
of objects, by the discipline `ModeOK`.

`Interleaving` / `InterleavingN` / `Forall2` are the relations that `Lemmas/Shuffle.lean` defines as
`Shuffle` / `ShuffleN` / `All2` for the checkout family; `Sched` is the scheduler view of `InterleavingN`.
-/
namespace Dud.Sys

open Dud

variable {κ : Type}

/-- `t` is an interleaving of `t1` and `t2`: both are subsequences of `t`, in order, and together they
make up all of `t` -/
inductive Interleaving {α : Type} : List α → List α → List α → Prop
  | nil : Interleaving [] [] []
  | left {a : α} {t1 t2 t : List α} : Interleaving t1 t2 t → Interleaving (a :: t1) t2 (a :: t)
  | right {a : α} {t1 t2 t : List α} : Interleaving t1 t2 t → Interleaving t1 (a :: t2) (a :: t)

/-- `Lemmas/Shuffle.lean` defines the same relation for the concurrent checkout, which cannot import this
file; the facts about lists are proved there and carried over -/
theorem shuffle_iff_interleaving {α : Type} {t1 t2 t : List α} :
    Shuffle t1 t2 t ↔ Interleaving t1 t2 t := by
  constructor
  · intro h
    induction h with
    | nil => exact .nil
    | left _ ih => exact .left ih
    | right _ ih => exact .right ih
  · intro h
    induction h with
    | nil => exact .nil
    | left _ ih => exact .left ih
    | right _ ih => exact .right ih

theorem Interleaving.nil_left {α : Type} (l : List α) : Interleaving [] l l :=
  shuffle_iff_interleaving.1 (.nil_left l)

theorem Interleaving.nil_right {α : Type} (l : List α) : Interleaving l [] l :=
  shuffle_iff_interleaving.1 (.nil_right l)

/-- running one after the other is one of the interleavings -/
theorem Interleaving.append {α : Type} : ∀ (l1 l2 : List α), Interleaving l1 l2 (l1 ++ l2) :=
  fun l1 l2 => shuffle_iff_interleaving.1 (.append l1 l2)

theorem Interleaving.append_both {α : Type} {a1 b1 l1 a2 b2 l2 : List α} (h1 : Interleaving a1 b1 l1)
    (h2 : Interleaving a2 b2 l2) : Interleaving (a1 ++ a2) (b1 ++ b2) (l1 ++ l2) := by
  induction h1 with
  | nil => exact h2
  | left _ ih => exact .left ih
  | right _ ih => exact .right ih

theorem Interleaving.symm {α : Type} {t1 t2 t : List α} (h : Interleaving t1 t2 t) :
    Interleaving t2 t1 t :=
  shuffle_iff_interleaving.1 (shuffle_iff_interleaving.2 h).symm

theorem Interleaving.eq_of_nil_left {α : Type} {t2 t : List α} (h : Interleaving [] t2 t) : t = t2 :=
  (shuffle_iff_interleaving.2 h).eq_of_nil_left

theorem Interleaving.eq_of_nil_right {α : Type} {t1 t : List α} (h : Interleaving t1 [] t) : t = t1 :=
  (shuffle_iff_interleaving.2 h).eq_of_nil_right

theorem Interleaving.length {α : Type} {t1 t2 t : List α} (h : Interleaving t1 t2 t) :
    t.length = t1.length + t2.length := by
  induction h with
  | nil => rfl
  | left _ ih => simp only [List.length_cons, ih]; omega
  | right _ ih => simp only [List.length_cons, ih]; omega

theorem Interleaving.mem {α : Type} {t1 t2 t : List α} (h : Interleaving t1 t2 t) (a : α) :
    a ∈ t ↔ a ∈ t1 ∨ a ∈ t2 :=
  (shuffle_iff_interleaving.2 h).mem a

/-- `l` is an interleaving of the lists `ts` (n workers): interleave the first list with an
interleaving of the others -/
inductive InterleavingN {α : Type} : List (List α) → List α → Prop
  | nil : InterleavingN [] []
  | cons {t : List α} {ts : List (List α)} {r l : List α} :
      InterleavingN ts r → Interleaving t r l → InterleavingN (t :: ts) l

theorem shuffleN_iff_interleavingN {α : Type} {ts : List (List α)} {l : List α} :
    ShuffleN ts l ↔ InterleavingN ts l := by
  constructor
  · intro h
    induction h with
    | nil => exact .nil
    | cons _ hi ih => exact .cons ih (shuffle_iff_interleaving.1 hi)
  · intro h
    induction h with
    | nil => exact .nil
    | cons _ hi ih => exact .cons ih (shuffle_iff_interleaving.2 hi)

theorem InterleavingN.nil_inv {α : Type} {l : List α} (h : InterleavingN [] l) : l = [] := by
  cases h; rfl

theorem InterleavingN.cons_inv {α : Type} {t : List α} {ts : List (List α)} {l : List α}
    (h : InterleavingN (t :: ts) l) : ∃ r, InterleavingN ts r ∧ Interleaving t r l := by
  cases h with
  | cons h1 h2 => exact ⟨_, h1, h2⟩

/-- the workers running one after the other (the sequential trace) is one of the schedules -/
theorem InterleavingN.flatten {α : Type} (ts : List (List α)) : InterleavingN ts ts.flatten :=
  shuffleN_iff_interleavingN.1 (.flatten ts)

theorem InterleavingN.single {α : Type} (t : List α) : InterleavingN [t] t :=
  .cons .nil (Interleaving.nil_right t)

theorem InterleavingN.two {α : Type} {t1 t2 l : List α} :
    InterleavingN [t1, t2] l ↔ Interleaving t1 t2 l :=
  shuffleN_iff_interleavingN.symm.trans (ShuffleN.two.trans shuffle_iff_interleaving)

theorem InterleavingN.mem {α : Type} {ts : List (List α)} {l : List α} (h : InterleavingN ts l) (a : α) :
    a ∈ l ↔ ∃ t ∈ ts, a ∈ t :=
  (shuffleN_iff_interleavingN.2 h).mem a

theorem InterleavingN.length {α : Type} {ts : List (List α)} {l : List α} (h : InterleavingN ts l) :
    l.length = (ts.map List.length).sum := by
  induction h with
  | nil => rfl
  | cons _ hi ih => simp [hi.length, ih]

/-- the scheduler view: as long as some worker has calls left, any one of them issues its next call -/
inductive Sched {α : Type} : List (List α) → List α → Prop
  | done {ts : List (List α)} : (∀ t ∈ ts, t = []) → Sched ts []
  | step {pre post : List (List α)} {a : α} {t l : List α} :
      Sched (pre ++ t :: post) l → Sched (pre ++ (a :: t) :: post) (a :: l)

theorem InterleavingN.all_nil {α : Type} (ts : List (List α)) (h : ∀ t ∈ ts, t = []) :
    InterleavingN ts [] := by
  induction ts with
  | nil => exact .nil
  | cons t ts ih =>
    rw [h t List.mem_cons_self]
    exact .cons (ih fun t ht => h t (List.mem_cons_of_mem _ ht)) .nil

theorem InterleavingN.step {α : Type} {a : α} {t : List α} {post : List (List α)} (pre : List (List α))
    {l : List α} (h : InterleavingN (pre ++ t :: post) l) :
    InterleavingN (pre ++ (a :: t) :: post) (a :: l) := by
  induction pre generalizing l with
  | nil =>
    obtain ⟨r, hr, hi⟩ := h.cons_inv
    exact .cons hr (.left hi)
  | cons x pre ih =>
    obtain ⟨r, hr, hi⟩ := InterleavingN.cons_inv (t := x) (ts := pre ++ t :: post) h
    exact .cons (ih hr) (.right hi)

theorem Sched.cons_of_interleaving {α : Type} {t r l : List α} (hi : Interleaving t r l) :
    ∀ {ts : List (List α)}, Sched ts r → Sched (t :: ts) l := by
  induction hi with
  | nil =>
    intro ts h
    cases h with
    | done h => exact .done (by intro t ht; rcases List.mem_cons.1 ht with rfl | ht; rfl; exact h t ht)
  | @left a t1 t2 t _ ih =>
    intro ts h
    exact Sched.step (pre := []) (ih h)
  | @right a t1 t2 t _ ih =>
    intro ts h
    generalize hr : a :: t2 = r at h
    cases h with
    | done _ => cases hr
    | @step pre post b u l' h' =>
      cases hr
      exact Sched.step (pre := t1 :: pre) (ih h')

/-- the two descriptions of "a schedule of n workers" coincide -/
theorem sched_iff_interleavingN {α : Type} (ts : List (List α)) (l : List α) :
    Sched ts l ↔ InterleavingN ts l := by
  constructor
  · intro h
    induction h with
    | done h => exact InterleavingN.all_nil _ h
    | step _ ih => exact InterleavingN.step _ ih
  · intro h
    induction h with
    | nil => exact .done (by simp)
    | cons _ hi ih => exact Sched.cons_of_interleaving hi ih

/-- pointwise relation between two lists of the same length -/
inductive Forall2 {α β : Type} (R : α → β → Prop) : List α → List β → Prop
  | nil : Forall2 R [] []
  | cons {a : α} {b : β} {as : List α} {bs : List β} : R a b → Forall2 R as bs → Forall2 R (a :: as) (b :: bs)

theorem all2_iff_forall2 {α β : Type} {R : α → β → Prop} {as : List α} {bs : List β} :
    All2 R as bs ↔ Forall2 R as bs := by
  constructor
  · intro h
    induction h with
    | nil => exact .nil
    | cons h _ ih => exact .cons h ih
  · intro h
    induction h with
    | nil => exact .nil
    | cons h _ ih => exact .cons h ih

theorem Forall2.imp_mem {α β : Type} {R S : α → β → Prop} {as : List α} {bs : List β}
    (h : Forall2 R as bs) (hi : ∀ a ∈ as, ∀ b ∈ bs, R a b → S a b) : Forall2 S as bs := by
  induction h with
  | nil => exact .nil
  | cons h _ ih =>
    exact .cons (hi _ (by simp) _ (by simp) h)
      (ih (fun a ha b hb => hi a (by simp [ha]) b (by simp [hb])))

theorem OwnedAll.replay_frame {A : P → Prop} {l : List (Call κ)} (ho : OwnedAll A l) {q : P}
    (hq : ¬ A q) (hs : q.isShared = false) (emp : κ) (fs : FS κ) :
    (replay emp fs l).get q = fs.get q :=
  replay_get_frame emp l q fs (fun c hc => (ho c hc).not_writes hq hs)

theorem Owned.shared_write {A : P → Prop} (hA : Priv A) {c : Call κ} (ho : Owned A c) {q : P}
    (hq : q.isShared = true) (hw : q ∈ callWrites c) :
    c = .mkdir q ∨ (∃ m, c = .chmod q m) ∨ (∃ s, A s ∧ c = .rename s q) := by
  rcases ho.writes hw with h | ⟨rfl, -⟩ | ⟨m, rfl, -⟩ | ⟨s, hs, rfl, -⟩
  · rw [hA.notShared h] at hq; cases hq
  · exact .inl rfl
  · exact .inr (.inl ⟨m, rfl⟩)
  · exact .inr (.inr ⟨s, hs, rfl⟩)

/-- an owned call never removes a shared path -/
theorem Owned.shared_stays {A : P → Prop} (hA : Priv A) {c : Call κ} (ho : Owned A c) (emp : κ)
    (y : FS κ) {q : P} (hq : q.isShared = true) (h : y.get q ≠ none) :
    (apply emp y c).get q ≠ none := by
  by_cases hw : q ∈ callWrites c
  · rcases ho.shared_write hA hq hw with rfl | ⟨m, rfl⟩ | ⟨s, hs, rfl⟩
    · simp [get_apply]
    · simpa [get_apply] using h
    · cases hs : y.get s <;> simp [get_apply, hs, h]
  · rw [apply_get_frame _ _ _ _ hw]; exact h

/-- if an owned call makes a shared path appear in `y`, it makes it appear in every state that agrees
with `y` on the private paths -/
theorem Owned.shared_appears {A : P → Prop} (hA : Priv A) {c : Call κ} (ho : Owned A c) (emp : κ)
    {x y : FS κ} (hxy : ∀ p, A p → x.get p = y.get p) {q : P} (hq : q.isShared = true)
    (h : (apply emp y c).get q ≠ none) : y.get q ≠ none ∨ (apply emp x c).get q ≠ none := by
  by_cases hw : q ∈ callWrites c
  · rcases ho.shared_write hA hq hw with rfl | ⟨m, rfl⟩ | ⟨s, hs, rfl⟩
    · exact .inr (by simp [get_apply])
    · exact .inl fun hn => h (by simp [get_apply, hn])
    · cases hys : y.get s with
      | none => exact .inl fun hn => h (by simp [get_apply, hys, hn])
      | some e => exact .inr (by simp [get_apply, hxy s hs, hys])
  · left
    rw [apply_get_frame _ _ _ _ hw] at h; exact h

/-- a shard directory changes in one way only: absent → directory -/
theorem Owned.shard_step {A : P → Prop} (hA : Priv A) {c : Call κ} (ho : Owned A c) (emp : κ)
    (x : FS κ) (h : String) :
    (apply emp x c).get (.shard h) = x.get (.shard h) ∨
      (x.get (.shard h) = none ∧ (apply emp x c).get (.shard h) = some .dir) := by
  by_cases hw : P.shard h ∈ callWrites c
  · rcases ho.shared_write hA (q := .shard h) rfl hw with rfl | ⟨m, hc⟩ | ⟨s, hs, rfl⟩
    · cases hx : x.get (.shard h) with
      | none => right; exact ⟨rfl, by simp [get_apply, hx]⟩
      | some e => left; simp [get_apply, hx]
    · subst hc
      rcases ho with ho | ho
      · exact absurd rfl (hA.notShard _ h ho)
      · simp [P.isObj] at ho
    · rcases ho.2 with ho | ho
      · exact absurd rfl (hA.notShard _ h ho)
      · simp [P.isObj] at ho
  · left; exact apply_get_frame _ _ _ _ hw

/-- relative to the start `fs0`, a shard directory is what it was or has been created -/
def ShardInv (fs0 x : FS κ) : Prop :=
  ∀ h, x.get (.shard h) = fs0.get (.shard h) ∨ (fs0.get (.shard h) = none ∧ x.get (.shard h) = some .dir)

theorem ShardInv.refl (fs0 : FS κ) : ShardInv fs0 fs0 := fun _ => .inl rfl

theorem ShardInv.apply {A : P → Prop} (hA : Priv A) {fs0 x : FS κ} (hi : ShardInv fs0 x) {c : Call κ}
    (ho : Owned A c) (emp : κ) : ShardInv fs0 (apply emp x c) := by
  intro h
  rcases ho.shard_step hA emp x h with he | ⟨hn, hd⟩
  · rw [he]; exact hi h
  · rcases hi h with h0 | ⟨h0, h1⟩
    · right; exact ⟨by rw [← h0]; exact hn, hd⟩
    · rw [hn] at h1; cases h1

theorem ShardInv.replay {A : P → Prop} (hA : Priv A) {fs0 : FS κ} (emp : κ) :
    ∀ (l : List (Call κ)) {x : FS κ}, ShardInv fs0 x → OwnedAll A l → ShardInv fs0 (replay emp x l)
  | [], _, hi, _ => hi
  | c :: cs, _, hi, ho =>
    ShardInv.replay hA emp cs (hi.apply hA (ho c (by simp)) emp) (fun c' hc' => ho c' (by simp [hc']))

/-- `s1`, `s2`: the states of the two workers running alone; `f`: the state of the interleaved run.
Private paths and objects as in `Rel`; a shared path (object, shard directory) is present in `f` iff
it is present in `s1` or in `s2`. -/
structure Sim (A1 A2 : P → Prop) (s1 s2 f : FS κ) : Prop where
  r1 : Rel A1 s1 f
  r2 : Rel A2 s2 f
  lb1 : ∀ p, p.isShared = true → s1.get p ≠ none → f.get p ≠ none
  lb2 : ∀ p, p.isShared = true → s2.get p ≠ none → f.get p ≠ none
  ub : ∀ p, p.isShared = true → f.get p ≠ none → s1.get p ≠ none ∨ s2.get p ≠ none

theorem Sim.refl (A1 A2 : P → Prop) (fs : FS κ) : Sim A1 A2 fs fs fs :=
  ⟨Rel.refl _ _, Rel.refl _ _, fun _ _ h => h, fun _ _ h => h, fun _ _ h => .inl h⟩

theorem Sim.symm {A1 A2 : P → Prop} {s1 s2 f : FS κ} (h : Sim A1 A2 s1 s2 f) : Sim A2 A1 s2 s1 f :=
  ⟨h.r2, h.r1, h.lb2, h.lb1, fun p hp hf => (h.ub p hp hf).symm⟩

theorem Sim.step_left {ctx : Ctx κ} (g : Good ctx) {tracked : List (P × κ)} (emp : κ)
    {A1 A2 : P → Prop} (hA1 : Priv A1) (hA2 : Priv A2) (hdisj : ∀ p, A1 p → ¬ A2 p)
    {s1 s2 f : FS κ} (h : Sim A1 A2 s1 s2 f) (hntf : NoTorn ctx f) {c : Call κ} (ho : Owned A1 c)
    (haf : Allowed ctx tracked f c) : Sim A1 A2 (apply emp s1 c) s2 (apply emp f c) := by
  refine ⟨h.r1.step_own g emp hA1 hntf ho haf, h.r2.step_other g emp hA2 hdisj hntf ho haf, ?_, ?_, ?_⟩
  · intro p hp hs
    rcases ho.shared_appears hA1 emp (x := f) (y := s1) h.r1.priv hp hs with h1 | h1
    · exact ho.shared_stays hA1 emp f hp (h.lb1 p hp h1)
    · exact h1
  · intro p hp hs
    exact ho.shared_stays hA1 emp f hp (h.lb2 p hp hs)
  · intro p hp hf
    rcases ho.shared_appears hA1 emp (x := s1) (y := f) (fun q hq => (h.r1.priv q hq).symm) hp hf with h1 | h1
    · rcases h.ub p hp h1 with h2 | h2
      · exact .inl (ho.shared_stays hA1 emp s1 hp h2)
      · exact .inr h2
    · exact .inl h1

/-- **Two workers.** Two traces that are each disciplined when run alone (from `s1`, `s2`) and own
disjoint private paths, interleaved in any way from a safe state `f` that simulates both: every call of
the interleaving is allowed in the state it meets, and the simulation holds at the end. -/
theorem interleaving_sim {ctx : Ctx κ} (g : Good ctx) {tracked : List (P × κ)} (emp : κ)
    {A1 A2 : P → Prop} (hA1 : Priv A1) (hA2 : Priv A2) (hdisj : ∀ p, A1 p → ¬ A2 p) :
    ∀ {l1 l2 l : List (Call κ)}, Interleaving l1 l2 l → ∀ (s1 s2 f : FS κ), Safe ctx tracked f →
      Sim A1 A2 s1 s2 f →
      AllowedTrace ctx emp tracked s1 l1 → AllowedTrace ctx emp tracked s2 l2 →
      OwnedAll A1 l1 → OwnedAll A2 l2 →
      AllowedTrace ctx emp tracked f l ∧
        Sim A1 A2 (replay emp s1 l1) (replay emp s2 l2) (replay emp f l) := by
  intro l1 l2 l hi
  induction hi with
  | nil => intro s1 s2 f _ hsim _ _ _ _; exact ⟨trivial, hsim⟩
  | @left c l1 l2 l _ ih =>
    intro s1 s2 f hsf hsim ha1 ha2 ho1 ho2
    have hoc : Owned A1 c := ho1 c (by simp)
    have haf : Allowed ctx tracked f c := Allowed.transfer hsim.r1 hoc ha1.1
    obtain ⟨ha, hs'⟩ := ih (apply emp s1 c) s2 (apply emp f c) (hsf.apply g emp haf)
      (hsim.step_left g emp hA1 hA2 hdisj hsf.2 hoc haf) ha1.2 ha2
      (fun c' hc' => ho1 c' (by simp [hc'])) ho2
    exact ⟨⟨haf, ha⟩, hs'⟩
  | @right c l1 l2 l _ ih =>
    intro s1 s2 f hsf hsim ha1 ha2 ho1 ho2
    have hoc : Owned A2 c := ho2 c (by simp)
    have haf : Allowed ctx tracked f c := Allowed.transfer hsim.r2 hoc ha2.1
    obtain ⟨ha, hs'⟩ := ih s1 (apply emp s2 c) (apply emp f c) (hsf.apply g emp haf)
      (hsim.symm.step_left g emp hA2 hA1 (fun p h2 h1 => hdisj p h1 h2) hsf.2 hoc haf).symm
      ha1 ha2.2 ho1 (fun c' hc' => ho2 c' (by simp [hc']))
    exact ⟨⟨haf, ha⟩, hs'⟩

/-- A worker with private paths `A` whose trace `l`, run ALONE from `fs0`, follows the `Allowed`
discipline and acts on its private paths only — except for `mkdir` of shard directories, `rename` of a
private file onto an object name and `chmod` of objects. -/
structure Disciplined (ctx : Ctx κ) (emp : κ) (tracked : List (P × κ)) (fs0 : FS κ) (A : P → Prop)
    (l : List (Call κ)) : Prop where
  priv : Priv A
  allowed : AllowedTrace ctx emp tracked fs0 l
  owned : OwnedAll A l

/-- rely/guarantee form: the k-th call is allowed in EVERY state `f` that agrees with the worker's own
expected state on its private paths and holds at least the expected objects (with the expected bytes),
i.e. whatever the other workers have done to objects and shard directories in the meantime -/
def AllowedTraceUnder (ctx : Ctx κ) (emp : κ) (tracked : List (P × κ)) (A : P → Prop) :
    FS κ → List (Call κ) → Prop
  | _, [] => True
  | s, c :: cs => (∀ f, Rel A s f → Allowed ctx tracked f c) ∧
      AllowedTraceUnder ctx emp tracked A (apply emp s c) cs

theorem AllowedTraceUnder.allowedTrace {ctx : Ctx κ} {emp : κ} {tracked : List (P × κ)} {A : P → Prop} :
    ∀ {s : FS κ} {l : List (Call κ)}, AllowedTraceUnder ctx emp tracked A s l →
      AllowedTrace ctx emp tracked s l
  | _, [], _ => trivial
  | _, _ :: _, h => ⟨h.1 _ (Rel.refl _ _), AllowedTraceUnder.allowedTrace h.2⟩

theorem allowedTraceUnder_of_owned {ctx : Ctx κ} {emp : κ} {tracked : List (P × κ)} {A : P → Prop}
    {s : FS κ} {l : List (Call κ)} (ha : AllowedTrace ctx emp tracked s l) (ho : OwnedAll A l) :
    AllowedTraceUnder ctx emp tracked A s l := by
  induction l generalizing s with
  | nil => trivial
  | cons c cs ih =>
    exact ⟨fun _ hr => Allowed.transfer hr (ho c List.mem_cons_self) ha.1,
      ih ha.2 fun c' hc' => ho c' (List.mem_cons_of_mem _ hc')⟩

theorem Disciplined.under {ctx : Ctx κ} {emp : κ} {tracked : List (P × κ)} {fs0 : FS κ} {A : P → Prop}
    {l : List (Call κ)} (h : Disciplined ctx emp tracked fs0 A l) :
    AllowedTraceUnder ctx emp tracked A fs0 l := allowedTraceUnder_of_owned h.allowed h.owned

theorem Disciplined.nil {ctx : Ctx κ} {emp : κ} {tracked : List (P × κ)} {fs0 : FS κ} {A : P → Prop}
    (hA : Priv A) : Disciplined ctx emp tracked fs0 A [] := ⟨hA, trivial, fun _ h => by simp at h⟩

theorem Disciplined.mono {ctx : Ctx κ} {emp : κ} {tracked : List (P × κ)} {fs0 : FS κ} {A B : P → Prop}
    {l : List (Call κ)} (h : Disciplined ctx emp tracked fs0 A l) (hB : Priv B) (hAB : ∀ p, A p → B p) :
    Disciplined ctx emp tracked fs0 B l := ⟨hB, h.allowed, h.owned.mono hAB⟩

theorem Disciplined.safe_final {ctx : Ctx κ} (g : Good ctx) {emp : κ} {tracked : List (P × κ)}
    {fs0 : FS κ} {A : P → Prop} {l : List (Call κ)} (h : Disciplined ctx emp tracked fs0 A l)
    (hs : Safe ctx tracked fs0) : Safe ctx tracked (replay emp fs0 l) :=
  (h.allowed.prefixSafe g hs).final

theorem objLe_replay {ctx : Ctx κ} (g : Good ctx) {tracked : List (P × κ)} (emp : κ) {fs : FS κ}
    {l : List (Call κ)} (hs : Safe ctx tracked fs) (ha : AllowedTrace ctx emp tracked fs l) :
    ObjLe fs (replay emp fs l) :=
  (ha.objLe g hs).final

theorem Priv.or {A B : P → Prop} (hA : Priv A) (hB : Priv B) : Priv (fun p => A p ∨ B p) :=
  ⟨fun p hp => hp.elim (hA.notObj p) (hB.notObj p), fun p s hp => hp.elim (hA.notShard p s) (hB.notShard p s)⟩

theorem Priv.of_imp {A B : P → Prop} (hB : Priv B) (hAB : ∀ p, A p → B p) : Priv A :=
  ⟨fun p hp => hB.notObj p (hAB p hp), fun p s hp => hB.notShard p s (hAB p hp)⟩

theorem OwnedAll.interleaving {A1 A2 : P → Prop} {l1 l2 l : List (Call κ)} (hi : Interleaving l1 l2 l)
    (h1 : OwnedAll A1 l1) (h2 : OwnedAll A2 l2) : OwnedAll (fun p => A1 p ∨ A2 p) l :=
  fun c hc => ((hi.mem c).1 hc).elim (fun hc => (h1 c hc).mono fun _ => Or.inl)
    (fun hc => (h2 c hc).mono fun _ => Or.inr)

/-- at path `p` the state `f` is the merge of the solo states `sols` over the start `fs0`: it is what a
solo run that changed `p` made of it, and what it was at the start if no solo run changed it -/
def MergedAt (fs0 : FS κ) (sols : List (FS κ)) (f : FS κ) (p : P) : Prop :=
  (∀ s ∈ sols, s.get p ≠ fs0.get p → f.get p = s.get p) ∧
  ((∀ s ∈ sols, s.get p = fs0.get p) → f.get p = fs0.get p)

/-- `f` is the merge of the solo final states `sols` of workers started from `fs0`:
every path that is not an object is merged (`MergedAt`); the objects of `f` are those of the start and
of the solo runs, with the same bytes. -/
structure Merged (fs0 : FS κ) (sols : List (FS κ)) (f : FS κ) : Prop where
  nonObj : ∀ p, p.isObj = false → MergedAt fs0 sols f p
  objLe0 : ObjLe fs0 f
  objLe : ∀ s ∈ sols, ObjLe s f
  objUb : ∀ d, f.get (.obj d) ≠ none → fs0.get (.obj d) ≠ none ∨ ∃ s ∈ sols, s.get (.obj d) ≠ none

theorem Merged.nil (fs0 : FS κ) : Merged fs0 [] fs0 :=
  ⟨fun _ _ => ⟨fun _ h => by simp at h, fun _ => rfl⟩, ObjLe.refl _, fun _ h => by simp at h,
   fun _ h => .inl h⟩

theorem MergedAt.pair {fs0 s1 s2 f : FS κ} {p : P} (h1 : s1.get p ≠ fs0.get p → f.get p = s1.get p)
    (h2 : s2.get p ≠ fs0.get p → f.get p = s2.get p)
    (h0 : s1.get p = fs0.get p → s2.get p = fs0.get p → f.get p = fs0.get p) :
    MergedAt fs0 [s1, s2] f p := by
  refine ⟨fun s hs hne => ?_, fun hall =>
    h0 (hall _ List.mem_cons_self) (hall _ (List.mem_cons_of_mem _ List.mem_cons_self))⟩
  rcases List.mem_cons.1 hs with rfl | hs
  · exact h1 hne
  · rw [List.mem_singleton.1 hs] at hne ⊢; exact h2 hne

theorem MergedAt.left {fs0 s1 s2 f : FS κ} {p : P} (hf : f.get p = s1.get p)
    (h2 : s2.get p = fs0.get p) : MergedAt fs0 [s1, s2] f p :=
  .pair (fun _ => hf) (fun hne => absurd h2 hne) (fun e1 _ => hf.trans e1)

theorem MergedAt.right {fs0 s1 s2 f : FS κ} {p : P} (hf : f.get p = s2.get p)
    (h1 : s1.get p = fs0.get p) : MergedAt fs0 [s1, s2] f p :=
  .pair (fun hne => absurd h1 hne) (fun _ => hf) (fun _ e2 => hf.trans e2)

/-- nesting: merge `s1` with a state `fr` that is itself a merge.  Every field goes through `fr`:
what some `s ∈ sols` changed at a path (or holds as an object), `fr` has in the same way and `f` takes it
from `fr`; a path that neither `s1` nor any `s ∈ sols` changed is unchanged in `fr`, hence in `f`; an
object of `f` comes from the start, from `s1`, or from `fr` and then from the start or some `s ∈ sols`. -/
theorem Merged.cons {fs0 s1 fr f : FS κ} {sols : List (FS κ)} (hr : Merged fs0 sols fr)
    (h : Merged fs0 [s1, fr] f) : Merged fs0 (s1 :: sols) f := by
  refine ⟨fun p hp => ⟨?_, ?_⟩, h.objLe0, ?_, ?_⟩
  · intro s hs hne
    rcases List.mem_cons.1 hs with rfl | hs
    · exact (h.nonObj p hp).1 _ (by simp) hne
    · have h1 : fr.get p = s.get p := (hr.nonObj p hp).1 s hs hne
      have h2 : f.get p = fr.get p := (h.nonObj p hp).1 fr (by simp) (by rw [h1]; exact hne)
      rw [h2, h1]
  · intro hall
    have h1 : fr.get p = fs0.get p := (hr.nonObj p hp).2 (fun s hs => hall s (by simp [hs]))
    exact (h.nonObj p hp).2 (by
      intro s hs
      simp only [List.mem_cons, List.not_mem_nil, or_false] at hs
      rcases hs with rfl | rfl
      · exact hall _ (by simp)
      · exact h1)
  · intro s hs
    rcases List.mem_cons.1 hs with rfl | hs
    · exact h.objLe _ (by simp)
    · exact (hr.objLe s hs).trans (h.objLe fr (by simp))
  · intro d hd
    rcases h.objUb d hd with h0 | ⟨s, hs, hne⟩
    · exact .inl h0
    · simp only [List.mem_cons, List.not_mem_nil, or_false] at hs
      rcases hs with rfl | rfl
      · exact .inr ⟨_, by simp, hne⟩
      · rcases hr.objUb d hne with h0 | ⟨s', hs', hne'⟩
        · exact .inl h0
        · exact .inr ⟨s', by simp [hs'], hne'⟩

/-- **All schedules agree.** Two states that are both the merge of the same solo final states agree on
every path that is not an object, and every object of one is an object of the other with the same bytes
(the permission bits of objects are not compared). -/
theorem Merged.agree {ctx : Ctx κ} (g : Good ctx) {fs0 f f' : FS κ} {sols : List (FS κ)}
    (h0 : NoTorn ctx fs0) (hsols : ∀ s ∈ sols, NoTorn ctx s) (hf : NoTorn ctx f)
    (m : Merged fs0 sols f) (m' : Merged fs0 sols f') :
    (∀ p, p.isObj = false → f.get p = f'.get p) ∧ ObjLe f f' := by
  refine ⟨fun p hp => ?_, fun d c mo hd => ?_⟩
  · by_cases h : ∃ s ∈ sols, s.get p ≠ fs0.get p
    · obtain ⟨s, hs, hne⟩ := h
      rw [(m.nonObj p hp).1 s hs hne, (m'.nonObj p hp).1 s hs hne]
    · have hall : ∀ s ∈ sols, s.get p = fs0.get p :=
        fun s hs => Classical.byContradiction (fun hne => h ⟨s, hs, hne⟩)
      rw [(m.nonObj p hp).2 hall, (m'.nonObj p hp).2 hall]
  · obtain ⟨c1, m1, he1, hH⟩ := hf d _ hd
    cases he1
    rcases m.objUb d (by rw [hd]; simp) with h1 | ⟨s, hs, h1⟩
    · cases he : fs0.get (.obj d) with
      | none => exact absurd he h1
      | some e =>
        obtain ⟨c2, m2, rfl, hH2⟩ := h0 d e he
        have : c2 = c := g.inj _ _ (hH2.trans hH.symm)
        subst this
        exact m'.objLe0 d c2 m2 he
    · cases he : s.get (.obj d) with
      | none => exact absurd he h1
      | some e =>
        obtain ⟨c2, m2, rfl, hH2⟩ := hsols s hs d e he
        have : c2 = c := g.inj _ _ (hH2.trans hH.symm)
        subst this
        exact m'.objLe s hs d c2 m2 he

/-- the merge of two solo runs from a common start, out of the simulation.  A path that is not an object
is private to one worker (then `f` has what that worker's solo run left, `Rel.priv`, and the other run
did not touch it), or neither private nor shared (no run touches it), or a shard directory: these only go
from absent to directory (`ShardInv`), and by `Sim` one exists in `f` iff it exists in a solo run.
Objects: at least those of the start and of each solo run (`Rel.objs`), at most those (`Sim.ub`). -/
theorem Sim.merged {ctx : Ctx κ} (g : Good ctx) {emp : κ} {tracked : List (P × κ)} {fs0 : FS κ}
    {A1 A2 : P → Prop} {l1 l2 l : List (Call κ)} (hs0 : Safe ctx tracked fs0)
    (d1 : Disciplined ctx emp tracked fs0 A1 l1) (d2 : Disciplined ctx emp tracked fs0 A2 l2)
    (hdisj : ∀ p, A1 p → ¬ A2 p) (hi : Interleaving l1 l2 l)
    (h : Sim A1 A2 (replay emp fs0 l1) (replay emp fs0 l2) (replay emp fs0 l)) :
    Merged fs0 [replay emp fs0 l1, replay emp fs0 l2] (replay emp fs0 l) := by
  have hA12 := d1.priv.or d2.priv
  have ho12 := OwnedAll.interleaving hi d1.owned d2.owned
  refine ⟨fun p hp => ?_, ?_, ?_, ?_⟩
  · by_cases h1 : A1 p
    · exact .left (h.r1.priv p h1) (d2.owned.replay_frame (hdisj p h1) (d1.priv.notShared h1) emp fs0)
    by_cases h2 : A2 p
    · exact .right (h.r2.priv p h2) (d1.owned.replay_frame h1 (d2.priv.notShared h2) emp fs0)
    cases hsh : p.isShared with
    | false =>
      have e : (replay emp fs0 l).get p = fs0.get p :=
        ho12.replay_frame (fun h12 => h12.elim h1 h2) hsh emp fs0
      exact .left (e.trans (d1.owned.replay_frame h1 hsh emp fs0).symm)
        (d2.owned.replay_frame h2 hsh emp fs0)
    | true =>
      rcases P.isShared_true hsh with ⟨d, rfl⟩ | ⟨sh, rfl⟩
      · cases hp
      have i1 := ShardInv.replay d1.priv emp l1 (ShardInv.refl fs0) d1.owned sh
      have i2 := ShardInv.replay d2.priv emp l2 (ShardInv.refl fs0) d2.owned sh
      have i := ShardInv.replay hA12 emp l (ShardInv.refl fs0) ho12 sh
      -- a solo run that changed the shard directory created it; then it exists in the merged run
      have created : ∀ s : FS κ, (s.get (.shard sh) = fs0.get (.shard sh) ∨
            (fs0.get (.shard sh) = none ∧ s.get (.shard sh) = some .dir)) →
          (s.get (.shard sh) ≠ none → (replay emp fs0 l).get (.shard sh) ≠ none) →
          s.get (.shard sh) ≠ fs0.get (.shard sh) →
          (replay emp fs0 l).get (.shard sh) = s.get (.shard sh) := by
        intro s is lb hne
        rcases is with he | ⟨h0, hd⟩
        · exact absurd he hne
        · rcases i with he' | ⟨_, hd'⟩
          · exact absurd (he'.trans h0) (lb (by rw [hd]; simp))
          · rw [hd, hd']
      refine .pair (created _ i1 (h.lb1 _ rfl)) (created _ i2 (h.lb2 _ rfl)) (fun e1 e2 => ?_)
      rcases i with he' | ⟨h0, hd'⟩
      · exact he'
      · exfalso
        rcases h.ub (.shard sh) rfl (by rw [hd']; simp) with hh | hh
        · exact hh (e1.trans h0)
        · exact hh (e2.trans h0)
  · exact (objLe_replay g emp hs0 d1.allowed).trans h.r1.objs
  · intro s hs
    simp only [List.mem_cons, List.not_mem_nil, or_false] at hs
    rcases hs with rfl | rfl
    · exact h.r1.objs
    · exact h.r2.objs
  · intro d hd
    rcases h.ub (.obj d) rfl hd with hh | hh
    · exact .inr ⟨_, by simp, hh⟩
    · exact .inr ⟨_, by simp, hh⟩

/-- permission discipline of a trace: an object is only ever `chmod`ed to 0444, and a `rename` onto an
object name is followed, later in the same trace, by the `chmod` of that object to 0444.  (Stable under
interleaving, unlike "immediately followed".) -/
def ModeOK : List (Call κ) → Prop
  | [] => True
  | c :: cs => (∀ s d, c = .rename s (.obj d) → Call.chmod (.obj d) 0o444 ∈ cs) ∧
      (∀ d m, c = .chmod (.obj d) m → m = 0o444) ∧ ModeOK cs

theorem ModeOK.append : ∀ {l1 l2 : List (Call κ)}, ModeOK l1 → ModeOK l2 → ModeOK (l1 ++ l2)
  | [], _, _, h2 => h2
  | _ :: _, _, h1, h2 =>
    ⟨fun s d e => List.mem_append_left _ (h1.1 s d e), h1.2.1, ModeOK.append h1.2.2 h2⟩

/-- `hc` (neither `rename` nor `chmod`) is a `match` so that `trivial` proves it for a concrete call -/
theorem ModeOK.cons_plain {c : Call κ} {cs : List (Call κ)}
    (hc : match c with | .rename .. | .chmod .. => False | _ => True) (h : ModeOK cs) : ModeOK (c :: cs) := by
  refine ⟨fun s d e => ?_, fun d m e => ?_, h⟩
  · subst e; exact hc.elim
  · subst e; exact hc.elim

theorem ModeOK.cons_put (sh s : P) (d : Digest) {cs : List (Call κ)} (h : ModeOK cs) :
    ModeOK (.mkdir sh :: .rename s (.obj d) :: .chmod (.obj d) 0o444 :: cs) :=
  .cons_plain trivial
    ⟨fun _ _ e => by cases e; exact List.mem_cons_self, fun _ _ e => (nomatch e),
     fun _ _ e => (nomatch e), fun _ _ e => by cases e; rfl, h⟩

theorem ModeOK.interleaving {l1 l2 l : List (Call κ)} (hi : Interleaving l1 l2 l) :
    ModeOK l1 → ModeOK l2 → ModeOK l := by
  induction hi with
  | nil => intro _ _; trivial
  | left hi' ih =>
    intro h1 h2
    exact ⟨fun s d e => (hi'.mem _).2 (.inl (h1.1 s d e)), h1.2.1, ih h1.2.2 h2⟩
  | right hi' ih =>
    intro h1 h2
    exact ⟨fun s d e => (hi'.mem _).2 (.inr (h2.1 s d e)), h2.2.1, ih h1 h2.2.2⟩

theorem ModeOK.interleavingN {ts : List (List (Call κ))} {l : List (Call κ)} (hi : InterleavingN ts l) :
    (∀ t ∈ ts, ModeOK t) → ModeOK l := by
  induction hi with
  | nil => intro _; trivial
  | cons _ hb ih =>
    intro h
    exact ModeOK.interleaving hb (h _ (by simp)) (ih (fun t ht => h t (by simp [ht])))

/-- every complete object is read-only -/
def ObjsReadOnly (fs : FS κ) : Prop := ∀ d c m, fs.get (.obj d) = some (.file c m) → m = 0o444

/-- **No object is left writable.**  Along a disciplined trace every complete object is read-only or its
`chmod` to 0444 is still to come: a `rename` onto an object name has that `chmod` later in the trace, a
`chmod` of an object sets 0444, and no other owned call writes an object. -/
theorem ModeOK.objsReadOnly {A : P → Prop} (hA : Priv A) (emp : κ) {l : List (Call κ)} (hm : ModeOK l)
    (ho : OwnedAll A l) {fs : FS κ} (h0 : ObjsReadOnly fs) : ObjsReadOnly (replay emp fs l) := by
  suffices h : ∀ (l : List (Call κ)) (fs : FS κ), ModeOK l → OwnedAll A l →
      (∀ d c m, fs.get (.obj d) = some (.file c m) → m = 0o444 ∨ Call.chmod (.obj d) 0o444 ∈ l) →
      ObjsReadOnly (replay emp fs l) from h l fs hm ho fun d c m h => .inl (h0 d c m h)
  intro l
  induction l with
  | nil => exact fun fs _ _ h d c m hd => (h d c m hd).resolve_right nofun
  | cons c0 cs ih =>
    intro fs hm ho h
    refine ih _ hm.2.2 (fun c' hc' => ho c' (List.mem_cons_of_mem _ hc')) fun d c m hd => ?_
    by_cases hw : P.obj d ∈ callWrites c0
    · rcases (ho c0 List.mem_cons_self).shared_write hA (q := .obj d) rfl hw with rfl | ⟨m', rfl⟩ | ⟨s, -, rfl⟩
      · rcases ho _ List.mem_cons_self with h1 | ⟨_, h1⟩
        · cases hA.notObj _ h1
        · cases h1
      · rw [hm.2.1 d m' rfl] at hd
        exact .inl (get_chmod_self_inv hd).1
      · exact .inr (hm.1 s d rfl)
    · rw [apply_get_frame _ _ _ _ hw] at hd
      rcases h d c m hd with h1 | h1
      · exact .inl h1
      · rcases List.mem_cons.1 h1 with rfl | h1
        · exact absurd List.mem_cons_self hw
        · exact .inr h1

theorem objs_eq_of_objLe {ctx : Ctx κ} {f f' : FS κ} (hf : NoTorn ctx f) (hf' : NoTorn ctx f')
    (r : ObjsReadOnly f) (r' : ObjsReadOnly f') (h : ObjLe f f') (h' : ObjLe f' f) (d : Digest) :
    f.get (.obj d) = f'.get (.obj d) := by
  cases hg : f.get (.obj d) with
  | none =>
    cases hg' : f'.get (.obj d) with
    | none => rfl
    | some e =>
      obtain ⟨c, m, rfl, -⟩ := hf' d e hg'
      obtain ⟨m', hm'⟩ := h' d c m hg'
      rw [hg] at hm'; cases hm'
  | some e =>
    obtain ⟨c, m, rfl, -⟩ := hf d e hg
    obtain ⟨m', hm'⟩ := h d c m hg
    rw [hm', r d c m hg, r' d c m' hm']

/-- the union of the private paths of several workers -/
def UnionOf (As : List (P → Prop)) (p : P) : Prop := ∃ A ∈ As, A p

theorem unionOf_cons {A : P → Prop} {As : List (P → Prop)} {p : P} :
    UnionOf (A :: As) p ↔ A p ∨ UnionOf As p := by
  simp [UnionOf]

/-- pairwise disjoint sets of private paths -/
def DisjointAll (As : List (P → Prop)) : Prop := As.Pairwise (fun A B => ∀ p, A p → ¬ B p)

/-- **n workers.** Workers `i = 1 … n`, each disciplined for its private paths `Aᵢ` when its trace `tᵢ`
runs alone from the safe state `fs0`, private paths pairwise disjoint.  For EVERY schedule
`InterleavingN [t₁, …, tₙ] l`:
* `l` is disciplined for the union of the private paths — in particular an `AllowedTrace`, hence
  safe after every prefix, and it can take part in a further interleaving (nested workers);
* every worker finds its private paths at the end as after its solo run, and all the objects of its
  solo run (`Rel`);
* the final state is the merge of the solo final states (`Merged`). -/
theorem interleavingN_disciplined {ctx : Ctx κ} (g : Good ctx) {tracked : List (P × κ)} (emp : κ)
    {fs0 : FS κ} (hs0 : Safe ctx tracked fs0) :
    ∀ {As : List (P → Prop)} {ts : List (List (Call κ))},
      Forall2 (Disciplined ctx emp tracked fs0) As ts → DisjointAll As →
      ∀ {l : List (Call κ)}, InterleavingN ts l →
        Disciplined ctx emp tracked fs0 (UnionOf As) l ∧
        Forall2 (fun A t => Rel A (replay emp fs0 t) (replay emp fs0 l)) As ts ∧
        Merged fs0 (ts.map (replay emp fs0)) (replay emp fs0 l) := by
  intro As ts hw
  induction hw with
  | nil =>
    intro _ l hi
    rw [hi.nil_inv]
    refine ⟨Disciplined.nil ⟨?_, ?_⟩, .nil, Merged.nil fs0⟩
    · rintro p ⟨A, hA, -⟩; simp at hA
    · rintro p s ⟨A, hA, -⟩; simp at hA
  | @cons A t As ts hd _ ih =>
    intro hdis l hi
    obtain ⟨hdA, hdAs⟩ := List.pairwise_cons.1 hdis
    obtain ⟨r, hir, hb⟩ := hi.cons_inv
    obtain ⟨dr, relr, mr⟩ := ih hdAs hir
    have hdisj : ∀ p, A p → ¬ UnionOf As p := by
      rintro p hp ⟨B, hB, hBp⟩
      exact hdA B hB p hp hBp
    obtain ⟨ha, hsim⟩ := interleaving_sim g emp hd.priv dr.priv hdisj hb fs0 fs0 fs0 hs0
      (Sim.refl _ _ _) hd.allowed dr.allowed hd.owned dr.owned
    refine ⟨⟨(hd.priv.or dr.priv).of_imp fun _ => unionOf_cons.1, ha,
      (OwnedAll.interleaving hb hd.owned dr.owned).mono fun _ => unionOf_cons.2⟩, .cons hsim.r1 ?_, ?_⟩
    · refine relr.imp_mem (fun B hB t' _ hrel => ⟨fun p hp => ?_, hrel.objs.trans hsim.r2.objs⟩)
      rw [hsim.r2.priv p ⟨B, hB, hp⟩]
      exact hrel.priv p hp
    · rw [List.map_cons]
      exact mr.cons (hsim.merged g hs0 hd dr hdisj hb)

/-- the scheduler view: a `ShuffleN` is exactly a run in which, at every step, any worker with calls
left issues its next call; so every statement about `ShuffleN` (the concurrent checkout) is also one
about `Sched` -/
theorem shuffleN_iff_sched {α : Type} {ts : List (List α)} {l : List α} :
    ShuffleN ts l ↔ Sched ts l :=
  shuffleN_iff_interleavingN.trans (sched_iff_interleavingN ts l).symm

end Dud.Sys
