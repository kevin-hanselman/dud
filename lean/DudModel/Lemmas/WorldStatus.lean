import DudModel.Lemmas.StatusCommit
import DudModel.Props.C01world
import DudModel.Lemmas.RetryArt
import DudModel.Lemmas.CommitFiles
/-!
# `dud commit` at the world level: what it leaves, for C05 (status) and C15 (checkout after commit, commit twice)

`Held` says what a successful `commitArt` leaves at an output satisfying `ArtPre`: the node is
`artAfter` of the tree, the checksum that of its tracked part, which the cache holds (unless the
artifact is a skip-cache file).
`StatusOK` is what follows for status, in that cache and every later one (`Held.statusOK`).
`Held` is monotone in the cache, so it holds at every output in scope when `dud commit` ends
(`cmdCommit_invRec`, invariant `CommitInvRec`, which also keeps what the stages record for their
inputs).  `runTargets_after_commit` (`Lemmas/WorldCheckout.lean`) runs a second recursive command where the commit
ended; the last part is the invariant of `dud status` there (`StatusInv`).
-/
namespace Dud.WStat

open Dud.WT

variable {κ : Type}

theorem holdsList_pointwise {ctx : Ctx κ} (g : Good ctx) (s : Store κ) (strat : Strat) :
    ∀ (es : List (Name × Node κ)) (fuel : Nat), plainList es = true → sortedList es = true →
      NamesOKList ctx es → HoldsList ctx s newChoice es → depthList es ≤ fuel →
      Pointwise ctx s fuel es (wsAfterList ctx strat es)
  | es, fuel, hp, hs, hn, h, hf => pointwise_of_holds g s strat es ⟨hp, hs, hn, h, hf⟩

section status
variable [DecidableEq κ]

theorem fileStatus_name (ctx : Ctx κ) (s : Store κ) (nm : Bytes) (skip : Bool) (sum : Digest)
    (cur : Option (Node κ)) : (fileStatus ctx s nm skip sum cur).name = nm := by
  obtain ⟨cm, h⟩ := fileStatus_shape ctx s nm skip sum cur
  rw [h]

theorem dirStatus_name {ctx : Ctx κ} {s : Store κ} {fuel : Nat} {nm : Bytes} {noRec : Bool}
    {sum : Digest} {cur : Option (Node κ)} {st : Status}
    (h : dirStatus ctx s fuel nm noRec sum cur = .ok st) : st.name = nm := by
  cases fuel with
  | zero => cases h
  | succ fuel =>
    by_cases hd : ∃ es, cur = some (.dir es)
    · obtain ⟨es, rfl⟩ := hd
      obtain ⟨_, _, _, _, _, _, _, _, rfl⟩ := dirStatus_dir_ok h
      rfl
    · rw [dirStatus_not_dir ctx s fuel nm noRec sum fun es e => hd ⟨es, e⟩] at h
      cases h; rfl

theorem typed_with_skip (st : Status) (b : Bool) : ({ st with skip := b } : Status).typed = st.typed := by
  cases st; simp [Status.typed]

theorem fileStatus_skip_file {ctx : Ctx κ} (g : Good ctx) (s : Store κ) (nm : Bytes) (c : κ) :
    (fileStatus ctx s nm true (ctx.H c) (some (.file c))).cm = true :=
  (fileStatus_cm_match ..).2 (And.intro (hasSum_H g _) rfl)

end status

/-- The committed artifact `a'`, the original subtree `n`, the node `t'` the commit left and the
cache `s`: the checksum is `treeDigest` of the tracked part of `n`, the node is what a commit of `n`
with some strategy leaves (`artAfter`), and unless `a'` is a `skip-cache` file artifact the cache holds
the tracked part (`Lemmas/Holds.lean`). -/
def Held (cfg : Cfg κ) (a' : Art) (n t' : Node κ) (s : Store κ) : Prop :=
  a'.sum = treeDigest cfg.ctx a'.path (trackedOf a' n) ∧ (∃ σ, t' = artAfter cfg.ctx σ a' n) ∧
    (a'.isDir = true ∨ a'.skip = false → HoldsNode cfg.ctx s newChoice a'.path (trackedOf a' n))

theorem Held.mono {cfg : Cfg κ} {a' : Art} {n t' : Node κ} {s s1 : Store κ}
    (h : Held cfg a' n t' s) (hle : Store.le cfg.ctx s s1) : Held cfg a' n t' s1 :=
  ⟨h.1, h.2.1, fun hs => HoldsNode.mono hle _ _ _ (h.2.2 hs)⟩

/-- `commitArt` on an artifact satisfying `ArtPre`: `commitArt_ahead` (`Lemmas/RetryArt.lean`) with
nothing committed yet -/
theorem commitArt_held {cfg : Cfg κ} (g : Good cfg.ctx) (a : Art) (n : Node κ)
    (hpre : ArtPre cfg.ctx cfg.fuel a n) (s : Store κ)
    (hc : Consistent cfg.ctx s) (strat : Strat) {t' : Node κ} {d : Digest} {s' : Store κ}
    (h : commitArt cfg.ctx strat a (some n) s = .ok (t', d, s')) :
    Held cfg { a with sum := d } n t' s' := by
  obtain ⟨s1, hca, _, _, _, hh, _⟩ := commitArt_ahead g a n n hpre.kind hpre.plain hpre.sorted
    hpre.names (fun hd => .inl (hpre.fresh hd).1) s hc (deref_plain _ s n hpre.plain) (fun _ _ => rfl) strat
  rw [hca] at h
  cases h
  exact ⟨rfl, ⟨strat, rfl⟩, hh⟩

section statusOK
variable [DecidableEq κ]

/-- status of the committed artifact on the node `t'` succeeds and reports `ContentsMatch` (and no
"incorrect file type"), in the cache `s` and in every later one -/
def StatusOK (cfg : Cfg κ) (a' : Art) (t' : Node κ) (s : Store κ) : Prop :=
  ∀ s'', Store.le cfg.ctx s s'' →
    ∃ st, statusArt cfg.ctx s'' cfg.fuel a' (some t') = .ok st ∧ st.name = a'.path ∧
      st.cm = true ∧ st.typed = true

theorem statusOK_of_holds {cfg : Cfg κ} (g : Good cfg.ctx) (a : Art) (n : Node κ) (strat1 : Strat)
    (hp : n.plain = true) (hs : n.sorted = true) (hn : NamesOK cfg.ctx n) (hk : n.isDir = a.isDir)
    (hnr : a.isDir = true → a.noRec = false) (hsk : a.isDir = false → a.skip = false)
    (hf : depth n ≤ cfg.fuel) (s : Store κ) (hh : HoldsNode cfg.ctx s newChoice a.path n) :
    StatusOK cfg { a with sum := treeDigest cfg.ctx a.path n } (wsAfter cfg.ctx strat1 n) s := by
  intro s'' hle
  have hu := upToDate_of_holds g s'' strat1 cfg.fuel (ch := newChoice) (nm := a.path)
    ⟨hp, hs, hn, HoldsNode.mono hle n _ _ hh, hf⟩
  rw [digestAs_new] at hu
  cases hd : a.isDir with
  | true =>
    rw [hk, hd] at hu
    obtain ⟨st, hst, hcm, hty⟩ := dirStatus_of_upToDate a.path hu
    refine ⟨{ st with skip := a.skip }, ?_, (dirStatus_name hst : st.name = a.path), hcm, ?_⟩
    · simp only [statusArt, if_true, hnr hd, hst]
    · rw [typed_with_skip]; exact hty
  | false =>
    rw [hk, hd] at hu
    refine ⟨_, statusArt_file _ _ _ rfl _, fileStatus_name _ _ _ _ _ _, ?_,
      fileStatus_typed _ _ _ _ _ _⟩
    rw [hsk hd]
    exact (fileStatus_cm_iff _ _ _ _ _).mpr ⟨_, rfl, UpToDate_file.mp hu⟩

theorem statusOK_skip_file {cfg : Cfg κ} (g : Good cfg.ctx) (a : Art) (c : κ) (hd : a.isDir = false)
    (hsk : a.skip = true) (s : Store κ) :
    StatusOK cfg { a with sum := cfg.ctx.H c } (.file c) s := by
  intro s'' _
  refine ⟨fileStatus cfg.ctx s'' a.path a.skip (cfg.ctx.H c) (some (.file c)), ?_,
    fileStatus_name _ _ _ _ _ _, ?_, fileStatus_typed _ _ _ _ _ _⟩
  · simp only [statusArt, hd, Bool.false_eq_true, if_false]
  · rw [hsk]; exact fileStatus_skip_file g _ _ _

end statusOK

/-- a `skip-cache` file artifact whose contents match (`FileMatch`, `Lemmas/Store.lean`: the regular file
with the recorded hash, or the link to the recorded object, which the cache has) is left alone -/
theorem commitArt_inputOK {ctx : Ctx κ} {b' : Art} {nd : Node κ} {s : Store κ}
    (hsk : b'.skip = true) (hd : b'.isDir = false) (h : FileMatch ctx s true b'.sum (some nd))
    (strat : Strat) : commitArt ctx strat b' (some nd) s = .ok (nd, b'.sum, s) := by
  rw [commitArt_file ctx strat hd, hsk]
  rcases nd with c | es | ⟨d | b⟩ | _
  · obtain ⟨_, hc⟩ : hasSum b'.sum = true ∧ ctx.H c = b'.sum := h
    rw [commitFile_file, if_pos rfl, hc]
  · exact h.elim
  · obtain ⟨hh, hhas, rfl⟩ : hasSum b'.sum = true ∧ s.has b'.sum = true ∧ d = b'.sum := h
    simp [commitFile_link_obj, hh, hhas]
  · exact h.elim
  · exact h.elim

theorem commitAct_rec {cfg : Cfg κ} (g : Good cfg.ctx) {strat : Strat} {sp : Bytes} {w w' : World κ}
    {stg : Stage} (hs : alookup w.idx sp = some stg) (hc : Consistent cfg.ctx w.store)
    (hfiles : ∀ b, b ∈ stg.inputs → (findOwner cfg.walkAccumulates w.idx b.path).isNone = true →
      b.isDir = false)
    (h : commitAct cfg strat sp w = .ok w') :
    ∃ S, alookup w'.idx sp = some S ∧ S.sum = S.defSum cfg ∧
      ∀ b', b' ∈ S.inputs → (findOwner cfg.walkAccumulates w.idx b'.path).isNone = true →
        b'.skip = true ∧ b'.isDir = false ∧
        ∃ nd, getPath w.ws (Path.comps b'.path) = some nd ∧
          FileMatch cfg.ctx w.store true b'.sum (some nd) := by
  obtain ⟨pl, outs, w2, h2, rfl, hins⟩ := commitAct_inputs cfg g strat hs hc
    (fun b hb hn => hfiles b hb (by rw [hn]; rfl)) h
  obtain ⟨i2, _, _⟩ := commitArts_frame cfg strat _ _ w w2 h2
  refine ⟨newStage cfg stg (sortArts (ownedIn cfg w.idx stg ++ pl)) outs, ?_, newStage_sum _ _ _ _,
    fun b' hb' hun => ?_⟩
  · show alookup (setStage w2.idx sp _) sp = some _
    rw [i2]
    exact alookup_setStage_self _ _ hs
  · obtain ⟨b, hb, hp, hd, hplain, -⟩ := hins b' hb'
    obtain ⟨hsk, hm⟩ := hplain (Option.isNone_iff_eq_none.1 hun)
    refine ⟨hsk, hd.trans (hfiles b hb (hp ▸ hun)), ?_⟩
    rw [ArtMatch, hsk] at hm
    cases hn : getPath w.ws (Path.comps b'.path) with
    | none => rw [hn] at hm; exact hm.elim
    | some nd => exact ⟨nd, rfl, hn ▸ hm⟩

theorem stageSim_of_alookup {idx idx0 : Index} (h : SameShape idx idx0) {sp : Bytes} {S stg : Stage}
    (h1 : alookup idx sp = some S) (h0 : alookup idx0 sp = some stg) : StageSim S stg := by
  rcases alookup_sim h sp with ⟨hn, _⟩ | ⟨s1, s0, e1, e0, hs10⟩
  · rw [h1] at hn; cases hn
  · rw [h1] at e1; rw [h0] at e0
    cases e1; cases e0
    exact hs10

/-- the inputs (of the stages in scope) that no stage owns are file artifacts -/
def PlainInputsFiles (cfg : Cfg κ) (Sc : Bytes → Prop) (w0 : World κ) : Prop :=
  ∀ sp stg, Sc sp → alookup w0.idx sp = some stg → ∀ b, b ∈ stg.inputs →
    (findOwner cfg.walkAccumulates w0.idx b.path).isNone = true → b.isDir = false

/-- the path `p` overlaps no output of a stage in scope -/
def ApartFromOutputs (Sc : Bytes → Prop) (w0 : World κ) (p : Bytes) : Prop :=
  ∀ sp stg, Sc sp → alookup w0.idx sp = some stg → ∀ a, a ∈ stg.outputs →
    Apart (Path.comps a.path) (Path.comps p)

/-- every input (of a stage in scope) that no stage owns lies apart from every output in scope -/
def PlainInputsApartAll (cfg : Cfg κ) (Sc : Bytes → Prop) (w0 : World κ) : Prop :=
  ∀ sp stg, Sc sp → alookup w0.idx sp = some stg → ∀ b, b ∈ stg.inputs →
    (findOwner cfg.walkAccumulates w0.idx b.path).isNone = true → ApartFromOutputs Sc w0 b.path

/-- `CommitInv` plus, for every stage that is done: `Held` of the node found at each output; the
recorded stage has a matching definition checksum, and its un-owned inputs are skip-cache file
artifacts whose contents, when their path overlaps no output in scope, match (`FileMatch`) -/
structure CommitInvRec (cfg : Cfg κ) (Sc : Bytes → Prop) (w0 w : World κ) : Prop where
  base : CommitInv cfg Sc w0 w
  outs : ∀ sp stg, Sc sp → w.done.contains sp = true → alookup w0.idx sp = some stg →
    ∀ a, a ∈ stg.outputs → ∃ t', getPath w.ws (Path.comps a.path) = some t' ∧
      Held cfg (committedArt cfg.ctx w0.ws a) (origAt w0.ws a) t' w.store
  recd : ∀ sp S, Sc sp → w.done.contains sp = true → alookup w.idx sp = some S →
    S.sum = S.defSum cfg ∧
    ∀ b', b' ∈ S.inputs → (findOwner cfg.walkAccumulates w0.idx b'.path).isNone = true →
      b'.skip = true ∧ b'.isDir = false ∧
      (ApartFromOutputs Sc w0 b'.path →
        ∃ nd, getPath w.ws (Path.comps b'.path) = some nd ∧
          FileMatch cfg.ctx w.store true b'.sum (some nd))

theorem CommitInvRec.init (cfg : Cfg κ) (Sc : Bytes → Prop) (w0 : World κ)
    (hc : Consistent cfg.ctx w0.store) : CommitInvRec cfg Sc w0 (fresh w0) where
  base := CommitInv.init cfg Sc w0 hc
  outs := fun sp _ _ h => by simp [fresh] at h
  recd := fun sp _ _ h => by simp [fresh] at h

theorem commitInvRec_step {cfg : Cfg κ} (g : Good cfg.ctx) (strat : Strat) (Sc : Bytes → Prop)
    (w0 : World κ) (hok : PipelineOK cfg Sc w0) (hfiles : PlainInputsFiles cfg Sc w0)
    (sp : Bytes) (w w1 : World κ) (hsc : Sc sp)
    (hsh : SameShape w.idx w0.idx) (hinv : CommitInvRec cfg Sc w0 w)
    (hnd : w.done.contains sp = false) (h : commitAct cfg strat sp w = .ok w1) :
    CommitInvRec cfg Sc w0 w1 := by
  -- the fact `P` about each output is `Held` (w.r.t. `w0`)
  obtain ⟨hbase, stg, hs0, lg, hst⟩ := commitInv_stepP cfg g strat
    (fun a t' s => Held cfg (committedArt cfg.ctx w0.ws a) (origAt w0.ws a) t' s)
    (fun hP hle => hP.mono hle) Sc w0 hok sp w w1 hsc hsh hinv.base hnd
    (fun stg hs0 a ha n hn s hcs t' s' hca => by
      obtain ⟨n', hn', hp⟩ := hok.pre sp stg hsc hs0 a ha
      cases hn'.symm.trans hn
      rw [origAt_of_getPath hn]
      exact commitArt_held g a n hp s hcs strat hca) h
  have hs : alookup w.idx sp = some stg := (hinv.base.pending_idx sp hnd).trans hs0
  obtain ⟨S, hS, hsum, hins⟩ := commitAct_rec g hs hinv.base.cons (fun b hb hn =>
    hfiles sp stg hsc hs0 b hb (by rw [← findOwner_isNone_sim _ hsh]; exact hn)) h
  -- the un-owned inputs are files: every path apart from the outputs of `sp` is left alone
  have frame : ∀ q, (∀ a, a ∈ stg.outputs → Apart (Path.comps a.path) q) →
      getPath w1.ws q = getPath w.ws q :=
    fun q hq => hst.frame q hq (fun b hb hn => .inl (hfiles sp stg hsc hs0 b hb hn))
  refine ⟨hbase, fun x stgx hscx hx hsx a ha => ?_, fun x Sx hscx hx hSx => ?_⟩
  · rcases hst.was_done hx with rfl | ⟨hxs, hx'⟩
    · cases hs0.symm.trans hsx
      exact lg a ha
    · obtain ⟨t', gt, pt⟩ := hinv.outs x stgx hscx hx' hsx a ha
      exact ⟨t', (hst.outputs (Re.PipelineOKRe.of_pipelineOK hok) hsc hs0 hscx hxs hsx ha).trans gt,
        pt.mono hst.le⟩
  · rcases hst.was_done hx with rfl | ⟨hxs, hx'⟩
    · cases hS.symm.trans hSx
      refine ⟨hsum, fun b' hb' hun => ?_⟩
      obtain ⟨x1, x2, nd, gnd, iok⟩ := hins b' hb' (by rw [findOwner_isNone_sim _ hsh]; exact hun)
      exact ⟨x1, x2, fun hapo => ⟨nd, (frame _ (hapo x stg hsc hs0)).trans gnd, FileMatch.mono hst.le iok⟩⟩
    · rw [hst.idx x hxs] at hSx
      obtain ⟨e1, e2⟩ := hinv.recd x Sx hscx hx' hSx
      refine ⟨e1, fun b' hb' hun => ?_⟩
      obtain ⟨y1, y2, y3⟩ := e2 b' hb' hun
      refine ⟨y1, y2, fun hapo => ?_⟩
      obtain ⟨nd, gnd, iok⟩ := y3 hapo
      exact ⟨nd, (frame _ (hapo sp stg hsc hs0)).trans gnd, FileMatch.mono hst.le iok⟩

theorem cmdCommit_invRec {cfg : Cfg κ} (g : Good cfg.ctx) (strat : Strat) (targets : List Bytes)
    (w0 w' : World κ) (hc : Consistent cfg.ctx w0.store)
    (hok : PipelineOK cfg (InScope cfg w0 targets) w0)
    (hfiles : PlainInputsFiles cfg (InScope cfg w0 targets) w0)
    (h : cmdCommit cfg strat targets w0 = .ok w') :
    CommitInvRec cfg (InScope cfg w0 targets) w0 w' :=
  cmdCommit_preserves hok.keys _ (CommitInvRec.init cfg _ w0 hc)
    (fun sp v v1 hsc hi hq hnd _ hs => commitInvRec_step g strat _ w0 hok hfiles sp v v1 hsc hi hq hnd hs) h

theorem cmdCommit_scope_done {cfg : Cfg κ} {strat : Strat} {targets : List Bytes} {w0 w' : World κ}
    (hk : (w0.idx.map (·.1)).Nodup) (h : cmdCommit cfg strat targets w0 = .ok w') :
    SameShape w'.idx w0.idx ∧ ∀ sp, InScope cfg w0 targets sp → w'.done.contains sp = true :=
  ⟨(cmdCommit_scope hk h).1, fun _ hsp => (cmdCommit_stage hk h hsp).1⟩

section instances
variable [DecidableEq κ]

omit [DecidableEq κ] in
theorem dropSubdirs_cons_dir {nm : Name} {n : Node κ} (r : List (Name × Node κ)) (h : n.isDir = true) :
    dropSubdirs ((nm, n) :: r) = dropSubdirs r := by simp [dropSubdirs, h]

omit [DecidableEq κ] in
theorem dropSubdirs_cons_file {nm : Name} {n : Node κ} (r : List (Name × Node κ)) (h : n.isDir = false) :
    dropSubdirs ((nm, n) :: r) = (nm, n) :: dropSubdirs r := by simp [dropSubdirs, h]

/-- `dirArtifactStatus` with `DisableRecursion`: the manifest entries are up to date and every
listing entry that is not a directory is named by the manifest -/
theorem dirStatus_noRec {ctx : Ctx κ} {s : Store κ} {fuel : Nat} (nm : Bytes) {sum : Digest}
    {es' : List (Name × Node κ)} {cs : List Child} (hh : hasSum sum = true) (hhas : s.has sum = true)
    (hread : readManifest ctx s sum = .ok cs) (hall : ∀ k ∈ cs, ChildOK ctx s fuel es' k)
    (hun : ∀ e ∈ es', e.2.isDir = false → (findChild cs e.1).isSome = true) :
    ∃ st, dirStatus ctx s (fuel + 1) nm true sum (some (.dir es')) = .ok st ∧ st.cm = true ∧
      st.typed = true :=
  dirStatus_dir_of nm true hh hhas hread hall fun e he hd => hun e he (hd rfl)

omit [DecidableEq κ] in
theorem noRec_children_upToDate {ctx : Ctx κ} (g : Good ctx) (s : Store κ) (strat : Strat)
    (es : List (Name × Node κ)) (fuel : Nat) : plainList es = true → sortedList es = true →
      NamesOKList ctx es → HoldsList ctx s newChoice (dropSubdirs es) →
      depthList (dropSubdirs es) ≤ fuel →
      (∀ k ∈ childrenOf ctx (dropSubdirs es), ChildOK ctx s fuel (wsAfterSk ctx strat true es) k) ∧
      (∀ e ∈ wsAfterSk ctx strat true es, e.2.isDir = false →
        (findChild (childrenOf ctx (dropSubdirs es)) e.1).isSome = true) := by
  induction es with
  | nil => intros; simp [dropSubdirs, childrenOf, wsAfterSk]
  | cons e r ih =>
    obtain ⟨nm, n⟩ := e
    intro hp hs hn h hf
    have hne : ∀ k ∈ childrenOf ctx (dropSubdirs r), nm ≠ k.name := by
      intro k hk
      obtain ⟨e, he, hen⟩ := mem_childrenOf_name ctx _ k hk
      exact hen ▸ sortedList_head_ne hs e (List.mem_filter.1 he).1
    by_cases hdir : n.isDir = true
    · rw [dropSubdirs_cons_dir r hdir] at h hf ⊢
      obtain ⟨ih1, ih2⟩ := ih (plainList_cons hp).2 (sortedList_cons hs).2 (namesOK_tail hn) h hf
      simp only [wsAfterSk, List.map_cons, hdir, Bool.and_self, if_true] at ih1 ih2 ⊢
      constructor
      · intro k hk
        obtain ⟨nk, hnk, hu⟩ := ih1 k hk
        exact ⟨nk, by rw [alookup_cons_ne _ _ (hne k hk)]; exact hnk, hu⟩
      · intro e he hed
        rcases List.mem_cons.1 he with rfl | he
        · rw [hdir] at hed; cases hed
        · exact ih2 e he hed
    · have hdir' : n.isDir = false := by simpa using hdir
      rw [dropSubdirs_cons_file r hdir'] at h hf ⊢
      simp only [HoldsList] at h
      have hdn : depth n ≤ fuel := by simp only [depthList] at hf; omega
      have hdr : depthList (dropSubdirs r) ≤ fuel := by simp only [depthList] at hf; omega
      obtain ⟨ih1, ih2⟩ := ih (plainList_cons hp).2 (sortedList_cons hs).2 (namesOK_tail hn) h.2 hdr
      have hu := upToDate_of_holds g s strat fuel (ch := newChoice) (nm := nm)
        ⟨(plainList_cons hp).1, (sortedList_cons hs).1, namesOK_node hn, h.1, hdn⟩
      rw [digestAs_new, hdir'] at hu
      simp only [wsAfterSk, List.map_cons, hdir', Bool.and_false, Bool.false_eq_true, if_false,
        childrenOf] at ih1 ih2 ⊢
      constructor
      · intro k hk
        rcases List.mem_cons.1 hk with rfl | hk
        · exact ⟨wsAfter ctx strat n, by simp [alookup], hu⟩
        · obtain ⟨nk, hnk, huk⟩ := ih1 k hk
          exact ⟨nk, by rw [alookup_cons_ne _ _ (hne k hk)]; exact hnk, huk⟩
      · intro e he hed
        apply findChild_cons_isSome
        rcases List.mem_cons.1 he with rfl | he
        · exact Or.inl rfl
        · exact Or.inr (ih2 e he hed)

/-- status on what a commit left (`Held`): a `skip-cache` file, a tree the cache holds, or, with
`DisableRecursion`, a listing whose tracked part the cache holds -/
theorem Held.statusOK {cfg : Cfg κ} (g : Good cfg.ctx) {a : Art} {n t' : Node κ} {d : Digest}
    {s : Store κ} (hpre : ArtPre cfg.ctx cfg.fuel a n)
    (h : Held cfg { a with sum := d } n t' s) : StatusOK cfg { a with sum := d } t' s := by
  obtain ⟨hk, hp, hs, hn, hfr, hfu⟩ := hpre
  obtain ⟨hd, ⟨σ, rfl⟩, hh⟩ := h
  replace hd : d = treeDigest cfg.ctx a.path (trackedOf a n) := hd
  replace hh : a.isDir = true ∨ a.skip = false →
    HoldsNode cfg.ctx s newChoice a.path (trackedOf a n) := hh
  subst hd
  show StatusOK cfg _ (artAfter cfg.ctx σ a n) s
  by_cases hrec : Recursive a
  · rw [hrec.tracked_eq hk] at hh hfu ⊢
    rcases Bool.eq_false_or_eq_true a.skip with hsk | hsk
    · have hdir : a.isDir = false := by
        cases hdir : a.isDir with
        | false => rfl
        | true => rw [(hfr hdir).2] at hsk; cases hsk
      rw [artAfter_skip cfg.ctx σ hk hdir hsk]
      cases n with
      | file c => exact statusOK_skip_file g a c hdir hsk s
      | dir _ => rw [hdir] at hk; cases hk
      | link _ => simp [Node.plain] at hp
      | other => simp [Node.plain] at hp
    · rw [artAfter_eq_wsAfter cfg.ctx σ hk hrec (fun _ => hsk)]
      exact statusOK_of_holds g a n σ hp hs hn hk hrec (fun _ => hsk) hfu s (hh (.inr hsk))
  · have hd : a.isDir = true ∧ a.noRec = true := by
      unfold Recursive at hrec
      cases h1 : a.isDir <;> cases h2 : a.noRec <;> simp_all
    cases n with
    | file _ => rw [hd.1] at hk; cases hk
    | link _ => rw [hd.1] at hk; cases hk
    | other => rw [hd.1] at hk; cases hk
    | dir es =>
      have hpl : plainList es = true := by simpa [Node.plain] using hp
      have hsl : sortedList es = true := by simpa [Node.sorted] using hs
      have hnT : NamesOKList cfg.ctx (dropSubdirs es) := fun x hx =>
        namesOK_dir hn x (mem_allNamesList_filter _ es x hx)
      simp only [trackedOf, hd.2, if_true, artAfter] at hh hfu ⊢
      intro s'' hle
      have hh' := HoldsNode.mono hle _ _ _ (hh (.inl hd.1))
      obtain ⟨hhas, hread⟩ := readManifest_holds g (sortedList_filter _ es hsl) hnT hh'
      rw [digestAs_new] at hhas hread
      rw [childrenAs_new] at hread
      obtain ⟨k, hk'⟩ : ∃ k, cfg.fuel = k + 1 := ⟨cfg.fuel - 1, by simp only [depth] at hfu; omega⟩
      have hkd : depthList (dropSubdirs es) ≤ k := by simp only [depth] at hfu; omega
      simp only [HoldsNode] at hh'
      obtain ⟨h1, h2⟩ := noRec_children_upToDate g s'' σ es k hpl hsl (namesOK_dir hn) hh'.2 hkd
      have hhs : hasSum (treeDigest cfg.ctx a.path (Node.dir (dropSubdirs es))) = true := by
        simp only [treeDigest]; exact hasSum_H g _
      obtain ⟨st, hst, hcm, hty⟩ := dirStatus_noRec a.path hhs hhas hread h1 h2
      refine ⟨{ st with skip := a.skip }, ?_, (dirStatus_name hst : st.name = a.path), hcm, ?_⟩
      · simp only [statusArt, hd.1, if_true, hk', hst]
      · rw [typed_with_skip]; exact hty

end instances

/-- an output path is owned (by the first stage that lists it, or an earlier one that owns it) -/
theorem findOwner_isSome_of_output (wa : Bool) (idx : Index) {sp : Bytes} {stg : Stage} {a : Art}
    (h : (sp, stg) ∈ idx) (ha : a ∈ stg.outputs) : (findOwner wa idx a.path).isSome = true := by
  induction idx with
  | nil => cases h
  | cons e r ih =>
    obtain ⟨k, v⟩ := e
    simp only [findOwner]
    cases hf : findArt v.outputs a.path with
    | some b => rfl
    | none =>
      simp only
      cases hg : findDirOwner wa a.path v.outputs with
      | some b => rfl
      | none =>
        simp only
        rcases List.mem_cons.1 h with h | h
        · cases h
          have : (findArt stg.outputs a.path).isSome = true := by
            simp only [findArt, List.find?_isSome]
            exact ⟨a, ha, by simp⟩
          rw [hf] at this
          cases this
        · exact ih h

theorem mem_sortArts_append_right {a : Art} (l1 : List Art) {l2 : List Art}
    (h1 : ∀ b, b ∈ l1 → b.path ≠ a.path) (hp : l2.Pairwise (fun x y => x.path ≠ y.path)) (ha : a ∈ l2) :
    a ∈ sortArts (l1 ++ l2) := by
  induction l1 with
  | nil => exact mem_sortArts_of_mem hp ha
  | cons x xs ih =>
    have ih := ih (fun b hb => h1 b (List.mem_cons_of_mem _ hb))
    show a ∈ insertArt x (sortArts (xs ++ l2))
    exact mem_insertArt_of_mem ih (h1 x List.mem_cons_self)

/-- the two lists are related entry by entry -/
inductive All₂ {α β : Type} (R : α → β → Prop) : List α → List β → Prop
  | nil : All₂ R [] []
  | cons {a : α} {b : β} {l : List α} {m : List β} : R a b → All₂ R l m → All₂ R (a :: l) (b :: m)

theorem All₂.mem_left {α β : Type} {R : α → β → Prop} {l : List α} {m : List β}
    (hlm : All₂ R l m) : ∀ a, a ∈ l → ∃ b, b ∈ m ∧ R a b := by
  induction hlm with
  | nil => intro a h; cases h
  | cons hr _ ih =>
    intro a h
    rcases List.mem_cons.1 h with rfl | h
    · exact ⟨_, List.mem_cons_self, hr⟩
    · obtain ⟨b, hb, hrb⟩ := ih a h
      exact ⟨b, List.mem_cons_of_mem _ hb, hrb⟩

theorem All₂.mem_right {α β : Type} {R : α → β → Prop} {l : List α} {m : List β}
    (hlm : All₂ R l m) : ∀ b, b ∈ m → ∃ a, a ∈ l ∧ R a b := by
  induction hlm with
  | nil => intro b h; cases h
  | cons hr _ ih =>
    intro b h
    rcases List.mem_cons.1 h with rfl | h
    · exact ⟨_, List.mem_cons_self, hr⟩
    · obtain ⟨a, ha, hra⟩ := ih b h
      exact ⟨a, List.mem_cons_of_mem _ ha, hra⟩

section statusStage
variable [DecidableEq κ]

theorem statusArts_ok (cfg : Cfg κ) (w : World κ) (G : Art → Status → Prop) (l : List Art)
    (h : ∀ a, a ∈ l → ∃ st, statusArt cfg.ctx w.store cfg.fuel a (getPath w.ws (Path.comps a.path))
      = .ok st ∧ G a st) :
    ∃ sts, statusArts cfg w l = .ok sts ∧ All₂ G l sts := by
  induction l with
  | nil => exact ⟨[], rfl, .nil⟩
  | cons a r ih =>
    obtain ⟨st, hst, hg⟩ := h a List.mem_cons_self
    obtain ⟨sts, hsts, hf⟩ := ih (fun b hb => h b (List.mem_cons_of_mem _ hb))
    exact ⟨st :: sts, by simp only [statusArts, hst, hsts], .cons hg hf⟩

/-- the artifacts `statusAct` reports on -/
def artsOf (cfg : Cfg κ) (idx : Index) (S : Stage) : List Art :=
  sortArts (S.inputs.filter (fun a => (findOwner cfg.walkAccumulates idx a.path).isNone) ++ S.outputs)

theorem statusAct_ok (cfg : Cfg κ) (g : Good cfg.ctx) (G : Art → Status → Prop) (sp : Bytes)
    (u : World κ) (S : Stage) (hS : alookup u.idx sp = some S) (hsum : S.sum = S.defSum cfg)
    (h : ∀ a, a ∈ artsOf cfg u.idx S →
      ∃ st, statusArt cfg.ctx u.store cfg.fuel a (getPath u.ws (Path.comps a.path)) = .ok st ∧ G a st) :
    ∃ sts, statusAct cfg sp u
        = .ok { u with stat := u.stat ++ [(sp, true, true, sts)], done := sp :: u.done } ∧
      All₂ G (artsOf cfg u.idx S) sts := by
  obtain ⟨sts, hsts, hf⟩ := statusArts_ok cfg u G _ h
  refine ⟨sts, ?_, hf⟩
  have hne : S.sum.isEmpty = false := by
    rw [String.isEmpty_eq_false_iff]
    intro he
    have := hasSum_H g (cfg.ofBytes S.defBytes)
    have hs : S.sum = cfg.ctx.H (cfg.ofBytes S.defBytes) := hsum
    rw [← hs, he, hasSum_empty] at this
    cases this
  have hmatch : (S.defSum cfg == S.sum) = true := by rw [← hsum]; simp
  unfold artsOf at hsts
  simp only [statusAct, World.stage_eq_ok.2 hS, hsts, hne, hmatch, Bool.not_false, Bool.and_self]

end statusStage

section statusCmd
variable [DecidableEq κ]

/-- what a status entry says about the artifact `a` of the committed stage `S` -/
def GoodSt (Sc : Bytes → Prop) (w0 : World κ) (S : Stage) (a : Art) (st : Status) : Prop :=
  st.name = a.path ∧ st.typed = true ∧
    ((a ∈ S.outputs ∨ ApartFromOutputs Sc w0 a.path) → st.cm = true)

/-- invariant of the status traversal in the committed world `w'` -/
structure StatusInv (cfg : Cfg κ) (Sc : Bytes → Prop) (w0 w' u : World κ) : Prop where
  ws : u.ws = w'.ws
  store : u.store = w'.store
  remote : u.remote = w'.remote
  fin : ∀ sp, Sc sp → u.done.contains sp = true → ∃ S sts, alookup w'.idx sp = some S ∧
    (sp, true, true, sts) ∈ u.stat ∧ All₂ (GoodSt Sc w0 S) (artsOf cfg w'.idx S) sts

theorem statusInv_step (cfg : Cfg κ) (g : Good cfg.ctx) (Sc : Bytes → Prop) (w0 w' : World κ)
    (hok : PipelineOK cfg Sc w0) (hsh : SameShape w'.idx w0.idx) (hci : CommitInvRec cfg Sc w0 w')
    (hall : ∀ sp, Sc sp → w'.done.contains sp = true) (sp : Bytes) (u : World κ) (hsc : Sc sp)
    (hidx : u.idx = w'.idx) (hinv : StatusInv cfg Sc w0 w' u) :
    ∃ u1, statusAct cfg sp u = .ok u1 ∧ StatusInv cfg Sc w0 w' u1 := by
  obtain ⟨stg, S, e0, e1, e2, _⟩ := hci.base.finished sp hsc (hall sp hsc)
  obtain ⟨hsum, hins⟩ := hci.recd sp S hsc (hall sp hsc) e1
  have houts := hci.outs sp stg hsc (hall sp hsc) e0
  have hS : alookup u.idx sp = some S := by rw [hidx]; exact e1
  obtain ⟨sts, hact, hf⟩ := statusAct_ok cfg g (GoodSt Sc w0 S) sp u S hS hsum (by
    intro x hx
    by_cases ho : x ∈ S.outputs
    · rw [e2] at ho
      obtain ⟨a, ha, rfl⟩ := List.mem_map.1 ho
      obtain ⟨t', gt, pt⟩ := houts a (mem_of_mem_sortArts ha)
      obtain ⟨n, hn, hpre⟩ := hok.pre sp stg hsc e0 a (mem_of_mem_sortArts ha)
      rw [origAt_of_getPath hn] at pt
      obtain ⟨st, hst, hname, hcm, hty⟩ := Held.statusOK g hpre pt w'.store (Store.le_refl _ _)
      refine ⟨st, ?_, hname, hty, fun _ => hcm⟩
      rw [hinv.store, hinv.ws]
      have : (committedArt cfg.ctx w0.ws a).path = a.path := rfl
      rw [this, gt]
      exact hst
    · have hp : x ∈ S.inputs.filter
          (fun a => (findOwner cfg.walkAccumulates u.idx a.path).isNone) := by
        rcases List.mem_append.1 (mem_of_mem_sortArts hx) with hp | ho'
        · exact hp
        · exact absurd ho' ho
      obtain ⟨hxin, hun⟩ := List.mem_filter.1 hp
      have hun0 : (findOwner cfg.walkAccumulates w0.idx x.path).isNone = true := by
        rw [← findOwner_isNone_sim _ hsh, ← hidx]; exact hun
      obtain ⟨y1, y2, y3⟩ := hins x hxin hun0
      refine ⟨_, statusArt_file _ _ _ y2 _, fileStatus_name _ _ _ _ _ _,
        fileStatus_typed _ _ _ _ _ _, ?_⟩
      intro hc
      rcases hc with hc | hc
      · exact absurd hc ho
      · obtain ⟨nd, gnd, iok⟩ := y3 hc
        rw [hinv.ws, gnd, hinv.store, y1]
        exact (fileStatus_cm_match ..).2 iok)
  refine ⟨_, hact, hinv.ws, hinv.store, hinv.remote, ?_⟩
  intro x hscx hx
  by_cases hxs : x = sp
  · subst hxs
    refine ⟨S, sts, e1, ?_, ?_⟩
    · show (x, true, true, sts) ∈ u.stat ++ [(x, true, true, sts)]
      simp
    · rw [← hidx]; exact hf
  · have hx' : u.done.contains x = true := by
      have : (sp :: u.done).contains x = true := hx
      rw [List.contains_cons] at this
      have hne : (x == sp) = false := by simpa using hxs
      simpa [hne] using this
    obtain ⟨S', sts', a1, a2, a3⟩ := hinv.fin x hscx hx'
    exact ⟨S', sts', a1, List.mem_append_left _ a2, a3⟩

end statusCmd

end Dud.WStat
