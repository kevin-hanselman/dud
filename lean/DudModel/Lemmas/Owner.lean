import DudModel.Props.C10path
import DudModel.Lemmas.OwnerWalk
/-!
# Lemmas for C10: the owner walk, overlap checks

Go's path functions on clean relative paths are the first part of C10 (`Props/C10path.lean`).
On such a path the accumulating walk looks up the proper prefixes of the directory (`walkDirs_take`,
`findDirOwner_eq`), which makes it sound and complete for `Inside` (`findDirOwner_eq_none_iff`).
`Validate`, `AddStage` and `index.FromFile` are first unfolded for either value of the regenerated
facts (the `_unfold` lemmas) and then characterised by `Overlaps` for the intended values
(`addStage_ok_iff`, `loadIndex_acc`); `cleanRel_of_validate` derives `CleanRel` from
`filepath.Clean` and a successful `Validate`.
-/
namespace Dud
open Path

theorem goodCompB_iff (c : Bytes) : goodCompB c = true ↔ GoodComp c := by
  simp [goodCompB, GoodComp, and_assoc]

theorem splitSlash_dot : splitSlash [dot] = [[dot]] := by decide

theorem comps_dot : comps [dot] = [] := by decide

theorem join_step {pre : List Bytes} {part : Bytes} (h : ∀ x ∈ pre ++ [part], GoodComp x) :
    join [intercalate pre, part] = intercalate (pre ++ [part]) := by
  cases pre with
  | nil => simpa [intercalate] using join_empty_cleanRel (h part (by simp))
  | cons a pre => exact join_cleanRel part (by simp) h

theorem join_nil_dot : join [[], [dot]] = [dot] := by decide

theorem cleanRelB_iff (p : Bytes) : cleanRelB p = true ↔ CleanRel p := by
  constructor
  · intro h
    refine ⟨splitSlash p, PathSpec.splitSlash_ne_nil p, ?_, (PathSpec.intercalate_splitSlash p).symm⟩
    intro c hc
    exact (goodCompB_iff c).1 (List.all_eq_true.1 h c hc)
  · rintro ⟨cs, hne, hg, rfl⟩
    rw [cleanRelB, splitSlash_cleanRel hne hg]
    exact List.all_eq_true.2 fun c hc => (goodCompB_iff c).2 (hg c hc)

instance (p : Bytes) : Decidable (CleanRel p) := decidable_of_iff _ (cleanRelB_iff p)

theorem CleanRel.comps {p : Bytes} (h : CleanRel p) :
    Path.comps p ≠ [] ∧ (∀ c ∈ Path.comps p, GoodComp c) ∧ p = intercalate (Path.comps p) := by
  obtain ⟨cs, hne, hg, rfl⟩ := h
  rw [comps_cleanRel hne hg]; exact ⟨hne, hg, rfl⟩

theorem CleanRel.isAbs {p : Bytes} (h : CleanRel p) : Path.isAbs p = false := by
  obtain ⟨cs, hne, hg, rfl⟩ := h
  rw [← PathSpec.relOf_eq_intercalate hne]
  exact PathSpec.isAbs_relOf (PathSpec.Good.relSeg hg)

theorem findArt_of_mem {arts : List Art} {o : Art} (hnd : (arts.map (·.path)).Nodup)
    (h : o ∈ arts) : findArt arts o.path = some o := by
  induction arts with
  | nil => simp at h
  | cons a r ih =>
    rw [List.map_cons, List.nodup_cons] at hnd
    rcases List.mem_cons.1 h with e | e
    · subst e; simp [findArt]
    · have hne : a.path ≠ o.path := by
        intro e'; exact hnd.1 (e' ▸ List.mem_map_of_mem (f := (·.path)) e)
      have ih := ih hnd.2 e
      simp only [findArt] at ih ⊢
      rw [List.find?_cons_of_neg (by simpa using hne)]; exact ih

/-! ## the ancestor walk (accumulating variant) -/

/-- the directories the accumulating walk looks up are the prefixes of the directory -/
theorem walkDirs_take {full : List Bytes} (hg : ∀ x ∈ full, GoodComp x) : ∀ (rest pre : List Bytes),
    full = pre ++ rest → walkDirs true (intercalate pre) rest =
      (List.range' (pre.length + 1) rest.length).map fun k => intercalate (full.take k)
  | [], _, _ => rfl
  | part :: r, pre, hf => by
    have hf' : full = (pre ++ [part]) ++ r := by simp [hf]
    have hg' : ∀ x ∈ pre ++ [part], GoodComp x := fun x hx => hg x (hf' ▸ List.mem_append_left _ hx)
    have ht : full.take (pre.length + 1) = pre ++ [part] := hf' ▸ List.take_left' (by simp)
    rw [walkDirs, if_pos rfl, if_pos rfl, join_step hg', walkDirs_take hg r _ hf', List.length_cons,
      List.range'_succ, List.map_cons, List.length_append, List.length_singleton, ht]

theorem Inside.congr_left {x y d : Art} (h : x.path = y.path) : Inside x d ↔ Inside y d := by
  simp [Inside, h]

theorem Inside.irrefl_path {x d : Art} (h : Inside x d) : x.path ≠ d.path := by
  intro e
  have := h.1
  rw [e] at this
  exact Nat.lt_irrefl _ this

theorem Overlaps.symm {a b : Art} (h : Overlaps a b) : Overlaps b a := by
  rcases h with h | h | h
  · exact Or.inl h.symm
  · exact Or.inr (Or.inr h)
  · exact Or.inr (Or.inl h)

theorem Overlaps.refl (a : Art) : Overlaps a a := Or.inl rfl

theorem CleanRel.split {p : Bytes} (h : CleanRel p) :
    ∃ ds c, (∀ x ∈ ds ++ [c], GoodComp x) ∧ p = intercalate (ds ++ [c]) := by
  obtain ⟨cs, hne, hg, rfl⟩ := h
  rcases List.eq_nil_or_concat cs with e | ⟨ds, c, e⟩
  · exact absurd e hne
  · rw [List.concat_eq_append] at e
    subst e
    exact ⟨ds, c, hg, rfl⟩

/-- directly below the root the walk only asks for an entry "." -/
theorem findDirOwner_of_dir_dot {p : Bytes} (arts : List Art) (h : dir p = [dot]) :
    findDirOwner true p arts = findArt arts [dot] := by
  simp only [findDirOwner, h, splitSlash_dot, ownerWalk, if_true, join_nil_dot, beq_self_eq_true,
    Bool.or_true]
  cases findArt arts [dot] <;> rfl

/-- at a prefix of the directory the walk stops at a recursive entry or at the directory itself -/
theorem ownerAt_take {ds : List Bytes} (hg : ∀ x ∈ ds, GoodComp x) {k : Nat} (h0 : 0 < k)
    (hk : k ≤ ds.length) (arts : List Art) :
    ownerAt arts (intercalate ds) (intercalate (ds.take k)) =
      (findArt arts (intercalate (ds.take k))).filter fun o => !o.noRec || k == ds.length := by
  have : (intercalate (ds.take k) == intercalate ds) = (k == ds.length) := by
    rw [Bool.eq_iff_iff, beq_iff_eq, beq_iff_eq]
    constructor
    · intro e
      have := congrArg List.length (intercalate_injective (List.ne_nil_of_length_pos (by simp; omega))
        (List.ne_nil_of_length_pos (by omega)) (fun c hc => hg c (List.mem_of_mem_take hc)) hg e)
      simp at this; omega
    · rintro rfl; rw [List.take_length]
  rw [ownerAt, this]

/-- the walk for a path with at least two components -/
theorem findDirOwner_eq {ds : List Bytes} {c : Bytes} (arts : List Art) (hds : ds ≠ [])
    (hg : ∀ x ∈ ds ++ [c], GoodComp x) :
    findDirOwner true (intercalate (ds ++ [c])) arts = (List.range' 1 ds.length).findSome?
      fun k => ownerAt arts (intercalate ds) (intercalate (ds.take k)) := by
  have hgd : ∀ x ∈ ds, GoodComp x := fun x hx => hg x (List.mem_append_left _ hx)
  simp only [findDirOwner, dir_cleanRel_snoc c hds hg, splitSlash_cleanRel hds hgd,
    ownerWalk_eq_findSome]
  rw [show ([] : Bytes) = intercalate [] from rfl, walkDirs_take hgd ds [] rfl, List.findSome?_map]
  rfl

/-- an entry whose components are the first `k` of those of `x` -/
theorem inside_take {x o : Art} {xs : List Bytes} {k : Nat} (hg : ∀ c ∈ xs, GoodComp c)
    (hx : x.path = intercalate xs) (ho : o.path = intercalate (xs.take k)) (h0 : 0 < k)
    (hk : k < xs.length) : Inside x o ↔ (o.noRec = false ∨ k + 1 = xs.length) := by
  have hxc : comps x.path = xs := hx ▸ comps_cleanRel (List.ne_nil_of_length_pos (by omega)) hg
  have hoc : comps o.path = xs.take k :=
    ho ▸ comps_cleanRel (List.ne_nil_of_length_pos (by simp; omega))
      fun c hc => hg c (List.mem_of_mem_take hc)
  simp [Inside, hxc, hoc, Nat.min_eq_left (Nat.le_of_lt hk), hk]

theorem findDirOwner_sound_path {p : Bytes} {arts : List Art} {o : Art} (hp : CleanRel p)
    (h : findDirOwner true p arts = some o) : o ∈ arts ∧ ∀ x : Art, x.path = p → Inside x o := by
  obtain ⟨ds, c, hg, rfl⟩ := hp.split
  by_cases hds : ds = []
  · subst hds
    rw [findDirOwner_of_dir_dot arts (dir_cleanRel_single (hg c (by simp)))] at h
    obtain ⟨hm, hpth⟩ := findArt_some h
    have hpc : comps (intercalate [c]) = [c] := comps_cleanRel (by simp) hg
    exact ⟨hm, fun x hx => by simp [Inside, hx, hpth, hpc, comps_dot]⟩
  · rw [findDirOwner_eq arts hds hg] at h
    obtain ⟨k, hk, hk'⟩ := List.exists_of_findSome?_eq_some h
    rw [List.mem_range'_1] at hk
    rw [ownerAt_take (fun x hx => hg x (List.mem_append_left _ hx)) hk.1 (by omega)] at hk'
    obtain ⟨hf, hst⟩ := Option.filter_eq_some_iff.1 hk'
    obtain ⟨hm, hpth⟩ := findArt_some hf
    refine ⟨hm, fun x hx => (inside_take hg hx ?_ hk.1 (by simp; omega)).2 (by simpa using hst)⟩
    rw [hpth, List.take_append_of_le_length (by omega)]

theorem findDirOwner_complete_path {p : Bytes} {arts : List Art} (hp : CleanRel p)
    (hnd : (arts.map (·.path)).Nodup)
    (h : ∃ o ∈ arts, CleanRel o.path ∧ ∀ x : Art, x.path = p → Inside x o) :
    (findDirOwner true p arts).isSome = true := by
  obtain ⟨o, hm, hoc, hin⟩ := h
  have hin := hin { path := p } rfl
  obtain ⟨ds, c, hg, rfl⟩ := hp.split
  obtain ⟨hone, _, hop⟩ := hoc.comps
  simp only [Inside, comps_cleanRel (by simp) hg] at hin
  obtain ⟨hlen, htake, hcnd⟩ := hin
  have hk0 : 0 < (comps o.path).length := List.length_pos_iff.2 hone
  have hk1 : (comps o.path).length ≤ ds.length := by simp at hlen; omega
  rw [List.take_append_of_le_length hk1] at htake
  rw [findDirOwner_eq arts (List.ne_nil_of_length_pos (by omega)) hg, List.findSome?_isSome_iff]
  refine ⟨_, List.mem_range'_1.2 ⟨hk0, by omega⟩, ?_⟩
  rw [ownerAt_take (fun x hx => hg x (List.mem_append_left _ hx)) hk0 hk1, htake, ← hop,
    findArt_of_mem hnd hm]
  simpa using hcnd

theorem findDirOwner_sound_art {x o : Art} {arts : List Art} (hp : CleanRel x.path)
    (h : findDirOwner true x.path arts = some o) : o ∈ arts ∧ Inside x o :=
  ⟨(findDirOwner_sound_path hp h).1, (findDirOwner_sound_path hp h).2 x rfl⟩

theorem findDirOwner_eq_none_iff {x : Art} {arts : List Art} (hp : CleanRel x.path)
    (hnd : (arts.map (·.path)).Nodup) (hcl : ∀ o ∈ arts, CleanRel o.path) :
    findDirOwner true x.path arts = none ↔ ∀ o ∈ arts, ¬ Inside x o := by
  constructor
  · intro h o ho hin
    have := findDirOwner_complete_path hp hnd ⟨o, ho, hcl o ho, fun y hy => (Inside.congr_left hy).2 hin⟩
    rw [h] at this; cases this
  · intro h
    cases hf : findDirOwner true x.path arts with
    | none => rfl
    | some o => exact absurd (findDirOwner_sound_art hp hf).2 (h o (findDirOwner_sound_art hp hf).1)

theorem art_eq_of_path_eq {arts : List Art} {a b : Art} (hnd : (arts.map (·.path)).Nodup)
    (ha : a ∈ arts) (hb : b ∈ arts) (e : a.path = b.path) : a = b := by
  have h1 := findArt_of_mem hnd ha
  have h2 := findArt_of_mem hnd hb
  rw [e, h2] at h1
  exact (Option.some.inj h1).symm

/-- `Stage.Validate` condition by condition, whatever the regenerated fact -/
theorem validate_unfold (wa : Bool) (stg : Stage) (sp : Bytes) :
    stg.validate wa sp = true ↔ SideOK stg sp ∧
      (∀ a ∈ stg.outputs, findArt stg.inputs a.path = none) ∧
      ∀ a ∈ stg.outputs ++ stg.inputs, Path.isAbs a.path = false ∧
        findDirOwner wa a.path (stg.outputs ++ stg.inputs) = none := by
  simp only [Stage.validate, Bool.and_eq_true, List.all_eq_true,
    Bool.and_eq_false_iff, bne_iff_ne, Option.isNone_iff_eq_none, ne_eq, Bool.not_eq_eq_eq_not,
    Bool.not_true, and_assoc, List.isEmpty_eq_false_iff, ← Decidable.not_and_iff_not_or_not]
  exact ⟨fun ⟨h1, h2, h3, h4, h5, h6, h7⟩ => ⟨⟨h1, h2, h3, h4,
      fun a ha => (List.mem_append.1 ha).elim (fun h => (h5 a h).1) (h6 a), fun a ha => (h7 a ha).1⟩,
      fun a ha => (h5 a ha).2, fun a ha => (h7 a ha).2⟩,
    fun ⟨⟨h1, h2, h3, h4, h5, h6⟩, hd, h7⟩ => ⟨h1, h2, h3, h4,
      fun a ha => ⟨h5 a (List.mem_append_left _ ha), hd a ha⟩,
      fun a ha => h5 a (List.mem_append_right _ ha), fun a ha => ⟨h6 a ha, h7 a ha⟩⟩⟩

theorem noOwner_iff_noOverlap {arts : List Art} (hnd : (arts.map (·.path)).Nodup)
    (hcl : ∀ o ∈ arts, CleanRel o.path) :
    (∀ a ∈ arts, findDirOwner true a.path arts = none) ↔
      ∀ a ∈ arts, ∀ b ∈ arts, a ≠ b → ¬ Overlaps a b := by
  constructor
  · intro h a ha b hb hne hov
    rcases hov with e | hin | hin
    · exact hne (art_eq_of_path_eq hnd ha hb e)
    · exact (findDirOwner_eq_none_iff (hcl a ha) hnd hcl).1 (h a ha) b hb hin
    · exact (findDirOwner_eq_none_iff (hcl b hb) hnd hcl).1 (h b hb) a ha hin
  · intro h a ha
    rw [findDirOwner_eq_none_iff (hcl a ha) hnd hcl]
    intro o ho hin
    have hne : a ≠ o := fun e => hin.irrefl_path (e ▸ rfl)
    exact h a ha o ho hne (Or.inr (Or.inl hin))

theorem StageWF.nodup_all {stg : Stage} (hwf : StageWF stg)
    (hdisj : ∀ a ∈ stg.outputs, ∀ b ∈ stg.inputs, a.path ≠ b.path) :
    ((stg.outputs ++ stg.inputs).map (·.path)).Nodup := by
  rw [List.map_append, List.nodup_append]
  refine ⟨hwf.nodupOut, hwf.nodupIn, ?_⟩
  intro p hp q hq e
  obtain ⟨a, ha, rfl⟩ := List.mem_map.1 hp
  obtain ⟨b, hb, rfl⟩ := List.mem_map.1 hq
  exact hdisj a ha b hb e

/-- `Index.findOwner` finds nothing iff no stage has the path as an output or owns it, whatever the
regenerated fact -/
theorem findOwner_unfold (wa : Bool) (p : Bytes) : ∀ idx : Index,
    findOwner wa idx p = none ↔
      ∀ q ∈ idx, findArt q.2.outputs p = none ∧ findDirOwner wa p q.2.outputs = none
  | [] => by simp [findOwner]
  | (sp, stg) :: r => by
    rw [findOwner, List.forall_mem_cons, ← findOwner_unfold wa p r]
    cases findArt stg.outputs p <;> cases findDirOwner wa p stg.outputs <;> simp

theorem ownsExisting_unfold (wa : Bool) (idx : Index) (nw : Stage) :
    ownsExisting wa idx nw = false ↔ ∀ q ∈ idx, ∀ b ∈ q.2.outputs,
      findArt nw.outputs b.path = none ∧ findDirOwner wa b.path nw.outputs = none := by
  simp [ownsExisting]

/-- what `Index.AddStage` checks, whatever the regenerated facts -/
theorem addStage_unfold {wa rev : Bool} {idx r : Index} {sp : Bytes} {stg : Stage} :
    addStage wa rev idx sp stg = .ok r ↔
      alookup idx sp = none ∧ (∀ a ∈ stg.outputs, findOwner wa idx a.path = none) ∧
      (rev = true → ownsExisting wa idx stg = false) ∧ r = idx ++ [(sp, stg)] := by
  have h : (stg.outputs.any fun a => (findOwner wa idx a.path).isSome) = false ↔
      ∀ a ∈ stg.outputs, findOwner wa idx a.path = none := by simp
  rw [← h, addStage]
  cases alookup idx sp <;> cases stg.outputs.any (fun a => (findOwner wa idx a.path).isSome) <;>
    cases rev <;> cases ownsExisting wa idx stg <;> simp [eq_comm]

/-- the two lookups of `findOwner` and of `ownsExisting` in one map, in terms of the relation -/
theorem notOwned_iff {x : Art} {arts : List Art} (hx : CleanRel x.path)
    (hnd : (arts.map (·.path)).Nodup) (hcl : ∀ o ∈ arts, CleanRel o.path) :
    findArt arts x.path = none ∧ findDirOwner true x.path arts = none ↔
      ∀ b ∈ arts, b.path ≠ x.path ∧ ¬ Inside x b := by
  rw [findArt_eq_none, findDirOwner_eq_none_iff hx hnd hcl]
  exact ⟨fun h b hb => ⟨h.1 b hb, h.2 b hb⟩, fun h => ⟨fun b hb => (h b hb).1, fun b hb => (h b hb).2⟩⟩

theorem findOwner_eq_none_iff {x : Art} (hx : CleanRel x.path) {idx : Index}
    (hidx : ∀ q ∈ idx, OutWF q.2) :
    findOwner true idx x.path = none ↔
      ∀ q ∈ idx, ∀ b ∈ q.2.outputs, b.path ≠ x.path ∧ ¬ Inside x b := by
  rw [findOwner_unfold]
  exact forall₂_congr fun q hq => notOwned_iff hx (hidx q hq).nodup (hidx q hq).clean

theorem ownsExisting_eq_false_iff {idx : Index} {nw : Stage}
    (hidx : ∀ q ∈ idx, ∀ b ∈ q.2.outputs, CleanRel b.path) (hnw : OutWF nw) :
    ownsExisting true idx nw = false ↔
      ∀ q ∈ idx, ∀ b ∈ q.2.outputs, ∀ a ∈ nw.outputs, a.path ≠ b.path ∧ ¬ Inside b a := by
  rw [ownsExisting_unfold]
  exact forall₂_congr fun q hq => forall₂_congr fun b hb =>
    notOwned_iff (hidx q hq b hb) hnw.nodup hnw.clean

theorem addStage_ok_iff {idx : Index} {sp : Bytes} {stg : Stage} {r : Index}
    (hidx : ∀ q ∈ idx, OutWF q.2) (hstg : OutWF stg) :
    addStage true true idx sp stg = .ok r ↔
      alookup idx sp = none ∧
      (∀ a ∈ stg.outputs, ∀ q ∈ idx, ∀ b ∈ q.2.outputs, ¬ Overlaps a b) ∧
      r = idx ++ [(sp, stg)] := by
  have h1 := fun a ha => findOwner_eq_none_iff (hstg.clean a ha) hidx
  have h2 := ownsExisting_eq_false_iff (fun q hq => (hidx q hq).clean) hstg
  rw [addStage_unfold, forall₂_congr h1, h2]
  constructor
  · rintro ⟨hl, ho, hr, e⟩
    refine ⟨hl, fun a ha q hq b hb hov => ?_, e⟩
    rcases hov with e | e | e
    · exact (ho a ha q hq b hb).1 e.symm
    · exact (ho a ha q hq b hb).2 e
    · exact (hr rfl q hq b hb a ha).2 e
  · rintro ⟨hl, hno, e⟩
    exact ⟨hl, fun a ha q hq b hb => ⟨fun e => hno a ha q hq b hb (.inl e.symm),
      fun e => hno a ha q hq b hb (.inr (.inl e))⟩, fun _ q hq b hb a ha =>
      ⟨fun e => hno a ha q hq b hb (.inl e), fun e => hno a ha q hq b hb (.inr (.inr e))⟩, e⟩

theorem NoOverlap.symm {x y : Bytes × Stage} (h : NoOverlap x y) : NoOverlap y x :=
  fun a ha b hb hov => h b hb a ha hov.symm

theorem NoOverlap.comm {x y : Bytes × Stage} : NoOverlap x y ↔ NoOverlap y x :=
  ⟨NoOverlap.symm, NoOverlap.symm⟩

theorem alookup_eq_none_iff {β : Type} {l : List (Bytes × β)} {a : Bytes} :
    alookup l a = none ↔ a ∉ l.map Prod.fst := by
  induction l with
  | nil => simp [alookup]
  | cons q r ih =>
    obtain ⟨k, v⟩ := q
    by_cases h : k = a
    · subst h; simp [alookup]
    · have h' : ¬ a = k := fun e => h e.symm
      simp [alookup, h, h', ih]

/-- one stage of `index.FromFile`, whatever the regenerated facts -/
theorem loadIndex_cons_unfold (wa rev : Bool) {sp : Bytes} {stg : Stage} {r : List (Bytes × Stage)}
    {idx0 idx : Index} :
    loadIndex wa rev ((sp, stg) :: r) idx0 = .ok idx ↔
      stg.validate wa sp = true ∧
      ∃ idx1, addStage wa rev idx0 sp stg = .ok idx1 ∧ loadIndex wa rev r idx1 = .ok idx := by
  rw [loadIndex]
  cases stg.validate wa sp <;> cases addStage wa rev idx0 sp stg <;> simp

/-- … and for the intended behaviour on well-formed stages -/
theorem loadIndex_cons {sp : Bytes} {stg : Stage} {r : List (Bytes × Stage)} {idx0 idx : Index}
    (h0 : ∀ q ∈ idx0, OutWF q.2) (hstg : OutWF stg) :
    loadIndex true true ((sp, stg) :: r) idx0 = .ok idx ↔
      stg.validate true sp = true ∧ sp ∉ idx0.map Prod.fst ∧ (∀ x ∈ idx0, NoOverlap (sp, stg) x) ∧
      loadIndex true true r (idx0 ++ [(sp, stg)]) = .ok idx := by
  rw [loadIndex_cons_unfold, ← alookup_eq_none_iff]
  constructor
  · rintro ⟨hv, idx1, ha, h⟩
    obtain ⟨h1, h2, rfl⟩ := (addStage_ok_iff h0 hstg).1 ha
    exact ⟨hv, h1, fun x hx a ha b hb => h2 a ha x hx b hb, h⟩
  · rintro ⟨hv, h1, h2, h⟩
    exact ⟨hv, _, (addStage_ok_iff h0 hstg).2 ⟨h1, fun a ha q hq b hb => h2 q hq a ha b hb, rfl⟩, h⟩

/-- `index.FromFile` succeeds exactly when every stage validates, stage paths are distinct and
fresh, and no two outputs of different stages overlap; it then returns the stages in file order -/
theorem loadIndex_acc (l : List (Bytes × Stage)) : ∀ (idx0 idx : Index),
    (∀ q ∈ idx0, OutWF q.2) → (∀ q ∈ l, OutWF q.2) →
    (loadIndex true true l idx0 = .ok idx ↔
      idx = idx0 ++ l ∧ (∀ q ∈ l, q.2.validate true q.1 = true) ∧
      (∀ q ∈ l, q.1 ∉ idx0.map Prod.fst) ∧ (l.map Prod.fst).Nodup ∧
      (∀ x ∈ idx0, ∀ y ∈ l, NoOverlap y x) ∧ l.Pairwise NoOverlap) := by
  induction l with
  | nil => intro idx0 idx _ _; simp [loadIndex, eq_comm (a := idx)]
  | cons q r ih =>
    intro idx0 idx h0 hl
    obtain ⟨sp, stg⟩ := q
    have hstg : OutWF stg := hl _ (List.mem_cons_self ..)
    rw [loadIndex_cons h0 hstg, ih _ _ (fun q hq => (List.mem_append.1 hq).elim (h0 q) fun h => List.mem_singleton.1 h ▸ hstg)
      fun q hq => hl q (List.mem_cons_of_mem _ hq)]
    simp only [List.mem_append, List.map_append, List.map_cons, List.map_nil,
      List.nodup_cons, List.pairwise_cons, or_imp, forall_and, forall_eq,
      List.append_assoc, List.singleton_append, List.mem_cons, List.not_mem_nil, or_false, not_or,
      List.mem_map, not_exists, not_and, NoOverlap.comm (x := (sp, stg))]
    -- v/n/o: validates, name, overlap; small = `(sp, stg)`, capital = `r`; one letter: against `idx0`
    constructor
    · rintro ⟨v, n, o, e, V, ⟨N, nN⟩, NN, ⟨O, oO⟩, OO⟩
      exact ⟨e, ⟨v, V⟩, ⟨n, N⟩, ⟨nN, NN⟩, ⟨o, O⟩, oO, OO⟩
    · rintro ⟨e, ⟨v, V⟩, ⟨n, N⟩, ⟨nN, NN⟩, ⟨o, O⟩, oO, OO⟩
      exact ⟨v, n, o, e, V, ⟨N, nN⟩, NN, ⟨O, oO⟩, OO⟩

/-! ## what `filepath.Clean` + the checks of `Validate` guarantee: `CleanRel` -/

theorem cleanRel_of_clean (q : Bytes) (h1 : isAbs (clean q) = false)
    (h2 : containsDotDot (clean q) = false) (h3 : clean q ≠ [dot]) : CleanRel (clean q) := by
  rcases PathSpec.clean_shape q with ⟨g, -, e⟩ | ⟨k, g, hg, e⟩
  · rw [e, PathSpec.isAbs_absOf] at h1; cases h1
  · rw [e] at h2 h3 ⊢
    cases k with
    | succ k =>
      -- a leading ".." component would show as the substring ".."
      have hne : PathSpec.ups (k + 1) ++ g ≠ [] := List.cons_ne_nil _ _
      have := (PathSpec.splitSlash_no_dotdot _).2 h2
      rw [PathSpec.relOf_eq_intercalate hne, PathSpec.splitSlash_intercalate hne
        ((PathSpec.ups_slashFree _).append hg.slashFree)] at this
      exact absurd List.mem_cons_self this
    | zero =>
      have hne : g ≠ [] := by rintro rfl; exact h3 rfl
      exact ⟨g, hne, hg, PathSpec.relOf_eq_intercalate hne⟩

theorem dir_dot : dir [dot] = [dot] := by decide

/-- an artifact whose path is "." is reported as its own owner, so `Validate` rejects it -/
theorem findDirOwner_dot {arts : List Art} {a : Art} (ha : a ∈ arts) (hp : a.path = [dot]) :
    (findDirOwner true [dot] arts).isSome = true := by
  rw [findDirOwner_of_dir_dot arts dir_dot, findArt, List.find?_isSome]
  exact ⟨a, ha, by simpa using hp⟩

theorem cleanRel_of_validate {stg : Stage} {sp : Bytes}
    (hclean : ∀ a ∈ stg.outputs ++ stg.inputs, ∃ q, a.path = Path.clean q)
    (h : stg.validate true sp = true) : ∀ a ∈ stg.outputs ++ stg.inputs, CleanRel a.path := by
  obtain ⟨hs, _, h7⟩ := (validate_unfold true stg sp).1 h
  intro a ha
  obtain ⟨q, hq⟩ := hclean a ha
  obtain ⟨c2, c3⟩ := h7 a ha
  have c1 := hs.noDotDot a ha
  rw [hq] at c1 c2 ⊢
  refine cleanRel_of_clean q c2 c1 ?_
  intro e
  have := findDirOwner_dot ha (hq.trans e)
  rw [hq, e] at c3
  rw [c3] at this; cases this

theorem FromFileShape.wf {stg : Stage} {sp : Bytes} (hs : FromFileShape stg)
    (h : stg.validate true sp = true) : StageWF stg :=
  ⟨fun a ha => cleanRel_of_validate hs.cleaned h a (List.mem_append_left _ ha),
   fun a ha => cleanRel_of_validate hs.cleaned h a (List.mem_append_right _ ha),
   hs.nodupOut, hs.nodupIn⟩

theorem loadIndex_ok_validates (wa rev : Bool) (l : List (Bytes × Stage)) : ∀ (idx0 idx : Index),
    loadIndex wa rev l idx0 = .ok idx → ∀ q ∈ l, q.2.validate wa q.1 = true := by
  induction l with
  | nil => simp
  | cons q r ih =>
    intro idx0 idx h
    obtain ⟨hv, idx1, -, h⟩ := (loadIndex_cons_unfold wa rev).1 h
    exact List.forall_mem_cons.2 ⟨hv, ih idx1 idx h⟩

theorem addStage_ok_eq {wa rev : Bool} {idx r : Index} {sp : Bytes} {stg : Stage}
    (h : addStage wa rev idx sp stg = .ok r) : r = idx ++ [(sp, stg)] :=
  (addStage_unfold.1 h).2.2.2

theorem loadIndex_ok_eq (wa rev : Bool) (l : List (Bytes × Stage)) : ∀ (idx0 idx : Index),
    loadIndex wa rev l idx0 = .ok idx → idx = idx0 ++ l := by
  induction l with
  | nil => intro idx0 idx h; simpa [loadIndex, eq_comm (a := idx)] using h
  | cons q r ih =>
    intro idx0 idx h
    obtain ⟨-, idx1, ha, h⟩ := (loadIndex_cons_unfold wa rev).1 h
    rw [ih _ _ h, addStage_ok_eq ha, List.append_assoc]; rfl

theorem loadIndex_append (wa rev : Bool) (l1 l2 : List (Bytes × Stage)) : ∀ (idx0 : Index),
    loadIndex wa rev (l1 ++ l2) idx0 =
      match loadIndex wa rev l1 idx0 with
      | .error e => .error e
      | .ok idx1 => loadIndex wa rev l2 idx1 := by
  induction l1 with
  | nil => simp [loadIndex]
  | cons q r ih =>
    intro idx0
    obtain ⟨sp, stg⟩ := q
    simp only [List.cons_append, loadIndex]
    split
    · rfl
    · cases addStage wa rev idx0 sp stg with
      | error e => rfl
      | ok idx1 => exact ih idx1

end Dud
