import DudModel.SysCheckout
import DudModel.Lemmas.SysCmdRefine
import DudModel.Lemmas.CheckoutTrace
/-!
# Erasing the trace of the traced `dud checkout` gives the logical command

Level by level (artifact, outputs of a stage, traversal, segmented command), up to `cmdCheckoutSegs_refines`
(`cmdCheckoutT_refines` of `Props/C06cmd.lean` is the flat form).  Then what a SUCCESSFUL traced command is
made of: `cmdCheckoutSegs_induct`, induction over its `LocalCache.Checkout`s.
-/
namespace Dud.Sys
open Dud
variable {κ : Type}

theorem checkoutArtWT_refines (c : CmdCfg κ) (strat : Strat) (a : Art) (w : World κ)
    (hs : a.skip = false) :
    (checkoutArtWT c strat a w).map (·.1) = checkoutArtW c.cfg strat a w := by
  simp only [checkoutArtW_noskip c.cfg strat a w hs, checkoutArtWT]
  -- restated: `(c.tc strat).ctx`, `(c.tc strat).strat` are `c.cfg.ctx`, `strat` only after unfolding `CmdCfg.tc`
  rw [← show _ = checkoutNode c.cfg.ctx strat w.store c.cfg.fuel (getPath w.ws (Path.comps a.path)) a.child from
    checkoutNodeT_refines (c.tc strat) w.store c.cfg.fuel (Path.comps a.path) _ _]
  cases checkoutNodeT (c.tc strat) w.store c.cfg.fuel (Path.comps a.path) (getPath w.ws (Path.comps a.path))
      a.child with
  | error e => rfl
  | ok v => dsimp only [Except.map]; cases setPath w.ws (Path.comps a.path) v.1 <;> rfl

theorem checkoutArtsT_refines (c : CmdCfg κ) (strat : Strat) (as : List Art) : ∀ (w : World κ),
    (checkoutArtsT c strat as w).map (·.1) = checkoutArts c.cfg strat as w := by
  induction as with
  | nil => exact fun _ => rfl
  | cons a r ih =>
    intro w
    simp only [checkoutArtsT, checkoutArts]
    by_cases hs : a.skip = true
    · rw [if_pos hs, checkoutArtW_skip c.cfg strat a w hs]
      exact ih w
    · rw [if_neg hs, ← checkoutArtWT_refines c strat a w (by simpa using hs)]
      cases checkoutArtWT c strat a w with
      | error e => rfl
      | ok v =>
        dsimp only [Except.map]
        rw [← ih v.1]
        cases checkoutArtsT c strat r v.1 <;> rfl

theorem checkoutActT_refines (c : CmdCfg κ) (strat : Strat) (sp : Bytes) (w : World κ) :
    (checkoutActT c strat sp w).map (·.1) = checkoutAct c.cfg strat sp w := by
  unfold checkoutActT checkoutAct
  cases w.stage sp with
  | error e => rfl
  | ok stg =>
    dsimp only
    rw [← checkoutArtsT_refines c strat (sortArts stg.outputs) w]
    cases checkoutArtsT c strat (sortArts stg.outputs) w <;> rfl

theorem checkoutTravT_act_refines (c : CmdCfg κ) (strat : Strat) (sp : Bytes)
    (p : World κ × List (List (Call κ))) :
    ((checkoutTravT c strat).act sp p).map (·.1) = (checkoutTrav c.cfg strat).act sp p.1 := by
  simp only [checkoutTravT, checkoutTrav]
  rw [← checkoutActT_refines c strat sp p.1]
  cases checkoutActT c strat sp p.1 <;> rfl

theorem cmdCheckoutSegs_refines (c : CmdCfg κ) (strat : Strat) (single : Bool) (targets : List Bytes)
    (w : World κ) :
    (cmdCheckoutSegs c strat single targets w).map (·.1) = cmdCheckout c.cfg strat single targets w := by
  unfold cmdCheckoutSegs cmdCheckout
  by_cases hi : w.idx.isEmpty = true
  · rw [if_pos hi, if_pos hi]; rfl
  · rw [if_neg hi, if_neg hi]
    exact perTargetP_lift
      (f' := fun t (p : World κ × List (List (Call κ))) =>
        visit (checkoutTravT c strat) (targets.isEmpty || !single) (p.1.idx.length + 1) (allStages p.1) t p)
      (f := fun t w => visit (checkoutTrav c.cfg strat) (targets.isEmpty || !single) (w.idx.length + 1)
        (allStages w) t w)
      (fun t p => visit_lift (·.1) (checkoutTravT c strat) (checkoutTrav c.cfg strat) (fun _ _ => rfl)
        (fun _ _ => rfl) (checkoutTravT_act_refines c strat) _ _ _ t p)
      _ (fresh w, [])

theorem cmdCheckoutT_of_segs {c : CmdCfg κ} {strat : Strat} {single : Bool} {targets : List Bytes}
    {w w' : World κ} {segs : List (List (Call κ))}
    (h : cmdCheckoutSegs c strat single targets w = .ok (w', segs)) :
    cmdCheckoutT c strat single targets w = .ok (w', coCalls segs) := by
  simp [cmdCheckoutT, h]

theorem cmdCheckoutT_ok_segs {c : CmdCfg κ} {strat : Strat} {single : Bool} {targets : List Bytes}
    {w w' : World κ} {calls : List (Call κ)}
    (h : cmdCheckoutT c strat single targets w = .ok (w', calls)) :
    ∃ segs, cmdCheckoutSegs c strat single targets w = .ok (w', segs) ∧ calls = coCalls segs := by
  unfold cmdCheckoutT at h
  split at h
  · cases h
  · rename_i w1 segs hs
    simp only [Except.ok.injEq, Prod.mk.injEq] at h
    exact ⟨segs, h.1 ▸ hs, h.2.symm⟩

theorem checkoutArtWT_inv {c : CmdCfg κ} {strat : Strat} {a : Art} {w w' : World κ} {calls : List (Call κ)}
    (h : checkoutArtWT c strat a w = .ok (w', calls)) :
    ∃ n l ws', checkoutNodeT (c.tc strat) w.store c.cfg.fuel (Path.comps a.path)
        (getPath w.ws (Path.comps a.path)) a.child = .ok (n, l) ∧
      setPath w.ws (Path.comps a.path) n = some ws' ∧ w' = { w with ws := ws' } ∧
      calls = parentMkdirs w.ws (Path.comps a.path) ++ l := by
  unfold checkoutArtWT at h
  simp only at h
  split at h
  · cases h
  · rename_i n l hT
    split at h
    · cases h
    · rename_i ws' hset
      simp only [Except.ok.injEq, Prod.mk.injEq] at h
      exact ⟨n, l, ws', hT, hset, h.1.symm, h.2.symm⟩

theorem checkoutArtWT_error {c : CmdCfg κ} {strat : Strat} {a : Art} {w : World κ} {e : Err}
    (h : checkoutNodeT (c.tc strat) w.store c.cfg.fuel (Path.comps a.path)
      (getPath w.ws (Path.comps a.path)) a.child = .error e) : checkoutArtWT c strat a w = .error e := by
  unfold checkoutArtWT
  simp only [h]

theorem checkoutArtsT_induct {c : CmdCfg κ} {strat : Strat} {s0 : Store κ}
    {Q : Node κ → List (List (Call κ)) → Prop} (as : List Art) :
    ∀ (w w' : World κ) (segs segs' : List (List (Call κ))),
      (∀ a ∈ as, ∀ w w' seg segs, w.store = s0 → Q w.ws segs → checkoutArtWT c strat a w = .ok (w', seg) →
        Q w'.ws (segs ++ [seg])) →
      w.store = s0 → Q w.ws segs → checkoutArtsT c strat as w = .ok (w', segs') →
      Q w'.ws (segs ++ segs') ∧ w'.store = s0 ∧ w'.idx = w.idx := by
  induction as with
  | nil =>
    intro w w' segs segs' _ hs hq h
    simp only [checkoutArtsT, Except.ok.injEq, Prod.mk.injEq] at h
    obtain ⟨rfl, rfl⟩ := h
    exact ⟨by simpa using hq, hs, rfl⟩
  | cons a r ih =>
    intro w w' segs segs' hart hs hq h
    have hart' := fun b hb => hart b (List.mem_cons_of_mem a hb)
    simp only [checkoutArtsT] at h
    split at h
    · exact ih w w' segs segs' hart' hs hq h
    · split at h
      · cases h
      · rename_i w1 calls1 h1
        split at h
        · cases h
        · rename_i w2 segs2 h2
          simp only [Except.ok.injEq, Prod.mk.injEq] at h
          obtain ⟨rfl, rfl⟩ := h
          obtain ⟨n, l, ws', -, -, hw, -⟩ := checkoutArtWT_inv h1
          obtain ⟨hq2, hs2, hi2⟩ := ih w1 w2 (segs ++ [calls1]) segs2 hart'
            (by rw [hw]; exact hs) (hart a List.mem_cons_self w w1 calls1 segs hs hq h1) h2
          exact ⟨by simpa using hq2, hs2, by rw [hi2, hw]⟩

/-- **Induction over the `LocalCache.Checkout`s of a successful command.**  The command is a sequence of
`checkoutArtWT` steps, each of an output of a stage of the index, on worlds that differ from the first only
in the workspace (and the `done` list): a property of (workspace, segments so far) that every such step
preserves holds at the end, and cache and index are those of the start. -/
theorem cmdCheckoutSegs_induct {c : CmdCfg κ} {strat : Strat} {single : Bool} {targets : List Bytes}
    {w w' : World κ} {segs : List (List (Call κ))} {Q : Node κ → List (List (Call κ)) → Prop}
    (hart : ∀ a, (∃ sp stg, alookup w.idx sp = some stg ∧ a ∈ stg.outputs) → ∀ w1 w2 seg segs,
      w1.store = w.store → Q w1.ws segs → checkoutArtWT c strat a w1 = .ok (w2, seg) → Q w2.ws (segs ++ [seg]))
    (h : cmdCheckoutSegs c strat single targets w = .ok (w', segs)) (h0 : Q w.ws []) :
    Q w'.ws segs ∧ w'.store = w.store ∧ w'.idx = w.idx := by
  unfold cmdCheckoutSegs at h
  split at h
  · cases h
  refine perTargetP_keeps (fun t q q' hq hv => visit_keeps (checkoutTravT c strat) _
      (fun p => Q p.1.ws p.2 ∧ p.1.store = w.store ∧ p.1.idx = w.idx) (fun sp p p' hp ha => ?_)
      _ _ t q q' hq hv)
    _ _ _ ⟨h0, rfl, rfl⟩ h
  simp only [checkoutTravT, checkoutActT] at ha
  split at ha
  · cases ha
  · rename_i wa segsa hact
    split at hact
    · cases hact
    · split at hact
      · cases hact
      · rename_i stg hst _ w1 segs1 h1
        simp only [Except.ok.injEq, Prod.mk.injEq] at hact ha
        obtain ⟨rfl, rfl⟩ := hact
        subst ha
        obtain ⟨hq, hst', hidx⟩ := checkoutArtsT_induct _ _ _ _ _
          (fun a ha => hart a ⟨sp, stg, hp.2.2 ▸ World.stage_eq_ok.1 hst, mem_of_mem_sortArts ha⟩)
          hp.2.1 hp.1 h1
        exact ⟨hq, hst', hidx.trans hp.2.2⟩

end Dud.Sys
