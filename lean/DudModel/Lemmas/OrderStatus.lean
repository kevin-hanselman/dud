import DudModel.Lemmas.Status
/-!
# Status of a directory does not depend on the processing order (helpers for C13)

`childStatuses` / `untrackedStatuses` are maps over the manifest entries / the untracked listing
entries with no shared state: any order gives the same statuses up to order.  `dirStatusS` is
`dirStatus` with an arbitrary processing order in every directory; `StatusPerm` relates statuses
that agree on every field and whose children agree up to order, recursively.  `dirStatusS_perm` and
`dirStatus_listing_perm` (the listing of the directory permuted) are instances of `dirBody_rel`, which is
about `dirBody`: the part of `dirStatus` after the manifest has been read, with the two processing
orders as parameters.
-/
namespace Dud

variable {κ : Type}

section
variable [DecidableEq κ]

/-- **Order independence of `childStatuses`** (manifest entries reordered, listing reordered). -/
theorem childStatuses_perm (ctx : Ctx κ) (s : Store κ)
    (fd : Bytes → Digest → Option (Node κ) → Except Err Status) {es es' : List (Name × Node κ)}
    (hes : ∀ nm, alookup es nm = alookup es' nm) {cs cs' : List Child} (hp : cs.Perm cs') :
    ExRel List.Perm (childStatuses ctx s fd es cs) (childStatuses ctx s fd es' cs') := by
  rw [childStatuses_eq_mapE, childStatuses_eq_mapE]
  have : trackedOne ctx s fd es = trackedOne ctx s fd es' := by
    funext c
    simp only [trackedOne, hes]
  rw [this]
  exact mapE_perm _ hp

/-- **Order independence of `untrackedStatuses`.** -/
theorem untrackedStatuses_perm (ctx : Ctx κ) (s : Store κ)
    (fd : Bytes → Digest → Option (Node κ) → Except Err Status) {es es' : List (Name × Node κ)}
    (hp : es.Perm es') :
    ExRel List.Perm (untrackedStatuses ctx s fd es) (untrackedStatuses ctx s fd es') := by
  rw [untrackedStatuses_eq_mapE, untrackedStatuses_eq_mapE]
  exact mapE_perm _ hp

end

/-- a listing with pairwise distinct names is the same finite map in every order -/
theorem alookup_perm {β : Type} {es es' : List (Name × β)} (hp : es.Perm es')
    (hnd : (es.map (·.1)).Nodup) (nm : Name) : alookup es nm = alookup es' nm := by
  induction hp with
  | nil => rfl
  | cons x _ ih =>
    obtain ⟨k, v⟩ := x
    simp only [List.map_cons, List.nodup_cons] at hnd
    simp only [alookup, ih hnd.2]
  | swap x y l =>
    obtain ⟨k, v⟩ := x
    obtain ⟨k', v'⟩ := y
    simp only [List.map_cons, List.nodup_cons, List.mem_cons, not_or] at hnd
    have hne : k' ≠ k := hnd.1.1
    simp only [alookup]
    by_cases h1 : k' = nm
    · have h2 : k ≠ nm := fun e => hne (h1.trans e.symm)
      simp [h1, h2]
    · simp [h1]
  | trans hp1 _ ih1 ih2 =>
    exact (ih1 hnd).trans (ih2 ((hp1.map _).nodup_iff.1 hnd))

theorem Forall2.eq {α : Type} {l l' : List α} (h : Forall2 (fun a b => a = b) l l') : l = l' := by
  induction h with
  | nil => rfl
  | cons hab _ ih => rw [hab, ih]

/-- agree on every field, children related by `R` up to order -/
def StatusRel (R : Status → Status → Prop) (a b : Status) : Prop :=
  a.name = b.name ∧ a.isDir = b.isDir ∧ a.skip = b.skip ∧ a.ws = b.ws ∧ a.has = b.has ∧
    a.inCache = b.inCache ∧ a.cm = b.cm ∧ PermRel R a.children b.children

/-- agree on every field; children agree up to order, recursively -/
inductive StatusPerm : Status → Status → Prop
  | mk (a b : Status) (mid : List Status) :
      a.name = b.name → a.isDir = b.isDir → a.skip = b.skip → a.ws = b.ws → a.has = b.has →
      a.inCache = b.inCache → a.cm = b.cm → Forall2 StatusPerm a.children mid →
      mid.Perm b.children → StatusPerm a b

theorem StatusPerm.of_rel {a b : Status} (h : StatusRel StatusPerm a b) : StatusPerm a b := by
  obtain ⟨h1, h2, h3, h4, h5, h6, h7, mid, h8, h9⟩ := h
  exact StatusPerm.mk a b mid h1 h2 h3 h4 h5 h6 h7 h8 h9

theorem StatusPerm.rel {a b : Status} (h : StatusPerm a b) : StatusRel StatusPerm a b := by
  cases h with
  | mk _ _ mid h1 h2 h3 h4 h5 h6 h7 h8 h9 => exact ⟨h1, h2, h3, h4, h5, h6, h7, mid, h8, h9⟩

theorem StatusPerm.leaf (a : Status) (h : a.children = []) : StatusPerm a a :=
  StatusPerm.mk a a [] rfl rfl rfl rfl rfl rfl rfl (by rw [h]; exact Forall2.nil)
    (by rw [h])

section
variable [DecidableEq κ]

theorem fileStatus_children (ctx : Ctx κ) (s : Store κ) (nm : Bytes) (skip : Bool) (sum : Digest)
    (cur : Option (Node κ)) : (fileStatus ctx s nm skip sum cur).children = [] := by
  obtain ⟨cm, h⟩ := fileStatus_shape ctx s nm skip sum cur
  rw [h]

/-- the part of `dirStatus` after the manifest has been read, with the processing orders
(`ord1` for the manifest entries, `ord2` for the untracked listing entries) as parameters -/
def dirBody (ctx : Ctx κ) (s : Store κ)
    (fd : Bytes → Digest → Option (Node κ) → Except Err Status)
    (ord1 : List Child → List Child)
    (ord2 : List (Name × Node κ) → List (Name × Node κ))
    (base : Status) (q : Quick) (noRec : Bool) (es : List (Name × Node κ)) (cs : List Child) :
    Except Err Status :=
  match childStatuses ctx s fd es (ord1 cs) with
  | .error e => .error e
  | .ok tracked =>
    let listing := if noRec then es.filter (fun e => !e.2.isDir) else es
    let untracked := listing.filter (fun e => (findChild cs e.1).isNone)
    match untrackedStatuses ctx s fd (ord2 untracked) with
    | .error e => .error e
    | .ok un =>
      .ok { base with cm := q.has && q.inCache && tracked.all (·.cm) && untracked.isEmpty,
                      children := tracked ++ un }

/-- **Order independence of the body of `dirStatus`**, in the general form needed for the
recursion: two processing orders, two listings that are permutations of each other and equal
as finite maps, two functions for the sub-directories whose results are related by `R`. -/
theorem dirBody_rel (ctx : Ctx κ) (s : Store κ) (R : Status → Status → Prop)
    (hR : ∀ a, a.children = [] → R a a) (hcm : ∀ a b, R a b → a.cm = b.cm)
    {fd fd' : Bytes → Digest → Option (Node κ) → Except Err Status}
    (hfd : ∀ nm sm cu, ExRel R (fd nm sm cu) (fd' nm sm cu))
    {ord1 ord1' : List Child → List Child}
    {ord2 ord2' : List (Name × Node κ) → List (Name × Node κ)}
    (base : Status) (q : Quick) (noRec : Bool) {es es' : List (Name × Node κ)}
    (hes : es.Perm es') (hlook : ∀ nm, alookup es nm = alookup es' nm) (cs : List Child)
    (h1 : (ord1 cs).Perm cs) (h1' : (ord1' cs).Perm cs)
    (h2 : (ord2 (untrackedOf noRec es cs)).Perm (untrackedOf noRec es cs))
    (h2' : (ord2' (untrackedOf noRec es' cs)).Perm (untrackedOf noRec es' cs)) :
    ExRel (StatusRel R) (dirBody ctx s fd ord1 ord2 base q noRec es cs)
      (dirBody ctx s fd' ord1' ord2' base q noRec es' cs) := by
  have ht : ExRel (PermRel R) (childStatuses ctx s fd es (ord1 cs))
      (childStatuses ctx s fd' es' (ord1' cs)) := by
    rw [childStatuses_eq_mapE, childStatuses_eq_mapE]
    refine mapE_perm_rel R (h1.trans h1'.symm) (fun c _ => ?_)
    simp only [trackedOne, hlook]
    split
    · exact hfd _ _ _
    · exact hR _ (fileStatus_children ..)
  have hun : (untrackedOf noRec es cs).Perm (untrackedOf noRec es' cs) := by
    refine List.Perm.filter _ ?_
    split
    · exact hes.filter _
    · exact hes
  have hu : ExRel (PermRel R) (untrackedStatuses ctx s fd (ord2 (untrackedOf noRec es cs)))
      (untrackedStatuses ctx s fd' (ord2' (untrackedOf noRec es' cs))) := by
    rw [untrackedStatuses_eq_mapE, untrackedStatuses_eq_mapE]
    refine mapE_perm_rel R ((h2.trans hun).trans h2'.symm) (fun e _ => ?_)
    simp only [untrackedOne]
    split
    · exact hfd _ _ _
    · exact hR _ (fileStatus_children ..)
  unfold dirBody
  unfold untrackedOf at hu hun
  refine ht.cases (fun _ _ => trivial) fun tr tr' ⟨m1, f1, p1⟩ => ?_
  dsimp only
  refine hu.cases (fun _ _ => trivial) fun un un' ⟨m2, f2, p2⟩ => ?_
  have hall : tr.all (·.cm) = tr'.all (·.cm) := (Forall2.all_eq hcm f1).trans p1.all_eq
  refine ⟨rfl, rfl, rfl, rfl, rfl, rfl, ?_, m1 ++ m2, f1.append f2, p1.append p2⟩
  simp only [hall, hun.isEmpty_eq]

/-- `dirStatus` with the manifest entries of every directory processed in the order `σ` chooses
and the untracked listing entries in the order `τ` chooses -/
def dirStatusS (ctx : Ctx κ) (s : Store κ) (σ : Nat → Bytes → List Child → List Child)
    (τ : Nat → Bytes → List (Name × Node κ) → List (Name × Node κ)) :
    Nat → Bytes → Bool → Digest → Option (Node κ) → Except Err Status
  | 0, _, _, _, _ => .error .other
  | fuel+1, name, noRec, sum, cur =>
    let q := quick s sum cur
    let base : Status := { name := name, isDir := true, skip := false, ws := q.ws, has := q.has,
                           inCache := q.inCache, cm := q.cm, children := [] }
    match cur with
    | some (.dir es) =>
      let man : Except Err (List Child) := if q.inCache then readManifest ctx s sum else .ok []
      match man with
      | .error e => .error e
      | .ok cs =>
        dirBody ctx s (fun nm sm cu => dirStatusS ctx s σ τ fuel nm false sm cu)
          (σ fuel name) (τ fuel name) base q noRec es cs
    | _ => .ok base

/-- `dirStatus_dir` with the part after the manifest as `dirBody` in the sequential order -/
theorem dirStatus_dir_body (ctx : Ctx κ) (s : Store κ) (fuel : Nat) (name : Bytes) (noRec : Bool)
    (sum : Digest) (es : List (Name × Node κ)) :
    dirStatus ctx s (fuel+1) name noRec sum (some (.dir es)) =
      (let q := quick s sum (some (.dir es))
       (statusManifest ctx s sum).bind
         (dirBody ctx s (fun nm sm cu => dirStatus ctx s fuel nm false sm cu) id id
           { name := name, isDir := true, skip := false, ws := q.ws, has := q.has,
             inCache := q.inCache, cm := q.cm, children := [] } q noRec es)) := by
  rw [dirStatus_dir]
  refine bind_congr_ok fun cs _ => ?_
  simp only [dirBody, id, untrackedOf, quick, wsOf]
  cases childStatuses ctx s (fun nm sm cu => dirStatus ctx s fuel nm false sm cu) es cs with
  | error e => rfl
  | ok tracked =>
    simp only [Except.bind]
    cases untrackedStatuses ctx s (fun nm sm cu => dirStatus ctx s fuel nm false sm cu)
        ((if noRec = true then es.filter (fun e => !e.2.isDir) else es).filter
          (fun e => (findChild cs e.1).isNone)) with
    | error e => rfl
    | ok un => simp only [← Bool.and_assoc, Bool.and_self]

theorem StatusPerm.cm_eq {a b : Status} (h : StatusPerm a b) : a.cm = b.cm := h.rel.2.2.2.2.2.2.1

/-- **Order independence of `dirStatus` at every level.**  Whatever order is used for the manifest
entries and for the untracked entries of each directory, the status call fails iff the sequential
one does, and otherwise the two statuses agree on every field, the children up to order,
recursively. -/
theorem dirStatusS_perm (ctx : Ctx κ) (s : Store κ) (σ : Nat → Bytes → List Child → List Child)
    (τ : Nat → Bytes → List (Name × Node κ) → List (Name × Node κ))
    (hσ : ∀ k nm l, (σ k nm l).Perm l) (hτ : ∀ k nm l, (τ k nm l).Perm l) (fuel : Nat) :
    ∀ (name : Bytes) (noRec : Bool) (sum : Digest) (cur : Option (Node κ)),
      ExRel StatusPerm (dirStatusS ctx s σ τ fuel name noRec sum cur)
        (dirStatus ctx s fuel name noRec sum cur) := by
  induction fuel with
  | zero => exact fun _ _ _ _ => trivial
  | succ fuel ih =>
    intro name noRec sum cur
    by_cases hd : ∃ es, cur = some (.dir es)
    · obtain ⟨es, rfl⟩ := hd
      rw [dirStatus_dir_body]
      simp only [dirStatusS, statusManifest_eq]
      cases statusManifest ctx s sum with
      | error e => trivial
      | ok cs =>
        simp only [Except.bind]
        exact ExRel.mono (fun a b h => StatusPerm.of_rel h)
          (dirBody_rel ctx s StatusPerm StatusPerm.leaf (fun a b h => h.cm_eq)
            (fun nm sm cu => ih nm false sm cu)
            _ _ noRec (List.Perm.refl es) (fun _ => rfl) cs (hσ fuel name cs)
            (List.Perm.refl _) (hτ fuel name _) (List.Perm.refl _))
    · have hnd : ∀ es, cur ≠ some (.dir es) := fun es e => hd ⟨es, e⟩
      rw [dirStatus_not_dir ctx s fuel name noRec sum hnd]
      -- the catch-all arm of the `match`, its side condition discharged by `hnd`
      simp only [dirStatusS, quick]
      exact StatusPerm.leaf _ rfl

theorem StatusRel.children_perm {a b : Status} (h : StatusRel (fun x y => x = y) a b) :
    a.children.Perm b.children := by
  obtain ⟨mid, h1, h2⟩ := h.2.2.2.2.2.2.2
  rw [h1.eq]
  exact h2

/-- **`dirStatus` does not depend on the order of the listing** (names pairwise distinct): one call
fails iff the other does (`ExRel` does not compare the errors), and otherwise same fields, the same
children statuses up to order. -/
theorem dirStatus_listing_perm (ctx : Ctx κ) (s : Store κ) {es es' : List (Name × Node κ)}
    (hes : es.Perm es') (hnd : (es.map (·.1)).Nodup) (fuel : Nat) (name : Bytes) (noRec : Bool)
    (sum : Digest) :
    ExRel (StatusRel (fun x y => x = y)) (dirStatus ctx s fuel name noRec sum (some (.dir es)))
      (dirStatus ctx s fuel name noRec sum (some (.dir es'))) := by
  cases fuel with
  | zero => trivial
  | succ fuel =>
    rw [dirStatus_dir_body, dirStatus_dir_body]
    cases statusManifest ctx s sum with
    | error e => trivial
    | ok cs =>
      simp only [Except.bind]
      exact dirBody_rel ctx s (fun x y => x = y) (fun _ _ => rfl) (fun a b h => by rw [h])
        (fun nm sm cu => ExRel.refl (fun _ => rfl) _)
        (ord1 := id) (ord1' := id) (ord2 := id) (ord2' := id)
        _ _ noRec hes (alookup_perm hes hnd) cs (List.Perm.refl _) (List.Perm.refl _)
        (List.Perm.refl _) (List.Perm.refl _)

end

end Dud
