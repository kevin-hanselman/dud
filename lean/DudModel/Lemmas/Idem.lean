import DudModel.Lemmas.Recommit
import DudModel.Lemmas.CheckoutEq
/-!
# Operations on an all-links workspace in a store holding the tree

`linked ctx t` is what a link-strategy commit / checkout leaves.  Committing it again skips every
file (`quickStatus` reports `ContentsMatch`) and rewrites the same manifests; checking it out
again with the link strategy changes nothing.
-/
namespace Dud

variable {κ : Type}

theorem linked_isDir (ctx : Ctx κ) (t : Node κ) : (linked ctx t).isDir = t.isDir := by
  cases t <;> simp [linked, Node.isDir]

def LEntriesPost (ctx : Ctx κ) (r : List (Name × Node κ)) : Prop :=
  ∀ (ch : Choice) (old : List Child) (s : Store κ) (strat : Strat),
    (∀ e ∈ r, findChild old e.1 =
      some ⟨e.1, digestAs ctx (subChoice ch e.1) e.1 e.2, e.2.isDir⟩) →
    HoldsList ctx s ch r → Consistent ctx s →
    ∃ s', commitEntries ctx strat false (linkedList ctx r) old s =
        .ok (linkedList ctx r, childrenOf ctx r, s') ∧
      Consistent ctx s' ∧ Store.le ctx s s' ∧ HoldsList ctx s' newChoice r ∧
      (HoldsList ctx s newChoice r → Store.le ctx s' s)

mutual
theorem linked_linked (ctx : Ctx κ) : ∀ (t : Node κ), linked ctx (linked ctx t) = linked ctx t
  | .file _ => rfl
  | .dir es => by
    simp only [linked]
    rw [linkedList_linkedList ctx es]
  | .link _ => rfl
  | .other => rfl
theorem linkedList_linkedList (ctx : Ctx κ) : ∀ (es : List (Name × Node κ)),
    linkedList ctx (linkedList ctx es) = linkedList ctx es
  | [] => rfl
  | (nm, n) :: r => by
    simp only [linkedList]
    rw [linked_linked ctx n, linkedList_linkedList ctx r]
end

/-- the old manifest of the held tree is readable where the commit of the all-links listing reuses it -/
theorem readableList_linked {ctx : Ctx κ} (g : Good ctx) {s' : Store κ} (hc : Consistent ctx s')
    (ch : Choice) {old : List Child} : ∀ (r : List (Name × Node κ)), sortedList r = true →
      NamesOKList ctx r →
      (∀ e ∈ r, findChild old e.1 =
        some ⟨e.1, digestAs ctx (subChoice ch e.1) e.1 e.2, e.2.isDir⟩) →
      Re.ReadableList ctx s' (linkedList ctx r) old
  | [], _, _, _ => by simp [linkedList, Re.ReadableList]
  | (nm, n) :: r, hs, hn, hfind => by
    simp only [linkedList, Re.ReadableList]
    refine ⟨fun k hk _ => ?_, readableList_linked g hc ch r (sortedList_cons hs).2 (namesOK_tail hn)
      (fun e he => hfind e (by simp [he]))⟩
    rw [hfind (nm, n) (by simp)] at hk
    cases hk
    exact Re.readableNode_of_digestAs g hc (linked ctx n) n (subChoice ch nm) nm
      (sortedList_cons hs).1 (namesOK_node hn) (linked_isDir ctx n).symm

/-- Commit of the all-links workspace in a store holding the tree with manifests of schemas `ch`:
files are skipped, current-format manifests are (re)written; nothing is added if the store held
the current-format version already.  The all-links workspace has the logical content `t`, and the
recorded checksum is that of `t`: an instance of `Re.recommitNodeL_post`. -/
theorem commitNode_linked {ctx : Ctx κ} (g : Good ctx) (t : Node κ) (hp : t.plain = true)
    (hs : t.sorted = true) (hn : NamesOK ctx t) (ch : Choice) (nm : Bytes) (s : Store κ)
    (strat : Strat) (hh : HoldsNode ctx s ch nm t) (hc : Consistent ctx s) :
    ∃ s', commitNode ctx strat (linked ctx t) ⟨nm, digestAs ctx ch nm t, t.isDir⟩ s =
        .ok (linked ctx t, ⟨nm, treeDigest ctx nm t, t.isDir⟩, s') ∧
      Consistent ctx s' ∧ Store.le ctx s s' ∧ HoldsNode ctx s' newChoice nm t ∧
      (HoldsNode ctx s newChoice nm t → Store.le ctx s' s) := by
  have hd : deref ctx s (linked ctx t) = t := deref_linked t ch nm hp hh
  have hw : wsAfter ctx strat (linked ctx t) = linked ctx t := by
    cases strat
    · exact linked_linked ctx t
    · rfl
  have hn' : NamesOK ctx (linked ctx t) := fun x hx => hn x (by rwa [allNames_linked] at hx)
  have h := Re.recommitNodeL_post g (linked ctx t) hn' ⟨nm, digestAs ctx ch nm t, t.isDir⟩ s strat
    (linked_isDir ctx t).symm (by rw [hd]; exact hp)
    (Re.RecommitOK.of_digestAs g s _ t ch nm hs hn (linked_isDir ctx t).symm) hc
  rw [hd, hw] at h
  obtain ⟨s', h1, h2, h3, h4, _, h6, _⟩ := h
  exact ⟨s', h1, h2, h3, h4, h6⟩

theorem commitEntries_linked {ctx : Ctx κ} (g : Good ctx) : ∀ (es : List (Name × Node κ)),
    plainList es = true → sortedList es = true → NamesOKList ctx es → LEntriesPost ctx es
  | es, hp, hs, hn => by
    intro ch old s strat hfind hh hc
    have hd : derefList ctx s (linkedList ctx es) = es := derefList_linked es ch hp hh
    have hw : wsAfterList ctx strat (linkedList ctx es) = linkedList ctx es := by
      cases strat
      · exact linkedList_linkedList ctx es
      · rfl
    have hn' : NamesOKList ctx (linkedList ctx es) :=
      fun x hx => hn x (by rwa [allNamesList_linkedList] at hx)
    have h := Re.recommitEntriesL_full g (linkedList ctx es) hn' old s strat (by rw [hd]; exact hp)
      (fun s' _ hc' => readableList_linked g hc' ch es hs hn hfind) hc
    rw [hd, hw] at h
    obtain ⟨s', h1, h2, h3, h4, _, h6, _⟩ := h
    exact ⟨s', h1, h2, h3, h4, h6⟩

/-- link checkout over any listing that has the all-links form of every entry changes nothing -/
theorem checkoutChildren_linked {ctx : Ctx κ} (g : Good ctx) (s : Store κ) :
    ∀ (r : List (Name × Node κ)) (ch : Choice) (fuel : Nat) (W : List (Name × Node κ)),
    plainList r = true → sortedList r = true → NamesOKList ctx r → HoldsList ctx s ch r →
    depthList r ≤ fuel → (∀ e ∈ r, alookup W e.1 = some (linked ctx e.2)) →
      checkoutChildren (checkoutNode ctx .link s fuel) W (childrenAs ctx ch r) = .ok W
  | [], _, _, W, _, _, _, _, _, _ => by simp [childrenAs, checkoutChildren_nil]
  | (nm, n) :: r, ch, fuel, W, hp, hs, hn, h, hf, hW => by
    obtain ⟨hd, tl⟩ := (⟨hp, hs, hn, h, hf⟩ : HeldList ctx s ch ((nm, n) :: r) fuel).cons
    have h1 : checkoutNode ctx .link s fuel (some (linked ctx n)) _ = .ok (linked ctx n) :=
      checkoutNode_ws g s (some .link) .link n hd
    have hl := hW (nm, n) (by simp)
    simp only [childrenAs, checkoutChildren_cons, hl, h1, setEntry_same W nm _ hl]
    exact checkoutChildren_linked g s r ch fuel W tl.plain tl.sorted tl.names tl.holds tl.depth
      (fun e he => hW e (by simp [he]))

end Dud
