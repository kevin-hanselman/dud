import DudModel.Lemmas.Blake3Eval
/-!
# Printer of per-compression certificates for the official BLAKE3 vectors

Core-only; a TOOL, not part of any proof (nothing imports it, and what it prints is not part of the
build: the vectors are checked in `Props/C14blake3Vectors.lean` through `Lemmas/Blake3Words.lean`).
`lake env lean --run DudModel/Lemmas/Blake3VecGen.lean A|B|C|final` runs the specification
(`chainCV`, `chunkCVOf`) to obtain the intermediate chaining values of the official input and
prints one `decide +kernel` theorem per compression.  The expected DIGESTS are not computed: they
are the official ones, copied from `corpus/blake3_vectors.json` into `Blake3VecGen.vecs` below.
-/
open Dud Dud.Blake3Spec
namespace Blake3VecGen

/-- (input length, official digest) — from `corpus/blake3_vectors.json` -/
def vecs : List (Nat × String) :=
  [(1024, "42214739f095a406f3fc83deb889744ac00df831c10daa55189b5d121c855af7"),
   (1025, "d00278ae47eb27b34faecf67b4fe263f82d5412916c1ffd97c8cb7fb814b8444"),
   (2048, "e776b6028c7cd22a4d0ba182a8bf62205d2ef576467e838ed6f2529b85fba24a"),
   (2049, "5f4d72f40d7a5f82b15ca2b2e44b1de3c2ef86c426c95c1af0b6879522563030"),
   (3073, "7124b49501012f81cc7f11ca069ec9226cecb8a2c850cfe644e327d22d3e1cd3")]

def hdrChunk (part : String) (j : Nat) : String :=
  ((("import DudModel.Lemmas.Blake3Eval\n/-!\n# Official BLAKE3 test vectors, part {part}: the chaining value of chunk {j} of the official input\n\nGENERATED by `DudModel/Lemmas/Blake3VecGen.lean` (do not edit); core-only.  See\n`Props/C14blake3Vectors.lean`.  One theorem per compression (`decide +kernel`, about two seconds\neach): `c{j}_i` is the chaining value after the first `i` blocks of bytes {lo}..{hi} of the official\ninput (the bytes 0,1,…,250 repeated) with chunk counter {j}, `cv{j}` the chaining value of the whole\nchunk.\n-/\nnamespace Dud.Blake3Spec.Vectors\nopen Dud Dud.Blake3Spec\n".replace "{part}" part).replace "{j}" (toString j)).replace "{lo}" (toString (1024 * j))).replace
    "{hi}" (toString (1024 * j + 1023))

def hdrFinal : String := "import DudModel.Props.C14blake3VecA\nimport DudModel.Props.C14blake3VecB\nimport DudModel.Props.C14blake3VecC\n/-!\n# Official BLAKE3 test vectors, checked by the kernel one compression at a time\n\nGENERATED by `DudModel/Lemmas/Blake3VecGen.lean` (do not edit); core-only.  Kernel evaluation of\n`Blake3.compress` costs about two seconds per compression, so a multi-chunk vector is checked as a\nchain of small theorems: every theorem here and in `C14blake3VecA/B/C.lean` is closed by\n`decide +kernel` on at most three evaluations of `Blake3.compress` (no `native_decide`, no extra\naxioms).  The first three 1024-byte chunks of the official input (the bytes 0,1,…,250 repeated) are\nshared by all vectors (`cv0`, `cv1`, `cv2` in the three imported files, which build in parallel).\n\nThe intermediate chaining values were computed by running the specification; the DIGESTS are the\nofficial ones (`corpus/blake3_vectors.json` = the first 32 bytes of the `hash` field of the official\n`test_vectors.json`).  So each `V….digest` is a kernel-checked statement\n\"`hashSpecReal` (the total recursive specification over `Blake3.compress`) of the official input is\nthe official digest\", for 1024, 1025, 2048, 2049 and 3073 bytes (1–4 chunks: chunk counters 0–3,\nCHUNK_START/CHUNK_END, parent nodes, the left-heavy split 2+1, ROOT at the top only).\n-/\nnamespace Dud.Blake3Spec.Vectors\nopen Dud Dud.Blake3Spec\n"

def arr (a : Array UInt32) : String := "#[" ++ ", ".intercalate (a.toList.map fun x => toString x.toNat) ++ "]"

/-- chain theorems `{pre}_{i}` for the chunk written `ce` with value `c` and counter `j` -/
def genChain (pre ce : String) (c : Bytes) (j : Nat) : IO Unit := do
  let k := (c.length - 1) / 64
  let B := realBlockParams
  for i in List.range k do
    let v := chainCV B j c (i + 1)
    IO.println s!"theorem {pre}_{i+1} : chainCV realBlockParams {j} ({ce}) {i+1} = {arr v} := by"
    if i == 0 then
      IO.println s!"  show realBlockParams.compressBlock Blake3.IV (blockAt ({ce}) 0) {j} true = _"
      IO.println s!"  decide +kernel"
    else
      IO.println s!"  show realBlockParams.compressBlock (chainCV realBlockParams {j} ({ce}) {i}) (blockAt ({ce}) {i}) {j} false = _"
      IO.println s!"  rw [{pre}_{i}]; decide +kernel"

def genCV (name pre ce : String) (c : Bytes) (j : Nat) : IO Unit := do
  let k := (c.length - 1) / 64
  let v := chunkCVOf realBlockParams c j
  IO.println s!"theorem {name} : realParams.chunkCV ({ce}) {j} = {arr v} := by"
  IO.println s!"  show chunkCVOf realBlockParams ({ce}) {j} = _"
  if k == 0 then
    IO.println s!"  rw [chunkCVOf_chain realBlockParams {j} ({ce}) 0 (by decide +kernel)]; decide +kernel"
  else
    IO.println s!"  rw [chunkCVOf_chain realBlockParams {j} ({ce}) {k} (by decide +kernel), {pre}_{k}]; decide +kernel"

def genLen (L : Nat) (hex : String) : IO Unit := do
  let xs := testInput L
  let X := testInput 3073
  let chunks := splitChunks xs
  let m := chunks.length
  IO.println s!"namespace V{L}"
  let shared (j : Nat) : Bool := j < 3 && (chunkAt xs j).length == 1024 && chunkAt xs j == chunkAt X j
  let ce (j : Nat) : String := if shared j then s!"chunkAt X {j}" else s!"chunkAt (testInput {L}) {j}"
  let cl := ", ".intercalate ((List.range m).map ce)
  IO.println s!"theorem split : splitChunks (testInput {L}) = [{cl}] := by decide +kernel"
  if m > 1 then
    for j in List.range m do
      if !(shared j) then
        genChain s!"c{j}" (ce j) (chunkAt xs j) j
        genCV s!"cv{j}" s!"c{j}" (ce j) (chunkAt xs j) j
  IO.println s!"/-- **Official test vector, {L} bytes**, checked by the kernel. -/"
  IO.println s!"theorem digest : toHex (hashSpecReal (testInput {L})) = \"{hex}\" := by"
  IO.println s!"  show toHex (treeHash realParams (splitChunks (testInput {L}))) = _"
  if m == 1 then
    let k := ((chunkAt xs 0).length - 1) / 64
    IO.println s!"  rw [split, treeHash_1]"
    IO.println s!"  show toHex (chunkRootOf realBlockParams ({ce 0}) 0) = _"
    IO.println s!"  rw [chunkRootOf_chain realBlockParams 0 ({ce 0}) {k} (by decide +kernel), c0_{k}]; decide +kernel"
  else
    let cvs := ", ".intercalate ((List.range m).map fun j => s!"cv{j}")
    IO.println s!"  rw [split, treeHash_{m}, {cvs}]; decide +kernel"
  IO.println s!"end V{L}"
  IO.println ""


end Blake3VecGen
open Blake3VecGen

def main (args : List String) : IO Unit := do
  let X := testInput 3073
  let chunkFile (part : String) (j : Nat) : IO Unit := do
    IO.println (hdrChunk part j)
    IO.println s!"/-! chunk {j} of the official input (bytes {1024*j}..{1024*j+1023}), chunk counter {j} -/"
    genChain s!"c{j}" s!"chunkAt X {j}" (chunkAt X j) j
    genCV s!"cv{j}" s!"c{j}" s!"chunkAt X {j}" (chunkAt X j) j
    IO.println ""
    IO.println "end Dud.Blake3Spec.Vectors"
    IO.println ""
    IO.println s!"#print axioms Dud.Blake3Spec.Vectors.cv{j}"
  match args with
  | ["A"] => chunkFile "A" 0
  | ["B"] => chunkFile "B" 1
  | ["C"] => chunkFile "C" 2
  | ["final"] =>
    IO.println hdrFinal
    for (L, hex) in vecs do genLen L hex
    IO.println "end Dud.Blake3Spec.Vectors"
    IO.println ""
    for (L, _) in vecs do
      IO.println s!"#print axioms Dud.Blake3Spec.Vectors.V{L}.digest"
  | _ => IO.eprintln "usage: Blake3VecGen (A|B|C|final)"
