import DudModel.PathSpec
/-!
# Lemmas about the model of Go's `path/filepath` (`DudModel/Path.lean`) in the vocabulary of
`DudModel/PathSpec.lean`

`normAux` is a left fold of `step` (`normAux_eq_foldl`), so `Clean` of an absolute string is `absOf`
of the lexical walk `resolve` along its segments (`clean_abs`), and every value of `Clean` is
`absOf g` or `relOf (ups k ++ g)` with `g` good (`clean_shape`).  `Rel` between two absolute clean
paths is computed by `stripCommon` (`rel_absOf_absOf`), and the walk along its result leads back to
the target (`rel_roundtrip`).

All lemma names live in `Dud.PathSpec`; the statements about `Dud.GoodComp` and `Dud.CleanRel` are in
`Props/C10path.lean`, in `Dud`.
-/
namespace Dud.PathSpec
open Dud.Path

theorem splitSlash_cons_slash (r : Bytes) : splitSlash (slash :: r) = [] :: splitSlash r := by
  simp [splitSlash]

theorem splitSlash_ne_nil : ∀ s : Bytes, splitSlash s ≠ []
  | [] => by simp [splitSlash]
  | b :: r => by
    unfold splitSlash
    split
    · simp
    · split <;> simp

theorem splitSlash_cons_ne {b : UInt8} (hb : b ≠ slash) {r : Bytes} {x : Bytes} {xs : List Bytes}
    (h : splitSlash r = x :: xs) : splitSlash (b :: r) = (b :: x) :: xs := by
  have : (b == slash) = false := by simpa using hb
  rw [splitSlash, this, h]; rfl

/-- induction along `splitSlash`, read as a relation between a string and its segments -/
theorem splitSlash_rec {P : Bytes → List Bytes → Prop} (nil : P [] [[]])
    (sep : ∀ r, P r (splitSlash r) → P (slash :: r) ([] :: splitSlash r))
    (byte : ∀ b r y ys, b ≠ slash → P r (y :: ys) → P (b :: r) ((b :: y) :: ys)) :
    ∀ s, P s (splitSlash s)
  | [] => nil
  | b :: r => by
    have ih := splitSlash_rec nil sep byte r
    by_cases hb : b = slash
    · subst hb; rw [splitSlash_cons_slash]; exact sep r ih
    · cases h : splitSlash r with
      | nil => exact absurd h (splitSlash_ne_nil r)
      | cons y ys => rw [splitSlash_cons_ne hb h]; exact byte b r y ys hb (h ▸ ih)

theorem splitSlash_append_slash (a b : Bytes) :
    splitSlash (a ++ slash :: b) = splitSlash a ++ splitSlash b := by
  refine splitSlash_rec (P := fun a l => splitSlash (a ++ slash :: b) = l ++ splitSlash b)
    (splitSlash_cons_slash b) (fun r ih => ?_) (fun x r y ys hx ih => splitSlash_cons_ne hx ih) a
  rw [List.cons_append, splitSlash_cons_slash, ih]; rfl

theorem splitSlash_noslash : ∀ {c : Bytes}, slash ∉ c → splitSlash c = [c]
  | [], _ => rfl
  | x :: c, h => by
    have hx : x ≠ slash := fun e => h (by simp [e])
    have hc : slash ∉ c := fun e => h (by simp [e])
    exact splitSlash_cons_ne hx (splitSlash_noslash hc)

theorem intercalate_cons_cons (x y : Bytes) (r : List Bytes) :
    intercalate (x :: y :: r) = x ++ slash :: intercalate (y :: r) := by
  simp [intercalate]

theorem intercalate_singleton (x : Bytes) : intercalate [x] = x := rfl

theorem intercalate_cons_of_ne_nil (x : Bytes) : ∀ {r : List Bytes}, r ≠ [] →
    intercalate (x :: r) = x ++ slash :: intercalate r
  | [], h => absurd rfl h
  | y :: r, _ => intercalate_cons_cons x y r

theorem intercalate_append : ∀ {cs ds : List Bytes}, cs ≠ [] → ds ≠ [] →
    intercalate (cs ++ ds) = intercalate cs ++ slash :: intercalate ds
  | [], _, h, _ => absurd rfl h
  | [x], ds, _, hd => by
    rw [intercalate_singleton]; exact intercalate_cons_of_ne_nil x hd
  | x :: y :: r, ds, _, hd => by
    have ih := intercalate_append (cs := y :: r) (ds := ds) (by simp) hd
    have : (x :: y :: r) ++ ds = x :: ((y :: r) ++ ds) := rfl
    rw [this, intercalate_cons_of_ne_nil x (by simp), ih, intercalate_cons_cons]; simp

theorem splitSlash_intercalate : ∀ {cs : List Bytes}, cs ≠ [] → SlashFree cs →
    splitSlash (intercalate cs) = cs
  | [], h, _ => absurd rfl h
  | [x], _, h => splitSlash_noslash (h x (by simp))
  | x :: y :: r, _, h => by
    have ih := splitSlash_intercalate (cs := y :: r) (by simp) (fun c hc => h c (by simp [hc]))
    rw [intercalate_cons_cons, splitSlash_append_slash, ih, splitSlash_noslash (h x (by simp))]
    rfl

theorem intercalate_cons_head (b : UInt8) (y : Bytes) (ys : List Bytes) :
    intercalate ((b :: y) :: ys) = b :: intercalate (y :: ys) := by
  cases ys <;> rfl

/-- `strings.Join(strings.Split(s, "/"), "/") = s` -/
theorem intercalate_splitSlash : ∀ s : Bytes, intercalate (splitSlash s) = s := by
  intro s
  refine splitSlash_rec (P := fun s l => intercalate l = s) rfl (fun r ih => ?_)
    (fun b r y ys _ ih => by rw [intercalate_cons_head, ih]) s
  rw [intercalate_cons_of_ne_nil _ (splitSlash_ne_nil r), ih]; rfl

theorem splitSlash_slashFree (s : Bytes) : SlashFree (splitSlash s) := by
  refine splitSlash_rec (P := fun _ l => SlashFree l) ?_ (fun r ih => ?_)
    (fun b r y ys hb ih => ?_) s
  · exact List.forall_mem_cons.2 ⟨List.not_mem_nil, nofun⟩
  · exact List.forall_mem_cons.2 ⟨List.not_mem_nil, ih⟩
  · obtain ⟨h1, h2⟩ := List.forall_mem_cons.1 ih
    exact List.forall_mem_cons.2 ⟨fun hm => (List.mem_cons.1 hm).elim (fun e => hb e.symm) h1, h2⟩

theorem intercalate_inj {cs ds : List Bytes} (hc : cs ≠ []) (hd : ds ≠ []) (h1 : SlashFree cs)
    (h2 : SlashFree ds) (e : intercalate cs = intercalate ds) : cs = ds := by
  rw [← splitSlash_intercalate hc h1, ← splitSlash_intercalate hd h2, e]

theorem GoodComp.noise {c : Bytes} (h : GoodComp c) : noise c = false := by
  have h1 := h.1; have h2 := h.2.1
  simp [PathSpec.noise, h1, h2]

theorem GoodComp.ne_dotdot {c : Bytes} (h : GoodComp c) : (c == dotdot) = false := by
  have := h.2.2.1
  simpa using this

theorem Good.slashFree {cs : Comps} (h : Good cs) : SlashFree cs := fun c hc => (h c hc).2.2.2

theorem Good.append {a b : Comps} (ha : Good a) (hb : Good b) : Good (a ++ b) := by
  intro c hc
  rcases List.mem_append.1 hc with h | h
  · exact ha c h
  · exact hb c h

theorem Good.left {a b : Comps} (h : Good (a ++ b)) : Good a := fun c hc => h c (by simp [hc])
theorem Good.right {a b : Comps} (h : Good (a ++ b)) : Good b := fun c hc => h c (by simp [hc])

theorem Good.take {a : Comps} (h : Good a) (n : Nat) : Good (a.take n) :=
  fun c hc => h c (List.mem_of_mem_take hc)

theorem good_nil : Good [] := by intro c hc; simp at hc

theorem mem_ups {a : Bytes} {k : Nat} (h : a ∈ ups k) : a = dotdot := (List.mem_replicate.1 h).2

theorem ups_slashFree (k : Nat) : SlashFree (ups k) := fun _ hc => mem_ups hc ▸ (by decide : slash ∉ dotdot)

theorem SlashFree.append {a b : List Bytes} (ha : SlashFree a) (hb : SlashFree b) :
    SlashFree (a ++ b) := by
  intro c hc
  rcases List.mem_append.1 hc with h | h
  · exact ha c h
  · exact hb c h

theorem ups_succ (k : Nat) : ups (k + 1) = dotdot :: ups k := rfl

theorem ups_length (k : Nat) : (ups k).length = k := by simp [ups]

/-! ## `normAux` is a left fold of `step` -/

theorem normAux_cons (rooted : Bool) (acc : List Bytes) (c : Bytes) (cs : List Bytes) :
    normAux rooted acc (c :: cs) = normAux rooted (step rooted acc c) cs := by
  conv => lhs; rw [normAux.eq_def]
  unfold step
  dsimp only
  split
  · rfl
  · split
    · cases acc with
      | nil => cases rooted <;> rfl
      | cons a as => dsimp only; split <;> rfl
    · rfl

theorem normAux_eq_foldl (rooted : Bool) : ∀ (cs acc : List Bytes),
    normAux rooted acc cs = (cs.foldl (step rooted) acc).reverse
  | [], acc => by rw [normAux]; rfl
  | c :: cs, acc => by
    rw [List.foldl_cons, ← normAux_eq_foldl rooted cs, normAux_cons]

theorem step_noise (rooted : Bool) (acc : List Bytes) {c : Bytes} (h : noise c = true) :
    step rooted acc c = acc := by
  unfold noise at h
  simp only [step, h, if_true]

theorem step_good (rooted : Bool) (acc : List Bytes) {c : Bytes} (h : GoodComp c) :
    step rooted acc c = c :: acc := by
  have h1 : (c == [] || c == [dot]) = false := h.noise
  simp only [step, h1, h.ne_dotdot, Bool.false_eq_true, if_false]

theorem step_true_dotdot_nil : step true [] dotdot = [] := by decide

theorem step_dotdot_cons (rooted : Bool) {a : Bytes} (as : List Bytes) (h : a ≠ dotdot) :
    step rooted (a :: as) dotdot = as := by
  have h1 : (dotdot == [] || dotdot == [dot]) = false := by decide
  have h2 : (a == dotdot) = false := by simpa using h
  unfold step
  rw [if_neg (by rw [h1]; exact Bool.false_ne_true), if_pos (by decide)]
  dsimp only
  rw [if_neg (by rw [h2]; exact Bool.false_ne_true)]

theorem step_ups (j : Nat) : step false (ups j) dotdot = ups (j + 1) := by
  cases j with
  | zero => decide
  | succ j =>
    rw [ups_succ, ups_succ]
    unfold step
    rw [if_neg (by decide), if_pos (by decide)]
    dsimp only
    rw [if_pos (by decide)]
    rfl

theorem foldl_step_good (rooted : Bool) : ∀ {cs : Comps} (acc : List Bytes), Good cs →
    cs.foldl (step rooted) acc = cs.reverse ++ acc
  | [], _, _ => rfl
  | c :: cs, acc, h => by
    rw [List.foldl_cons, step_good rooted acc (h c (by simp)),
      foldl_step_good rooted (c :: acc) (fun x hx => h x (by simp [hx]))]
    simp

theorem foldl_step_true_ups : ∀ (k : Nat) {acc : List Bytes}, (∀ a ∈ acc, a ≠ dotdot) →
    (ups k).foldl (step true) acc = acc.drop k
  | 0, _, _ => rfl
  | k + 1, [], _ => by
    rw [ups_succ, List.foldl_cons, step_true_dotdot_nil, foldl_step_true_ups k (by simp)]; simp
  | k + 1, a :: as, h => by
    rw [ups_succ, List.foldl_cons, step_dotdot_cons true as (h a (by simp)),
      foldl_step_true_ups k (fun x hx => h x (by simp [hx]))]; rfl

theorem foldl_step_filter (rooted : Bool) : ∀ (cs acc : List Bytes),
    cs.foldl (step rooted) acc = (cs.filter (fun c => !noise c)).foldl (step rooted) acc
  | [], _ => rfl
  | c :: cs, acc => by
    cases h : noise c with
    | true =>
      rw [List.foldl_cons, step_noise rooted acc h, List.filter_cons_of_neg (by simp [h])]
      exact foldl_step_filter rooted cs acc
    | false =>
      rw [List.foldl_cons, List.filter_cons_of_pos (by simp [h]), List.foldl_cons]
      exact foldl_step_filter rooted cs _

theorem filter_noise_good {segs : List Bytes} (hs : SlashFree segs) (hd : dotdot ∉ segs) :
    Good (segs.filter fun c => !noise c) := by
  intro c hc
  obtain ⟨hm, hn⟩ := List.mem_filter.1 hc
  simp only [noise, Bool.not_eq_true', Bool.or_eq_false_iff, beq_eq_false_iff_ne] at hn
  exact ⟨hn.1, hn.2, fun e => hd (e ▸ hm), hs c hm⟩

/-- without a ".." segment nothing is resolved: the walk keeps the segments other than "" and
"." -/
theorem foldl_step_no_dotdot (rooted : Bool) {segs : List Bytes} (hs : SlashFree segs)
    (hd : dotdot ∉ segs) (acc : List Bytes) :
    segs.foldl (step rooted) acc = (segs.filter fun c => !noise c).reverse ++ acc := by
  rw [foldl_step_filter]
  exact foldl_step_good rooted acc (filter_noise_good hs hd)

theorem Good.reverse {a : Comps} (h : Good a) : Good a.reverse :=
  fun c hc => h c (List.mem_reverse.1 hc)

/-- the stack of `normAux`: (reversed) good components on top of a run of "..", which is empty
for a rooted path -/
def NormAcc (rooted : Bool) (acc : List Bytes) : Prop :=
  ∃ k g, Good g ∧ acc = g ++ ups k ∧ (rooted = true → k = 0)

theorem step_normAcc {rooted : Bool} {acc : List Bytes} {c : Bytes} (ha : NormAcc rooted acc)
    (hc : slash ∉ c) : NormAcc rooted (step rooted acc c) := by
  obtain ⟨k, g, hg, rfl, hk⟩ := ha
  cases hn : noise c with
  | true => rw [step_noise _ _ hn]; exact ⟨k, g, hg, rfl, hk⟩
  | false =>
    simp only [noise, Bool.or_eq_false_iff, beq_eq_false_iff_ne] at hn
    by_cases hd : c = dotdot
    · subst hd
      cases g with
      | cons b g =>
        rw [List.cons_append, step_dotdot_cons _ _ (hg b List.mem_cons_self).2.2.1]
        exact ⟨k, g, fun x hx => hg x (List.mem_cons_of_mem _ hx), rfl, hk⟩
      | nil =>
        cases rooted with
        | true => obtain rfl := hk rfl; exact ⟨0, [], good_nil, step_true_dotdot_nil, fun _ => rfl⟩
        | false => exact ⟨k + 1, [], good_nil, step_ups k, nofun⟩
    · rw [step_good _ _ ⟨hn.1, hn.2, hd, hc⟩]
      exact ⟨k, c :: g, List.forall_mem_cons.2 ⟨⟨hn.1, hn.2, hd, hc⟩, hg⟩, rfl, hk⟩

theorem foldl_step_normAcc {rooted : Bool} : ∀ {segs acc : List Bytes}, NormAcc rooted acc →
    SlashFree segs → NormAcc rooted (segs.foldl (step rooted) acc)
  | [], _, ha, _ => ha
  | c :: segs, acc, ha, hs => by
    rw [List.foldl_cons]
    exact foldl_step_normAcc (step_normAcc ha (hs c (by simp))) (fun x hx => hs x (by simp [hx]))

theorem resolve_nil (base : Comps) : resolve base [] = base := by simp [resolve]

theorem resolve_append (base : Comps) (xs ys : List Bytes) :
    resolve base (xs ++ ys) = resolve (resolve base xs) ys := by
  simp [resolve, List.foldl_append]

theorem resolve_cons (base : Comps) (x : Bytes) (ys : List Bytes) :
    resolve base (x :: ys) = resolve (resolve base [x]) ys :=
  resolve_append base [x] ys

theorem resolve_good (base : Comps) {c : Comps} (h : Good c) : resolve base c = base ++ c := by
  simp [resolve, foldl_step_good true _ h]

theorem resolve_noise (base : Comps) {c : Bytes} (h : noise c = true) : resolve base [c] = base := by
  simp [resolve, step_noise true _ h]

theorem resolve_ups {base : Comps} (h : Good base) (k : Nat) :
    resolve base (ups k) = dropLastN k base := by
  have : ∀ a ∈ base.reverse, a ≠ dotdot := fun a ha => (h a (List.mem_reverse.1 ha)).2.2.1
  rw [resolve, foldl_step_true_ups k this, dropLastN, List.drop_reverse, List.reverse_reverse]

theorem resolve_filter (base : Comps) (segs : List Bytes) :
    resolve base segs = resolve base (segs.filter (fun c => !noise c)) := by
  rw [resolve, resolve, foldl_step_filter]

theorem resolve_isGood {base : Comps} {segs : List Bytes} (h : Good base) (hs : SlashFree segs) :
    Good (resolve base segs) := by
  obtain ⟨k, g, hg, e, hk⟩ := foldl_step_normAcc (rooted := true)
    ⟨0, _, h.reverse, (List.append_nil _).symm, fun _ => rfl⟩ hs
  obtain rfl := hk rfl
  rw [resolve, e, ups, List.replicate_zero, List.append_nil]; exact hg.reverse

theorem resolve_updown {base : Comps} (h : Good base) (k : Nat) {c : Comps} (hc : Good c) :
    resolve base (ups k ++ c) = dropLastN k base ++ c := by
  rw [resolve_append, resolve_ups h, resolve_good _ hc]

theorem dropLastN_append {r d : List Bytes} {k : Nat} (hk : k ≤ d.length) :
    dropLastN k (r ++ d) = r ++ dropLastN k d := by
  unfold dropLastN
  rw [List.take_append, List.length_append]
  have h1 : r.length + d.length - k - r.length = d.length - k := by omega
  have h2 : r.length ≤ r.length + d.length - k := by omega
  rw [h1, List.take_of_length_le h2]

theorem dropLastN_length (d : List Bytes) : dropLastN d.length d = [] := by
  simp [dropLastN]

theorem dropLastN_zero (d : List Bytes) : dropLastN 0 d = d := by
  simp [dropLastN]

theorem denote_isGood {cwd : Comps} (h : Good cwd) (arg : Bytes) : Good (denote cwd arg) := by
  unfold denote
  split
  · exact resolve_isGood good_nil (splitSlash_slashFree arg)
  · exact resolve_isGood h (splitSlash_slashFree arg)

theorem isAbs_cons_slash (s : Bytes) : isAbs (slash :: s) = true := by simp [isAbs]

theorem isAbs_absOf (cs : Comps) : isAbs (absOf cs) = true := isAbs_cons_slash _

theorem isAbs_nil : isAbs [] = false := rfl

theorem isAbs_cons_ne {b : UInt8} (h : b ≠ slash) (s : Bytes) : isAbs (b :: s) = false := by
  simp [isAbs, h]

theorem isAbs_iff {s : Bytes} : isAbs s = true ↔ ∃ t, s = slash :: t := by
  cases s with
  | nil => simp [isAbs]
  | cons b t =>
    by_cases h : b = slash
    · subst h; simp [isAbs]
    · simp [isAbs, h]

/-- segments of a clean relative path: no '/', not "" and not "." -/
def RelSeg (l : List Bytes) : Prop := ∀ c ∈ l, slash ∉ c ∧ noise c = false

theorem updown_relSeg (k : Nat) {g : Comps} (hg : Good g) : RelSeg (ups k ++ g) := by
  intro c hc
  rcases List.mem_append.1 hc with h | h
  · rw [mem_ups h]; decide
  · exact ⟨(hg c h).2.2.2, (hg c h).noise⟩

theorem Good.relSeg {g : Comps} (hg : Good g) : RelSeg g := updown_relSeg 0 hg

theorem relOf_eq_intercalate {l : List Bytes} (h : l ≠ []) : relOf l = intercalate l := by
  cases l with
  | nil => exact absurd rfl h
  | cons x l => rfl

theorem segsOf_append_slash (a b : Bytes) : segsOf (a ++ slash :: b) = segsOf a ++ segsOf b := by
  simp [segsOf, splitSlash_append_slash]

theorem segsOf_nil : segsOf [] = [] := rfl

theorem segsOf_dot : segsOf [dot] = [] := by decide

/-- `segsOf` reads the segments back from a rendered clean path: relative, … -/
theorem segsOf_relOf {l : List Bytes} (h : RelSeg l) : segsOf (relOf l) = l := by
  cases l with
  | nil => exact segsOf_dot
  | cons x r =>
    rw [relOf_eq_intercalate (List.cons_ne_nil x r), segsOf,
      splitSlash_intercalate (List.cons_ne_nil x r) fun c hc => (h c hc).1]
    exact List.filter_eq_self.2 fun c hc => by rw [(h c hc).2]; rfl

theorem segsOf_intercalate {l : List Bytes} (h : RelSeg l) : segsOf (intercalate l) = l := by
  cases l with
  | nil => rfl
  | cons x r => exact segsOf_relOf h

/-- … and absolute -/
theorem segsOf_absOf {cs : Comps} (h : Good cs) : segsOf (absOf cs) = cs := by
  rw [absOf, ← List.nil_append (slash :: _), segsOf_append_slash, segsOf_nil,
    segsOf_intercalate h.relSeg, List.nil_append]

theorem resolve_splitSlash (base : Comps) (s : Bytes) :
    resolve base (splitSlash s) = resolve base (segsOf s) :=
  resolve_filter base _

theorem isAbs_intercalate_cons {x : Bytes} (r : List Bytes) (h1 : x ≠ []) (h2 : slash ∉ x) :
    isAbs (intercalate (x :: r)) = false := by
  obtain ⟨b, x', rfl⟩ := List.exists_cons_of_ne_nil h1
  have hb : b ≠ slash := fun e => h2 (by simp [e])
  cases r with
  | nil => exact isAbs_cons_ne hb _
  | cons y r => rw [intercalate_cons_cons]; exact isAbs_cons_ne hb _

theorem isAbs_relOf {cs : List Bytes} (h : RelSeg cs) : isAbs (relOf cs) = false := by
  cases cs with
  | nil => decide
  | cons x r =>
    refine isAbs_intercalate_cons r ?_ (h x (by simp)).1
    rintro rfl; exact absurd (h [] (by simp)).2 (by decide)

theorem norm_parse (s : Bytes) :
    norm (parse s) = ⟨isAbs s, normAux (isAbs s) [] (splitSlash s)⟩ := rfl

theorem clean_eq (s : Bytes) : clean s = render ⟨isAbs s, normAux (isAbs s) [] (splitSlash s)⟩ := rfl

theorem render_rooted (cs : List Bytes) : render ⟨true, cs⟩ = absOf cs := rfl

theorem render_relative (cs : List Bytes) : render ⟨false, cs⟩ = relOf cs := rfl

theorem norm_parse_abs {s : Bytes} (h : isAbs s = true) :
    norm (parse s) = ⟨true, resolve [] (splitSlash s)⟩ := by
  rw [norm_parse, h, normAux_eq_foldl]; rfl

theorem clean_abs {s : Bytes} (h : isAbs s = true) :
    clean s = absOf (resolve [] (splitSlash s)) := by
  rw [clean, norm_parse_abs h, render_rooted]

theorem resolve_nil_absOf {cs : Comps} (h : Good cs) : resolve [] (splitSlash (absOf cs)) = cs := by
  rw [resolve_splitSlash, segsOf_absOf h, resolve_good [] h, List.nil_append]

theorem norm_parse_absOf {cs : Comps} (h : Good cs) : norm (parse (absOf cs)) = ⟨true, cs⟩ := by
  rw [norm_parse_abs (isAbs_absOf cs), resolve_nil_absOf h]

theorem clean_absOf {cs : Comps} (h : Good cs) : clean (absOf cs) = absOf cs := by
  rw [clean_abs (isAbs_absOf cs), resolve_nil_absOf h]

theorem containsDotDot_tail {b : UInt8} {r : Bytes} (h : containsDotDot (b :: r) = false) :
    containsDotDot r = false := by
  cases r with
  | nil => rfl
  | cons a r => simp only [containsDotDot, Bool.or_eq_false_iff] at h; exact h.2

/-- a segment ".." shows in the string as the substring ".."; proved together with: the first
segment is a prefix of the string -/
theorem splitSlash_no_dotdot (s : Bytes) :
    (∀ x xs, splitSlash s = x :: xs → x <+: s) ∧
      (containsDotDot s = false → dotdot ∉ splitSlash s) := by
  refine splitSlash_rec (P := fun s l => (∀ x xs, l = x :: xs → x <+: s) ∧
    (containsDotDot s = false → dotdot ∉ l)) ?_ (fun r ih => ?_) (fun b r y ys hb ih => ?_) s
  · exact ⟨fun _ _ h => by cases h; exact List.nil_prefix, fun _ => by decide⟩
  · exact ⟨fun _ _ h => by cases h; exact List.nil_prefix, fun hc hm =>
      ih.2 (containsDotDot_tail hc) ((List.mem_cons.1 hm).resolve_left (by decide))⟩
  · refine ⟨fun _ _ h => by cases h; exact List.cons_prefix_cons.2 ⟨rfl, ih.1 y ys rfl⟩,
      fun hc hm => ?_⟩
    rcases List.mem_cons.1 hm with e | hm
    · -- `b :: y = ".."` would make `r` start with a dot after the dot `b`
      obtain ⟨rfl, rfl⟩ : b = dot ∧ y = [dot] := by simpa [dotdot] using e.symm
      obtain ⟨r', rfl⟩ := ih.1 _ _ rfl
      simp [containsDotDot] at hc
    · exact ih.2 (containsDotDot_tail hc) (List.mem_cons_of_mem _ hm)

theorem comps_eq_segsOf {s : Bytes} (h : dotdot ∉ splitSlash s) : comps s = segsOf s := by
  rw [comps, norm_parse, normAux_eq_foldl,
    foldl_step_no_dotdot _ (splitSlash_slashFree s) h, List.append_nil, List.reverse_reverse]
  rfl

theorem segsOf_good {s : Bytes} (h : dotdot ∉ splitSlash s) : Good (segsOf s) :=
  filter_noise_good (splitSlash_slashFree s) h

theorem denote_abs {cwd : Comps} {arg : Bytes} (h : isAbs arg = true) :
    denote cwd arg = resolve [] (splitSlash arg) := by
  simp [denote, h]

theorem denote_rel {cwd : Comps} {arg : Bytes} (h : isAbs arg = false) :
    denote cwd arg = resolve cwd (splitSlash arg) := by
  simp [denote, h]

theorem denote_absOf (cwd : Comps) {cs : Comps} (h : Good cs) : denote cwd (absOf cs) = cs := by
  rw [denote_abs (isAbs_absOf cs), resolve_nil_absOf h]

theorem clean_abs_denote (cwd : Comps) {s : Bytes} (h : isAbs s = true) :
    clean s = absOf (denote cwd s) := by
  rw [clean_abs h, denote_abs h]

theorem join_pair {a s : Bytes} (ha : a ≠ []) (hs : s ≠ []) :
    join [a, s] = clean (a ++ slash :: s) := by
  obtain ⟨x, a', rfl⟩ := List.exists_cons_of_ne_nil ha
  obtain ⟨y, s', rfl⟩ := List.exists_cons_of_ne_nil hs
  simp [join, intercalate]

theorem join_pair_nil {a : Bytes} (ha : a ≠ []) : join [a, []] = clean a := by
  obtain ⟨x, a', rfl⟩ := List.exists_cons_of_ne_nil ha
  simp [join, intercalate]

theorem isAbs_append {a : Bytes} (h : a ≠ []) (b : Bytes) : isAbs (a ++ b) = isAbs a := by
  obtain ⟨x, a', rfl⟩ := List.exists_cons_of_ne_nil h
  rfl

theorem join_abs {cwd : Bytes} (h : isAbs cwd = true) (arg : Bytes) :
    join [cwd, arg] = absOf (resolve (resolve [] (splitSlash cwd)) (splitSlash arg)) := by
  have hne : cwd ≠ [] := by rintro rfl; simp [isAbs] at h
  by_cases hs : arg = []
  · subst hs
    have : splitSlash [] = [[]] := rfl
    rw [join_pair_nil hne, clean_abs h, this, resolve_noise _ (by decide)]
  · rw [join_pair hne hs, clean_abs (by rw [isAbs_append hne]; exact h), splitSlash_append_slash,
      resolve_append]

theorem join_absOf {base : Comps} (h : Good base) (s : Bytes) :
    join [absOf base, s] = absOf (resolve base (splitSlash s)) := by
  rw [join_abs (isAbs_absOf base), resolve_nil_absOf h]

/-- `Join(root, rel)` for a clean relative path with good components -/
theorem join_absOf_rel {r c : Comps} (hr : Good r) (hc : Good c) :
    join [absOf r, intercalate c] = absOf (r ++ c) := by
  rw [join_absOf hr]
  cases c with
  | nil =>
    have : splitSlash (intercalate []) = [[]] := rfl
    rw [this, resolve_noise r (by decide), List.append_nil]
  | cons x c => rw [splitSlash_intercalate (by simp) hc.slashFree, resolve_good r hc]

theorem join_absOf_dropLast {base c : Comps} (hb : Good base) (hc : Good c) (k : Nat) :
    join [absOf base, intercalate (ups k ++ c)] = absOf (dropLastN k base ++ c) := by
  rw [join_absOf hb, resolve_splitSlash, segsOf_intercalate (updown_relSeg k hc), resolve_updown hb k hc]

/-- `..` segments that stay inside the root -/
theorem join_absOf_updown {r d c : Comps} (hr : Good r) (hd : Good d) (hc : Good c) {k : Nat}
    (hk : k ≤ d.length) :
    join [absOf (r ++ d), intercalate (List.replicate k dotdot ++ c)] =
      absOf (r ++ dropLastN k d ++ c) := by
  have := join_absOf_dropLast (hr.append hd) hc k
  rw [dropLastN_append hk] at this
  exact this

/-! ## relative paths: the normal form `ups k ++ good`, and `clean_idem` -/

theorem ups_reverse (k : Nat) : (ups k).reverse = ups k := by simp [ups]

theorem norm_parse_rel {s : Bytes} (h : isAbs s = false) :
    ∃ k g, Good g ∧ norm (parse s) = ⟨false, ups k ++ g⟩ := by
  obtain ⟨k, g, hg, e, -⟩ := foldl_step_normAcc (rooted := false) (acc := [])
    ⟨0, [], good_nil, rfl, nofun⟩ (splitSlash_slashFree s)
  refine ⟨k, g.reverse, hg.reverse, ?_⟩
  rw [norm_parse, h, normAux_eq_foldl, e, List.reverse_append, ups_reverse]

theorem foldl_step_false_ups : ∀ (k j : Nat), (ups k).foldl (step false) (ups j) = ups (k + j)
  | 0, j => by simp [ups]
  | k + 1, j => by
    rw [ups_succ, List.foldl_cons, step_ups, foldl_step_false_ups k (j + 1)]
    congr 1; omega

theorem norm_parse_relOf_updown (k : Nat) {g : Comps} (hg : Good g) :
    norm (parse (relOf (ups k ++ g))) = ⟨false, ups k ++ g⟩ := by
  have hs : (splitSlash (relOf (ups k ++ g))).filter (fun c => !noise c) = ups k ++ g :=
    segsOf_relOf (updown_relSeg k hg)
  have h0 : (ups k).foldl (step false) [] = ups (k + 0) := foldl_step_false_ups k 0
  rw [norm_parse, isAbs_relOf (updown_relSeg k hg), normAux_eq_foldl, foldl_step_filter, hs,
    List.foldl_append, h0, foldl_step_good false _ hg]
  simp [ups_reverse]

theorem clean_relOf_updown (k : Nat) {g : Comps} (hg : Good g) :
    clean (relOf (ups k ++ g)) = relOf (ups k ++ g) := by
  rw [clean, norm_parse_relOf_updown k hg, render_relative]

/-- `Clean` leaves a clean relative path with good components alone -/
theorem clean_relOf {g : Comps} (hg : Good g) : clean (relOf g) = relOf g :=
  clean_relOf_updown 0 hg

/-- shape of every value of `Clean`: "/"-rooted good components, or `..`s then good components -/
theorem clean_shape (s : Bytes) :
    (∃ g, Good g ∧ clean s = absOf g) ∨ (∃ k g, Good g ∧ clean s = relOf (ups k ++ g)) := by
  cases h : isAbs s with
  | true =>
    exact .inl ⟨_, resolve_isGood good_nil (splitSlash_slashFree s), clean_abs h⟩
  | false =>
    obtain ⟨k, g, hg, e⟩ := norm_parse_rel h
    exact .inr ⟨k, g, hg, by rw [clean, e, render_relative]⟩

theorem clean_ne_nil (s : Bytes) : clean s ≠ [] := by
  rcases clean_shape s with ⟨g, -, e⟩ | ⟨k, g, hg, e⟩
  · rw [e]; exact List.cons_ne_nil _ _
  · rw [e]
    rcases h : ups k ++ g with _ | ⟨x, _ | ⟨y, r⟩⟩
    · decide
    · rintro rfl; exact absurd (updown_relSeg k hg _ (h ▸ List.mem_singleton.2 rfl)).2 (by decide)
    · simp [relOf, intercalate]

/-- `Rel`, `Join` clean their arguments first: a re-spelling that `Clean` identifies is invisible -/
theorem norm_parse_clean (s : Bytes) : norm (parse (clean s)) = norm (parse s) := by
  cases h : isAbs s with
  | true =>
    rw [clean_abs h, norm_parse_absOf (resolve_isGood good_nil (splitSlash_slashFree s)),
      norm_parse_abs h]
  | false =>
    obtain ⟨k, g, hg, e⟩ := norm_parse_rel h
    rw [clean, e, render_relative, norm_parse_relOf_updown k hg]

/-- `Clean` is idempotent (for every byte string) -/
theorem clean_idem (s : Bytes) : clean (clean s) = clean s :=
  congrArg render (norm_parse_clean s)

theorem rel_clean_left (a b : Bytes) : rel (clean a) b = rel a b := by
  unfold rel; rw [norm_parse_clean]

theorem rel_clean_right (a b : Bytes) : rel a (clean b) = rel a b := by
  unfold rel; rw [norm_parse_clean]

theorem stripCommon_nil_left (b : List Bytes) : stripCommon [] b = ([], b) := by
  cases b <;> rfl

theorem stripCommon_nil_right (a : List Bytes) : stripCommon a [] = (a, []) := by
  cases a <;> rfl

theorem stripCommon_cons_self (x : Bytes) (a b : List Bytes) :
    stripCommon (x :: a) (x :: b) = stripCommon a b := by
  rw [stripCommon]; simp

theorem stripCommon_cons_ne {x y : Bytes} (h : x ≠ y) (a b : List Bytes) :
    stripCommon (x :: a) (y :: b) = (x :: a, y :: b) := by
  rw [stripCommon]; simp [h]

theorem stripCommon_append_left : ∀ r a b : List Bytes,
    stripCommon (r ++ a) (r ++ b) = stripCommon a b
  | [], _, _ => rfl
  | x :: r, a, b => by
    rw [List.cons_append, List.cons_append, stripCommon_cons_self]
    exact stripCommon_append_left r a b

theorem stripCommon_spec : ∀ a b : List Bytes,
    ∃ p a' b', stripCommon a b = (a', b') ∧ a = p ++ a' ∧ b = p ++ b'
  | [], b => ⟨[], [], b, stripCommon_nil_left b, rfl, rfl⟩
  | x :: a, [] => ⟨[], x :: a, [], stripCommon_nil_right _, rfl, rfl⟩
  | x :: a, y :: b => by
    by_cases h : x = y
    · subst h
      obtain ⟨p, a', b', hs, h1, h2⟩ := stripCommon_spec a b
      exact ⟨x :: p, a', b', by rw [stripCommon_cons_self, hs], congrArg (x :: ·) h1,
        congrArg (x :: ·) h2⟩
    · exact ⟨[], _, _, stripCommon_cons_ne h a b, rfl, rfl⟩

theorem map_const_ups (l : List Bytes) : l.map (fun _ => dotdot) = ups l.length := by
  induction l with
  | nil => rfl
  | cons x l ih => rw [List.map_cons, ih]; rfl

theorem contains_dotdot_of_good {l : List Bytes} (h : Good l) : l.contains dotdot = false := by
  cases hc : l.contains dotdot with
  | false => rfl
  | true =>
    rw [List.contains_iff_mem] at hc
    exact absurd rfl (h _ hc).2.2.1

/-- `Rel` between two absolute clean paths never fails: strip the common prefix, go up once for
every remaining component of the base, then down along the rest of the target -/
theorem rel_absOf_absOf {r t : Comps} (hr : Good r) (ht : Good t) :
    rel (absOf r) (absOf t) =
      some (relOf (ups (stripCommon r t).1.length ++ (stripCommon r t).2)) := by
  obtain ⟨p, a', b', hs, rfl, rfl⟩ := stripCommon_spec r t
  unfold rel
  rw [norm_parse_absOf hr, norm_parse_absOf ht]
  simp only [hs, bne_self_eq_false, Bool.false_eq_true, if_false, contains_dotdot_of_good hr.right,
    Bool.not_true, Bool.false_and, map_const_ups]
  rfl

/-- `Rel(root, root/c)` for every `c`: `relOf c`, which is "." for the root itself -/
theorem rel_absOf' {r c : Comps} (hr : Good r) (hc : Good c) :
    rel (absOf r) (absOf (r ++ c)) = some (relOf c) := by
  rw [rel_absOf_absOf hr (hr.append hc)]
  have := stripCommon_append_left r [] c
  rw [List.append_nil, stripCommon_nil_left] at this
  rw [this]; rfl

/-- `rel_absOf'` for a non-empty `c`, where `relOf c` is `intercalate c` -/
theorem rel_absOf {r c : Comps} (hr : Good r) (hc : Good c) (hne : c ≠ []) :
    rel (absOf r) (absOf (r ++ c)) = some (intercalate c) := by
  rw [rel_absOf' hr hc]
  cases c with
  | nil => exact absurd rfl hne
  | cons x c => rfl

/-- `Rel(root, root) = "."` -/
theorem rel_absOf_self {r : Comps} (hr : Good r) : rel (absOf r) (absOf r) = some [dot] := by
  have := rel_absOf' hr good_nil
  rwa [List.append_nil] at this

theorem absOf_inj {a b : Comps} (ha : Good a) (hb : Good b) (e : absOf a = absOf b) : a = b := by
  rw [← segsOf_absOf ha, ← segsOf_absOf hb, e]

theorem relOf_inj {a b : List Bytes} (ha : RelSeg a) (hb : RelSeg b) (e : relOf a = relOf b) :
    a = b := by
  rw [← segsOf_relOf ha, ← segsOf_relOf hb, e]

theorem resolve_splitSlash_relOf_updown (base : Comps) (k : Nat) {c : Comps} (hc : Good c) :
    resolve base (splitSlash (relOf (ups k ++ c))) = resolve base (ups k ++ c) := by
  rw [resolve_splitSlash, segsOf_relOf (updown_relSeg k hc)]

theorem rel_roundtrip {a b : Comps} (ha : Good a) (hb : Good b) {arg : Bytes}
    (h : rel (absOf a) (absOf b) = some arg) :
    isAbs arg = false ∧ resolve a (splitSlash arg) = b := by
  obtain ⟨p, a', b', s, rfl, rfl⟩ := stripCommon_spec a b
  rw [rel_absOf_absOf ha hb, s] at h
  obtain rfl := Option.some.inj h
  refine ⟨isAbs_relOf (updown_relSeg _ hb.right), ?_⟩
  rw [resolve_splitSlash_relOf_updown _ _ hb.right, resolve_updown ha _ hb.right,
    dropLastN_append (Nat.le_refl _), dropLastN_length, List.append_nil]

/-- the documented law of `filepath.Rel`: `Join(base, Rel(base, targ)) = targ` -/
theorem join_rel {a b : Comps} (ha : Good a) (hb : Good b) {arg : Bytes}
    (h : rel (absOf a) (absOf b) = some arg) : join [absOf a, arg] = absOf b := by
  rw [join_absOf ha, (rel_roundtrip ha hb h).2]

/-- `Rel` from a fixed base is injective on absolute clean paths, since the walk along the result
leads back to the target -/
theorem rel_absOf_inj {r t1 t2 : Comps} (hr : Good r) (h1 : Good t1) (h2 : Good t2)
    (e : rel (absOf r) (absOf t1) = rel (absOf r) (absOf t2)) : t1 = t2 := by
  have ha := rel_absOf_absOf hr h1
  exact (rel_roundtrip hr h1 ha).2.symm.trans (rel_roundtrip hr h2 (e ▸ ha)).2

theorem rel_absOf_outside {r t : Comps} (hr : Good r) (ht : Good t) (h : ¬ r <+: t) :
    ∃ rest, RelSeg rest ∧ rel (absOf r) (absOf t) = some (intercalate (dotdot :: rest)) := by
  obtain ⟨p, a', b', s, rfl, rfl⟩ := stripCommon_spec r t
  rw [rel_absOf_absOf hr ht, s]
  cases a' with
  | nil => exact absurd ⟨b', by rw [List.append_nil]⟩ h
  | cons x l => exact ⟨ups l.length ++ b', updown_relSeg _ ht.right, rfl⟩

theorem denote_congr (cwd : Comps) {a b : Bytes} (h1 : isAbs a = isAbs b)
    (h2 : segsOf a = segsOf b) : denote cwd a = denote cwd b := by
  unfold denote
  unfold segsOf at h2
  rw [h1, resolve_filter _ (splitSlash a), resolve_filter _ (splitSlash b), h2]

theorem segsOf_trailing_slash (a : Bytes) : segsOf (a ++ [slash]) = segsOf a := by
  rw [segsOf_append_slash, segsOf_nil, List.append_nil]

theorem segsOf_dot_slash (a : Bytes) : segsOf (dot :: slash :: a) = segsOf a := by
  have : dot :: slash :: a = [dot] ++ slash :: a := rfl
  rw [this, segsOf_append_slash, segsOf_dot, List.nil_append]

theorem segsOf_double_slash (a b : Bytes) :
    segsOf (a ++ slash :: slash :: b) = segsOf (a ++ slash :: b) := by
  have : slash :: b = [] ++ slash :: b := rfl
  rw [segsOf_append_slash, segsOf_append_slash, this, segsOf_append_slash, segsOf_nil,
    List.nil_append]

theorem segsOf_dot_segment (a b : Bytes) :
    segsOf (a ++ slash :: dot :: slash :: b) = segsOf (a ++ slash :: b) := by
  rw [segsOf_append_slash, segsOf_append_slash, segsOf_dot_slash]

theorem isAbs_dot_slash (a : Bytes) : isAbs (dot :: slash :: a) = false :=
  isAbs_cons_ne (by decide) _

/-- `Dir` drops the last component of an absolute clean path: one step of the walk of
`getProjectRootDir` towards "/" -/
theorem dir_absOf_snoc {cs : Comps} {c : Bytes} (h : Good (cs ++ [c])) :
    dir (absOf (cs ++ [c])) = absOf cs := by
  have hcs : Good cs := h.left
  have hsp : splitSlash (absOf (cs ++ [c])) = [] :: (cs ++ [c]) := by
    rw [absOf, splitSlash_cons_slash, splitSlash_intercalate (by simp) h.slashFree]
  unfold dir
  rw [hsp]
  simp only [List.reverse_cons, List.reverse_append, List.reverse_nil, List.nil_append,
    List.cons_append]
  cases cs with
  | nil => decide
  | cons x cs =>
    have e : intercalate ([] :: x :: cs) = absOf (x :: cs) := by
      rw [intercalate_cons_cons]; rfl
    simp only [List.reverse_cons, List.reverse_reverse, List.append_assoc, List.nil_append,
      List.cons_append, List.reverse_append, List.reverse_nil, e]
    have hne : (absOf (x :: cs) == []) = false := by simp [absOf]
    simp [hne, clean_absOf hcs]

theorem norm_rooted (s : Bytes) : (norm (parse s)).rooted = isAbs s := rfl

/-- one path absolute, the other relative: `Rel` fails ("can't make … relative to …") -/
theorem rel_mixed {a b : Bytes} (h : isAbs a ≠ isAbs b) : rel a b = none := by
  have : (isAbs a != isAbs b) = true := by simpa using h
  unfold rel
  simp only [norm_rooted, this, if_true]

theorem rel_abs_abs {a b : Bytes} (ha : isAbs a = true) (hb : isAbs b = true) :
    rel a b = rel (absOf (resolve [] (splitSlash a))) (absOf (resolve [] (splitSlash b))) := by
  rw [← rel_clean_left a, ← rel_clean_right _ b, clean_abs ha, clean_abs hb]

theorem rel_abs_eq_none_iff {base targ : Bytes} (hb : isAbs base = true) :
    rel base targ = none ↔ isAbs targ = false := by
  constructor
  · intro h
    cases ht : isAbs targ with
    | false => rfl
    | true =>
      rw [rel_abs_abs hb ht, rel_absOf_absOf (resolve_isGood good_nil (splitSlash_slashFree _))
        (resolve_isGood good_nil (splitSlash_slashFree _))] at h
      exact absurd h (by simp)
  · intro ht
    exact rel_mixed (by rw [hb, ht]; decide)

theorem denote_updown {base : Comps} (hb : Good base) (k : Nat) {c : Comps} (hc : Good c) :
    denote base (relOf (ups k ++ c)) = dropLastN k base ++ c := by
  rw [denote_rel (isAbs_relOf (updown_relSeg k hc)), resolve_splitSlash_relOf_updown base k hc,
    resolve_updown hb k hc]

end Dud.PathSpec
