import DudModel.Basic
/-!
# Outcomes up to a relation (`ExRel`) and the map with errors (`mapE`)

Outcomes of two runs are compared with `ExRel R`: both fail, or both succeed with `R`-related
values.  `ExRel.trans`, `.map`, `.bind` compose such comparisons along the structure of the
operations, so that no proof has to split on the four combinations of outcomes.

`mapE` is the loop that commit (`commitEntries_eq_mapE`) and status (`childStatuses_eq_mapE`) come
down to: a function with errors applied to every element of a list, none seeing what the others
did.  `mapE_perm`, `mapE_ok_iff`, `mapE_error_iff` are order independence and "fails iff an element
fails" for it; `mapE_all_iff` reads a property of all results off the arguments.
-/
namespace Dud

/-- outcomes related by `R`: both errors (of any class), or both values, related -/
def ExRel {α β : Type} (R : α → β → Prop) : Except Err α → Except Err β → Prop
  | .error _, .error _ => True
  | .ok a, .ok b => R a b
  | _, _ => False

@[elab_as_elim]
theorem ExRel.cases {α β : Type} {R : α → β → Prop} {x : Except Err α} {y : Except Err β}
    {motive : Except Err α → Except Err β → Prop} (h : ExRel R x y)
    (err : ∀ e e', motive (.error e) (.error e')) (ok : ∀ a b, R a b → motive (.ok a) (.ok b)) :
    motive x y := by
  cases x with
  | error e =>
    cases y with
    | error e' => exact err e e'
    | ok b => exact h.elim
  | ok a =>
    cases y with
    | error e' => exact h.elim
    | ok b => exact ok a b h

theorem ExRel.refl {α : Type} {R : α → α → Prop} (h : ∀ a, R a a) (x : Except Err α) :
    ExRel R x x := by
  cases x with
  | error e => trivial
  | ok a => exact h a

theorem ExRel.mono {α β : Type} {R R' : α → β → Prop} (h : ∀ a b, R a b → R' a b)
    {x : Except Err α} {y : Except Err β} (hx : ExRel R x y) : ExRel R' x y :=
  hx.cases (fun _ _ => trivial) h

theorem ExRel.ok_left {α β : Type} {R : α → β → Prop} {x : Except Err α} {y : Except Err β}
    (h : ExRel R x y) {a : α} (hx : x = .ok a) : ∃ b, y = .ok b ∧ R a b := by
  subst hx
  cases y with
  | error e => exact h.elim
  | ok b => exact ⟨b, rfl, h⟩

theorem ExRel.ok_right {α β : Type} {R : α → β → Prop} {x : Except Err α} {y : Except Err β}
    (h : ExRel R x y) {b : β} (hy : y = .ok b) : ∃ a, x = .ok a ∧ R a b := by
  subst hy
  cases x with
  | error e => exact h.elim
  | ok a => exact ⟨a, rfl, h⟩

theorem ExRel.error_left {α β : Type} {R : α → β → Prop} {x : Except Err α} {y : Except Err β}
    (h : ExRel R x y) {e : Err} (hx : x = .error e) : ∃ e', y = .error e' := by
  subst hx
  cases y with
  | error e' => exact ⟨e', rfl⟩
  | ok b => exact h.elim

theorem ExRel.error_right {α β : Type} {R : α → β → Prop} {x : Except Err α} {y : Except Err β}
    (h : ExRel R x y) {e : Err} (hy : y = .error e) : ∃ e', x = .error e' := by
  subst hy
  cases x with
  | error e' => exact ⟨e', rfl⟩
  | ok a => exact h.elim

section
variable {α β : Type} {R : α → β → Prop} {x : Except Err α} {y : Except Err β} (hx : ExRel R x y)
include hx

theorem ExRel.symm {S : β → α → Prop} (h : ∀ a b, R a b → S b a) : ExRel S y x :=
  hx.cases (fun _ _ => trivial) h

theorem ExRel.trans {γ : Type} {S : β → γ → Prop} {T : α → γ → Prop} {z : Except Err γ}
    (h2 : ExRel S y z) (h : ∀ a b c, R a b → S b c → T a c) : ExRel T x z := by
  cases x with
  | error e =>
    cases y with
    | error _ =>
      cases z with
      | error _ => trivial
      | ok _ => exact h2
    | ok _ => exact hx.elim
  | ok a =>
    cases y with
    | error _ => exact hx.elim
    | ok b =>
      cases z with
      | error _ => exact h2.elim
      | ok c => exact h a b c hx h2

theorem ExRel.bind {α' β' : Type} {S : α' → β' → Prop} {f : α → Except Err α'}
    {g : β → Except Err β'} (h : ∀ a b, R a b → ExRel S (f a) (g b)) :
    ExRel S (x.bind f) (y.bind g) :=
  hx.cases (fun _ _ => trivial) h

theorem ExRel.map {α' β' : Type} {R' : α' → β' → Prop} {f : α → α'} {g : β → β'}
    (h : ∀ a b, R a b → R' (f a) (g b)) : ExRel R' (x.map f) (y.map g) :=
  hx.cases (fun _ _ => trivial) h

/-- the outcomes themselves may be used when reading a relation off them -/
theorem ExRel.and_eq : ExRel (fun a b => R a b ∧ x = .ok a ∧ y = .ok b) x y :=
  hx.cases (fun _ _ => trivial) fun _ _ h => ⟨h, rfl, rfl⟩

end

theorem Except.map_error_iff {ε α β : Type} (f : α → β) (x : Except ε α) :
    (∃ e, x.map f = .error e) ↔ ∃ e, x = .error e := by
  cases x <;> simp [Except.map]

theorem Except.map_ok_iff {ε α β : Type} (f : α → β) (x : Except ε α) :
    (∃ v, x.map f = .ok v) ↔ ∃ v, x = .ok v := by
  cases x <;> simp [Except.map]

theorem bind_eq_ok {α β : Type} {x : Except Err α} {f : α → Except Err β} {b : β}
    (h : x.bind f = .ok b) : ∃ a, x = .ok a ∧ f a = .ok b := by
  cases x with
  | error e => cases h
  | ok a => exact ⟨a, rfl, h⟩

theorem bind_congr_ok {α β : Type} {x : Except Err α} {f g : α → Except Err β}
    (h : ∀ a, x = .ok a → f a = g a) : x.bind f = x.bind g := by
  cases x with
  | error e => rfl
  | ok a => exact h a rfl

/-- map with errors: the first error (in list order) wins -/
def mapE {α β : Type} (g : α → Except Err β) : List α → Except Err (List β)
  | [] => .ok []
  | a :: l => (g a).bind fun b => (mapE g l).map (b :: ·)

inductive Forall2 {α β : Type} (R : α → β → Prop) : List α → List β → Prop
  | nil : Forall2 R [] []
  | cons {a b l l'} : R a b → Forall2 R l l' → Forall2 R (a :: l) (b :: l')

theorem Forall2.all_eq {α β : Type} {R : α → β → Prop} {p : α → Bool} {q : β → Bool}
    (hpq : ∀ a b, R a b → p a = q b) {l : List α} {l' : List β} (h : Forall2 R l l') :
    l.all p = l'.all q := by
  induction h with
  | nil => rfl
  | cons hab _ ih => simp only [List.all_cons, hpq _ _ hab, ih]

theorem Forall2.length_eq {α β : Type} {R : α → β → Prop} {l : List α} {l' : List β}
    (h : Forall2 R l l') : l.length = l'.length := by
  induction h with
  | nil => rfl
  | cons _ _ ih => simp only [List.length_cons, ih]

theorem Forall2.append {α β : Type} {R : α → β → Prop} {l1 l2 : List α} {m1 m2 : List β}
    (h1 : Forall2 R l1 m1) (h2 : Forall2 R l2 m2) : Forall2 R (l1 ++ l2) (m1 ++ m2) := by
  induction h1 with
  | nil => exact h2
  | cons hab _ ih => exact Forall2.cons hab ih

/-- related pointwise, then reordered -/
def PermRel {α β : Type} (R : α → β → Prop) (l : List α) (l' : List β) : Prop :=
  ∃ mid, Forall2 R l mid ∧ mid.Perm l'

theorem mapE_pointwise {α β β' : Type} (R : β → β' → Prop) {g : α → Except Err β}
    {g' : α → Except Err β'} :
    ∀ (l : List α), (∀ a ∈ l, ExRel R (g a) (g' a)) → ExRel (Forall2 R) (mapE g l) (mapE g' l)
  | [], _ => Forall2.nil
  | a :: l, h =>
    (h a (List.mem_cons_self ..)).bind fun _ _ hb =>
      (mapE_pointwise R l fun b hb => h b (List.mem_cons_of_mem _ hb)).map fun _ _ h => .cons hb h

theorem mapE_perm {α β : Type} (g : α → Except Err β) {l l' : List α} (hp : l.Perm l') :
    ExRel List.Perm (mapE g l) (mapE g l') := by
  induction hp with
  | nil => exact List.Perm.refl _
  | cons a _ ih =>
    exact (ExRel.refl (fun _ => rfl) (g a)).bind fun b _ hb =>
      hb ▸ ih.map fun _ _ h => h.cons b
  | swap x y l =>
    simp only [mapE]
    cases g x with
    | error _ => cases g y <;> trivial
    | ok a =>
      cases g y with
      | error _ => trivial
      | ok b =>
        cases mapE g l with
        | error _ => trivial
        | ok bs => exact List.Perm.swap _ _ _
  | trans _ _ ih1 ih2 => exact ih1.trans ih2 fun _ _ _ => List.Perm.trans

/-- `mapE_pointwise`, then `mapE_perm`: two functions with related outcomes on every element, applied
to two orders of one list -/
theorem mapE_perm_rel {α β β' : Type} (R : β → β' → Prop) {g : α → Except Err β}
    {g' : α → Except Err β'} {l l' : List α} (hp : l.Perm l')
    (h : ∀ a ∈ l, ExRel R (g a) (g' a)) : ExRel (PermRel R) (mapE g l) (mapE g' l') :=
  (mapE_pointwise R l h).trans (mapE_perm g' hp) fun _ mid _ h1 h2 => ⟨mid, h1, h2⟩

theorem mapE_ok_iff {α β : Type} (g : α → Except Err β) (l : List α) :
    (∃ bs, mapE g l = .ok bs) ↔ ∀ a ∈ l, ∃ b, g a = .ok b := by
  induction l with
  | nil => simp [mapE]
  | cons a l ih =>
    rw [List.forall_mem_cons, ← ih, mapE]
    cases g a with
    | error e => exact ⟨fun ⟨_, h⟩ => (nomatch h), fun ⟨⟨_, h⟩, _⟩ => (nomatch h)⟩
    | ok b =>
      exact ⟨fun h => ⟨⟨b, rfl⟩, (Except.map_ok_iff _ _).1 h⟩, fun h => (Except.map_ok_iff _ _).2 h.2⟩

theorem mapE_error_iff {α β : Type} (g : α → Except Err β) (l : List α) :
    (∃ e, mapE g l = .error e) ↔ ∃ a ∈ l, ∃ e, g a = .error e := by
  induction l with
  | nil => simp [mapE]
  | cons a l ih =>
    simp only [List.mem_cons, exists_eq_or_imp, ← ih, mapE]
    cases g a with
    | error e => exact ⟨fun _ => .inl ⟨e, rfl⟩, fun _ => ⟨e, rfl⟩⟩
    | ok b =>
      refine (Except.map_error_iff _ _).trans ⟨.inr, fun h => h.resolve_left ?_⟩
      exact fun ⟨_, h⟩ => nomatch h

/-- a successful `mapE`, entry by entry: a property of the results that `g` ties to a property of
the arguments holds of all results iff the other holds of all arguments -/
theorem mapE_all_iff {α β : Type} {g : α → Except Err β} {P : β → Prop} {Q : α → Prop}
    (hg : ∀ a b, g a = .ok b → (P b ↔ Q a)) :
    ∀ {l : List α} {r : List β}, mapE g l = .ok r → ((∀ b ∈ r, P b) ↔ ∀ a ∈ l, Q a)
  | [], _, h => by cases h; simp
  | a :: l, _, h => by
    obtain ⟨b, hb, h⟩ := bind_eq_ok h
    cases hr : mapE g l with
    | error e => rw [hr] at h; cases h
    | ok r' =>
      rw [hr] at h
      cases h
      simp only [List.mem_cons, forall_eq_or_imp, hg a b hb, mapE_all_iff hg hr]

end Dud
