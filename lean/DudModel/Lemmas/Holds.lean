import DudModel.Lemmas.Tree
import DudModel.Lemmas.CheckoutEq
/-!
# A store *holds* a tree

`HoldsNode ctx s ch nm t`: the store contains, up to bytes, every object a commit of the plain
tree `t` under the name `nm` writes, where the manifest of the directory at path `p` (below `t`)
is written with schema `ch p` (`ch = newChoice`: what the current dud writes).  From a store
holding a tree, checkout gives exactly `wsAfter` (`checkoutNode_ws`: into an absent place or over
what an earlier commit / checkout left), and the old manifests found by a recommit are compatible
with it (`compatNode_of_holds` in `Lemmas/Compat.lean`).
-/
namespace Dud

variable {κ : Type}

/-- which schema the manifest of the directory at a path (entry names from the root) has -/
abbrev Choice := List Name → Schema

def subChoice (ch : Choice) (nm : Name) : Choice := fun p => ch (nm :: p)
def newChoice : Choice := fun _ => .new
def oldChoice : Choice := fun _ => .old

mutual
/-- the checksum of a tree whose manifests are written with the schemas `ch` -/
def digestAs (ctx : Ctx κ) : Choice → Bytes → Node κ → Digest
  | _, _, .file c => ctx.H c
  | ch, nm, .dir es =>
    (Obj.man (ch []) nm (sortChildren (childrenAs ctx ch es)) : Obj κ).digest ctx
  | _, _, .link _ => ""
  | _, _, .other => ""
def childrenAs (ctx : Ctx κ) : Choice → List (Name × Node κ) → List Child
  | _, [] => []
  | ch, (nm, n) :: r =>
    { name := nm, sum := digestAs ctx (subChoice ch nm) nm n, isDir := n.isDir } ::
      childrenAs ctx ch r
end

mutual
theorem digestAs_new (ctx : Ctx κ) : ∀ (nm : Bytes) (t : Node κ),
    digestAs ctx newChoice nm t = treeDigest ctx nm t
  | _, .file c => by simp [digestAs, treeDigest]
  | nm, .dir es => by
    simp only [digestAs, treeDigest]
    rw [childrenAs_new ctx es]
    rfl
  | _, .link _ => by simp [digestAs, treeDigest]
  | _, .other => by simp [digestAs, treeDigest]
theorem childrenAs_new (ctx : Ctx κ) : ∀ (es : List (Name × Node κ)),
    childrenAs ctx newChoice es = childrenOf ctx es
  | [] => by simp [childrenAs, childrenOf]
  | (nm, n) :: r => by
    simp only [childrenAs, childrenOf]
    have : subChoice newChoice nm = newChoice := rfl
    rw [this, digestAs_new ctx nm n, childrenAs_new ctx r]
end

theorem childrenAs_eq_map (ctx : Ctx κ) (ch : Choice) : ∀ (es : List (Name × Node κ)),
    childrenAs ctx ch es =
      es.map (fun e => ⟨e.1, digestAs ctx (subChoice ch e.1) e.1 e.2, e.2.isDir⟩) := by
  intro es
  induction es with
  | nil => simp [childrenAs]
  | cons _ _ ih => simp [childrenAs, ih]

theorem sortChildren_childrenAs (ctx : Ctx κ) (ch : Choice) (es : List (Name × Node κ))
    (h : sortedList es = true) : sortChildren (childrenAs ctx ch es) = childrenAs ctx ch es := by
  rw [sortChildren_eq, childrenAs_eq_map]
  exact sortBy_of_sorted ((sortedList_sortedBy h).map _ fun _ => rfl)

theorem map_reload_childrenAs (ctx : Ctx κ) (ch : Choice) (sch : Schema) :
    ∀ (es : List (Name × Node κ)),
    (∀ e ∈ es, ∀ sum isDir, ctx.reload sch ⟨e.1, sum, isDir⟩ = ⟨e.1, sum, isDir⟩) →
      (childrenAs ctx ch es).map (ctx.reload sch) = childrenAs ctx ch es := by
  intro es
  induction es with
  | nil => intro _; simp [childrenAs]
  | cons x r ih =>
    intro h
    simp only [childrenAs, List.map_cons]
    rw [h x (by simp), ih (fun e he => h e (by simp [he]))]

theorem findChild_childrenAs (ctx : Ctx κ) (ch : Choice) (es : List (Name × Node κ))
    (h : sortedList es = true) : ∀ e ∈ es, findChild (childrenAs ctx ch es) e.1 =
      some ⟨e.1, digestAs ctx (subChoice ch e.1) e.1 e.2, e.2.isDir⟩ := by
  induction es with
  | nil => intro e he; simp at he
  | cons x r ih =>
    intro e he
    rcases List.mem_cons.1 he with rfl | he'
    · simp [childrenAs, findChild]
    · have hne : x.1 ≠ e.1 := sortedList_head_ne h e he'
      have := ih (sortedList_cons h).2 e he'
      simp only [findChild] at this
      simp [childrenAs, findChild, hne, this]

theorem findChild_childrenAs_mem {ctx : Ctx κ} {ch : Choice} {es : List (Name × Node κ)}
    {nm : Bytes} {k : Child} (h : findChild (childrenAs ctx ch es) nm = some k) :
    ∃ e ∈ es, k = ⟨e.1, digestAs ctx (subChoice ch e.1) e.1 e.2, e.2.isDir⟩ := by
  have hm := List.mem_of_find?_eq_some h
  rw [childrenAs_eq_map] at hm
  obtain ⟨e, he, rfl⟩ := List.mem_map.1 hm
  exact ⟨e, he, rfl⟩

mutual
def HoldsNode (ctx : Ctx κ) (s : Store κ) : Choice → Bytes → Node κ → Prop
  | _, _, .file x => ∃ o, s.get (ctx.H x) = some o ∧ o.bytes ctx = x
  | ch, nm, .dir es =>
    (∃ o, s.get (digestAs ctx ch nm (.dir es)) = some o ∧
      o.bytes ctx = ctx.encMan (ch []) nm (sortChildren (childrenAs ctx ch es))) ∧
    HoldsList ctx s ch es
  | _, _, .link _ => True
  | _, _, .other => True
def HoldsList (ctx : Ctx κ) (s : Store κ) : Choice → List (Name × Node κ) → Prop
  | _, [] => True
  | ch, (nm, n) :: r => HoldsNode ctx s (subChoice ch nm) nm n ∧ HoldsList ctx s ch r
end

mutual
theorem HoldsNode.mono {ctx : Ctx κ} {s s1 : Store κ} (hle : Store.le ctx s s1) :
    ∀ (t : Node κ) (ch : Choice) (nm : Bytes), HoldsNode ctx s ch nm t → HoldsNode ctx s1 ch nm t
  | .file _, _, _, h => hle.holds h
  | .dir es, ch, _, h => ⟨hle.holds h.1, HoldsList.mono hle es ch h.2⟩
  | .link _, _, _, _ => trivial
  | .other, _, _, _ => trivial
theorem HoldsList.mono {ctx : Ctx κ} {s s1 : Store κ} (hle : Store.le ctx s s1) :
    ∀ (es : List (Name × Node κ)) (ch : Choice), HoldsList ctx s ch es → HoldsList ctx s1 ch es
  | [], _, _ => trivial
  | (nm, n) :: r, ch, h => ⟨HoldsNode.mono hle n _ nm h.1, HoldsList.mono hle r ch h.2⟩
end

theorem holdsList_mem {ctx : Ctx κ} {s : Store κ} {ch : Choice} : ∀ {es : List (Name × Node κ)}
    {e : Name × Node κ}, HoldsList ctx s ch es → e ∈ es → HoldsNode ctx s (subChoice ch e.1) e.1 e.2 := by
  intro es
  induction es with
  | nil => intro _ _ he; cases he
  | cons _ _ ih =>
    intro e h he
    simp only [HoldsList] at h
    rcases List.mem_cons.1 he with rfl | he'
    · exact h.1
    · exact ih h.2 he'

theorem childrenOK_childrenAs {ctx : Ctx κ} (ch : Choice) : ∀ {es : List (Name × Node κ)},
    NamesOKList ctx es → ChildrenOK (childrenAs ctx ch es)
  | [], _ => by simpa [childrenAs] using ChildrenOK.nil
  | (_, _) :: _, h => by
    simp only [childrenAs]
    exact ChildrenOK.cons (namesOK_head_entry h) (childrenOK_childrenAs ch (namesOK_tail h))

/-- a sorted, well-named directory whose manifest (schemas `ch`) the cache holds under its checksum
reads back as its children -/
theorem readManifest_dir {ctx : Ctx κ} (g : Good ctx) {s : Store κ} {ch : Choice} {nm : Bytes}
    {es : List (Name × Node κ)} (hs : sortedList es = true) (hn : NamesOKList ctx es)
    (h : s.Holds ctx (digestAs ctx ch nm (.dir es))
      (ctx.encMan (ch []) nm (sortChildren (childrenAs ctx ch es)))) :
    readManifest ctx s (digestAs ctx ch nm (.dir es)) = .ok (childrenAs ctx ch es) := by
  have hmap := map_reload_childrenAs ctx ch (ch []) es
    (fun e he sum isDir => (hn e.1 (mem_allNamesList_of_mem he)).2.1 _ sum isDir)
  rw [sortChildren_childrenAs ctx ch es hs] at h
  have hok : ChildrenOK ((childrenAs ctx ch es).map (ctx.reload (ch []))) := by
    rw [hmap]; exact childrenOK_childrenAs ch hn
  rw [readManifest_of_bytes g h hok, hmap]

theorem readManifest_holds {ctx : Ctx κ} (g : Good ctx) {s : Store κ} {ch : Choice} {nm : Bytes}
    {es : List (Name × Node κ)} (hs : sortedList es = true) (hn : NamesOKList ctx es)
    (h : HoldsNode ctx s ch nm (.dir es)) :
    s.has (digestAs ctx ch nm (.dir es)) = true ∧
      readManifest ctx s (digestAs ctx ch nm (.dir es)) = .ok (childrenAs ctx ch es) :=
  ⟨Store.Holds.has h.1, readManifest_dir g hs hn h.1⟩

theorem hasSum_digestAs_dir {ctx : Ctx κ} (g : Good ctx) (ch : Choice) (nm : Bytes)
    (es : List (Name × Node κ)) : hasSum (digestAs ctx ch nm (.dir es)) = true := by
  simp only [digestAs]
  exact hasSum_H g _

theorem oldManifest_holds {ctx : Ctx κ} (g : Good ctx) {s : Store κ} {ch : Choice} {nm : Bytes}
    {es : List (Name × Node κ)} (hs : sortedList es = true) (hn : NamesOKList ctx es)
    (h : HoldsNode ctx s ch nm (.dir es)) :
    oldManifest ctx s (digestAs ctx ch nm (.dir es)) = .ok (childrenAs ctx ch es) := by
  obtain ⟨hhas, hread⟩ := readManifest_holds g hs hn h
  rw [oldManifest_present ctx (hasSum_digestAs_dir g ch nm es) hhas, hread]

mutual
/-- every regular file replaced by the link into the cache -/
def linked (ctx : Ctx κ) : Node κ → Node κ
  | .file x => .link (.obj (ctx.H x))
  | .dir es => .dir (linkedList ctx es)
  | .link l => .link l
  | .other => .other
def linkedList (ctx : Ctx κ) : List (Name × Node κ) → List (Name × Node κ)
  | [] => []
  | (nm, n) :: r => (nm, linked ctx n) :: linkedList ctx r
end

/-- the workspace a commit / checkout with the given strategy leaves for a plain tree -/
def wsAfter (ctx : Ctx κ) : Strat → Node κ → Node κ
  | .link, t => linked ctx t
  | .copy, t => t

def wsAfterList (ctx : Ctx κ) : Strat → List (Name × Node κ) → List (Name × Node κ)
  | .link, es => linkedList ctx es
  | .copy, es => es

theorem wsAfter_dir (ctx : Ctx κ) (strat : Strat) (es : List (Name × Node κ)) :
    wsAfter ctx strat (.dir es) = .dir (wsAfterList ctx strat es) := by
  cases strat <;> simp [wsAfter, wsAfterList, linked]

theorem wsAfterList_cons (ctx : Ctx κ) (strat : Strat) (nm : Name) (n : Node κ)
    (r : List (Name × Node κ)) :
    wsAfterList ctx strat ((nm, n) :: r) = (nm, wsAfter ctx strat n) :: wsAfterList ctx strat r := by
  cases strat <;> simp [wsAfter, wsAfterList, linkedList]

theorem wsAfterList_nil (ctx : Ctx κ) (strat : Strat) : wsAfterList ctx strat [] = [] := by
  cases strat <;> simp [wsAfterList, linkedList]

theorem alookup_wsAfterList (ctx : Ctx κ) (strat : Strat) : ∀ (es : List (Name × Node κ)),
    sortedList es = true → ∀ e ∈ es,
      alookup (wsAfterList ctx strat es) e.1 = some (wsAfter ctx strat e.2) := by
  intro es
  induction es with
  | nil => intro _ e he; simp at he
  | cons x r ih =>
    intro h e he
    rw [wsAfterList_cons]
    rcases List.mem_cons.1 he with rfl | he'
    · simp [alookup]
    · have hne : x.1 ≠ e.1 := sortedList_head_ne h e he'
      simp [alookup, hne, ih (sortedList_cons h).2 e he']

theorem mem_wsAfterList (ctx : Ctx κ) (strat : Strat) : ∀ (es : List (Name × Node κ))
    (e' : Name × Node κ), e' ∈ wsAfterList ctx strat es → ∃ e ∈ es, e'.1 = e.1 := by
  intro es
  induction es with
  | nil => intro e' h; simp [wsAfterList_nil] at h
  | cons x r ih =>
    intro e' h
    rw [wsAfterList_cons] at h
    rcases List.mem_cons.1 h with rfl | h'
    · exact ⟨x, by simp, rfl⟩
    · obtain ⟨e, he, hh⟩ := ih e' h'
      exact ⟨e, by simp [he], hh⟩

mutual
theorem deref_linked {ctx : Ctx κ} {s : Store κ} : ∀ (t : Node κ) (ch : Choice) (nm : Bytes),
    t.plain = true → HoldsNode ctx s ch nm t → deref ctx s (linked ctx t) = t
  | .file _, _, _, _, h => deref_holds h
  | .dir es, ch, _, hp, h => congrArg Node.dir (derefList_linked es ch hp h.2)
  | .link _, _, _, hp, _ => by simp [Node.plain] at hp
  | .other, _, _, hp, _ => by simp [Node.plain] at hp
theorem derefList_linked {ctx : Ctx κ} {s : Store κ} : ∀ (es : List (Name × Node κ))
    (ch : Choice), plainList es = true → HoldsList ctx s ch es →
      derefList ctx s (linkedList ctx es) = es
  | [], _, _, _ => rfl
  | (nm, n) :: r, ch, hp, h => by
    simp only [linkedList, derefList]
    rw [deref_linked n _ nm (plainList_cons hp).1 h.1, derefList_linked r ch (plainList_cons hp).2 h.2]
end

theorem deref_wsAfter {ctx : Ctx κ} {s : Store κ} {t : Node κ} {ch : Choice} {nm : Bytes}
    (hp : t.plain = true) (h : HoldsNode ctx s ch nm t) (strat : Strat) :
    deref ctx s (wsAfter ctx strat t) = t := by
  cases strat with
  | link => exact deref_linked t ch nm hp h
  | copy => exact deref_plain ctx s t hp

/-- what the theorems about a store holding a tree assume of it: a plain sorted tree with names a
manifest can carry, every object of its commit (schemas `ch`) in the store, nesting within `fuel` -/
structure HeldTree (ctx : Ctx κ) (s : Store κ) (ch : Choice) (nm : Bytes) (t : Node κ) (fuel : Nat) :
    Prop where
  plain : t.plain = true
  sorted : t.sorted = true
  names : NamesOK ctx t
  holds : HoldsNode ctx s ch nm t
  depth : depth t ≤ fuel

structure HeldList (ctx : Ctx κ) (s : Store κ) (ch : Choice) (es : List (Name × Node κ)) (fuel : Nat) :
    Prop where
  plain : plainList es = true
  sorted : sortedList es = true
  names : NamesOKList ctx es
  holds : HoldsList ctx s ch es
  depth : depthList es ≤ fuel

theorem HeldTree.file {ctx : Ctx κ} {s : Store κ} {ch : Choice} {nm : Bytes} {x : κ} {fuel : Nat}
    (h : HeldTree ctx s ch nm (.file x) fuel) :
    ∃ k, fuel = k + 1 ∧ s.Holds ctx (ctx.H x) x :=
  ⟨fuel - 1, by have := h.depth; simp only [Dud.depth] at this; omega, h.holds⟩

theorem HeldTree.dir {ctx : Ctx κ} {s : Store κ} {ch : Choice} {nm : Bytes}
    {es : List (Name × Node κ)} {fuel : Nat} (h : HeldTree ctx s ch nm (.dir es) fuel) :
    ∃ k, fuel = k + 1 ∧ HeldList ctx s ch es k := by
  obtain ⟨hp, hs, hn, hh, hd⟩ := h
  simp only [HoldsNode] at hh
  simp only [Dud.depth] at hd
  exact ⟨fuel - 1, by omega, by simpa [Node.plain] using hp, by simpa [Node.sorted] using hs,
    namesOK_dir hn, hh.2, by omega⟩

theorem HeldList.cons {ctx : Ctx κ} {s : Store κ} {ch : Choice} {nm : Name} {n : Node κ}
    {r : List (Name × Node κ)} {fuel : Nat} (h : HeldList ctx s ch ((nm, n) :: r) fuel) :
    HeldTree ctx s (subChoice ch nm) nm n fuel ∧ HeldList ctx s ch r fuel := by
  obtain ⟨hp, hs, hn, hh, hd⟩ := h
  simp only [HoldsList] at hh
  simp only [depthList] at hd
  exact ⟨⟨(plainList_cons hp).1, (sortedList_cons hs).1, namesOK_node hn, hh.1, by omega⟩,
    (plainList_cons hp).2, (sortedList_cons hs).2, namesOK_tail hn, hh.2, by omega⟩

theorem HeldList.mem {ctx : Ctx κ} {s : Store κ} {ch : Choice} {fuel : Nat} :
    ∀ {es : List (Name × Node κ)}, HeldList ctx s ch es fuel → ∀ e ∈ es,
      HeldTree ctx s (subChoice ch e.1) e.1 e.2 fuel
  | (_, _) :: _, h, e, he => by
    rcases List.mem_cons.1 he with rfl | he
    · exact h.cons.1
    · exact h.cons.2.mem e he

/-- the shape of the workspace after checking out with `strat2` over what `strat1` left: copies
are left alone (they are up to date), exact links follow the second strategy -/
def coStrat : Strat → Strat → Strat
  | .copy, _ => .copy
  | .link, strat2 => strat2

/-- the same with the entry possibly absent before (`none`) -/
def coForm : Option Strat → Strat → Strat
  | none, strat2 => strat2
  | some strat1, strat2 => coStrat strat1 strat2

theorem checkoutFile_ws {ctx : Ctx κ} (g : Good ctx) {s : Store κ} {x : κ}
    (h : s.Holds ctx (ctx.H x) x) (os : Option Strat) (strat2 : Strat) :
    checkoutFile ctx strat2 (os.map fun σ => wsAfter ctx σ (.file x)) (ctx.H x) s
      = .ok (wsAfter ctx (coForm os strat2) (.file x)) := by
  have hh := hasSum_H g x
  have hhas := h.has
  obtain ⟨o, h, hb⟩ := h
  cases os with
  | none =>
    cases strat2 <;>
      simp [checkoutFile, upToDateCopy, quick, hh, hhas, h, hb, wsAfter, linked, coForm]
  | some σ =>
    cases σ <;> cases strat2 <;>
      simp [checkoutFile, upToDateCopy, quick, hh, hhas, h, hb, wsAfter, linked, coStrat, coForm]

mutual
/-- `checkoutNode` with `strat2` from any store holding the tree, into an absent place
(`os = none`) or over the workspace a `σ` commit / checkout left (`os = some σ`): the exact
result. -/
theorem checkoutNode_ws {ctx : Ctx κ} (g : Good ctx) (s : Store κ) (os : Option Strat)
    (strat2 : Strat) : ∀ (t : Node κ) {ch : Choice} {nm : Bytes} {fuel : Nat},
    HeldTree ctx s ch nm t fuel →
      checkoutNode ctx strat2 s fuel (os.map fun σ => wsAfter ctx σ t)
        ⟨nm, digestAs ctx ch nm t, t.isDir⟩ = .ok (wsAfter ctx (coForm os strat2) t)
  | .file x, _, nm, _, h => by
    obtain ⟨k, rfl, hx⟩ := h.file
    rw [checkoutNode_file rfl]
    exact checkoutFile_ws g hx os strat2
  | .dir es, ch, nm, _, h => by
    obtain ⟨k, rfl, hl⟩ := h.dir
    obtain ⟨hhas, hread⟩ := readManifest_holds g hl.sorted hl.names h.holds
    have hsum := hasSum_digestAs_dir g ch nm es
    have hch := checkoutChildren_ws g s os strat2 es hl [] (by simp)
    cases os <;>
      simp [checkoutNode, Node.isDir, hsum, hhas, hread, wsAfter_dir] at hch ⊢ <;> simp [hch]
  | .link _, _, _, _, h => by simpa [Node.plain] using h.plain
  | .other, _, _, _, h => by simpa [Node.plain] using h.plain
theorem checkoutChildren_ws {ctx : Ctx κ} (g : Good ctx) (s : Store κ) (os : Option Strat)
    (strat2 : Strat) : ∀ (r : List (Name × Node κ)) {ch : Choice} {fuel : Nat},
    HeldList ctx s ch r fuel → ∀ pre : List (Name × Node κ), (∀ p ∈ pre, ∀ e ∈ r, p.1 ≠ e.1) →
      checkoutChildren (checkoutNode ctx strat2 s fuel)
        (pre ++ (os.map fun σ => wsAfterList ctx σ r).getD []) (childrenAs ctx ch r)
        = .ok (pre ++ wsAfterList ctx (coForm os strat2) r)
  | [], _, _, _, pre, _ => by
    cases os <;> simp [childrenAs, checkoutChildren_nil, wsAfterList_nil]
  | (nm, n) :: r, ch, fuel, h, pre, hpre => by
    have h1 := checkoutNode_ws g s os strat2 n h.cons.1
    have hfresh : ∀ p ∈ pre, p.1 ≠ nm := fun p hp' => hpre p hp' (nm, n) (by simp)
    have hpre' : ∀ p ∈ pre ++ [(nm, wsAfter ctx (coForm os strat2) n)], ∀ e ∈ r,
        p.1 ≠ e.1 := by
      intro p hp' e he
      rcases List.mem_append.1 hp' with hp' | hp'
      · exact hpre p hp' e (by simp [he])
      · simp only [List.mem_singleton] at hp'
        subst hp'
        exact sortedList_head_ne h.sorted e he
    have h2 := checkoutChildren_ws g s os strat2 r h.cons.2 _ hpre'
    simp only [List.append_assoc, List.cons_append, List.nil_append] at h2
    simp only [childrenAs, wsAfterList_cons]
    cases os with
    | none =>
      simp only [Option.map, Option.getD, List.append_nil] at h1 h2 ⊢
      rw [checkoutChildren_cons_fresh _ pre _ _ _ hfresh h1]
      exact h2
    | some σ =>
      simp only [Option.map, Option.getD] at h1 h2 ⊢
      simp only [checkoutChildren_cons, alookup_append_fresh pre nm _ _ hfresh, h1,
        setEntry_append_fresh pre nm _ _ _ hfresh]
      exact h2
end

/-- `checkoutNode` into an absent place from any store holding the tree: the exact result. -/
theorem checkoutNode_holds {ctx : Ctx κ} (g : Good ctx) (s : Store κ) (strat : Strat) :
    ∀ (t : Node κ) (ch : Choice) (nm : Bytes) (fuel : Nat),
    t.plain = true → t.sorted = true → NamesOK ctx t → HoldsNode ctx s ch nm t →
    depth t ≤ fuel →
      checkoutNode ctx strat s fuel none ⟨nm, digestAs ctx ch nm t, t.isDir⟩
        = .ok (wsAfter ctx strat t) :=
  fun t _ _ _ hp hs hn h hf => checkoutNode_ws g s none strat t ⟨hp, hs, hn, h, hf⟩

theorem checkoutChildren_holds {ctx : Ctx κ} (g : Good ctx) (s : Store κ) (strat : Strat) :
    ∀ (es : List (Name × Node κ)) (ch : Choice) (fuel : Nat),
    plainList es = true → sortedList es = true → NamesOKList ctx es → HoldsList ctx s ch es →
    depthList es ≤ fuel → ∀ acc : List (Name × Node κ), (∀ p ∈ acc, ∀ e ∈ es, p.1 ≠ e.1) →
      checkoutChildren (checkoutNode ctx strat s fuel) acc (childrenAs ctx ch es)
        = .ok (acc ++ wsAfterList ctx strat es)
  | es, ch, fuel, hp, hs, hn, h, hf, acc, hacc => by
    simpa [coForm] using checkoutChildren_ws g s none strat es ⟨hp, hs, hn, h, hf⟩ acc hacc

/-- `checkoutNode` with `strat2` over the workspace a `strat1` commit / checkout left, from any
store holding the tree: the exact result. -/
theorem checkoutNode_over {ctx : Ctx κ} (g : Good ctx) (s : Store κ) (strat1 strat2 : Strat) :
    ∀ (t : Node κ) (ch : Choice) (nm : Bytes) (fuel : Nat),
    t.plain = true → t.sorted = true → NamesOK ctx t → HoldsNode ctx s ch nm t →
    depth t ≤ fuel →
      checkoutNode ctx strat2 s fuel (some (wsAfter ctx strat1 t))
        ⟨nm, digestAs ctx ch nm t, t.isDir⟩ = .ok (wsAfter ctx (coStrat strat1 strat2) t) :=
  fun t _ _ _ hp hs hn h hf => checkoutNode_ws g s (some strat1) strat2 t ⟨hp, hs, hn, h, hf⟩

theorem checkoutChildren_over {ctx : Ctx κ} (g : Good ctx) (s : Store κ) (strat1 strat2 : Strat) :
    ∀ (r : List (Name × Node κ)) (ch : Choice) (fuel : Nat),
    plainList r = true → sortedList r = true → NamesOKList ctx r → HoldsList ctx s ch r →
    depthList r ≤ fuel → ∀ pre : List (Name × Node κ), (∀ p ∈ pre, ∀ e ∈ r, p.1 ≠ e.1) →
      checkoutChildren (checkoutNode ctx strat2 s fuel) (pre ++ wsAfterList ctx strat1 r)
        (childrenAs ctx ch r) = .ok (pre ++ wsAfterList ctx (coStrat strat1 strat2) r)
  | r, ch, fuel, hp, hs, hn, h, hf, pre, hpre =>
    checkoutChildren_ws g s (some strat1) strat2 r ⟨hp, hs, hn, h, hf⟩ pre hpre

end Dud
