import DudModel.Spec
/-!
# Stores

What every later file knows about a cache: `get`/`put`/`has` on the association list, `Consistent`
(every object under the digest of its bytes) and the two orders `Store.le` (the same bytes under the
same digests) and `Store.ext` (the same bindings).  `Store.Holds` is, given `Good`, all that commit,
checkout and status read from a cache, and it is kept along `Store.le`.  A block `Δ ++ s` of self-addressed
objects (`DeltaOK`) on a consistent cache is consistent and above it in `Store.le` — the form in which
every commit returns its cache; `FileMatch` says what `ContentsMatch` of a file artifact means.
-/
namespace Dud

variable {κ : Type}

theorem Store.get_put (s : Store κ) (d d' : Digest) (o : Obj κ) :
    (s.put d o).get d' = if d = d' then some o else s.get d' := by
  simp [Store.get, Store.put, alookup]

theorem Store.get_put_self (s : Store κ) (d : Digest) (o : Obj κ) : (s.put d o).get d = some o := by
  simp [Store.get_put]

theorem Store.get_put_ne (s : Store κ) {d d' : Digest} (o : Obj κ) (h : d ≠ d') :
    (s.put d o).get d' = s.get d' := by
  simp [Store.get_put, h]

theorem Store.has_eq_true {s : Store κ} {d : Digest} : s.has d = true ↔ ∃ o, s.get d = some o := by
  simp [Store.has, Option.isSome_iff_exists]

theorem Store.has_eq_false {s : Store κ} {d : Digest} : s.has d = false ↔ s.get d = none := by
  simp [Store.has]

theorem Store.has_of_get {s : Store κ} {d : Digest} {o : Obj κ} (h : s.get d = some o) : s.has d = true :=
  Store.has_eq_true.2 ⟨o, h⟩

/-- `get`-extension: every binding of `s` is kept verbatim -/
def Store.ext (s s' : Store κ) : Prop := ∀ d o, s.get d = some o → s'.get d = some o

theorem Store.ext.refl (s : Store κ) : Store.ext s s := fun _ _ h => h

theorem Store.ext.trans {s1 s2 s3 : Store κ} (h1 : Store.ext s1 s2) (h2 : Store.ext s2 s3) : Store.ext s1 s3 :=
  fun d o h => h2 d o (h1 d o h)

theorem Store.ext.le (ctx : Ctx κ) {s s' : Store κ} (h : Store.ext s s') : Store.le ctx s s' :=
  fun d o hd => ⟨o, h d o hd, rfl⟩

theorem Store.ext.has {s s' : Store κ} (h : Store.ext s s') {d : Digest} (hd : s.has d = true) : s'.has d = true := by
  obtain ⟨o, ho⟩ := Store.has_eq_true.1 hd
  exact Store.has_of_get (h d o ho)

theorem Store.ext_put_fresh {s : Store κ} {d : Digest} (o : Obj κ) (h : s.has d = false) : Store.ext s (s.put d o) := by
  intro d' o' h'
  by_cases hd : d = d'
  · subst hd; rw [Store.has_eq_false.1 h] at h'; cases h'
  · rw [Store.get_put_ne _ _ hd]; exact h'

theorem readManifest_congr (ctx : Ctx κ) {s s' : Store κ} {d : Digest} (h : s.get d = s'.get d) :
    readManifest ctx s d = readManifest ctx s' d := by
  simp only [readManifest, h]

theorem readManifest_missing {ctx : Ctx κ} {s : Store κ} {d : Digest} (h : s.has d = false) :
    readManifest ctx s d = .error .missingFromCache := by
  rw [readManifest_eq, Store.has_eq_false.1 h]

theorem readManifest_ok_has {ctx : Ctx κ} {s : Store κ} {d : Digest} {cs : List Child}
    (h : readManifest ctx s d = .ok cs) : s.has d = true := by
  cases hg : s.get d with
  | none => rw [readManifest_eq, hg] at h; cases h
  | some o => exact Store.has_of_get hg

theorem readManifest_ext (ctx : Ctx κ) {s s' : Store κ} (h : Store.ext s s') {d : Digest} (hd : s.has d = true) :
    readManifest ctx s' d = readManifest ctx s d := by
  obtain ⟨o, ho⟩ := Store.has_eq_true.1 hd
  exact readManifest_congr ctx (by rw [ho, h d o ho])

theorem Store.le_refl (ctx : Ctx κ) (s : Store κ) : Store.le ctx s s := fun _ o h => ⟨o, h, rfl⟩

theorem Store.le_trans {ctx : Ctx κ} {s1 s2 s3 : Store κ} (h12 : Store.le ctx s1 s2)
    (h23 : Store.le ctx s2 s3) : Store.le ctx s1 s3 := by
  intro d o h
  obtain ⟨o2, h2, hb2⟩ := h12 d o h
  obtain ⟨o3, h3, hb3⟩ := h23 d o2 h2
  exact ⟨o3, h3, hb3.trans hb2⟩

/-- `s` holds the bytes `b` under the digest `d`.  With `Good`, this is all that commit, checkout and
status read from a cache (`Store.Holds.has`, `readManifest_eq_dec`, `deref_holds`), and `Store.le`
says that it is kept (`Store.le.holds`): a statement built from it by `∧ ∨ ∀ ∃` is monotone. -/
def Store.Holds (ctx : Ctx κ) (s : Store κ) (d : Digest) (b : κ) : Prop :=
  ∃ o, s.get d = some o ∧ o.bytes ctx = b

theorem Store.Holds.has {ctx : Ctx κ} {s : Store κ} {d : Digest} {b : κ} (h : s.Holds ctx d b) :
    s.has d = true :=
  let ⟨_, ho, _⟩ := h; Store.has_of_get ho

theorem Store.holds_of_has (ctx : Ctx κ) {s : Store κ} {d : Digest} (h : s.has d = true) :
    ∃ b, s.Holds ctx d b :=
  let ⟨o, ho⟩ := Store.has_eq_true.1 h; ⟨_, o, ho, rfl⟩

theorem Store.le.holds {ctx : Ctx κ} {s s' : Store κ} (hle : Store.le ctx s s') {d : Digest} {b : κ}
    (h : s.Holds ctx d b) : s'.Holds ctx d b :=
  let ⟨o, ho, hb⟩ := h
  let ⟨o', ho', hb'⟩ := hle d o ho
  ⟨o', ho', hb'.trans hb⟩

theorem Store.has_le {ctx : Ctx κ} {s s1 : Store κ} (hle : Store.le ctx s s1) {d : Digest}
    (h : s.has d = true) : s1.has d = true :=
  let ⟨_, hb⟩ := Store.holds_of_has ctx h; (hle.holds hb).has

theorem Store.put_le_of_present {ctx : Ctx κ} {s s' : Store κ} (hle : Store.le ctx s s')
    {d : Digest} {m o : Obj κ} (ho : s'.get d = some o) (hb : o.bytes ctx = m.bytes ctx) :
    Store.le ctx (s.put d m) s' := by
  intro d' o' h
  rw [Store.get_put] at h
  split at h
  · next hd => cases h; subst hd; exact ⟨o, ho, hb⟩
  · exact hle d' o' h

theorem Consistent.nil (ctx : Ctx κ) : Consistent ctx ([] : Store κ) := by
  intro d o h; cases h

theorem Consistent.put {ctx : Ctx κ} {s : Store κ} (hc : Consistent ctx s) (o : Obj κ) :
    Consistent ctx (s.put (o.digest ctx) o) := by
  intro d o' h
  rw [Store.get_put] at h
  split at h
  · next hd => cases h; exact hd
  · exact hc _ _ h

theorem Consistent.of_prov {ctx : Ctx κ} {s a b : Store κ}
    (hp : ∀ d o, s.get d = some o → a.get d = some o ∨ b.get d = some o)
    (ha : Consistent ctx a) (hb : Consistent ctx b) : Consistent ctx s :=
  fun d o h => (hp d o h).elim (ha d o) (hb d o)

theorem Consistent.same_bytes {ctx : Ctx κ} (g : Good ctx) {s s' : Store κ} (hc : Consistent ctx s)
    (hc' : Consistent ctx s') {d : Digest} {o o' : Obj κ} (h : s.get d = some o)
    (h' : s'.get d = some o') : o'.bytes ctx = o.bytes ctx :=
  g.inj _ _ ((hc' d o' h').trans (hc d o h).symm)

theorem Consistent.holds {ctx : Ctx κ} (g : Good ctx) {s : Store κ} (hc : Consistent ctx s) {b : κ}
    {o : Obj κ} (h : s.get (ctx.H b) = some o) : s.Holds ctx (ctx.H b) b :=
  ⟨o, h, g.inj _ _ (hc _ o h)⟩

theorem Consistent.has_same_bytes {ctx : Ctx κ} (g : Good ctx) {s s' : Store κ} (hc : Consistent ctx s)
    (hc' : Consistent ctx s') {d : Digest} (h : s.has d = true) (h' : s'.has d = true) :
    ∃ o o', s.get d = some o ∧ s'.get d = some o' ∧ o'.bytes ctx = o.bytes ctx := by
  obtain ⟨o, ho⟩ := Store.has_eq_true.1 h
  obtain ⟨o', ho'⟩ := Store.has_eq_true.1 h'
  exact ⟨o, o', ho, ho', hc.same_bytes g hc' ho ho'⟩

/-- Writing an object under its own digest never loses bytes of a consistent store (this is where
collision freedom of the hash is used). -/
theorem Store.le_put {ctx : Ctx κ} (g : Good ctx) {s : Store κ} (hc : Consistent ctx s)
    (o : Obj κ) : Store.le ctx s (s.put (o.digest ctx) o) := by
  intro d o' h
  rw [Store.get_put]
  by_cases hd : o.digest ctx = d
  · exact ⟨o, by simp [hd], g.inj _ _ (hd.trans (hc d o' h).symm)⟩
  · exact ⟨o', by simp [hd, h], rfl⟩

theorem Store.has_put (s : Store κ) (d d' : Digest) (o : Obj κ) :
    (s.put d o).has d' = true ↔ d = d' ∨ s.has d' = true := by
  simp only [Store.has, Store.get_put]
  split
  · next h => simp [h]
  · next h => simp [h]

def Store.Step (ctx : Ctx κ) (s s' : Store κ) : Prop :=
  Consistent ctx s → Consistent ctx s' ∧ Store.le ctx s s'

theorem Store.Step.refl (ctx : Ctx κ) (s : Store κ) : Store.Step ctx s s := fun h => ⟨h, Store.le_refl ctx s⟩

theorem Store.Step.trans {ctx : Ctx κ} {s1 s2 s3 : Store κ} (h1 : Store.Step ctx s1 s2) (h2 : Store.Step ctx s2 s3) :
    Store.Step ctx s1 s3 := fun h =>
  ⟨(h2 (h1 h).1).1, Store.le_trans (h1 h).2 (h2 (h1 h).1).2⟩

/-! ## a block of self-addressed objects on top of a cache -/

/-- every binding of the block sits under the digest of its object -/
def DeltaOK (ctx : Ctx κ) (Δ : Store κ) : Prop := ∀ p ∈ Δ, p.2.digest ctx = p.1

theorem DeltaOK.nil (ctx : Ctx κ) : DeltaOK ctx ([] : Store κ) := fun _ h => by cases h

theorem DeltaOK.cons {ctx : Ctx κ} {Δ : Store κ} (o : Obj κ) (h : DeltaOK ctx Δ) :
    DeltaOK ctx ((o.digest ctx, o) :: Δ) := by
  intro p hp
  rcases List.mem_cons.1 hp with rfl | hp
  · rfl
  · exact h p hp

theorem DeltaOK.append {ctx : Ctx κ} {Δ1 Δ2 : Store κ} (h1 : DeltaOK ctx Δ1) (h2 : DeltaOK ctx Δ2) :
    DeltaOK ctx (Δ1 ++ Δ2) := by
  intro p hp
  rcases List.mem_append.1 hp with hp | hp
  · exact h1 p hp
  · exact h2 p hp

theorem Store.get_append (Δ s : Store κ) (d : Digest) :
    Store.get (Δ ++ s) d = match Store.get Δ d with
      | some o => some o
      | none => Store.get s d := by
  induction Δ with
  | nil => simp [Store.get, alookup]
  | cons p Δ ih =>
    obtain ⟨k, v⟩ := p
    simp only [Store.get] at ih ⊢
    simp only [List.cons_append, alookup]
    split
    · rfl
    · exact ih

theorem DeltaOK.get {ctx : Ctx κ} {Δ : Store κ} (h : DeltaOK ctx Δ) {d : Digest} {o : Obj κ}
    (hd : Store.get Δ d = some o) : o.digest ctx = d :=
  h (d, o) (alookup_mem hd)

theorem Consistent.append {ctx : Ctx κ} {Δ s : Store κ} (hΔ : DeltaOK ctx Δ)
    (hs : Consistent ctx s) : Consistent ctx (Δ ++ s) := by
  intro d o h
  rw [Store.get_append] at h
  split at h
  · next o' ho' => cases h; exact hΔ.get ho'
  · exact hs d o h

theorem Store.le_append {ctx : Ctx κ} (g : Good ctx) {Δ s : Store κ} (hΔ : DeltaOK ctx Δ)
    (hs : Consistent ctx s) : Store.le ctx s (Δ ++ s) := by
  intro d o h
  rw [Store.get_append]
  cases hd : Store.get Δ d with
  | none => exact ⟨o, h, rfl⟩
  | some o' =>
    refine ⟨o', rfl, ?_⟩
    exact g.inj _ _ ((hΔ.get hd).trans (hs d o h).symm)

theorem Store.Step.append {ctx : Ctx κ} (g : Good ctx) {Δ : Store κ} (hΔ : DeltaOK ctx Δ)
    (s : Store κ) : Store.Step ctx s (Δ ++ s) :=
  fun hs => ⟨hs.append hΔ, Store.le_append g hΔ hs⟩

theorem Store.le_append_congr {ctx : Ctx κ} (Δ : Store κ) {s t : Store κ} (h : Store.le ctx s t) :
    Store.le ctx (Δ ++ s) (Δ ++ t) := by
  intro d o hd
  rw [Store.get_append] at hd
  rw [Store.get_append]
  cases hΔ : Store.get Δ d with
  | none => rw [hΔ] at hd; exact h d o hd
  | some o' => rw [hΔ] at hd; cases hd; exact ⟨o, rfl, rfl⟩

/-! ## what `ContentsMatch` of a file artifact means (both values of `skip-cache`) -/

section fileStatus
variable [DecidableEq κ]

/-- `ContentsMatch` of `fileArtifactStatus`, spelled out -/
def FileMatch (ctx : Ctx κ) (s : Store κ) (skip : Bool) (sum : Digest) : Option (Node κ) → Prop
  | some (.file c) =>
    if skip then hasSum sum = true ∧ ctx.H c = sum
    else hasSum sum = true ∧ ∃ o, s.get sum = some o ∧ c = o.bytes ctx
  | some (.link (.obj d)) => hasSum sum = true ∧ s.has sum = true ∧ d = sum
  | _ => False

theorem fileStatus_cm_match (ctx : Ctx κ) (s : Store κ) (nm : Bytes) (skip : Bool) (sum : Digest)
    (cur : Option (Node κ)) :
    (fileStatus ctx s nm skip sum cur).cm = true ↔ FileMatch ctx s skip sum cur := by
  cases cur with
  | none => simp [fileStatus, quick, FileMatch]
  | some n =>
    cases n with
    | file c =>
      cases skip with
      | true =>
        simp only [fileStatus, quick, FileMatch, if_true]
        by_cases hh : hasSum sum = true
        · simp [hh]
        · simp [hh]
      | false =>
        simp only [fileStatus, quick, FileMatch, Bool.false_eq_true, if_false]
        by_cases hh : hasSum sum = true
        · cases hg : s.get sum with
          | none => simp [Store.has, hg, hh]
          | some o => simp [Store.has, hg, hh]
        · simp [hh]
    | dir es => simp [fileStatus, quick, FileMatch]
    | link l =>
      cases l with
      | obj d => simp [fileStatus, quick, FileMatch, Bool.and_assoc]
      | foreign b => simp [fileStatus, quick, FileMatch]
    | other => simp [fileStatus, quick, FileMatch]

end fileStatus

end Dud
