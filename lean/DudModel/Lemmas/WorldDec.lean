import DudModel.World
/-!
# Decidable equality of trees, statuses and worlds

`World` has no `DecidableEq` (`Node` and `Status` are nested inductive types, for which it cannot be
derived), so a closed evaluation such as `cmdCommit cfg strat [] w = .ok w'` can only be proved by
`rfl`, which makes the elaborator evaluate the command before the kernel does it again. With the
instances below, `by open Dud.WorldDec in decide +kernel` leaves the evaluation to the kernel alone.
The instances are scoped: importing this file changes no instance resolution anywhere.
-/
namespace Dud.WorldDec

variable {κ : Type} [DecidableEq κ]

mutual
def nodeEqb : Node κ → Node κ → Bool
  | .file c, .file c' => c = c'
  | .dir es, .dir es' => entriesEqb es es'
  | .link l, .link l' => l = l'
  | .other, .other => true
  | _, _ => false
def entriesEqb : List (Name × Node κ) → List (Name × Node κ) → Bool
  | [], [] => true
  | (n, a) :: r, (n', a') :: r' => (n = n' && nodeEqb a a') && entriesEqb r r'
  | _, _ => false
end

mutual
theorem nodeEqb_iff : ∀ a b : Node κ, nodeEqb a b = true ↔ a = b
  | .file _, .file _ | .link _, .link _ | .other, .other => by simp [nodeEqb]
  | .dir es, .dir es' => by simp [nodeEqb, entriesEqb_iff es es']
  | .file _, .dir _ | .file _, .link _ | .file _, .other | .dir _, .file _ | .dir _, .link _
  | .dir _, .other | .link _, .file _ | .link _, .dir _ | .link _, .other | .other, .file _
  | .other, .dir _ | .other, .link _ => by simp [nodeEqb]
theorem entriesEqb_iff : ∀ a b : List (Name × Node κ), entriesEqb a b = true ↔ a = b
  | [], [] | [], _ :: _ | _ :: _, [] => by simp [entriesEqb]
  | (n, a) :: r, (n', a') :: r' => by simp [entriesEqb, nodeEqb_iff a a', entriesEqb_iff r r']
end

scoped instance : DecidableEq (Node κ) := fun a b => decidable_of_iff _ (nodeEqb_iff a b)

mutual
def statusEqb : Status → Status → Bool
  | ⟨n, d, s, w, h, i, c, ch⟩, ⟨n', d', s', w', h', i', c', ch'⟩ =>
    (n = n' && d = d' && s = s' && w = w' && h = h' && i = i' && c = c') && statusesEqb ch ch'
def statusesEqb : List Status → List Status → Bool
  | [], [] => true
  | a :: r, a' :: r' => statusEqb a a' && statusesEqb r r'
  | _, _ => false
end

mutual
theorem statusEqb_iff : ∀ a b : Status, statusEqb a b = true ↔ a = b
  | ⟨_, _, _, _, _, _, _, ch⟩, ⟨_, _, _, _, _, _, _, ch'⟩ => by
    simp [statusEqb, statusesEqb_iff ch ch', and_assoc]
theorem statusesEqb_iff : ∀ a b : List Status, statusesEqb a b = true ↔ a = b
  | [], [] | [], _ :: _ | _ :: _, [] => by simp [statusesEqb]
  | a :: r, a' :: r' => by simp [statusesEqb, statusEqb_iff a a', statusesEqb_iff r r']
end

scoped instance : DecidableEq Status := fun a b => decidable_of_iff _ (statusEqb_iff a b)

scoped instance : DecidableEq (Obj κ)
  | .blob c, .blob c' => decidable_of_iff (c = c') (by simp)
  | .man s p cs, .man s' p' cs' => decidable_of_iff (s = s' ∧ p = p' ∧ cs = cs') (by simp)
  | .blob _, .man .. | .man .., .blob _ => isFalse nofun

scoped instance : DecidableEq (World κ)
  | ⟨a, b, c, d, e, f, g, h⟩, ⟨a', b', c', d', e', f', g', h'⟩ =>
    decidable_of_iff (a = a' ∧ b = b' ∧ c = c' ∧ d = d' ∧ e = e' ∧ f = f' ∧ g = g' ∧ h = h')
      (by simp)

scoped instance {ε α : Type} [DecidableEq ε] [DecidableEq α] : DecidableEq (Except ε α)
  | .ok a, .ok a' => decidable_of_iff (a = a') (by simp)
  | .error e, .error e' => decidable_of_iff (e = e') (by simp)
  | .ok _, .error _ | .error _, .ok _ => isFalse nofun

end Dud.WorldDec
