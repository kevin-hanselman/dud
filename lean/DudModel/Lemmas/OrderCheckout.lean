import DudModel.Lemmas.OrderStore
import DudModel.Lemmas.MapE
import DudModel.Lemmas.Checkout
/-!
# Checkout of the entries of a manifest does not depend on the processing order (helpers for C13)

`checkoutChildren f es cs` processes the manifest entries `cs` in list order, each on the node
currently at its name, and writes the result back under that name.  With pairwise distinct names
the entries touch disjoint parts of the listing, so every order gives the same listing *as a finite
map* (`alookup`).  `checkoutNodeS` is `checkoutNode` with an arbitrary processing order in every
directory; its results are equal to those of `checkoutNode` as maps at every level (`MapEq`).
-/
namespace Dud

variable {κ : Type}

/-- success is decided entry by entry on the initial listing -/
theorem checkoutChildren_ok_iff (f : Option (Node κ) → Child → Except Err (Node κ))
    (cs : List Child) (es : List (Name × Node κ)) (hnd : (cs.map (·.name)).Nodup) :
    (∃ es1, checkoutChildren f es cs = .ok es1) ↔
      ∀ c ∈ cs, ∃ n, f (alookup es c.name) c = .ok n := by
  obtain ⟨h1, h2⟩ := checkoutChildren_char f cs es hnd
  constructor
  · rintro ⟨es1, h⟩ c hc
    obtain ⟨n, hn, _⟩ := (h1 es1 h).1 c hc
    exact ⟨n, hn⟩
  · intro h
    cases hr : checkoutChildren f es cs with
    | ok es1 => exact ⟨es1, rfl⟩
    | error e =>
      obtain ⟨c, hc, he⟩ := h2 e hr
      obtain ⟨n, hn⟩ := h c hc
      rw [hn] at he; cases he

/-- two listings agree as finite maps, up to `R` on the entries that differ -/
def ListingRel (R : Node κ → Node κ → Prop) (es1 es2 : List (Name × Node κ)) : Prop :=
  ∀ nm, alookup es1 nm = alookup es2 nm ∨
    ∃ a b, alookup es1 nm = some a ∧ alookup es2 nm = some b ∧ R a b

/-- **Order independence of `checkoutChildren`**, in the general form needed for the recursion:
two orders of the same manifest entries, processed by two functions whose results on the *initial*
listing are related by `R`. -/
theorem checkoutChildren_perm_rel (R : Node κ → Node κ → Prop)
    {f f' : Option (Node κ) → Child → Except Err (Node κ)} {cs cs' : List Child}
    (hp : cs.Perm cs') (hnd : (cs.map (·.name)).Nodup) (es : List (Name × Node κ))
    (hf : ∀ c ∈ cs, ExRel R (f (alookup es c.name) c) (f' (alookup es c.name) c)) :
    ExRel (ListingRel R) (checkoutChildren f es cs) (checkoutChildren f' es cs') := by
  have hnd' : (cs'.map (·.name)).Nodup := (hp.map _).nodup_iff.1 hnd
  obtain ⟨a1, a2⟩ := checkoutChildren_char f cs es hnd
  obtain ⟨b1, b2⟩ := checkoutChildren_char f' cs' es hnd'
  cases hA : checkoutChildren f es cs with
  | error e =>
    cases hB : checkoutChildren f' es cs' with
    | error e' => trivial
    | ok es2 =>
      obtain ⟨c, hc, he⟩ := a2 e hA
      obtain ⟨n, hn, _⟩ := (b1 es2 hB).1 c (hp.mem_iff.1 hc)
      have := hf c hc
      rw [he, hn] at this
      exact this
  | ok es1 =>
    cases hB : checkoutChildren f' es cs' with
    | error e' =>
      obtain ⟨c, hc, he⟩ := b2 e' hB
      obtain ⟨n, hn, _⟩ := (a1 es1 hA).1 c (hp.mem_iff.2 hc)
      have := hf c (hp.mem_iff.2 hc)
      rw [he, hn] at this
      exact this
    | ok es2 =>
      intro nm
      by_cases hex : ∃ c ∈ cs, c.name = nm
      · obtain ⟨c, hc, rfl⟩ := hex
        obtain ⟨n, hn, hl⟩ := (a1 es1 hA).1 c hc
        obtain ⟨n', hn', hl'⟩ := (b1 es2 hB).1 c (hp.mem_iff.1 hc)
        have := hf c hc
        rw [hn, hn'] at this
        exact Or.inr ⟨n, n', hl, hl', this⟩
      · have h1 : ∀ c ∈ cs, c.name ≠ nm := fun c hc e => hex ⟨c, hc, e⟩
        have h2 : ∀ c ∈ cs', c.name ≠ nm := fun c hc e => hex ⟨c, hp.mem_iff.2 hc, e⟩
        exact Or.inl (((a1 es1 hA).2 nm h1).trans ((b1 es2 hB).2 nm h2).symm)

/-- **Order independence of `checkoutChildren`.**  Same success; the resulting listings are equal
as finite maps. -/
theorem checkoutChildren_perm (f : Option (Node κ) → Child → Except Err (Node κ))
    {cs cs' : List Child} (hp : cs.Perm cs') (hnd : (cs.map (·.name)).Nodup)
    (es : List (Name × Node κ)) :
    ExRel (fun es1 es2 => ∀ nm, alookup es1 nm = alookup es2 nm)
      (checkoutChildren f es cs) (checkoutChildren f es cs') := by
  have h := checkoutChildren_perm_rel (fun a b => a = b) hp hnd es
    (f := f) (f' := f) (fun c _ => ExRel.refl (fun _ => rfl) _)
  refine ExRel.mono (fun es1 es2 hl nm => ?_) h
  rcases hl nm with h | ⟨a, b, ha, hb, rfl⟩
  · exact h
  · rw [ha, hb]

/-- equal as finite maps at every level -/
inductive MapEq : Node κ → Node κ → Prop
  | refl (n : Node κ) : MapEq n n
  | dir (es es' : List (Name × Node κ)) :
      (∀ nm, alookup es nm = none ↔ alookup es' nm = none) →
      (∀ nm a b, alookup es nm = some a → alookup es' nm = some b → MapEq a b) →
      MapEq (.dir es) (.dir es')

theorem MapEq.of_listingRel {es es' : List (Name × Node κ)} (h : ListingRel MapEq es es') :
    MapEq (.dir es) (.dir es') := by
  refine MapEq.dir es es' (fun nm => ?_) (fun nm a b ha hb => ?_)
  · rcases h nm with h | ⟨a, b, ha, hb, _⟩
    · rw [h]
    · simp [ha, hb]
  · rcases h nm with h | ⟨a', b', ha', hb', hab⟩
    · rw [ha, hb] at h
      cases h
      exact MapEq.refl _
    · rw [ha] at ha'; rw [hb] at hb'
      cases ha'; cases hb'
      exact hab

/-- trees that are equal as maps at every level have logical contents (`deref`: links into the
cache followed) that are equal as maps at every level -/
theorem MapEq.deref (ctx : Ctx κ) (s : Store κ) {n n' : Node κ} (h : MapEq n n') :
    MapEq (Dud.deref ctx s n) (Dud.deref ctx s n') := by
  induction h with
  | refl n => exact MapEq.refl _
  | dir es es' h1 h2 ih =>
    simp only [Dud.deref]
    refine MapEq.dir _ _ (fun nm => ?_) (fun nm a b ha hb => ?_)
    · rw [alookup_derefList, alookup_derefList]
      simp only [Option.map_eq_none_iff]
      exact h1 nm
    · rw [alookup_derefList] at ha hb
      cases ha0 : alookup es nm with
      | none => rw [ha0] at ha; cases ha
      | some a0 =>
        cases hb0 : alookup es' nm with
        | none => rw [hb0] at hb; cases hb
        | some b0 =>
          rw [ha0] at ha; rw [hb0] at hb
          simp only [Option.map_some, Option.some.injEq] at ha hb
          subst ha; subst hb
          exact ih nm a0 b0 ha0 hb0

theorem MapEq.symm {n n' : Node κ} (h : MapEq n n') : MapEq n' n := by
  induction h with
  | refl n => exact MapEq.refl _
  | dir es es' h1 h2 ih =>
    exact MapEq.dir _ _ (fun nm => (h1 nm).symm) (fun nm a b ha hb => ih nm b a hb ha)

/-- `checkoutNode` with the entries of every directory processed in the order `σ` chooses (`σ`
may depend on the nesting level, the directory's record and its manifest) -/
def checkoutNodeS (ctx : Ctx κ) (strat : Strat) (s : Store κ)
    (σ : Nat → Child → List Child → List Child) :
    Nat → Option (Node κ) → Child → Except Err (Node κ)
  | 0, _, _ => .error .other
  | fuel+1, cur, c =>
    if c.isDir then
      if !hasSum c.sum then .error .invalidSum
      else if !s.has c.sum then .error .missingFromCache
      else
        match cur with
        | some (.dir es) =>
          match readManifest ctx s c.sum with
          | .error e => .error e
          | .ok cs =>
            match checkoutChildren (checkoutNodeS ctx strat s σ fuel) es (σ fuel c cs) with
            | .error e => .error e
            | .ok es' => .ok (.dir es')
        | none =>
          match readManifest ctx s c.sum with
          | .error e => .error e
          | .ok cs =>
            match checkoutChildren (checkoutNodeS ctx strat s σ fuel) [] (σ fuel c cs) with
            | .error e => .error e
            | .ok es' => .ok (.dir es')
        | some _ => .error .exists_
    else checkoutFile ctx strat cur c.sum s

/-- in listing order `checkoutNodeS` is `checkoutNode` -/
theorem checkoutNodeS_id_eq (ctx : Ctx κ) (strat : Strat) (s : Store κ) (fuel : Nat) :
    checkoutNodeS ctx strat s (fun _ _ cs => cs) fuel = checkoutNode ctx strat s fuel := by
  induction fuel with
  | zero => rfl
  | succ fuel ih =>
    funext cur c
    simp only [checkoutNodeS, checkoutNode, ih]
    rfl

/-- **Order independence of `checkoutNode` at every level.**  Whatever order is used in each
directory, the checkout succeeds iff the sequential one does, and the restored trees are equal as
finite maps at every level.  Assumed: manifests list each name once. -/
theorem checkoutNodeS_mapEq (ctx : Ctx κ) (strat : Strat) (s : Store κ)
    (σ : Nat → Child → List Child → List Child) (hσ : ∀ k c cs, (σ k c cs).Perm cs)
    (hm : ManifestsNodup ctx s) (fuel : Nat) :
    ∀ (cur : Option (Node κ)) (c : Child),
      ExRel MapEq (checkoutNodeS ctx strat s σ fuel cur c) (checkoutNode ctx strat s fuel cur c) := by
  induction fuel with
  | zero => exact fun _ _ => trivial
  | succ fuel ih =>
    intro cur c
    have key : ∀ (es : List (Name × Node κ)) (cs : List Child),
        readManifest ctx s c.sum = .ok cs →
        ExRel MapEq
          (match checkoutChildren (checkoutNodeS ctx strat s σ fuel) es (σ fuel c cs) with
            | .error e => .error e
            | .ok es' => .ok (.dir es'))
          (match checkoutChildren (checkoutNode ctx strat s fuel) es cs with
            | .error e => .error e
            | .ok es' => .ok (.dir es')) := by
      intro es cs hcs
      have hnd : ((σ fuel c cs).map (·.name)).Nodup :=
        ((hσ fuel c cs).map _).nodup_iff.2 (hm _ _ hcs)
      exact (checkoutChildren_perm_rel MapEq (hσ fuel c cs) hnd es fun c' _ => ih _ c').cases
        (fun _ _ => trivial) fun _ _ => MapEq.of_listingRel
    unfold checkoutNodeS checkoutNode
    by_cases hd : c.isDir = true
    · rw [if_pos hd, if_pos hd]
      by_cases h1 : (!hasSum c.sum) = true
      · rw [if_pos h1, if_pos h1]; trivial
      · rw [if_neg h1, if_neg h1]
        by_cases h2 : (!s.has c.sum) = true
        · rw [if_pos h2, if_pos h2]; trivial
        · rw [if_neg h2, if_neg h2]
          cases cur with
          | none =>
            simp only
            cases hcs : readManifest ctx s c.sum with
            | error e => trivial
            | ok cs => exact key [] cs hcs
          | some nd =>
            cases nd with
            | dir es =>
              simp only
              cases hcs : readManifest ctx s c.sum with
              | error e => trivial
              | ok cs => exact key es cs hcs
            | file x => trivial
            | link l => trivial
            | other => trivial
    · rw [if_neg hd, if_neg hd]
      exact ExRel.refl MapEq.refl _

end Dud
