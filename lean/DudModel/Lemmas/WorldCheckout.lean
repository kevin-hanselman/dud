import DudModel.Props.C01
import DudModel.Props.C08
import DudModel.Lemmas.WorldTrip
/-!
# Vocabulary of the world-level commit → checkout round trip, and its checkout side

`trackedOf a n` (the part of the subtree `n` the artifact `a` tracks), `origAt`, `committedArt` (the
artifact with `sum := treeDigest …` of the tracked tree), `RoundTrip` (checkout of the committed
artifact into an absent place, from any later cache, rebuilds the tracked tree), the hypotheses
`ArtPre` / `PipelineOK` of a first commit, the checkout of a committed stage into a place where
nothing is yet (`checkoutAct_committed`, `CheckoutInv`), and at the level of commands: the stages
`dud commit` acts on (`InScope`, `cmdCommit_scope`, `cmdCommit_preserves`), a recursive command run
after it (`runTargets_after_commit`) and `dud checkout` in a clone (`cmdCheckout_after_commit`).
-/
namespace Dud

open WT

variable {κ : Type}

/-- the part of the subtree found at the artifact's path that the artifact tracks -/
def trackedOf (a : Art) : Node κ → Node κ
  | .dir es => if a.noRec then .dir (dropSubdirs es) else .dir es
  | n => n

/-- the node found at the artifact's path (`.other` if there is none) -/
def origAt (ws : Node κ) (a : Art) : Node κ := (getPath ws (Path.comps a.path)).getD .other

/-- the artifact as a commit of the workspace `ws` records it -/
def committedArt (ctx : Ctx κ) (ws : Node κ) (a : Art) : Art :=
  { a with sum := treeDigest ctx a.path (trackedOf a (origAt ws a)) }

theorem trackedOf_sum (a : Art) (d : Digest) (n : Node κ) :
    trackedOf { a with sum := d } n = trackedOf a n := by
  cases n <;> rfl

theorem trackedOf_cases (a : Art) (n : Node κ) :
    trackedOf a n = n ∨ ∃ es, n = .dir es ∧ trackedOf a n = .dir (dropSubdirs es) := by
  cases n with
  | dir es =>
    simp only [trackedOf]
    split
    · exact .inr ⟨es, rfl, rfl⟩
    · exact .inl rfl
  | file _ | link _ | other => exact .inl rfl

/-- a directory artifact is recursive: then the artifact tracks the whole node at its path -/
def WStat.Recursive (a : Art) : Prop := a.isDir = true → a.noRec = false

theorem WStat.Recursive.tracked_eq {a : Art} (hrec : WStat.Recursive a) {n : Node κ}
    (hk : n.isDir = a.isDir) : trackedOf a n = n := by
  cases n with
  | dir es => simp [trackedOf, hrec hk.symm]
  | file _ => rfl
  | link _ => rfl
  | other => rfl

/-- the hypotheses of C01 on an output artifact `a` and the subtree `n` found at its path: the kinds
agree, the tree is plain and sorted with acceptable names; a directory artifact has never been
committed (no recorded checksum) and is not `skip-cache`; the fuel covers the tracked tree -/
structure ArtPre (ctx : Ctx κ) (fuel : Nat) (a : Art) (n : Node κ) : Prop where
  kind : n.isDir = a.isDir
  plain : n.plain = true
  sorted : n.sorted = true
  names : NamesOK ctx n
  fresh : a.isDir = true → a.sum = "" ∧ a.skip = false
  fuel : depth (trackedOf a n) ≤ fuel

/-- checkout of the committed artifact into an absent place, from any later cache and with either
strategy, yields a node whose logical content is the tracked tree `t` -/
def RoundTrip (cfg : Cfg κ) (a : Art) (t : Node κ) (s : Store κ) : Prop :=
  ∀ s'', Store.le cfg.ctx s s'' → ∀ strat2 : Strat,
    ∃ r, checkoutArt cfg.ctx strat2 cfg.fuel { a with sum := treeDigest cfg.ctx a.path t } none s''
        = .ok (some r) ∧ deref cfg.ctx s'' r = t

theorem RoundTrip.mono {cfg : Cfg κ} {a : Art} {t : Node κ} {s s' : Store κ}
    (h : RoundTrip cfg a t s) (hle : Store.le cfg.ctx s s') : RoundTrip cfg a t s' :=
  fun s'' hle' strat2 => h s'' (Store.le_trans hle hle') strat2

theorem origAt_of_getPath {ws : Node κ} {a : Art} {n : Node κ}
    (h : getPath ws (Path.comps a.path) = some n) : origAt ws a = n := by
  simp [origAt, h]

theorem committedArt_congr (ctx : Ctx κ) {ws ws' : Node κ} {a : Art}
    (h : getPath ws' (Path.comps a.path) = getPath ws (Path.comps a.path)) :
    committedArt ctx ws' a = committedArt ctx ws a := by
  simp [committedArt, origAt, h]

/-- the inputs `commitAct` commits itself (those no stage owns; it commits them with
`skip := true`, which `commitArt` honours for files only) are files, or directories apart from `q` -/
def PlainInputsApart (cfg : Cfg κ) (idx : Index) (stg : Stage) (q : List Name) : Prop :=
  ∀ b, b ∈ stg.inputs → (findOwner cfg.walkAccumulates idx b.path).isNone = true →
    b.isDir = false ∨ Apart (Path.comps b.path) q

theorem checkoutArtW_absent (cfg : Cfg κ) (strat : Strat) (a : Art) (w : World κ) (r : Node κ)
    (hskip : a.skip = false) (habs : getPath w.ws (Path.comps a.path) = none)
    (hw : Writable w.ws (Path.comps a.path))
    (hco : checkoutArt cfg.ctx strat cfg.fuel a none w.store = .ok (some r)) :
    ∃ ws', setPath w.ws (Path.comps a.path) r = some ws' ∧
      checkoutArtW cfg strat a w = .ok { w with ws := ws' } := by
  obtain ⟨ws', hs⟩ := hw r
  refine ⟨ws', hs, ?_⟩
  simp [checkoutArtW, habs, hco, hskip, hs]

/-- `checkoutArts` on artifacts with pairwise non-overlapping paths, the non-skip ones absent and
writable, each of which `checkoutArt` can check out into an absent place with a result satisfying
`X`: it succeeds, every non-skip artifact is found at its path with `X`, the cache, the index and
the memo are untouched, and so is every path apart from the non-skip artifacts. -/
theorem checkoutArts_fresh (cfg : Cfg κ) (strat : Strat) (X : Art → Node κ → Prop) :
    ∀ (as : List Art) (v : World κ), ApartArts as →
      (∀ a, a ∈ as → a.skip = false →
        getPath v.ws (Path.comps a.path) = none ∧ Writable v.ws (Path.comps a.path)) →
      (∀ a, a ∈ as → a.skip = false →
        ∃ r, checkoutArt cfg.ctx strat cfg.fuel a none v.store = .ok (some r) ∧ X a r) →
      ∃ v', checkoutArts cfg strat as v = .ok v' ∧ v'.store = v.store ∧ v'.idx = v.idx ∧
        v'.done = v.done ∧
        (∀ a, a ∈ as → a.skip = false → ∃ r, getPath v'.ws (Path.comps a.path) = some r ∧ X a r) ∧
        (∀ q, (∀ a, a ∈ as → a.skip = false → Apart (Path.comps a.path) q) →
          getPath v'.ws q = getPath v.ws q ∧ (Writable v.ws q → Writable v'.ws q))
  | [], v, _, _, _ => ⟨v, rfl, rfl, rfl, rfl, by simp, fun _ _ => ⟨rfl, id⟩⟩
  | a :: r, v, hap, habs, hco => by
    have hap' := List.pairwise_cons.1 hap
    cases hskip : a.skip with
    | true =>
      obtain ⟨v', h1, h2, h3, h4, h5, h6⟩ := checkoutArts_fresh cfg strat X r v hap'.2
        (fun b hb => habs b (List.mem_cons_of_mem _ hb)) (fun b hb => hco b (List.mem_cons_of_mem _ hb))
      refine ⟨v', ?_, h2, h3, h4, ?_, ?_⟩
      · rw [checkoutArts, checkoutArtW_skip cfg strat a v hskip]
        exact h1
      · intro b hb hbs
        rcases List.mem_cons.1 hb with rfl | hb
        · rw [hskip] at hbs; cases hbs
        · exact h5 b hb hbs
      · intro q hq
        exact h6 q (fun b hb => hq b (List.mem_cons_of_mem _ hb))
    | false =>
      obtain ⟨ha1, ha2⟩ := habs a List.mem_cons_self hskip
      obtain ⟨n, hn, hx⟩ := hco a List.mem_cons_self hskip
      obtain ⟨ws', hs, hw1⟩ := checkoutArtW_absent cfg strat a v n hskip ha1 ha2 hn
      obtain ⟨v', h1, h2, h3, h4, h5, h6⟩ := checkoutArts_fresh cfg strat X r { v with ws := ws' } hap'.2
        (fun b hb hbs => by
          obtain ⟨hb1, hb2⟩ := habs b (List.mem_cons_of_mem _ hb) hbs
          have hab := hap'.1 b hb
          exact ⟨by rw [← hb1]; exact WT.getPath_setPath_apart hab hs,
            WT.writable_setPath_apart hab hs hb2⟩)
        (fun b hb => hco b (List.mem_cons_of_mem _ hb))
      refine ⟨v', ?_, h2, h3, h4, ?_, ?_⟩
      · rw [checkoutArts, hw1]
        exact h1
      · intro b hb hbs
        rcases List.mem_cons.1 hb with rfl | hb
        · refine ⟨n, ?_, hx⟩
          rw [(h6 _ (fun c hc _ => (hap'.1 c hc).symm)).1]
          exact getPath_setPath_self _ _ _ _ hs
        · exact h5 b hb hbs
      · intro q hq
        obtain ⟨g1, g2⟩ := h6 q (fun b hb => hq b (List.mem_cons_of_mem _ hb))
        have haq := hq a List.mem_cons_self hskip
        exact ⟨by rw [g1]; exact WT.getPath_setPath_apart haq hs,
          fun hwq => g2 (WT.writable_setPath_apart haq hs hwq)⟩

/-- **Stage level, checkout.** The same for `checkoutAct` on the stage found in the index. -/
theorem checkoutAct_fresh (cfg : Cfg κ) (strat : Strat) (X : Art → Node κ → Prop) (sp : Bytes)
    (v : World κ) (stg : Stage) (hs : alookup v.idx sp = some stg) (hap : ApartArts stg.outputs)
    (habs : ∀ a, a ∈ stg.outputs → a.skip = false →
      getPath v.ws (Path.comps a.path) = none ∧ Writable v.ws (Path.comps a.path))
    (hco : ∀ a, a ∈ stg.outputs → a.skip = false →
      ∃ r, checkoutArt cfg.ctx strat cfg.fuel a none v.store = .ok (some r) ∧ X a r) :
    ∃ v', checkoutAct cfg strat sp v = .ok v' ∧ v'.store = v.store ∧ v'.idx = v.idx ∧
      v'.done = sp :: v.done ∧
      (∀ a, a ∈ stg.outputs → a.skip = false →
        ∃ r, getPath v'.ws (Path.comps a.path) = some r ∧ X a r) ∧
      (∀ q, (∀ a, a ∈ stg.outputs → a.skip = false → Apart (Path.comps a.path) q) →
        getPath v'.ws q = getPath v.ws q ∧ (Writable v.ws q → Writable v'.ws q)) := by
  obtain ⟨v1, h1, h2, h3, h4, h5, h6⟩ := checkoutArts_fresh cfg strat X (sortArts stg.outputs) v
    hap.sortArts (fun a ha => habs a (mem_of_mem_sortArts ha))
    (fun a ha => hco a (mem_of_mem_sortArts ha))
  refine ⟨{ v1 with done := sp :: v1.done }, ?_, h2, h3, by simp [h4], ?_, ?_⟩
  · exact checkoutAct_of hs h1
  · intro a ha hsk
    exact h5 a (mem_sortArts_of_mem hap.paths_ne ha) hsk
  · intro q hq
    exact h6 q (fun a ha => hq a (mem_of_mem_sortArts ha))

theorem committedArt_paths (ctx : Ctx κ) (ws : Node κ) (l : List Art) :
    (l.map (committedArt ctx ws)).map (·.path) = l.map (·.path) := by
  rw [List.map_map]
  exact List.map_congr_left (fun _ _ => rfl)

theorem trackedOf_committedArt (ctx : Ctx κ) (ws ws' : Node κ) (a : Art) :
    trackedOf (committedArt ctx ws a) (origAt ws' (committedArt ctx ws a)) =
      trackedOf a (origAt ws' a) :=
  trackedOf_sum a _ _

/-- checkout of a stage whose recorded outputs are the `committedArt`s of `stg.outputs` (w.r.t. a
workspace `ws0`), in a world whose cache extends a cache `sC` with the `RoundTrip` property and in
which the non-skip outputs are absent and writable -/
theorem checkoutAct_committed (cfg : Cfg κ) (strat2 : Strat) (sp : Bytes) (ws0 : Node κ)
    (stg stg' : Stage) (v : World κ) (sC : Store κ)
    (hs' : alookup v.idx sp = some stg')
    (hout : stg'.outputs = (sortArts stg.outputs).map (committedArt cfg.ctx ws0))
    (hap : ApartArts stg.outputs)
    (hrt : ∀ a, a ∈ stg.outputs → a.skip = false → RoundTrip cfg a (trackedOf a (origAt ws0 a)) sC)
    (hle : Store.le cfg.ctx sC v.store)
    (habs : ∀ a, a ∈ stg.outputs → a.skip = false →
      getPath v.ws (Path.comps a.path) = none ∧ Writable v.ws (Path.comps a.path)) :
    ∃ v', checkoutAct cfg strat2 sp v = .ok v' ∧ v'.store = v.store ∧ v'.idx = v.idx ∧
      v'.done = sp :: v.done ∧
      (∀ a, a ∈ stg.outputs → a.skip = false → ∃ r, getPath v'.ws (Path.comps a.path) = some r ∧
        deref cfg.ctx v.store r = trackedOf a (origAt ws0 a)) ∧
      (∀ q, (∀ a, a ∈ stg.outputs → a.skip = false → Apart (Path.comps a.path) q) →
        getPath v'.ws q = getPath v.ws q ∧ (Writable v.ws q → Writable v'.ws q)) := by
  have hap' : ApartArts stg'.outputs := by
    rw [hout]
    exact hap.sortArts.of_paths (committedArt_paths cfg.ctx ws0 _)
  have hback : ∀ a', a' ∈ stg'.outputs → ∃ a, a ∈ stg.outputs ∧ a' = committedArt cfg.ctx ws0 a := by
    intro a' ha'
    rw [hout] at ha'
    obtain ⟨a, ha, rfl⟩ := List.mem_map.1 ha'
    exact ⟨a, mem_of_mem_sortArts ha, rfl⟩
  obtain ⟨v', h1, h2, h3, h4, h5, h6⟩ := checkoutAct_fresh cfg strat2
    (fun a' r => deref cfg.ctx v.store r = trackedOf a' (origAt ws0 a')) sp v stg' hs' hap'
    (fun a' ha' hsk => by
      obtain ⟨a, ha, rfl⟩ := hback a' ha'
      exact habs a ha hsk)
    (fun a' ha' hsk => by
      obtain ⟨a, ha, rfl⟩ := hback a' ha'
      obtain ⟨r, hr, hd⟩ := hrt a ha hsk v.store hle strat2
      exact ⟨r, hr, by rw [trackedOf_committedArt]; exact hd⟩)
  refine ⟨v', h1, h2, h3, h4, ?_, ?_⟩
  · intro a ha hsk
    have hm : committedArt cfg.ctx ws0 a ∈ stg'.outputs := by
      rw [hout]
      exact List.mem_map.2 ⟨a, mem_sortArts_of_mem hap.paths_ne ha, rfl⟩
    obtain ⟨r, hr, hd⟩ := h5 _ hm hsk
    exact ⟨r, hr, by rw [← trackedOf_committedArt cfg.ctx ws0 ws0 a]; exact hd⟩
  · intro q hq
    refine h6 q (fun a' ha' hsk => ?_)
    obtain ⟨a, ha, rfl⟩ := hback a' ha'
    exact hq a ha hsk

/-- the stages a recursive command with these targets acts on: the targets (all stages if none is
given) and everything upstream of them -/
def InScope (cfg : Cfg κ) (w : World κ) (targets : List Bytes) (sp : Bytes) : Prop :=
  ∃ t, t ∈ (if targets.isEmpty then allStages w else targets) ∧ Reach (ownIdx cfg w.idx) t sp

/-- **The stages `dud commit` acts on**: the index keeps its shape, and the stages done are exactly those in
scope; the log `l'` of the traversal lists them, owners first. -/
theorem cmdCommit_scope {cfg : Cfg κ} {strat : Strat} {targets : List Bytes} {w0 w' : World κ}
    (hk : (w0.idx.map (·.1)).Nodup) (h : cmdCommit cfg strat targets w0 = .ok w') :
    SameShape w'.idx w0.idx ∧
      ∃ l' : List Bytes, l'.Nodup ∧ (∀ x, x ∈ l' ↔ InScope cfg w0 targets x) ∧
        (∀ x, w'.done.contains x = l'.contains x) ∧
        (∀ x, x ∈ l' → ∀ o, o ∈ ownIdx cfg w0.idx x → Before l' o x) ∧
        (∀ t, t ∈ (if targets.isEmpty then allStages w0 else targets) → t ∈ l') ∧ (∃ t, t ∈ l') := by
  obtain ⟨l', _, hsh, hnd, hsub, hsc, hdone, htop⟩ := cmd_run (commitTrav_lawfulOn cfg strat w0.idx hk) true
    _ _ _ (fresh w0) w' (SameShape.refl _) (fun _ => rfl) (cmdCommit_ok_iff.1 h).2
  have hts := fun t ht => hsc t (.root ht)
  obtain ⟨t0, ht0⟩ := List.exists_mem_of_ne_nil _ (List.isEmpty_eq_false_iff.1 (cmdCommit_ok_iff.1 h).1)
  exact ⟨hsh, l', hnd, fun x => ⟨hsub x, fun ⟨t, ht, hr⟩ => hsc x ⟨t, ht, hr⟩⟩, hdone, htop rfl, hts,
    ⟨t0, hts t0 ht0⟩⟩

/-- **An invariant of `dud commit`**: what every stage action in scope keeps (the stage is not done, its
owners are, the index has kept its shape) holds when the command ends. -/
theorem cmdCommit_preserves {cfg : Cfg κ} {strat : Strat} {targets : List Bytes} {w0 w' : World κ}
    (hk : (w0.idx.map (·.1)).Nodup) (I : World κ → Prop) (h0 : I (fresh w0))
    (hstep : ∀ sp v v1, InScope cfg w0 targets sp → SameShape v.idx w0.idx → I v →
      v.done.contains sp = false → (∀ o, o ∈ ownIdx cfg w0.idx sp → v.done.contains o = true) →
      commitAct cfg strat sp v = .ok v1 → I v1)
    (h : cmdCommit cfg strat targets w0 = .ok w') : I w' :=
  (runTargets_lift (commitTrav_lawfulOn cfg strat w0.idx hk) (SameShape.refl _) (fun _ => rfl) h0
    (fun sp v v1 hsc hi hq hnd hup ha => hstep sp v v1 hsc hi hq hnd (hup rfl) ha)
    (cmdCommit_ok_iff.1 h).2).2.1

/-- a stage in the scope of a successful `dud commit` is done at the end, and is a stage of the index -/
theorem cmdCommit_stage {cfg : Cfg κ} {strat : Strat} {targets : List Bytes} {w0 w' : World κ}
    (hk : (w0.idx.map (·.1)).Nodup) (h : cmdCommit cfg strat targets w0 = .ok w') {sp : Bytes}
    (hsp : InScope cfg w0 targets sp) :
    w'.done.contains sp = true ∧ ∃ stg, alookup w0.idx sp = some stg := by
  obtain ⟨_, l', _, hiff, hdone, _⟩ := cmdCommit_scope hk h
  have hd : w'.done.contains sp = true := (hdone sp).trans (List.contains_iff_mem.2 ((hiff sp).2 hsp))
  refine ⟨hd, cmdCommit_preserves hk
    (fun u => ∀ x, u.done.contains x = true → ∃ stg, alookup w0.idx x = some stg)
    (fun x hx => nomatch hx) (fun x v v1 _ hsh hI _ _ ha y hy => ?_) h sp hd⟩
  rw [(commitAct_frame cfg strat x v v1 (hsh.keys ▸ hk) ha).2] at hy
  rcases WT.contains_cons_true hy with rfl | ⟨_, hy⟩
  · obtain ⟨stg, hs⟩ := WStat.commitAct_stage ha
    rcases alookup_sim hsh y with ⟨h1, _⟩ | ⟨_, s0, _, h2, _⟩
    · rw [hs] at h1; cases h1
    · exact ⟨s0, h2⟩
  · exact hI y hy

/-- **A recursive command after `dud commit`.**  `v` is any world whose index has the shape of the
one committed (`Inv`), `act` the stage action of the command.  If the action succeeds and keeps `Q`
at every stage in the commit's scope that is not done, the command succeeds from `fresh v`, keeps
`Q`, and finishes every stage in scope.  (That the commit succeeded is used for one thing: the scope
has no cycle, the positions in the commit's log rank it: `perTarget_progress`.) -/
theorem runTargets_after_commit {cfg : Cfg κ} {strat : Strat} {targets : List Bytes} {w0 w' : World κ}
    (hk : (w0.idx.map (·.1)).Nodup) (h : cmdCommit cfg strat targets w0 = .ok w')
    {act : Bytes → World κ → Except Err (World κ)} {Inv Q : World κ → Prop}
    (hT : (simpleTrav cfg act).LawfulOn (ownIdx cfg w0.idx) Inv)
    (hInv : ∀ u, Inv u → SameShape u.idx w0.idx)
    (hact : ∀ u sp, Inv u → Q u → InScope cfg w0 targets sp → u.done.contains sp = false →
      (∀ o, o ∈ ownIdx cfg w0.idx sp → u.done.contains o = true) → ∃ u', act sp u = .ok u' ∧ Q u')
    (v : World κ) (hv : Inv (fresh v)) (hq : Q (fresh v)) :
    ∃ v', runTargets (simpleTrav cfg act) true targets v = .ok v' ∧ Inv v' ∧ Q v' ∧
      v.idx.isEmpty = false ∧ (if targets.isEmpty then allStages v else targets).isEmpty = false ∧
      ∀ sp, InScope cfg w0 targets sp → v'.done.contains sp = true := by
  obtain ⟨_, l', hnd, hiff, _, htop, hts, hne⟩ := cmdCommit_scope hk h
  have hstg : ∀ sp, sp ∈ l' → ∃ stg, alookup w0.idx sp = some stg :=
    fun sp hsp => (cmdCommit_stage hk h ((hiff sp).1 hsp)).2
  have hlook : ∀ u sp, Inv u → sp ∈ l' → ∃ S, alookup u.idx sp = some S := by
    intro u sp hi hsp
    obtain ⟨stg, e0⟩ := hstg sp hsp
    rcases alookup_sim (hInv u hi) sp with ⟨_, h2⟩ | ⟨S, _, h1, _, _⟩
    · rw [e0] at h2; cases h2
    · exact ⟨S, h1⟩
  have hts' : (if targets.isEmpty then allStages v else targets) =
      (if targets.isEmpty then allStages w0 else targets) := by
    have : allStages v = allStages w0 := (hInv _ hv).keys
    rw [this]
  obtain ⟨v', hrun', hi', hq'⟩ := perTarget_progress (Q := Q) (S := (· ∈ l')) (rank := l'.idxOf) hT
    (fun x hx o ho => ⟨(htop x hx o ho).mem_left, idxOf_lt_of_before hnd (htop x hx o ho)⟩)
    (fun st sp hi hsp => by
      obtain ⟨S, hS⟩ := hlook st sp hi hsp
      show ∃ os, ownersOf cfg st sp = .ok os
      simp only [ownersOf, World.stage, hS]
      exact ⟨_, rfl⟩)
    (fun st sp hi hq hsp hndone hup => hact st sp hi hq ((hiff sp).1 hsp) hndone hup)
    (fun u => u.idx.length + 1) allStages
    (fun u hi => ⟨by rw [allStages, List.length_map]; exact Nat.lt_succ_self _, fun x hx => by
      obtain ⟨S, hl⟩ := hlook u x hi hx
      exact ⟨WT.mem_keys_of_alookup hl, by rw [hl]; rfl⟩⟩)
    (if targets.isEmpty then allStages v else targets) (fresh v)
    (fun t ht => hts t (hts' ▸ ht)) hv hq
  obtain ⟨x0, hx0⟩ := hne
  obtain ⟨t0, ht0, _⟩ := (hiff x0).1 hx0
  obtain ⟨S0, hS0⟩ := hlook _ t0 hv (hts t0 ht0)
  refine ⟨v', hrun', hi', hq', ?_, ?_, fun sp ⟨t, ht, hr⟩ =>
    (runTargets_lift (I := fun _ => True) hT hv (fun _ => rfl) trivial (fun _ _ _ _ _ _ _ _ _ => trivial)
      hrun').2.2 sp ⟨t, hts' ▸ ht, hr⟩⟩
  · cases hw : v.idx with
    | nil => rw [show (fresh v).idx = v.idx from rfl, hw] at hS0; cases hS0
    | cons _ _ => rfl
  · rw [hts']
    cases hl : (if targets.isEmpty then allStages w0 else targets) with
    | nil => rw [hl] at ht0; cases ht0
    | cons _ _ => rfl

/-- hypotheses on the pipeline, for the stages in the scope `Sc`: distinct stage paths; all outputs
(within a stage and across stages) have pairwise non-overlapping paths; every output is present
and satisfies the artifact-level hypotheses `ArtPre`; every input that no stage owns is a file,
or a directory apart from every output (owned inputs are not committed: no hypothesis). -/
structure PipelineOK (cfg : Cfg κ) (Sc : Bytes → Prop) (w0 : World κ) : Prop where
  keys : (w0.idx.map (·.1)).Nodup
  apart_in : ∀ sp stg, Sc sp → alookup w0.idx sp = some stg → ApartArts stg.outputs
  apart_across : ∀ sp1 sp2 stg1 stg2, Sc sp1 → Sc sp2 → sp1 ≠ sp2 →
    alookup w0.idx sp1 = some stg1 → alookup w0.idx sp2 = some stg2 →
    ∀ a, a ∈ stg1.outputs → ∀ b, b ∈ stg2.outputs → Apart (Path.comps a.path) (Path.comps b.path)
  pre : ∀ sp stg, Sc sp → alookup w0.idx sp = some stg → ∀ a, a ∈ stg.outputs →
    ∃ n, getPath w0.ws (Path.comps a.path) = some n ∧ ArtPre cfg.ctx cfg.fuel a n
  inputs : ∀ sp stg, Sc sp → alookup w0.idx sp = some stg → ∀ sp' stg', Sc sp' →
    alookup w0.idx sp' = some stg' → ∀ a, a ∈ stg'.outputs →
    PlainInputsApart cfg w0.idx stg (Path.comps a.path)

theorem PlainInputsApart.sim {cfg : Cfg κ} {idx idx0 : Index} (h : SameShape idx idx0) {stg : Stage}
    {q : List Name} (hp : PlainInputsApart cfg idx0 stg q) : PlainInputsApart cfg idx stg q := by
  intro b hb hn
  rw [findOwner_isNone_sim _ h] at hn
  exact hp b hb hn

/-- invariant of the checkout traversal in a clone with cache `sC`: a stage in scope that is not
done has its non-skip outputs absent and writable; one that is done has them checked out -/
structure CheckoutInv (cfg : Cfg κ) (Sc : Bytes → Prop) (w0 : World κ) (sC : Store κ) (v : World κ) :
    Prop where
  store : v.store = sC
  pending : ∀ sp stg, Sc sp → v.done.contains sp = false → alookup w0.idx sp = some stg →
    ∀ a, a ∈ stg.outputs → a.skip = false →
      getPath v.ws (Path.comps a.path) = none ∧ Writable v.ws (Path.comps a.path)
  finished : ∀ sp stg, Sc sp → v.done.contains sp = true → alookup w0.idx sp = some stg →
    ∀ a, a ∈ stg.outputs → a.skip = false → ∃ r, getPath v.ws (Path.comps a.path) = some r ∧
      deref cfg.ctx sC r = trackedOf a (origAt w0.ws a)

/-- one stage action of the checkout traversal succeeds and keeps `CheckoutInv`, when the index
`idx'` records the committed outputs and the clone's cache `sC` has the `RoundTrip` property -/
theorem checkoutInv_step_of_roundTrip (cfg : Cfg κ) (strat2 : Strat) (Sc : Bytes → Prop) (w0 : World κ)
    (idx' : Index)
    (hin : ∀ sp stg, Sc sp → alookup w0.idx sp = some stg → ApartArts stg.outputs)
    (hacross : ∀ sp1 sp2 stg1 stg2, Sc sp1 → Sc sp2 → sp1 ≠ sp2 →
      alookup w0.idx sp1 = some stg1 → alookup w0.idx sp2 = some stg2 →
      ∀ a, a ∈ stg1.outputs → ∀ b, b ∈ stg2.outputs → Apart (Path.comps a.path) (Path.comps b.path))
    (hstage : ∀ sp, Sc sp → ∃ stg stg', alookup w0.idx sp = some stg ∧ alookup idx' sp = some stg' ∧
      stg'.outputs = (sortArts stg.outputs).map (committedArt cfg.ctx w0.ws))
    (sC : Store κ)
    (hrt : ∀ sp stg, Sc sp → alookup w0.idx sp = some stg → ∀ a, a ∈ stg.outputs → a.skip = false →
      RoundTrip cfg a (trackedOf a (origAt w0.ws a)) sC)
    (sp : Bytes) (v : World κ) (hsc : Sc sp) (hidx : v.idx = idx')
    (hinv : CheckoutInv cfg Sc w0 sC v) (hnd : v.done.contains sp = false) :
    ∃ v1, checkoutAct cfg strat2 sp v = .ok v1 ∧ CheckoutInv cfg Sc w0 sC v1 := by
  obtain ⟨stg, stg', e0, e1, e2⟩ := hstage sp hsc
  obtain ⟨v1, h1, h2, _, h4, h5, h6⟩ := checkoutAct_committed cfg strat2 sp w0.ws stg stg' v sC
    (by rw [hidx]; exact e1) e2 (hin sp stg hsc e0) (hrt sp stg hsc e0)
    (by rw [hinv.store]; exact Store.le_refl _ _) (hinv.pending sp stg hsc hnd e0)
  have hdone : ∀ x, v1.done.contains x = (x == sp || v.done.contains x) := by
    intro x; rw [h4, List.contains_cons]
  refine ⟨v1, h1, h2.trans hinv.store, ?_, ?_⟩
  · intro x stgx hscx hx hsx a ha hsk
    rw [hdone, Bool.or_eq_false_iff] at hx
    have hne : x ≠ sp := by simpa using hx.1
    obtain ⟨p1, p2⟩ := hinv.pending x stgx hscx hx.2 hsx a ha hsk
    obtain ⟨g1, g2⟩ := h6 (Path.comps a.path)
      (fun b hb _ => hacross sp x stg stgx hsc hscx (Ne.symm hne) e0 hsx b hb a ha)
    exact ⟨by rw [g1]; exact p1, g2 p2⟩
  · intro x stgx hscx hx hsx a ha hsk
    by_cases hxs : x = sp
    · subst hxs
      rw [e0] at hsx
      cases hsx
      obtain ⟨r, hr, hd⟩ := h5 a ha hsk
      exact ⟨r, hr, by rw [← hinv.store]; exact hd⟩
    · have hx' : v.done.contains x = true := by
        rw [hdone] at hx
        have : (x == sp) = false := by simpa using hxs
        simpa [this] using hx
      obtain ⟨r, hr, hd⟩ := hinv.finished x stgx hscx hx' hsx a ha hsk
      obtain ⟨g1, _⟩ := h6 (Path.comps a.path)
        (fun b hb _ => hacross sp x stg stgx hsc hscx (Ne.symm hxs) e0 hsx b hb a ha)
      exact ⟨r, by rw [g1]; exact hr, hd⟩

/-- **`dud checkout` in a clone, after `dud commit`.**  `ws0` is the workspace the recorded checksums
refer to; the clone `v` has the committed index, a cache with the `RoundTrip` property for every
non-skip output in scope, and these outputs are absent and writable.  Then `dud checkout [targets]`
succeeds and rebuilds every such output.  (`hin`, `hacross` are `PipelineOK.apart_in`,
`.apart_across`, taken as hypotheses so that `PipelineOKRe` serves too.) -/
theorem cmdCheckout_after_commit {cfg : Cfg κ} {strat : Strat} (strat2 : Strat) {targets : List Bytes}
    {w0 w' : World κ} (hk : (w0.idx.map (·.1)).Nodup) (h : cmdCommit cfg strat targets w0 = .ok w')
    (ws0 : Node κ)
    (hin : ∀ sp stg, InScope cfg w0 targets sp → alookup w0.idx sp = some stg → ApartArts stg.outputs)
    (hacross : ∀ sp1 sp2 stg1 stg2, InScope cfg w0 targets sp1 → InScope cfg w0 targets sp2 →
      sp1 ≠ sp2 → alookup w0.idx sp1 = some stg1 → alookup w0.idx sp2 = some stg2 →
      ∀ a, a ∈ stg1.outputs → ∀ b, b ∈ stg2.outputs → Apart (Path.comps a.path) (Path.comps b.path))
    (hstage : ∀ sp, InScope cfg w0 targets sp → ∃ stg stg', alookup w0.idx sp = some stg ∧
      alookup w'.idx sp = some stg' ∧
      stg'.outputs = (sortArts stg.outputs).map (committedArt cfg.ctx ws0))
    (v : World κ) (hv : v.idx = w'.idx)
    (hrt : ∀ sp stg, InScope cfg w0 targets sp → alookup w0.idx sp = some stg →
      ∀ a, a ∈ stg.outputs → a.skip = false → RoundTrip cfg a (trackedOf a (origAt ws0 a)) v.store)
    (hfresh : ∀ sp stg, InScope cfg w0 targets sp → alookup w0.idx sp = some stg →
      ∀ a, a ∈ stg.outputs → a.skip = false →
        getPath v.ws (Path.comps a.path) = none ∧ Writable v.ws (Path.comps a.path)) :
    ∃ v', cmdCheckout cfg strat2 false targets v = .ok v' ∧ v'.store = v.store ∧ v'.idx = v.idx ∧
      ∀ sp stg, InScope cfg w0 targets sp → alookup w0.idx sp = some stg →
        ∀ a, a ∈ stg.outputs → a.skip = false →
          ∃ r, getPath v'.ws (Path.comps a.path) = some r ∧
            deref cfg.ctx v'.store r = trackedOf a (origAt ws0 a) := by
  have hsh := (cmdCommit_scope hk h).1
  obtain ⟨v', hrun, hi', hq', hne, _, hdn⟩ := runTargets_after_commit hk h
    (act := checkoutAct cfg strat2)
    (Q := CheckoutInv cfg (InScope cfg w0 targets) { w0 with ws := ws0 } v.store)
    (lawfulOn_congr_own (checkoutTrav_lawfulOn cfg strat2 w'.idx) (fun sp x => ownIdx_sim cfg hsh sp x))
    (fun u hi => (show u.idx = w'.idx from hi) ▸ hsh)
    (fun u sp hi hq hsp hndone _ =>
      checkoutInv_step_of_roundTrip cfg strat2 _ { w0 with ws := ws0 } w'.idx hin hacross hstage v.store hrt sp u
        hsp hi hq hndone)
    v hv
    { store := rfl
      pending := fun sp stg hsp _ hs a ha hsk => hfresh sp stg hsp hs a ha hsk
      finished := fun sp stg _ hd => by simp [fresh] at hd }
  have hcmd : cmdCheckout cfg strat2 false targets v = .ok v' := by
    simp only [cmdCheckout, hne, Bool.false_eq_true, if_false, Bool.not_false, Bool.or_true]
    exact hrun
  refine ⟨v', hcmd, hq'.store, (show v'.idx = w'.idx from hi').trans hv.symm, ?_⟩
  intro sp stg hsp hs a ha hsk
  obtain ⟨r, hr, hd⟩ := hq'.finished sp stg hsp (hdn sp hsp) hs a ha hsk
  exact ⟨r, hr, by rw [hq'.store]; exact hd⟩

end Dud
