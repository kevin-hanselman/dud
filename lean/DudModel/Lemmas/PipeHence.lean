import DudModel.PipeSpec
import DudModel.Lemmas.PipeRun
import DudModel.Lemmas.PipeCommit
/-!
# The `Hence` clause of C09: recorded checksums that describe an `F`-consistent snapshot

The invariant of a history is `SoundIdx`: for every command stage whose definition checksum is
current, in EVERY world in which the recorded checksums are those of the files found (`HashRec`), the
outputs are what `F` yields from the inputs. It mentions neither workspace nor cache: it is untouched
by `dud run` and by any edit of the workspace, established by a commit that follows a run
(`soundStage_of_fresh`), and survives every edit of the index that changes definition checksums.
The link from `run_sound` to `SoundIdx` is `hashRec_of_upToDate` (a stage of a pipeline of files that
is `UpToDate` together with its owners records the hashes of the files found).  `cmdCommit_post` is
all that the history induction of `Props/C09hence.lean` uses of `dud commit` on a pipeline of files
(`CommitPost`): the new index is again such a pipeline, the logical content at every input and output
is unchanged, every stage is `UpToDate` and `HashRec`, and `Fresh` is preserved for a `Stable` function.
-/
namespace Dud

open WT

variable {κ : Type}

/-- the checksums recorded by `stg` are the hashes of the regular files found (logically) in `w` at
its inputs and outputs -/
def HashRec (cfg : Cfg κ) (w : World κ) (stg : Stage) : Prop :=
  (∀ a, a ∈ stg.inputs → ∃ c, FileAt cfg w a.path c ∧ cfg.ctx.H c = a.sum) ∧
  (∀ b, b ∈ stg.outputs → ∃ c, FileAt cfg w b.path c ∧ cfg.ctx.H c = b.sum)

/-- the checksums recorded by `stg` are those of a snapshot consistent with `F` -/
def SoundStage (cfg : Cfg κ) (F : Fun κ) (stg : Stage) : Prop :=
  ∀ w2 : World κ, HashRec cfg w2 stg → FreshStage cfg F w2 stg

def SoundIdx (cfg : Cfg κ) (F : Fun κ) (idx : Index) : Prop :=
  ∀ x stg, alookup idx x = some stg → stg.hasCmd = true → stg.sumOk cfg = true →
    SoundStage cfg F stg

/-- a fresh stage whose recorded checksums are those of the files found is sound (the hash is
injective) -/
theorem soundStage_of_fresh (cfg : Cfg κ) (g : Good cfg.ctx) (F : Fun κ)
    (w : World κ) (stg : Stage) (hfr : FreshStage cfg F w stg) (hh : HashRec cfg w stg) :
    SoundStage cfg F stg := by
  intro w2 hh2
  -- in both worlds the file found hashes to the checksum recorded: the same file
  have key : ∀ {p : Bytes} {d : Digest}, (∃ c, FileAt cfg w p c ∧ cfg.ctx.H c = d) →
      (∃ c, FileAt cfg w2 p c ∧ cfg.ctx.H c = d) → logicalAt cfg w2 p = logicalAt cfg w p := by
    rintro p d ⟨c, h1, e1⟩ ⟨c2, h2, e2⟩
    cases g.inj _ _ (e2.trans e1.symm)
    exact h2.trans h1.symm
  exact FreshStage.congr (fun a ha => key (hh.1 a ha) (hh2.1 a ha)) (fun b hb => key (hh.2 b hb) (hh2.2 b hb)) hfr

variable [DecidableEq κ]

/-- `UpToDate` speaks of the sorted artifact lists; in a pipeline of files these have the members of
the unsorted ones. An owned input is the owning output itself (`FilePipe.owner_same`), and its
checksum is the one the owner, `UpToDate` too, records for that output. -/
theorem hashRec_of_upToDate {cfg : Cfg κ} {w : World κ} (hok : PipeOK cfg w.idx) (hfp : FilePipe cfg w.idx)
    (hc : Consistent cfg.ctx w.store) {x : Bytes} {stg : Stage} (hsx : alookup w.idx x = some stg)
    (h : UpToDate cfg w stg)
    (hown : ∀ o stgo, o ∈ ownIdx cfg w.idx x → alookup w.idx o = some stgo → UpToDate cfg w stgo) :
    HashRec cfg w stg := by
  have hout : ∀ {y : Bytes} {s : Stage}, alookup w.idx y = some s → UpToDate cfg w s →
      ∀ b, b ∈ s.outputs → ∃ c, FileAt cfg w b.path c ∧ cfg.ctx.H c = b.sum := fun hs hu b hb =>
    matchShort_content cfg w hc b (hfp.outs_files _ _ hs b hb)
      (hu.2.2.1 b (mem_sortArts_of_mem (hok.apart_in _ _ hs).paths_ne hb))
  refine ⟨fun a ha => ?_, hout hsx h⟩
  cases ho : findOwner cfg.walkAccumulates w.idx a.path with
  | none =>
    refine matchShort_content cfg w hc a (hfp.ins_files x stg hsx a ha) (h.2.1 a ?_)
    exact mem_sortArts_of_mem ((hfp.ins_nodup x stg hsx).filter _)
      (List.mem_filter.2 ⟨ha, by simp [ho]⟩)
  | some r =>
    obtain ⟨o, oa⟩ := r
    obtain ⟨stgo, hso, hoa⟩ := owner_lookup hok.keys ho
    obtain ⟨c, hf, he⟩ := hout hso (hown o stgo (owner_mem_ownIdx hsx ha ho) hso) oa hoa
    refine ⟨c, ?_, by rw [he, h.2.2.2 a ha o oa ho]⟩
    simp only [FileAt, logicalAt, ← hfp.owner_same x stg hsx a ha o oa ho] at hf ⊢
    exact hf

structure CommitPost (cfg : Cfg κ) (F : Fun κ) (w0 w' : World κ) : Prop where
  shape : SameShape w'.idx w0.idx
  cons : Consistent cfg.ctx w'.store
  pipe : PipeOK cfg w'.idx
  files : FilePipe cfg w'.idx
  logical : ∀ sp stg, alookup w0.idx sp = some stg →
    (∀ a, a ∈ stg.inputs → logicalAt cfg w' a.path = logicalAt cfg w0 a.path) ∧
    (∀ b, b ∈ stg.outputs → logicalAt cfg w' b.path = logicalAt cfg w0 b.path)
  recorded : ∀ x stg', alookup w'.idx x = some stg' → UpToDate cfg w' stg' ∧ HashRec cfg w' stg'
  fresh : Fresh cfg F w0 → Fresh cfg F w'

theorem cmdCommit_post (cfg : Cfg κ) (g : Good cfg.ctx) (F : Fun κ) (hF : F.Stable) (strat : Strat)
    (w0 w' : World κ) (hc : Consistent cfg.ctx w0.store) (hok : PipeOK cfg w0.idx)
    (hfp : FilePipe cfg w0.idx) (hfiles : AllFilesAt cfg w0)
    (h : cmdCommit cfg strat [] w0 = .ok w') : CommitPost cfg F w0 w' := by
  obtain ⟨hsh, hinv, hall⟩ := cmdCommit_files cfg g strat w0 w' hc hok hfp h
  have hok' := hok.of_paths hsh hinv.paths
  have hfp' := hfp.of_paths hsh hinv.paths
  have hrd : ∀ x stg', alookup w'.idx x = some stg' → UpToDate cfg w' stg' := by
    intro x stg' hs'
    obtain ⟨s0, h0, -⟩ := hinv.paths x stg' hs'
    have r := hinv.finished x stg' (hall x s0 h0) hs'
    refine ⟨r.sumOk, fun a' ha' => ?_, fun b' hb' => ?_, fun a' ha' => (r.ins a' ha').2⟩
    · obtain ⟨hin, hn⟩ := List.mem_filter.1 (mem_of_mem_sortArts ha')
      exact (matchShort_file cfg w' a' (hfp'.ins_files x stg' hs' a' hin)).2
        ((r.ins a' hin).1 (by simpa using hn))
    · have hb := mem_of_mem_sortArts hb'
      exact (matchShort_file cfg w' b' (hfp'.outs_files x stg' hs' b' hb)).2 (r.outs b' hb)
  have hlog_out : ∀ sp stg, alookup w0.idx sp = some stg → ∀ b, b ∈ stg.outputs →
      logicalAt cfg w' b.path = logicalAt cfg w0 b.path := by
    intro sp stg hs0 b hb
    obtain ⟨c, hf⟩ := (hfiles sp stg hs0).1 b hb
    refine (hinv.files _ c (fun x stgx hsx b2 hb2 => ?_) hf).trans hf.symm
    by_cases hx : x = sp
    · cases hx
      cases hsx.symm.trans hs0
      exact (apartArts_mem (hok.apart_in sp stg hs0) hb2 hb).imp (fun e => by rw [e]) id
    · exact .inr (hok.apart_across x sp stgx stg hx hsx hs0 b2 hb2 b hb)
  have hlog_in : ∀ sp stg, alookup w0.idx sp = some stg → ∀ a, a ∈ stg.inputs →
      logicalAt cfg w' a.path = logicalAt cfg w0 a.path := by
    intro sp stg hs0 a ha
    cases ho : findOwner cfg.walkAccumulates w0.idx a.path with
    | none =>
      obtain ⟨c, hf⟩ := (hfiles sp stg hs0).2 a ha ho
      exact (hinv.files _ c (fun x stgx hsx b2 hb2 =>
        .inr (hok.plain_apart sp stg hs0 a ha ho x stgx hsx b2 hb2)) hf).trans hf.symm
    | some r =>
      obtain ⟨o, oa⟩ := r
      obtain ⟨stgo, hso, hoa⟩ := owner_lookup hok.keys ho
      have h1 := hlog_out o stgo hso oa hoa
      have hcomps := hfp.owner_same sp stg hs0 a ha o oa ho
      simp only [logicalAt, hcomps] at h1 ⊢
      exact h1
  refine ⟨hsh, hinv.cons, hok', hfp', fun sp stg hs0 => ⟨hlog_in sp stg hs0, hlog_out sp stg hs0⟩,
    ?_, ?_⟩
  · intro x stg' hs'
    refine ⟨hrd x stg' hs', ?_⟩
    exact hashRec_of_upToDate hok' hfp' hinv.cons hs' (hrd x stg' hs') (fun o stgo _ hso => hrd o stgo hso)
  · intro hfr x stg' hs' hcmd'
    obtain ⟨stg, hs0, hrec⟩ := hinv.paths x stg' hs'
    have hsim : StageSim stg' stg := by
      rcases alookup_sim hsh x with ⟨h1, _⟩ | ⟨s, s0, h1, h0, hs⟩
      · rw [h1] at hs'; cases hs'
      · cases h1.symm.trans hs'
        cases h0.symm.trans hs0
        exact hs
    have hcmd : stg.hasCmd = true := by
      rw [Stage.hasCmd, ← hrec.cmd]; exact hcmd'
    have h0 := hfr x stg hs0 hcmd
    intro a' ha'
    obtain ⟨a, ha, hpa, -⟩ := hrec.outs a' ha'
    rw [hpa, hlog_out x stg hs0 a ha, h0 a ha]
    refine hF stg stg' _ _ hrec.cmd.symm hrec.wd.symm (fun p => ?_) a.path
    rw [alookup_insOf, alookup_insOf]
    by_cases hp : p ∈ stg.inputs.map (·.path)
    · have hp' : p ∈ stg'.inputs.map (·.path) := (hsim.1 p).2 hp
      rw [if_pos hp, if_pos hp']
      obtain ⟨a1, ha1, rfl⟩ := List.mem_map.1 hp
      exact (hlog_in x stg hs0 a1 ha1).symm
    · have hp' : ¬ p ∈ stg'.inputs.map (·.path) := fun h => hp ((hsim.1 p).1 h)
      rw [if_neg hp, if_neg hp']

end Dud
