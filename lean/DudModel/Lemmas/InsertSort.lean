import DudModel.Stage
/-!
# Insertion sort by a byte-string key, replacing an equal key

`insertChild`/`sortChildren` (`Model.lean`, key `Child.name`), `insertArt`/`sortArts` (`Stage.lean`,
key `Art.path`) and the sort of definition artifacts are this one function (`insertChild_eq` in
`Lemmas/Tree.lean`, `insertArt_eq` here); everything known about them is proved here once, for any key.  The last section is
the instance `sortArts` (`sortArts_eq`, membership in `sortArts`).
-/
namespace Dud

variable {α β : Type}

def insertBy (k : α → Bytes) (a : α) : List α → List α
  | [] => [a]
  | x :: xs => if k a == k x then a :: xs
               else if decide (k a < k x) then a :: x :: xs
               else x :: insertBy k a xs

def sortBy (k : α → Bytes) (l : List α) : List α := l.foldr (insertBy k) []

/-- strictly increasing by key (in particular: one entry per key) -/
def SortedBy (k : α → Bytes) (l : List α) : Prop := l.Pairwise (fun a b => k a < k b)

variable {k : α → Bytes}

theorem bytes_lt_of_not (a b : Bytes) (h1 : ¬ a < b) (h2 : a ≠ b) : b < a :=
  (List.le_iff_lt_or_eq.1 (List.not_lt.1 h1)).elim id fun h => absurd h.symm h2

theorem sortBy_cons (k : α → Bytes) (c : α) (l : List α) :
    sortBy k (c :: l) = insertBy k c (sortBy k l) := rfl

/-- the three outcomes of one comparison of `insertBy` -/
theorem insertBy_cons_cases (k : α → Bytes) (c x : α) (xs : List α) :
    (k c = k x ∧ insertBy k c (x :: xs) = c :: xs) ∨
    (k c < k x ∧ insertBy k c (x :: xs) = c :: x :: xs) ∨
    (k x < k c ∧ insertBy k c (x :: xs) = x :: insertBy k c xs) := by
  by_cases he : k c = k x
  · exact .inl ⟨he, by simp [insertBy, he]⟩
  · by_cases hl : k c < k x
    · exact .inr (.inl ⟨hl, by simp [insertBy, he, hl]⟩)
    · exact .inr (.inr ⟨bytes_lt_of_not _ _ hl he, by simp [insertBy, he, hl]⟩)

theorem insertBy_lt {c x : α} (xs : List α) (h : k c < k x) :
    insertBy k c (x :: xs) = c :: x :: xs := by
  rcases insertBy_cons_cases k c x xs with ⟨e, -⟩ | ⟨-, e⟩ | ⟨h', -⟩
  · exact absurd (e ▸ h) (List.lt_irrefl _)
  · exact e
  · exact absurd h' (List.lt_asymm h)

theorem mem_insertBy {c y : α} : ∀ {l : List α}, y ∈ insertBy k c l → y = c ∨ y ∈ l
  | [], h => .inl (List.mem_singleton.1 h)
  | x :: xs, h => by
    rcases insertBy_cons_cases k c x xs with ⟨-, e⟩ | ⟨-, e⟩ | ⟨-, e⟩
    · rw [e] at h
      exact (List.mem_cons.1 h).imp_right (List.mem_cons_of_mem _)
    · rw [e] at h
      exact List.mem_cons.1 h
    · rw [e] at h
      rcases List.mem_cons.1 h with h | h
      · exact .inr (h ▸ List.mem_cons_self)
      · exact (mem_insertBy h).imp_right (List.mem_cons_of_mem _)

theorem mem_insertBy_self (c : α) : ∀ l : List α, c ∈ insertBy k c l
  | [] => List.mem_singleton.2 rfl
  | x :: xs => by
    rcases insertBy_cons_cases k c x xs with ⟨-, e⟩ | ⟨-, e⟩ | ⟨-, e⟩
    · rw [e]
      exact List.mem_cons_self
    · rw [e]
      exact List.mem_cons_self
    · rw [e]
      exact List.mem_cons_of_mem _ (mem_insertBy_self c xs)

/-- only an entry with the key of `c` can be displaced -/
theorem mem_insertBy_of_mem {c y : α} (hk : k c ≠ k y) : ∀ {l : List α}, y ∈ l → y ∈ insertBy k c l
  | x :: xs, h => by
    rcases insertBy_cons_cases k c x xs with ⟨he, e⟩ | ⟨-, e⟩ | ⟨-, e⟩
    · rw [e]
      exact (List.mem_cons.1 h).elim (fun e' => absurd (e' ▸ he) hk) (List.mem_cons_of_mem _)
    · rw [e]
      exact List.mem_cons_of_mem _ h
    · rw [e]
      exact (List.mem_cons.1 h).elim (fun e' => e' ▸ List.mem_cons_self)
        fun h => List.mem_cons_of_mem _ (mem_insertBy_of_mem hk h)

theorem mem_of_mem_sortBy {a : α} : ∀ {l : List α}, a ∈ sortBy k l → a ∈ l
  | _ :: _, h => (mem_insertBy h).elim (· ▸ List.mem_cons_self)
      fun h => List.mem_cons_of_mem _ (mem_of_mem_sortBy h)

/-- an entry survives the sort if no other entry of the list has ITS key -/
theorem mem_sortBy {a : α} : ∀ l : List α, a ∈ l → (∀ b ∈ l, k b = k a → b = a) → a ∈ sortBy k l
  | x :: xs, h, hu => by
    rw [sortBy_cons]
    by_cases hp : k x = k a
    · rw [hu x List.mem_cons_self hp]; exact mem_insertBy_self _ _
    · rcases List.mem_cons.1 h with rfl | h
      · exact absurd rfl hp
      · exact mem_insertBy_of_mem hp (mem_sortBy xs h fun b hb => hu b (List.mem_cons_of_mem _ hb))

theorem insertBy_sorted (c : α) : ∀ {l : List α}, SortedBy k l → SortedBy k (insertBy k c l)
  | [], _ => List.pairwise_singleton _ _
  | x :: xs, h => by
    obtain ⟨hx, hxs⟩ := List.pairwise_cons.1 h
    rcases insertBy_cons_cases k c x xs with ⟨he, e⟩ | ⟨hl, e⟩ | ⟨hg, e⟩
    · rw [e]
      exact List.pairwise_cons.2 ⟨fun y hy => he ▸ hx y hy, hxs⟩
    · rw [e]
      exact List.pairwise_cons.2
        ⟨List.forall_mem_cons.2 ⟨hl, fun y hy => List.lt_trans hl (hx y hy)⟩, h⟩
    · rw [e]
      exact List.pairwise_cons.2
        ⟨fun y hy => (mem_insertBy hy).elim (· ▸ hg) (hx y), insertBy_sorted c hxs⟩

theorem sortBy_sorted (k : α → Bytes) : ∀ l : List α, SortedBy k (sortBy k l)
  | [] => List.Pairwise.nil
  | c :: l => insertBy_sorted c (sortBy_sorted k l)

theorem insertBy_perm (c : α) : ∀ {l : List α}, (∀ y ∈ l, k c ≠ k y) →
    (insertBy k c l).Perm (c :: l)
  | [], _ => .refl _
  | x :: xs, h => by
    rcases insertBy_cons_cases k c x xs with ⟨he, -⟩ | ⟨-, e⟩ | ⟨-, e⟩
    · exact absurd he (h x List.mem_cons_self)
    · rw [e]
    · rw [e]
      exact ((insertBy_perm c fun y hy => h y (List.mem_cons_of_mem _ hy)).cons x).trans (.swap c x xs)

theorem sortBy_perm_self : ∀ l : List α, (l.map k).Nodup → (sortBy k l).Perm l
  | [], _ => .refl _
  | c :: l, h => by
    obtain ⟨hc, hl⟩ := List.nodup_cons.1 h
    have ih := sortBy_perm_self l hl
    exact (insertBy_perm c fun y hy e =>
      hc (List.mem_map.2 ⟨y, ih.mem_iff.1 hy, e.symm⟩)).trans (ih.cons c)

theorem SortedBy.eq_of_perm {l1 l2 : List α} (h1 : SortedBy k l1) (h2 : SortedBy k l2)
    (hp : l1.Perm l2) : l1 = l2 :=
  hp.eq_of_pairwise (fun _ _ _ _ hab hba => absurd hba (List.lt_asymm hab)) h1 h2

/-- on maps (one entry per key) the sort is insensitive to the order of the entries -/
theorem sortBy_perm {l1 l2 : List α} (hp : l1.Perm l2) (hnd : (l1.map k).Nodup) :
    sortBy k l1 = sortBy k l2 :=
  (sortBy_sorted k l1).eq_of_perm (sortBy_sorted k l2)
    (((sortBy_perm_self l1 hnd).trans hp).trans
      (sortBy_perm_self l2 ((hp.map k).nodup_iff.1 hnd)).symm)

theorem sortBy_of_sorted : ∀ {l : List α}, SortedBy k l → sortBy k l = l
  | [], _ => rfl
  | [_], _ => rfl
  | x :: y :: l, h => by
    obtain ⟨hx, hl⟩ := List.pairwise_cons.1 h
    rw [sortBy_cons, sortBy_of_sorted hl, insertBy_lt l (hx y List.mem_cons_self)]

theorem SortedBy.nodup {l : List α} (h : SortedBy k l) : (l.map k).Nodup :=
  List.pairwise_map.2 (h.imp fun {a b} hab (e : k a = k b) => List.lt_irrefl _ (e ▸ hab))

/-- sortedness depends on the keys only -/
theorem SortedBy.map {k' : β → Bytes} {l : List α} (h : SortedBy k l) (f : α → β)
    (hf : ∀ a, k' (f a) = k a) : SortedBy k' (l.map f) :=
  List.pairwise_map.2 (h.imp fun hab => by rw [hf, hf]; exact hab)

/-- insertion, and with it the sort (`sortBy_map`), commutes with every map that keeps the keys -/
theorem insertBy_map {k' : β → Bytes} (f : α → β) (hf : ∀ a, k' (f a) = k a) (c : α) :
    ∀ l : List α, (insertBy k c l).map f = insertBy k' (f c) (l.map f)
  | [] => rfl
  | x :: xs => by
    simp only [insertBy, List.map_cons, hf]
    split
    · rfl
    · split
      · rfl
      · rw [List.map_cons, insertBy_map f hf c xs]

theorem sortBy_map {k' : β → Bytes} (f : α → β) (hf : ∀ a, k' (f a) = k a) :
    ∀ l : List α, (sortBy k l).map f = sortBy k' (l.map f)
  | [] => rfl
  | c :: l => by rw [sortBy_cons, insertBy_map f hf, sortBy_map f hf l]; rfl

/-- looking up a key in the sorted list finds the inserted entry or what was found before -/
theorem find?_insertBy (c : α) (p : Bytes) : ∀ l : List α,
    (insertBy k c l).find? (fun a => k a == p) =
      if k c == p then some c else l.find? (fun a => k a == p)
  | [] => by cases h : k c == p <;> simp [insertBy, h]
  | x :: xs => by
    rcases insertBy_cons_cases k c x xs with ⟨he, e⟩ | ⟨-, e⟩ | ⟨hg, e⟩
    · rw [e]
      rw [List.find?_cons, List.find?_cons, ← he]
      cases k c == p <;> rfl
    · rw [e]
      rw [List.find?_cons]
      cases k c == p <;> rfl
    · rw [e]
      rw [List.find?_cons, find?_insertBy c p xs, List.find?_cons]
      cases hx : k x == p
      · rfl
      · -- the keys of `x` and `c` differ, so `c` is not what is looked for
        have : (k c == p) = false := beq_eq_false_iff_ne.2 fun hc =>
          List.lt_irrefl _ ((hc.trans (beq_iff_eq.1 hx).symm) ▸ hg)
        rw [this]; rfl

theorem find?_sortBy (p : Bytes) : ∀ l : List α,
    (sortBy k l).find? (fun a => k a == p) = l.find? (fun a => k a == p)
  | [] => rfl
  | c :: l => by
    rw [sortBy_cons, find?_insertBy, find?_sortBy p l, List.find?_cons]
    cases k c == p <;> rfl

theorem pairwise_insertBy {R : α → α → Prop} (x : α) : ∀ {m : List α}, m.Pairwise R →
    (∀ y ∈ m, R x y ∧ R y x) → (insertBy k x m).Pairwise R
  | [], _, _ => List.pairwise_singleton _ _
  | y :: ys, hm, hx => by
    obtain ⟨hy, hys⟩ := List.pairwise_cons.1 hm
    rcases insertBy_cons_cases k x y ys with ⟨-, e⟩ | ⟨-, e⟩ | ⟨-, e⟩
    · rw [e]
      exact List.pairwise_cons.2 ⟨fun z hz => (hx z (List.mem_cons_of_mem _ hz)).1, hys⟩
    · rw [e]
      exact List.pairwise_cons.2 ⟨fun z hz => (hx z hz).1, hm⟩
    · rw [e]
      exact List.pairwise_cons.2 ⟨fun z hz => (mem_insertBy hz).elim
          (· ▸ (hx y List.mem_cons_self).2) (hy z),
        pairwise_insertBy x hys fun z hz => hx z (List.mem_cons_of_mem _ hz)⟩

theorem pairwise_sortBy {R : α → α → Prop} (hsym : ∀ a b, R a b → R b a) : ∀ l : List α,
    l.Pairwise R → (sortBy k l).Pairwise R
  | [], _ => List.Pairwise.nil
  | x :: xs, h => by
    obtain ⟨hx, hxs⟩ := List.pairwise_cons.1 h
    exact pairwise_insertBy x (pairwise_sortBy hsym xs hxs) fun y hy =>
      ⟨hx y (mem_of_mem_sortBy hy), hsym _ _ (hx y (mem_of_mem_sortBy hy))⟩

/-! ## `sortArts` is `sortBy Art.path` -/

theorem insertArt_eq : insertArt = insertBy Art.path := by
  funext a l
  induction l with
  | nil => rfl
  | cons x xs ih => simp only [insertArt, insertBy, ih]

theorem sortArts_eq : sortArts = sortBy Art.path := by
  funext l; rw [sortArts, insertArt_eq]; rfl

/-- `sortArts` keeps one artifact per path -/
theorem sortArts_paths_ne (l : List Art) : (sortArts l).Pairwise (fun a b => a.path ≠ b.path) :=
  List.pairwise_map.1 (sortArts_eq ▸ (sortBy_sorted Art.path l).nodup)

theorem mem_insertArt {a b : Art} {l : List Art} (h : a ∈ insertArt b l) : a = b ∨ a ∈ l :=
  mem_insertBy (insertArt_eq ▸ h)

theorem mem_insertArt_of_mem {a b : Art} {l : List Art} (h : a ∈ l) (hp : b.path ≠ a.path) :
    a ∈ insertArt b l :=
  insertArt_eq ▸ mem_insertBy_of_mem hp h

theorem mem_of_mem_sortArts {a : Art} {l : List Art} (h : a ∈ sortArts l) : a ∈ l :=
  mem_of_mem_sortBy (sortArts_eq ▸ h)

/-- an artifact survives `sortArts` if no other artifact of the list has ITS path (Go: the outputs
are a map keyed by path); `mem_sortArts_of_mem` asks for all paths to be distinct -/
theorem mem_sortArts {a : Art} (l : List Art) (h : a ∈ l)
    (hu : ∀ b, b ∈ l → b.path = a.path → b = a) : a ∈ sortArts l :=
  sortArts_eq ▸ mem_sortBy l h hu

theorem mem_sortArts_of_mem {a : Art} {l : List Art} (hn : l.Pairwise (fun x y => x.path ≠ y.path))
    (h : a ∈ l) : a ∈ sortArts l :=
  sortArts_eq ▸ (sortBy_perm_self l (List.pairwise_map.2 hn)).mem_iff.2 h

end Dud
