import DudModel.Lemmas.CrashCmdGo
import DudModel.Props.C08
/-!
# Go's order, stage files: "the complete encoding of the stage of the FINAL index"

With the stage files written after each target, the bytes written for stage `sp` encode the stage the
index holds at the end of that target's traversal.  That this is also what the final index holds needs a
fact about the traversal: a stage that is done is never acted on again, and acting on another stage
leaves its index entry alone (`visit_commitTravT_stable`, from the laws of the traversal).
-/
namespace Dud.Sys
open Dud
variable {κ : Type}

theorem commitAct_idx_stable (cfg : Cfg κ) (strat : Strat) (sp : Bytes) (w w' : World κ)
    (h : commitAct cfg strat sp w = .ok w') :
    w'.done = sp :: w.done ∧ ∀ x, x ≠ sp → alookup w'.idx x = alookup w.idx x := by
  obtain ⟨stg, hl⟩ := WStat.commitAct_stage h
  obtain ⟨pl, w1, outs, w2, hc1, hc2, rfl⟩ := WStat.commitAct_inv hl h
  obtain ⟨f1, f2, -⟩ := commitArts_frame cfg strat _ _ w w1 hc1
  obtain ⟨g1, g2, -⟩ := commitArts_frame cfg strat _ _ w1 w2 hc2
  exact ⟨by simp only [g2, f2], fun x hx => by simp only [g1, f1]; exact alookup_setStage_ne _ _ hx⟩

theorem commitTravT_act_ok {c : CmdCfg κ} {strat : Strat} {sp : Bytes}
    {p p' : World κ × List (List (Call κ))} (h : (commitTravT c strat).act sp p = .ok p') :
    (commitTrav c.cfg strat).act sp p.1 = .ok p'.1 :=
  (map_fst_eq (commitTravT_act_refines c strat sp p)).2 p'.1 p'.2 h

theorem commitTravT_lawfulOn (c : CmdCfg κ) (strat : Strat) (idx0 : Index) (hk : (idx0.map (·.1)).Nodup) :
    (commitTravT c strat).LawfulOn (ownIdx c.cfg idx0) (fun p => SameShape p.1.idx idx0) where
  owners_eq := fun p sp os hi h => (commitTrav_lawfulOn c.cfg strat idx0 hk).owners_eq p.1 sp os hi h
  act_done := fun sp p p' hi h x =>
    (commitTrav_lawfulOn c.cfg strat idx0 hk).act_done sp p.1 p'.1 hi (commitTravT_act_ok h) x
  act_inv := fun sp p p' hi h =>
    (commitTrav_lawfulOn c.cfg strat idx0 hk).act_inv sp p.1 p'.1 hi (commitTravT_act_ok h)

/-- **a successful traversal keeps the index entries of the stages that were done before it** -/
theorem visit_commitTravT_stable {c : CmdCfg κ} {strat : Strat} {idx0 : Index}
    (hk : (idx0.map (·.1)).Nodup) {fuel : Nat} {avail : List Bytes} {t : Bytes}
    {p p' : World κ × List (List (Call κ))} (hi : SameShape p.1.idx idx0)
    (h : visit (commitTravT c strat) true fuel avail t p = .ok p') :
    SameShape p'.1.idx idx0 ∧
      ∀ x, x ∈ p.1.done → x ∈ p'.1.done ∧ alookup p'.1.idx x = alookup p.1.idx x := by
  have hT := commitTravT_lawfulOn c strat idx0 hk
  refine ⟨(visit_ok hT hi h).1, fun x hx => ?_⟩
  refine visit_preserves hT
    (Q := fun q => x ∈ q.1.done ∧ alookup q.1.idx x = alookup p.1.idx x)
    (fun sp q q' _ hq hnd _ hs => ?_) fuel avail t p p' hi ⟨hx, rfl⟩ h
  obtain ⟨hd, hst⟩ := commitAct_idx_stable _ _ _ _ _ (commitTravT_act_ok hs)
  have hne : x ≠ sp := by
    rintro rfl
    simp [commitTravT, hq.1] at hnd
  exact ⟨by rw [hd]; exact List.mem_cons_of_mem _ hq.1, by rw [hst x hne]; exact hq.2⟩

theorem mem_newlyDone {d d' : List Bytes} {sp : Bytes} (h : sp ∈ newlyDone d d') : sp ∈ d' := by
  simp only [newlyDone, List.mem_reverse, List.mem_filter] at h
  exact h.1

/-- the index has the shape of `idx0`, and every stage file rewritten so far belongs to a stage that is done
and was written with the stage the index holds now -/
structure WrittenInv (c : CmdCfg κ) (idx0 : Index) (p : World κ × List (Bool × List (Call κ))) : Prop where
  shape : SameShape p.1.idx idx0
  segsF : ∀ seg ∈ p.2, SegOK c (fun sp stg => sp ∈ p.1.done ∧ alookup p.1.idx sp = some stg) seg.2

theorem WrittenInv.init {c : CmdCfg κ} (w : World κ) : WrittenInv c w.idx (w, []) where
  shape := SameShape.refl _
  segsF := by intro seg hseg; cases hseg

theorem goTargets_writtenInv {c : CmdCfg κ} {strat : Strat} {idx0 : Index} (hk : (idx0.map (·.1)).Nodup)
    (ts : List Bytes) (p p' : World κ × List (Bool × List (Call κ))) :
    WrittenInv c idx0 p → goTargets c strat ts p = .ok p' → WrittenInv c idx0 p' :=
  goTargets_keeps (Q := WrittenInv c idx0) ts p p' fun t _ p w' arts hi hv => by
    obtain ⟨hshape, hstab⟩ := visit_commitTravT_stable (p := (p.1, [])) hk hi.shape hv
    exact ⟨hshape, segs_phase hi.segsF
      (fun sp stg h => ⟨(hstab sp h.1).1, (hstab sp h.1).2 ▸ h.2⟩) (visit_commitTravT_cacheOnly hv)
      (fun sp hsp stg h => ⟨mem_newlyDone hsp, h⟩)⟩

end Dud.Sys
