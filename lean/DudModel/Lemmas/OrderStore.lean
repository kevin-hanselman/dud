import DudModel.Lemmas.Tree
/-!
# Stores as finite maps up to bytes; blocks of puts (`Δ ++ s`)

Helpers for C13 (order independence).  A commit only ever *prepends* bindings to the store
(`Store.put = cons`), so the store after a commit is `Δ ++ s` for a block `Δ` of new bindings.
Two blocks of content-addressed bindings commute as finite maps (up to the bytes of the objects;
the typed model distinguishes a blob holding the bytes of a manifest from the manifest itself,
the real cache does not).
-/
namespace Dud

variable {κ : Type}

/-- The two stores are the same cache: the same digests are present, with the same bytes. -/
def Store.eqv (ctx : Ctx κ) (s t : Store κ) : Prop :=
  ∀ d, (s.get d).map (Obj.bytes ctx) = (t.get d).map (Obj.bytes ctx)

theorem Store.eqv.refl (ctx : Ctx κ) (s : Store κ) : Store.eqv ctx s s := fun _ => rfl

theorem Store.eqv.symm {ctx : Ctx κ} {s t : Store κ} (h : Store.eqv ctx s t) : Store.eqv ctx t s :=
  fun d => (h d).symm

theorem Store.eqv.trans {ctx : Ctx κ} {s t u : Store κ} (h1 : Store.eqv ctx s t)
    (h2 : Store.eqv ctx t u) : Store.eqv ctx s u := fun d => (h1 d).trans (h2 d)

theorem Store.eqv.le {ctx : Ctx κ} {s t : Store κ} (h : Store.eqv ctx s t) : Store.le ctx s t := by
  intro d o hd
  have := h d
  rw [hd] at this
  cases ht : t.get d with
  | none => rw [ht] at this; cases this
  | some o' =>
    rw [ht] at this
    simp only [Option.map_some, Option.some.injEq] at this
    exact ⟨o', rfl, this.symm⟩

theorem Store.eqv_iff_le (ctx : Ctx κ) (s t : Store κ) :
    Store.eqv ctx s t ↔ Store.le ctx s t ∧ Store.le ctx t s := by
  constructor
  · exact fun h => ⟨h.le, h.symm.le⟩
  · rintro ⟨h1, h2⟩ d
    cases hs : s.get d with
    | some o =>
      obtain ⟨o', h', hb⟩ := h1 d o hs
      simp [h', hb]
    | none =>
      cases ht : t.get d with
      | none => rfl
      | some o' =>
        obtain ⟨o, h', _⟩ := h2 d o' ht
        rw [hs] at h'; cases h'

theorem Store.eqv.has {ctx : Ctx κ} {s t : Store κ} (h : Store.eqv ctx s t) (d : Digest) :
    s.has d = t.has d := by
  have := congrArg Option.isSome (h d)
  simpa [Store.has] using this

theorem Store.eqv.readManifest {ctx : Ctx κ} (g : Good ctx) {s t : Store κ}
    (h : Store.eqv ctx s t) (d : Digest) : readManifest ctx s d = readManifest ctx t d := by
  cases hd : s.has d with
  | true => exact (readManifest_le g h.le hd).symm
  | false => rw [readManifest_missing hd, readManifest_missing (h.has d ▸ hd)]

theorem Store.eqv.oldManifest {ctx : Ctx κ} (g : Good ctx) {s t : Store κ}
    (h : Store.eqv ctx s t) (d : Digest) : oldManifest ctx s d = oldManifest ctx t d := by
  simp only [Dud.oldManifest, h.has d, h.readManifest g d]

theorem DeltaOK.of_flatten {ctx : Ctx κ} {Ds : List (Store κ)} (h : DeltaOK ctx Ds.flatten) :
    ∀ Δ ∈ Ds, DeltaOK ctx Δ :=
  fun Δ hΔ p hp => h p (List.mem_flatten.2 ⟨Δ, hΔ, hp⟩)

theorem Store.eqv_append_congr {ctx : Ctx κ} (Δ : Store κ) {s t : Store κ}
    (h : Store.eqv ctx s t) : Store.eqv ctx (Δ ++ s) (Δ ++ t) := by
  intro d
  rw [Store.get_append, Store.get_append]
  cases hΔ : Store.get Δ d with
  | none => exact h d
  | some o' => rfl

/-- two blocks of content-addressed bindings commute (collision freedom of the hash) -/
theorem Store.eqv_append_comm {ctx : Ctx κ} (g : Good ctx) {Δ1 Δ2 : Store κ}
    (h1 : DeltaOK ctx Δ1) (h2 : DeltaOK ctx Δ2) (s : Store κ) :
    Store.eqv ctx (Δ1 ++ (Δ2 ++ s)) (Δ2 ++ (Δ1 ++ s)) := by
  intro d
  simp only [Store.get_append]
  cases hd1 : Store.get Δ1 d with
  | none => rfl
  | some o1 =>
    cases hd2 : Store.get Δ2 d with
    | none => rfl
    | some o2 =>
      have : o1.bytes ctx = o2.bytes ctx := g.inj _ _ ((h1.get hd1).trans (h2.get hd2).symm)
      simp [this]

/-- blocks of content-addressed bindings may be put on in any order -/
theorem Store.eqv_flatten_perm {ctx : Ctx κ} (g : Good ctx) {Ds Ds' : List (Store κ)}
    (hp : Ds.Perm Ds') (hD : ∀ Δ ∈ Ds, DeltaOK ctx Δ) (s : Store κ) :
    Store.eqv ctx (Ds.flatten ++ s) (Ds'.flatten ++ s) := by
  induction hp with
  | nil => exact Store.eqv.refl ctx _
  | cons Δ _ ih =>
    simp only [List.flatten_cons, List.append_assoc]
    exact Store.eqv_append_congr Δ (ih fun D h => hD D (List.mem_cons_of_mem _ h))
  | swap Δ1 Δ2 l =>
    simp only [List.flatten_cons, List.append_assoc]
    exact Store.eqv_append_comm g (hD _ (List.mem_cons_self ..))
      (hD _ (List.mem_cons_of_mem _ (List.mem_cons_self ..))) _
  | trans hp1 _ ih1 ih2 => exact (ih1 hD).trans (ih2 fun D h => hD D (hp1.mem_iff.2 h))

theorem Store.eqv_put_congr {ctx : Ctx κ} {s t : Store κ} (h : Store.eqv ctx s t) (d : Digest)
    (o : Obj κ) : Store.eqv ctx (s.put d o) (t.put d o) :=
  Store.eqv_append_congr [(d, o)] h

/-- `Consistent.nil` under another name (no `Store.le` is involved) -/
theorem Consistent.of_le_nil (ctx : Ctx κ) : Consistent ctx ([] : Store κ) := Consistent.nil ctx

end Dud
