import DudModel.Lemmas.RetryArt
import DudModel.Lemmas.WorldRecommit
/-!
# `dud commit` from a PARTLY committed world (world level of the retry after a failed `dud commit`)

`w0` is the world before the failed command, `idxF` the index the unfailed command ends with.  A world `v`
is a *resumption point* (`Resume`) when its index holds, stage by stage, the original record or the final
one; its cache is consistent, extends the original one and has grown by objects of output trees only; below
every output in scope its workspace has the logical content (`deref`) of the original tree — some files
already moved into the cache and linked —, elsewhere it is the original workspace; the stages it counts as
done carry their final record, `canonStage` (the record as a function of `w0` and of the recorded outputs of
the upstream stages), and the cache holds their outputs.

`retry_step`: **the action of a stage of `dud commit` leads from a resumption point to a resumption point**, and
succeeds.  Hence `commit_from_resume` (`dud commit` from every resumption point succeeds and ends in one with
every stage in scope done) and, read off the successful run, `commit_canon` (so does the unfailed commit of
`w0`).  Two such end points have the same index, the same cache as a map and the same logical content, hence
`commit_retry_world`: the retry ends in the state of the commit that never failed.  The committed world is a
resumption point of its own commit, so a second `dud commit` is the retry of a commit that had nothing left
to do (`commit_idem_world` of `Props/C05world.lean`).
-/
namespace Dud.Retry
open Dud Dud.WT Dud.WStat
variable {κ : Type}

theorem le_of_has {ctx : Ctx κ} (g : Good ctx) {s s' : Store κ} (hc : Consistent ctx s)
    (hc' : Consistent ctx s') (h : ∀ d, s.has d = true → s'.has d = true) : Store.le ctx s s' := by
  intro d o ho
  obtain ⟨o', ho'⟩ := Store.has_eq_true.1 (h d (Store.has_of_get ho))
  exact ⟨o', ho', hc.same_bytes g hc' ho ho'⟩

/-- the checksum recorded for an input no stage owns: the digest of the regular file at its path; where the
path holds no regular file (a link to the recorded object), the checksum the input carries -/
def fileSum (ctx : Ctx κ) (ws0 : Node κ) (b : Art) : Digest :=
  match getPath ws0 (Path.comps b.path) with
  | some (.file c) => ctx.H c
  | _ => b.sum

def setFileSum (ctx : Ctx κ) (ws0 : Node κ) (b : Art) : Art := { b with sum := fileSum ctx ws0 b }

/-- the recorded inputs no stage owns -/
def canonPlain (cfg : Cfg κ) (ws0 : Node κ) (idx : Index) (stg : Stage) : List Art :=
  (sortArts (plainIn cfg idx stg)).map (setFileSum cfg.ctx ws0)

/-- **the record of stage `stg` after a commit**: owned inputs with the checksum the owner records in
`idxF`, un-owned inputs with the digest of their file and `skip-cache`, outputs with the checksum of the
tree found in `ws0`, stage checksum of the definition -/
def canonStage (cfg : Cfg κ) (ws0 : Node κ) (idxF : Index) (stg : Stage) : Stage :=
  newStage cfg stg (sortArts (ownedIn cfg idxF stg ++ canonPlain cfg ws0 idxF stg))
    ((sortArts stg.outputs).map (committedArt cfg.ctx ws0))

/-- the hypotheses of `commit_idem_world` (`Props/C05world.lean`) on the original world, plus: the inputs no
stage owns are regular files -/
structure Std (cfg : Cfg κ) (Sc : Bytes → Prop) (w0 : World κ) : Prop where
  good : Good cfg.ctx
  cons : Consistent cfg.ctx w0.store
  ok : PipelineOK cfg Sc w0
  files : PlainInputsFiles cfg Sc w0
  apart : PlainInputsApartAll cfg Sc w0
  recur : ∀ sp stg, Sc sp → alookup w0.idx sp = some stg → ∀ a, a ∈ stg.outputs → Recursive a
  regular : ∀ sp stg, Sc sp → alookup w0.idx sp = some stg → ∀ b, b ∈ stg.inputs →
    (findOwner cfg.walkAccumulates w0.idx b.path).isNone = true →
    ∃ c, getPath w0.ws (Path.comps b.path) = some (.file c)

/-- `Std` without `regular`: the hypotheses of `commit_idem_world` (`Props/C05world.lean`) -/
structure Base (cfg : Cfg κ) (Sc : Bytes → Prop) (w0 : World κ) : Prop where
  good : Good cfg.ctx
  cons : Consistent cfg.ctx w0.store
  ok : PipelineOK cfg Sc w0
  files : PlainInputsFiles cfg Sc w0
  apart : PlainInputsApartAll cfg Sc w0
  recur : ∀ sp stg, Sc sp → alookup w0.idx sp = some stg → ∀ a, a ∈ stg.outputs → Recursive a

theorem Std.base {cfg : Cfg κ} {Sc : Bytes → Prop} {w0 : World κ} (h : Std cfg Sc w0) : Base cfg Sc w0 :=
  ⟨h.good, h.cons, h.ok, h.files, h.apart, h.recur⟩

/-- the inputs of `stg` no stage owns, as the world `v` holds them: the node found is the one `w0` held, and
it matches the checksum recorded for the input (`FileMatch`: a regular file, or the link to the object the
input records, present in the cache; what a successful commit of the input found: `commitArts_skip_files_found`) -/
def InputsAt (cfg : Cfg κ) (w0 : World κ) (stg : Stage) (ws : Node κ) (s : Store κ) : Prop :=
  ∀ b, b ∈ sortArts (plainIn cfg w0.idx stg) → ∃ nd, getPath ws (Path.comps b.path) = some nd ∧
    getPath w0.ws (Path.comps b.path) = some nd ∧
    FileMatch cfg.ctx s true (setFileSum cfg.ctx w0.ws b).sum (some nd)

/-- … are found as before after the action of a stage in scope: the cache has grown and only paths below
its outputs are written -/
theorem InputsAt.step {cfg : Cfg κ} {Sc : Bytes → Prop} {w0 v v1 : World κ} {sp x : Bytes} {stg stgx : Stage}
    (hap : PlainInputsApartAll cfg Sc w0) (hfiles : PlainInputsFiles cfg Sc w0) (hsc : Sc sp)
    (hs0 : alookup w0.idx sp = some stg) (hst : Re.StageStep cfg w0.idx sp stg v v1) (hscx : Sc x)
    (hsx : alookup w0.idx x = some stgx) (h : InputsAt cfg w0 stgx v.ws v.store) :
    InputsAt cfg w0 stgx v1.ws v1.store := by
  intro b hb
  obtain ⟨nd, g, g0, iok⟩ := h b hb
  obtain ⟨b0, hb0, hun, rfl⟩ := mem_plainIn (mem_of_mem_sortArts hb)
  refine ⟨nd, (hst.frame _ (hap x stgx hscx hsx b0 hb0 hun sp stg hsc hs0)
    (fun b hb hn => .inl (hfiles sp stg hsc hs0 b hb hn))).trans g, g0, FileMatch.mono hst.le iok⟩

structure OutsF (cfg : Cfg κ) (Sc : Bytes → Prop) (w0 : World κ) (idxF : Index) : Prop where
  shape : SameShape idxF w0.idx
  outs : ∀ sp stg, Sc sp → alookup w0.idx sp = some stg →
    ∃ E, alookup idxF sp = some E ∧ E.outputs = (sortArts stg.outputs).map (committedArt cfg.ctx w0.ws)

/-- **a resumption point** of the commit of `w0`: a world between `w0` and the end of its commit.  Every index
entry is the original or (in scope) the final one; the cache is consistent, extends the original one and has
grown by objects of output trees only; every output in scope has the logical content it had in `w0` (a
`skip-cache` output is untouched); everything apart from the outputs is as in `w0`.  A stage that is done is
in scope, carries its final record, and its outputs are held by the cache. -/
structure Resume (cfg : Cfg κ) (Sc : Bytes → Prop) (w0 : World κ) (idxF : Index) (v : World κ) : Prop where
  shape : SameShape v.idx w0.idx
  idx_cases : ∀ sp, alookup v.idx sp = alookup w0.idx sp ∨
    (Sc sp ∧ alookup v.idx sp = (alookup w0.idx sp).map (canonStage cfg w0.ws idxF))
  cons : Consistent cfg.ctx v.store
  le : Store.le cfg.ctx w0.store v.store
  keys : ∀ d, v.store.has d = true → w0.store.has d = true ∨
    ∃ sp stg a, Sc sp ∧ alookup w0.idx sp = some stg ∧ a ∈ stg.outputs ∧ a.skip = false ∧
      d ∈ allDigests cfg.ctx a.path (origAt w0.ws a)
  outs : ∀ sp stg, Sc sp → alookup w0.idx sp = some stg → ∀ a, a ∈ stg.outputs →
    ∃ t', getPath v.ws (Path.comps a.path) = some t' ∧
      deref cfg.ctx v.store t' = origAt w0.ws a ∧ (a.skip = true → t' = origAt w0.ws a)
  frame : ∀ q, (∀ sp stg, Sc sp → alookup w0.idx sp = some stg → ∀ a, a ∈ stg.outputs →
    Apart (Path.comps a.path) q) → getPath v.ws q = getPath w0.ws q
  done_sc : ∀ sp, v.done.contains sp = true → Sc sp
  done_idx : ∀ sp stg, v.done.contains sp = true → alookup w0.idx sp = some stg →
    alookup v.idx sp = some (canonStage cfg w0.ws idxF stg)
  done_holds : ∀ sp stg, v.done.contains sp = true → alookup w0.idx sp = some stg →
    ∀ a, a ∈ stg.outputs → a.skip = false →
      HoldsNode cfg.ctx v.store newChoice a.path (origAt w0.ws a)

/-- … with nothing done yet: where `dud commit` starts -/
theorem Resume.restart {cfg : Cfg κ} {Sc : Bytes → Prop} {w0 : World κ} {idxF : Index} {v : World κ}
    (h : Resume cfg Sc w0 idxF v) : Resume cfg Sc w0 idxF (fresh v) :=
  ⟨h.shape, h.idx_cases, h.cons, h.le, h.keys, h.outs, h.frame, fun _ hd => (Bool.false_ne_true hd).elim,
    fun _ _ hd => (Bool.false_ne_true hd).elim, fun _ _ hd => (Bool.false_ne_true hd).elim⟩

theorem Resume.self (cfg : Cfg κ) (Sc : Bytes → Prop) (w0 : World κ) (idxF : Index)
    (hc : Consistent cfg.ctx w0.store) (hok : PipelineOK cfg Sc w0) : Resume cfg Sc w0 idxF (fresh w0) where
  shape := SameShape.refl _
  idx_cases := fun _ => .inl rfl
  cons := hc
  le := Store.le_refl _ _
  keys := fun _ hd => .inl hd
  outs := fun sp stg hsc hs a ha => by
    obtain ⟨n, hn, hp⟩ := hok.pre sp stg hsc hs a ha
    rw [origAt_of_getPath hn]
    exact ⟨n, hn, deref_plain _ _ n hp.plain, fun _ => rfl⟩
  frame := fun _ _ => rfl
  done_sc := fun _ hd => (Bool.false_ne_true hd).elim
  done_idx := fun _ _ hd => (Bool.false_ne_true hd).elim
  done_holds := fun _ _ hd => (Bool.false_ne_true hd).elim

theorem findOwner_of_outputs (wa : Bool) {idx0 idx1 idx2 : Index} (hk : (idx0.map (·.1)).Nodup)
    (h1 : SameShape idx1 idx0) (h2 : SameShape idx2 idx0) {p o : Bytes} {oa : Art}
    (hfo : findOwner wa idx1 p = some (o, oa)) {E1 E2 : Stage} (hl1 : alookup idx1 o = some E1)
    (hl2 : alookup idx2 o = some E2) (ho : E1.outputs = E2.outputs) :
    findOwner wa idx2 p = some (o, oa) := by
  have hk1 : (idx1.map (·.1)).Nodup := by rw [h1.keys]; exact hk
  have hk2 : (idx2.map (·.1)).Nodup := by rw [h2.keys]; exact hk
  have hsim : (findOwner wa idx2 p).map (·.1) = some o := by
    rw [findOwner_sim wa h2 p, ← findOwner_sim wa h1 p, hfo]; rfl
  cases hf2 : findOwner wa idx2 p with
  | none => rw [hf2] at hsim; cases hsim
  | some v =>
    obtain ⟨o2, oa2⟩ := v
    rw [hf2] at hsim
    simp only [Option.map_some, Option.some.injEq] at hsim
    subst hsim
    obtain ⟨s1, e1, a1⟩ := findOwner_some wa idx1 hk1 hfo
    obtain ⟨s2, e2, a2⟩ := findOwner_some wa idx2 hk2 hf2
    rw [hl1] at e1; cases e1
    rw [hl2] at e2; cases e2
    simp only [ownerArt, ho] at a1 a2
    rw [a2] at a1
    cases a1
    rfl

theorem fileSum_of_file {ctx : Ctx κ} {ws0 : Node κ} {b : Art} {c : κ}
    (h : getPath ws0 (Path.comps b.path) = some (.file c)) : fileSum ctx ws0 b = ctx.H c := by
  simp [fileSum, h]

theorem commitArts_plainfiles (cfg : Cfg κ) (strat : Strat) (ws0 : Node κ) :
    ∀ (as : List Art) (w : World κ),
      (∀ b, b ∈ as → b.skip = true ∧ b.isDir = false ∧
        ∃ nd, getPath w.ws (Path.comps b.path) = some nd ∧
          getPath ws0 (Path.comps b.path) = some nd ∧
          FileMatch cfg.ctx w.store true (setFileSum cfg.ctx ws0 b).sum (some nd)) →
      commitArts cfg strat as w = .ok (as.map (setFileSum cfg.ctx ws0), w) := by
  intro as w h
  refine commitArts_map cfg strat _ w as (fun b hb => ?_)
  obtain ⟨hsk, hd, nd, gnd, g0, iok⟩ := h b hb
  by_cases hf : ∃ c, nd = .file c
  · obtain ⟨c, rfl⟩ := hf
    obtain ⟨_, hc⟩ : _ ∧ cfg.ctx.H c = fileSum cfg.ctx ws0 b := iok
    simp only [commitArtW, gnd, commitArt_file_skip cfg.ctx b c hd hsk,
      setPath_getPath_same _ _ _ gnd, setFileSum, hc]
  · -- not a file at the path in `ws0`: the checksum recorded is the one the input carries
    have hb : setFileSum cfg.ctx ws0 b = b := by
      cases b
      cases nd with
      | file c => exact (hf ⟨c, rfl⟩).elim
      | dir _ => simp only [setFileSum, fileSum, g0]
      | link _ => simp only [setFileSum, fileSum, g0]
      | other => simp only [setFileSum, fileSum, g0]
    rw [hb] at iok ⊢
    exact commitArtW_inputOK hsk hd gnd iok strat

/-- one output of a stage at a resumption point: its tree `t'` has the logical content of the original
tree `n`, the artifact records the original checksum or the final one (`d`).  The commit records the final
checksum; the cache stays consistent, grows by objects of `n` only and (unless `skip-cache`) holds `n`; the
node left has the logical content `n`. -/
theorem commitArt_resume (cfg : Cfg κ) (g : Good cfg.ctx) (strat2 : Strat) {a : Art} {n t' : Node κ}
    {s : Store κ} {d : Digest} (hpre : ArtPre cfg.ctx cfg.fuel a n) (hrec : Recursive a)
    (hd : d = a.sum ∨ d = treeDigest cfg.ctx a.path n) (hah : deref cfg.ctx s t' = n)
    (hskt : a.skip = true → t' = n) (hc : Consistent cfg.ctx s) :
    ∃ t'' s3, commitArt cfg.ctx strat2 { a with sum := d } (some t') s =
        .ok (t'', treeDigest cfg.ctx a.path n, s3) ∧ Consistent cfg.ctx s3 ∧ Store.le cfg.ctx s s3 ∧
      (∀ d, s3.has d = true → s.has d = true ∨ (a.skip = false ∧ d ∈ allDigests cfg.ctx a.path n)) ∧
      deref cfg.ctx s3 t'' = n ∧ (a.skip = false → HoldsNode cfg.ctx s3 newChoice a.path n) ∧
      (a.skip = true → t'' = n) := by
  obtain ⟨hk, hp, hs, hnm, hfr, _⟩ := hpre
  have hdir : a.skip = true → a.isDir = false := fun hsk => by
    cases hd : a.isDir with
    | false => rfl
    | true => have := (hfr hd).2; rw [hsk] at this; cases this
  have hT : trackedOf { a with sum := d } n = n := WStat.Recursive.tracked_eq (a := { a with sum := d }) hrec hk
  obtain ⟨s3, hca, hc3, l3, hd3, hh3, hs3, hk3⟩ := commitArt_ahead g { a with sum := d } n t' hk hp hs hnm
    (fun hdr => by rw [hT]; exact hd.imp (fun h => h.trans (hfr hdr).1) id) s hc hah (fun _ h => hskt h) strat2
  rw [hT] at hca hh3 hk3
  refine ⟨_, s3, hca, hc3, l3, fun d hd => ?_, hd3, fun h => hh3 (.inr h), fun hsk => ?_⟩
  · rcases Bool.eq_false_or_eq_true a.skip with hsk | hsk
    · rw [hs3 (hdir hsk) hsk] at hd; exact .inl hd
    · exact (hk3 d hd).imp id (fun h => ⟨hsk, h⟩)
  · rw [hskt hsk]
    exact artAfter_skip cfg.ctx strat2 (a := { a with sum := d }) hk (hdir hsk) hsk

/-- … for the outputs of a stage, one after the other -/
theorem commitArts_resume (cfg : Cfg κ) (g : Good cfg.ctx) (strat2 : Strat) (ws0 : Node κ)
    (δ : Art → Digest) (hδ : ∀ a, δ a = a.sum ∨ δ a = (committedArt cfg.ctx ws0 a).sum) :
    ∀ (l : List Art) (u : World κ), ApartArts l → Consistent cfg.ctx u.store →
      (∀ a, a ∈ l → ∃ n t', getPath ws0 (Path.comps a.path) = some n ∧ ArtPre cfg.ctx cfg.fuel a n ∧
        Recursive a ∧ getPath u.ws (Path.comps a.path) = some t' ∧
        deref cfg.ctx u.store t' = n ∧ (a.skip = true → t' = n)) →
      ∃ u2, commitArts cfg strat2 (l.map fun a => { a with sum := δ a }) u =
          .ok (l.map (committedArt cfg.ctx ws0), u2) ∧
        Consistent cfg.ctx u2.store ∧ Store.le cfg.ctx u.store u2.store ∧
        u2.idx = u.idx ∧ u2.done = u.done ∧
        (∀ d, u2.store.has d = true → u.store.has d = true ∨
          ∃ a, a ∈ l ∧ a.skip = false ∧ d ∈ allDigests cfg.ctx a.path (origAt ws0 a)) ∧
        (∀ a, a ∈ l → ∃ t'', getPath u2.ws (Path.comps a.path) = some t'' ∧
          deref cfg.ctx u2.store t'' = origAt ws0 a ∧
          (a.skip = false → HoldsNode cfg.ctx u2.store newChoice a.path (origAt ws0 a)) ∧
          (a.skip = true → t'' = origAt ws0 a)) ∧
        (∀ q, (∀ a, a ∈ l → Apart (Path.comps a.path) q) → getPath u2.ws q = getPath u.ws q) := by
  intro l u hap hc hall
  obtain ⟨u2, h2, c2, ⟨l2, k2⟩, i2, d2, f2, fr2⟩ := commitArts_apart cfg strat2
    (fun a => { a with sum := δ a }) (committedArt cfg.ctx ws0)
    (fun s s' => Store.le cfg.ctx s s' ∧ ∀ d, s'.has d = true → s.has d = true ∨
      ∃ a, a ∈ l ∧ a.skip = false ∧ d ∈ allDigests cfg.ctx a.path (origAt ws0 a))
    (fun a s t' => ∃ n, getPath ws0 (Path.comps a.path) = some n ∧ ArtPre cfg.ctx cfg.fuel a n ∧
      Recursive a ∧ deref cfg.ctx s t' = n ∧ (a.skip = true → t' = n))
    (fun a s t'' => (origAt ws0 a).plain = true ∧ deref cfg.ctx s t'' = origAt ws0 a ∧
      (a.skip = false → HoldsNode cfg.ctx s newChoice a.path (origAt ws0 a)) ∧
      (a.skip = true → t'' = origAt ws0 a))
    (fun s => ⟨Store.le_refl _ _, fun _ hd => .inl hd⟩)
    (fun h1 h2 => ⟨Store.le_trans h1.1 h2.1, fun d hd => (h2.2 d hd).elim (h1.2 d) .inr⟩)
    (fun ⟨n, hn, hp, hr, hah, hsk⟩ hst => ⟨n, hn, hp, hr, deref_eq_le cfg.ctx hst.1 hah hp.plain, hsk⟩)
    (fun ⟨hpl, hd, hh, hsk⟩ hst => ⟨hpl, deref_eq_le cfg.ctx hst.1 hd hpl,
      fun hs' => HoldsNode.mono hst.1 _ _ _ (hh hs'), hsk⟩)
    l (fun a ha s t' hc ⟨n, hn0, hpre, hrec, hah, hskt⟩ => by
      have horig : origAt ws0 a = n := origAt_of_getPath hn0
      have hfin : (committedArt cfg.ctx ws0 a).sum = treeDigest cfg.ctx a.path n := by
        simp only [committedArt, horig, hrec.tracked_eq hpre.kind]
      obtain ⟨t'', s3, hca, hc3, l3, hkeys3, hd3, hh3⟩ :=
        commitArt_resume cfg g strat2 hpre hrec (hfin ▸ hδ a) hah hskt hc
      rw [← horig] at hkeys3 hd3 hh3
      exact ⟨rfl, t'', _, s3, hca, by rw [← hfin]; rfl, hc3, ⟨l3, fun d hd => (hkeys3 d hd).imp id
        (fun h => ⟨a, ha, h⟩)⟩, by rw [horig]; exact hpre.plain, hd3, hh3⟩)
    u hap hc (fun a ha => by
      obtain ⟨n, t', hn0, hpre, hrec, gt, hah, hskt⟩ := hall a ha
      exact ⟨t', gt, n, hn0, hpre, hrec, hah, hskt⟩)
  exact ⟨u2, h2, c2, l2, i2, d2, k2, fun a ha => (f2 a ha).imp fun t'' h => ⟨h.1, h.2.2⟩, fr2⟩

theorem plainIn_congr {cfg : Cfg κ} {idx1 idx2 : Index} {X : Stage}
    (h : ∀ b, b ∈ X.inputs → (findOwner cfg.walkAccumulates idx1 b.path).isNone =
      (findOwner cfg.walkAccumulates idx2 b.path).isNone) : plainIn cfg idx1 X = plainIn cfg idx2 X := by
  unfold plainIn
  rw [List.filter_congr h]

theorem ownedIn_congr {cfg : Cfg κ} {idx1 idx2 : Index} {X : Stage}
    (h : ∀ b, b ∈ X.inputs → findOwner cfg.walkAccumulates idx1 b.path =
      findOwner cfg.walkAccumulates idx2 b.path) : ownedIn cfg idx1 X = ownedIn cfg idx2 X := by
  unfold ownedIn
  rw [List.filter_congr (fun b hb => by rw [h b hb])]
  refine List.map_congr_left (fun b hb => ?_)
  rw [h b (List.mem_filter.1 hb).1]

theorem plainIn_sim {cfg : Cfg κ} {idx1 idx2 idx0 : Index} (h1 : SameShape idx1 idx0)
    (h2 : SameShape idx2 idx0) (X : Stage) : plainIn cfg idx1 X = plainIn cfg idx2 X :=
  plainIn_congr (fun b _ => by rw [findOwner_isNone_sim _ h1, findOwner_isNone_sim _ h2])

theorem canonStage_outputs (cfg : Cfg κ) (ws0 : Node κ) (idxF : Index) (stg : Stage) :
    (canonStage cfg ws0 idxF stg).outputs = (sortArts stg.outputs).map (committedArt cfg.ctx ws0) := rfl

theorem canonStage_inputs (cfg : Cfg κ) (ws0 : Node κ) (idxF : Index) (stg : Stage) :
    (canonStage cfg ws0 idxF stg).inputs =
      sortArts (ownedIn cfg idxF stg ++ canonPlain cfg ws0 idxF stg) := rfl

theorem mem_canonPlain {cfg : Cfg κ} {ws0 : Node κ} {idx : Index} {stg : Stage} {b : Art}
    (h : b ∈ canonPlain cfg ws0 idx stg) :
    ∃ b0, b0 ∈ stg.inputs ∧ (findOwner cfg.walkAccumulates idx b0.path).isNone = true ∧
      b = { b0 with skip := true, sum := fileSum cfg.ctx ws0 b0 } := by
  obtain ⟨b1, hb1, rfl⟩ := List.mem_map.1 h
  obtain ⟨b0, hb0, hun, rfl⟩ := mem_plainIn (mem_of_mem_sortArts hb1)
  exact ⟨b0, hb0, hun, rfl⟩

/-- **One stage action at a resumption point**, for a stage in scope that is not done, its owners done and
its un-owned inputs found: it succeeds, records `canonStage`, and leaves a resumption point — whether the
index held the original record of the stage or already the final one, and however far the outputs of the
stage had been committed.

Plan: (1) the owners of the inputs are done, so `v.idx` and `idxF` agree on them; (2) whichever record `S` the
index holds, committing its un-owned inputs leaves the world alone and the record the action writes is
`canonStage`; (3) the outputs are committed by `commitArts_resume`; (4) the fields of `Resume`: only `sp` and the
paths below its outputs changed, and outputs of other stages lie apart from them. -/
theorem retry_step (cfg : Cfg κ) (strat2 : Strat) (Sc : Bytes → Prop) (w0 : World κ) (idxF : Index)
    (hstd : Base cfg Sc w0) (hF : OutsF cfg Sc w0 idxF)
    (sp : Bytes) (stg : Stage) (v : World κ) (hsc : Sc sp) (hs0 : alookup w0.idx sp = some stg)
    (hres : Resume cfg Sc w0 idxF v) (hnd : v.done.contains sp = false)
    (hup : ∀ o, o ∈ ownIdx cfg w0.idx sp → v.done.contains o = true)
    (hin : InputsAt cfg w0 stg v.ws v.store) :
    ∃ v1, commitAct cfg strat2 sp v = .ok v1 ∧ Resume cfg Sc w0 idxF v1 ∧
      Re.StageStep cfg w0.idx sp stg v v1 := by
  have g := hstd.good
  have hok := hstd.ok
  have hk := hok.keys
  have hi := hres.shape
  have hkv : (v.idx.map (·.1)).Nodup := by rw [hi.keys]; exact hk
  -- An owner of an input of `sp` is done (`hup`), so `v.idx` records `canonStage` for it, whose outputs are
  -- those the final index records (`hF.outs`): looking up an owner in `v.idx` or in `idxF` gives the same.
  have hfo_eq : ∀ p, p ∈ stg.inputs.map (·.path) →
      findOwner cfg.walkAccumulates v.idx p = findOwner cfg.walkAccumulates idxF p := by
    intro p hp
    cases hfv : findOwner cfg.walkAccumulates v.idx p with
    | none =>
      exact ((findOwner_none_sim _ hF.shape p).2 ((findOwner_none_sim _ hi p).1 hfv)).symm
    | some val =>
      obtain ⟨o, oa⟩ := val
      have ho : o ∈ ownIdx cfg w0.idx sp :=
        (mem_ownIdx cfg w0.idx sp o).2 ⟨stg, hs0, p, hp, by rw [← findOwner_sim _ hi p, hfv]; rfl⟩
      have hdo := hup o ho
      have hsco := hres.done_sc o hdo
      obtain ⟨s1, e1, _⟩ := findOwner_some cfg.walkAccumulates v.idx hkv hfv
      obtain ⟨stg_o, e0⟩ : ∃ stg_o, alookup w0.idx o = some stg_o := by
        rcases alookup_sim hi o with ⟨hn', _⟩ | ⟨_, s0, _, a0, _⟩
        · rw [e1] at hn'; cases hn'
        · exact ⟨s0, a0⟩
      have hl1 := hres.done_idx o stg_o hdo e0
      obtain ⟨E, hE, hEo⟩ := hF.outs o stg_o hsco e0
      exact (findOwner_of_outputs cfg.walkAccumulates hk hi hF.shape hfv hl1 hE
        (by rw [canonStage_outputs, hEo])).symm
  have hR : alookup v.idx sp = some stg ∨ alookup v.idx sp = some (canonStage cfg w0.ws idxF stg) := by
    rcases hres.idx_cases sp with h | ⟨_, h⟩
    · left; rw [h, hs0]
    · right; rw [h, hs0]; rfl
  have hap := hok.apart_in sp stg hsc hs0
  have houts : ∀ a, a ∈ sortArts stg.outputs → ∃ n t',
      getPath w0.ws (Path.comps a.path) = some n ∧ ArtPre cfg.ctx cfg.fuel a n ∧ Recursive a ∧
      getPath v.ws (Path.comps a.path) = some t' ∧ deref cfg.ctx v.store t' = n ∧
      (a.skip = true → t' = n) := by
    intro a ha
    have ha' := mem_of_mem_sortArts ha
    obtain ⟨n, hn, hp⟩ := hok.pre sp stg hsc hs0 a ha'
    obtain ⟨t', gt, hah, hskt⟩ := hres.outs sp stg hsc hs0 a ha'
    rw [origAt_of_getPath hn] at hah hskt
    exact ⟨n, t', hn, hp, hstd.recur sp stg hsc hs0 a ha', gt, hah, hskt⟩
  -- the record `S` the index holds, its outputs being the original ones with the checksums `δ`, its un-owned
  -- inputs after their commit, and the record the action then writes
  obtain ⟨S, δ, pl, hSv, hδ, hSout, h1, hnew⟩ : ∃ (S : Stage) (δ : Art → Digest) (pl : List Art),
      alookup v.idx sp = some S ∧ (∀ a, δ a = a.sum ∨ δ a = (committedArt cfg.ctx w0.ws a).sum) ∧
      sortArts S.outputs = (sortArts stg.outputs).map (fun a => { a with sum := δ a }) ∧
      commitArts cfg strat2 (sortArts (plainIn cfg v.idx S)) v = .ok (pl, v) ∧
      newStage cfg S (sortArts (ownedIn cfg v.idx S ++ pl))
        ((sortArts stg.outputs).map (committedArt cfg.ctx w0.ws)) = canonStage cfg w0.ws idxF stg := by
    rcases hR with hSv | hSv
    · -- the index holds the original record
      have h1 := commitArts_plainfiles cfg strat2 w0.ws (sortArts (plainIn cfg v.idx stg)) v (by
        intro b hb
        have hb' := hin b (plainIn_sim hi (SameShape.refl _) stg ▸ hb)
        obtain ⟨b0, hb0, hun, rfl⟩ := mem_plainIn (mem_of_mem_sortArts hb)
        have hun0 : (findOwner cfg.walkAccumulates w0.idx b0.path).isNone = true := by
          rw [← findOwner_isNone_sim _ hi]; exact hun
        exact ⟨rfl, hstd.files sp stg hsc hs0 b0 hb0 hun0, hb'⟩)
      have hnew : newStage cfg stg (sortArts (ownedIn cfg v.idx stg ++
          (sortArts (plainIn cfg v.idx stg)).map (setFileSum cfg.ctx w0.ws)))
          ((sortArts stg.outputs).map (committedArt cfg.ctx w0.ws)) = canonStage cfg w0.ws idxF stg := by
        unfold canonStage canonPlain
        rw [ownedIn_congr (fun b hb => hfo_eq _ (List.mem_map.2 ⟨b, hb, rfl⟩)),
          plainIn_sim hi hF.shape stg]
      exact ⟨stg, (·.sum), _, hSv, fun a => .inl rfl, (List.map_id _).symm, h1, hnew⟩
    · -- the index already holds the final record
      generalize hC : canonStage cfg w0.ws idxF stg = C at hSv ⊢
      have hCout : C.outputs = (sortArts stg.outputs).map (committedArt cfg.ctx w0.ws) := by
        rw [← hC]; rfl
      have hCinp : C.inputs = sortArts (ownedIn cfg idxF stg ++ canonPlain cfg w0.ws idxF stg) := by
        rw [← hC]; rfl
      have hCsum : C.sum = C.defSum cfg := by rw [← hC]; exact newStage_sum _ _ _ _
      have hsortC : sortArts C.outputs = C.outputs := by
        rw [hCout]
        exact sortArts_of_sorted ((sortArts_sorted _).map _ (fun _ => rfl))
      have hCin : ∀ b', b' ∈ C.inputs →
          b' ∈ ownedIn cfg idxF stg ∨ b' ∈ canonPlain cfg w0.ws idxF stg := fun b' hb' => by
        rw [hCinp] at hb'
        exact List.mem_append.1 (mem_of_mem_sortArts hb')
      have hCpath : ∀ b', b' ∈ C.inputs → b'.path ∈ stg.inputs.map (·.path) := by
        intro b' hb'
        rcases hCin b' hb' with h | h
        · obtain ⟨b0, o, oa, hb0, _, rfl⟩ := WStat.mem_ownedIn_inv h
          exact List.mem_map.2 ⟨b0, hb0, rfl⟩
        · obtain ⟨b0, hb0, _, rfl⟩ := mem_canonPlain h
          exact List.mem_map.2 ⟨b0, hb0, rfl⟩
      -- The inputs of `C` split into owned and un-owned as when `C` was written: one recorded as owned
      -- has its owner in `v.idx` too (`hfo_eq`), an un-owned one carries `skip-cache`.
      have hnot : ∀ b', b' ∈ C.inputs → b' ∈ ownedIn cfg idxF stg →
          (findOwner cfg.walkAccumulates v.idx b'.path).isNone = true → False := by
        intro b' hb' h hun
        have := mem_ownedIn h
        rw [← hfo_eq _ (hCpath b' hb')] at this
        cases hf : findOwner cfg.walkAccumulates v.idx b'.path with
        | none => rw [hf] at this; cases this
        | some x => rw [hf] at hun; cases hun
      have hplain_eq : plainIn cfg v.idx C =
          C.inputs.filter (fun a => (findOwner cfg.walkAccumulates v.idx a.path).isNone) :=
        plainIn_eq (fun b' hb' hun => by
          rcases hCin b' hb' with h | h
          · exact (hnot b' hb' h hun).elim
          · obtain ⟨b0, _, _, rfl⟩ := mem_canonPlain h
            rfl)
      have h1 := commitArts_map cfg strat2 id v (sortArts (plainIn cfg v.idx C)) (by
        intro b hb
        have hb' := mem_of_mem_sortArts hb
        rw [hplain_eq] at hb'
        obtain ⟨hbin, hun⟩ := List.mem_filter.1 hb'
        rcases hCin b hbin with h | h
        · exact (hnot b hbin h hun).elim
        · obtain ⟨b1, hb1, rfl⟩ := List.mem_map.1 h
          obtain ⟨nd, gv, _, iok⟩ := hin b1 (plainIn_sim hF.shape (SameShape.refl _) stg ▸ hb1)
          obtain ⟨b0, hb0, hun0, rfl⟩ := mem_plainIn (mem_of_mem_sortArts hb1)
          have hun0' : (findOwner cfg.walkAccumulates w0.idx b0.path).isNone = true := by
            rw [← findOwner_isNone_sim _ hF.shape]; exact hun0
          exact commitArtW_inputOK (b := setFileSum cfg.ctx w0.ws { b0 with skip := true }) rfl
            (hstd.files sp stg hsc hs0 b0 hb0 hun0') gv iok strat2)
      rw [List.map_id] at h1
      -- The owned inputs already carry their owners' checksums: the action writes `C` again.
      have hsorted : ArtSorted C.inputs := by rw [hCinp]; exact sortArts_sorted _
      have hnew : newStage cfg C
          (sortArts (ownedIn cfg v.idx C ++ sortArts (plainIn cfg v.idx C)))
          ((sortArts stg.outputs).map (committedArt cfg.ctx w0.ws)) = C := by
        rw [← hCout]
        exact newStage_fixed hCsum hsorted (fun b' hb' o oa hfo => by
          rcases hCin b' hb' with h | h
          · obtain ⟨b0, o', oa', hb0, hfo', rfl⟩ := WStat.mem_ownedIn_inv h
            have : findOwner cfg.walkAccumulates v.idx b0.path = some (o', oa') := by
              rw [hfo_eq _ (List.mem_map.2 ⟨b0, hb0, rfl⟩)]; exact hfo'
            have hfo2 : findOwner cfg.walkAccumulates v.idx b0.path = some (o, oa) := hfo
            rw [this] at hfo2
            cases hfo2
            rfl
          · obtain ⟨b0, hb0, hun0, rfl⟩ := mem_canonPlain h
            have hfo2 : findOwner cfg.walkAccumulates v.idx b0.path = some (o, oa) := hfo
            rw [hfo_eq _ (List.mem_map.2 ⟨b0, hb0, rfl⟩)] at hfo2
            rw [hfo2] at hun0
            cases hun0) hplain_eq
      exact ⟨C, fun a => (committedArt cfg.ctx w0.ws a).sum, _, hSv, fun a => .inr rfl,
        by rw [hsortC, hCout]; rfl, h1, hnew⟩
  obtain ⟨u2, h2, c2, l2, i2, d2, k2, f2, fr2⟩ := commitArts_resume cfg g strat2 w0.ws δ hδ
    (sortArts stg.outputs) v hap.sortArts hres.cons houts
  have hact := commitAct_of_parts hSv h1 (by rw [hSout]; exact h2)
  rw [hnew] at hact
  have hs2 : alookup u2.idx sp = some S := by rw [i2]; exact hSv
  -- the action is a `StageStep` (the un-owned inputs are files)
  have hokR := Re.PipelineOKRe.of_pipelineOK hok
  have hst : Re.StageStep cfg w0.idx sp stg v { u2 with
      idx := setStage u2.idx sp (canonStage cfg w0.ws idxF stg), done := sp :: u2.done } :=
    ⟨c2, l2, congrArg _ d2, fun x hx => (alookup_setStage_ne _ _ hx).trans (by rw [i2]),
      fun q hq _ => fr2 q (fun a ha => hq a (mem_of_mem_sortArts ha))⟩
  refine ⟨_, hact, ⟨(commitAct_frame cfg strat2 sp v _ hkv hact).1.trans hi, ?_, c2,
    Store.le_trans hres.le l2, ?_, ?_, fun q hq => ?_, ?_, ?_, ?_⟩, hst⟩
  · intro x
    by_cases hx : x = sp
    · subst hx
      exact .inr ⟨hsc, by rw [hs0]; exact alookup_setStage_self _ _ hs2⟩
    · exact (hres.idx_cases x).imp (hst.idx x hx).trans (And.imp_right (hst.idx x hx).trans)
  · intro d hd
    rcases k2 d hd with hd | ⟨a, ha, hsk, hda⟩
    · exact hres.keys d hd
    · exact .inr ⟨sp, stg, a, hsc, hs0, mem_of_mem_sortArts ha, hsk, hda⟩
  · intro x stgx hscx hsx a ha
    by_cases hx : x = sp
    · subst hx
      cases hs0.symm.trans hsx
      obtain ⟨t'', gt, hd, _, hskt⟩ := f2 a (mem_sortArts_of_mem hap.paths_ne ha)
      exact ⟨t'', gt, hd, hskt⟩
    · obtain ⟨t', gt, hd, hskt⟩ := hres.outs x stgx hscx hsx a ha
      obtain ⟨n, hn, hp⟩ := hok.pre x stgx hscx hsx a ha
      exact ⟨t', (hst.outputs hokR hsc hs0 hscx hx hsx ha).trans gt,
        deref_eq_le cfg.ctx l2 hd (origAt_of_getPath hn ▸ hp.plain), hskt⟩
  · exact (hst.frame q (hq sp stg hsc hs0) (fun b hb hn => .inl (hstd.files sp stg hsc hs0 b hb hn))).trans
      (hres.frame q hq)
  · intro x hx
    rcases hst.was_done hx with rfl | ⟨-, hx'⟩
    · exact hsc
    · exact hres.done_sc x hx'
  · intro x stgx hx hsx
    rcases hst.was_done hx with rfl | ⟨hne, hx'⟩
    · cases hs0.symm.trans hsx
      exact alookup_setStage_self _ _ hs2
    · exact (hst.idx x hne).trans (hres.done_idx x stgx hx' hsx)
  · intro x stgx hx hsx a ha hsk
    rcases hst.was_done hx with rfl | ⟨_, hx'⟩
    · cases hs0.symm.trans hsx
      obtain ⟨_, _, _, hh, _⟩ := f2 a (mem_sortArts_of_mem hap.paths_ne ha)
      exact hh hsk
    · exact HoldsNode.mono l2 _ _ _ (hres.done_holds x stgx hx' hsx a ha hsk)

/-- **`dud commit` from a resumption point.**  If `dud commit [targets]` succeeds in `w0`, then from EVERY
resumption point `wk` of that commit at which the un-owned inputs are found — index entries original or
final, outputs partly committed — `dud commit [targets]` (either strategy) succeeds as well, in a resumption
point in which every stage in scope is done.  (That the commit of `w0` succeeded is used for what it says of the
scope only: it has no cycle, and every stage in it is in the index.) -/
theorem commit_from_resume (cfg : Cfg κ) (strat strat2 : Strat) (targets : List Bytes)
    (w0 w' : World κ) (idxF : Index) (wk : World κ)
    (hstd : Base cfg (InScope cfg w0 targets) w0)
    (h : cmdCommit cfg strat targets w0 = .ok w')
    (hF : OutsF cfg (InScope cfg w0 targets) w0 idxF)
    (hres : Resume cfg (InScope cfg w0 targets) w0 idxF wk)
    (hin : ∀ sp stg, InScope cfg w0 targets sp → alookup w0.idx sp = some stg →
      InputsAt cfg w0 stg wk.ws wk.store) :
    ∃ w2, cmdCommit cfg strat2 targets wk = .ok w2 ∧
      Resume cfg (InScope cfg w0 targets) w0 idxF w2 ∧
      ∀ sp, InScope cfg w0 targets sp → w2.done.contains sp = true := by
  have hk := hstd.ok.keys
  obtain ⟨w2, hrun, _, ⟨hq', _⟩, _, hne, hdn⟩ := runTargets_after_commit hk h
    (act := commitAct cfg strat2)
    (Q := fun u => Resume cfg (InScope cfg w0 targets) w0 idxF u ∧ ∀ sp stg, InScope cfg w0 targets sp →
      alookup w0.idx sp = some stg → InputsAt cfg w0 stg u.ws u.store)
    (commitTrav_lawfulOn cfg strat2 w0.idx hk) (fun _ hi => hi)
    (fun u sp _ hq hsp hndone hup => by
      obtain ⟨stg, e0⟩ := (cmdCommit_stage hk h hsp).2
      obtain ⟨v1, ha, hr1, hst⟩ := retry_step cfg strat2 _ w0 idxF hstd hF sp stg u hsp e0 hq.1 hndone hup
        (hq.2 sp stg hsp e0)
      exact ⟨v1, ha, hr1, fun x stgx hx ex =>
        (hq.2 x stgx hx ex).step hstd.apart hstd.files hsp e0 hst hx ex⟩)
    wk hres.shape ⟨hres.restart, hin⟩
  exact ⟨w2, cmdCommit_ok_iff.2 ⟨hne, hrun⟩, hq', hdn⟩

theorem idx_ext : ∀ (l1 l2 : Index), l1.map (·.1) = l2.map (·.1) → (l1.map (·.1)).Nodup →
    (∀ k, alookup l1 k = alookup l2 k) → l1 = l2 := by
  intro l1
  induction l1 with
  | nil => intro l2 h _ _; cases l2 <;> simp_all
  | cons e1 r1 ih =>
    intro l2 hkeys hnd hall
    obtain ⟨k1, v1⟩ := e1
    cases l2 with
    | nil => simp at hkeys
    | cons e2 r2 =>
      obtain ⟨k2, v2⟩ := e2
      simp only [List.map_cons, List.cons.injEq] at hkeys
      obtain ⟨rfl, hr⟩ := hkeys
      simp only [List.map_cons, List.nodup_cons] at hnd
      obtain rfl : v1 = v2 := by simpa [alookup] using hall k1
      have hnone : ∀ {r : Index}, k1 ∉ r.map (·.1) → alookup r k1 = none := fun {r} h => by
        cases hl : alookup r k1 with
        | none => rfl
        | some s => exact absurd (WT.mem_keys_of_alookup hl) h
      rw [ih r2 hr hnd.2 (fun k => ?_)]
      by_cases hkk : k1 = k
      · subst hkk
        rw [hnone hnd.1, hnone (hr ▸ hnd.1)]
      · simpa [alookup, hkk] using hall k

theorem outsF_of_commit (cfg : Cfg κ) (strat : Strat) (targets : List Bytes) (w0 w' : World κ)
    (hstd : Base cfg (InScope cfg w0 targets) w0) (h : cmdCommit cfg strat targets w0 = .ok w') :
    OutsF cfg (InScope cfg w0 targets) w0 w'.idx := by
  obtain ⟨hci0, hsh, _⟩ := cmdCommit_inv cfg hstd.good strat targets w0 w' hstd.cons hstd.ok h
  refine ⟨hsh, fun sp stg hsc hs => ?_⟩
  obtain ⟨stg0, stg', e0, e1, e2, _⟩ := hci0.finished sp hsc (cmdCommit_stage hstd.ok.keys h hsc).1
  rw [hs] at e0
  cases e0
  exact ⟨stg', e1, e2⟩

/-- **What a successful `dud commit` leaves** is a resumption point of that commit in which every stage in
scope is done: every stage in scope is recorded as `canonStage`, the cache is consistent, extends the original
one by objects of the output trees only and holds every output tree that is not `skip-cache`; paths apart
from the outputs are untouched.  Each stage action of the successful run is the one `retry_step` describes:
that it succeeded tells what it found at the inputs no stage owns (`commitArts_skip_files_found`), and these are found
in `w'` still. -/
theorem commit_canon (cfg : Cfg κ) (strat : Strat) (targets : List Bytes) (w0 w' : World κ)
    (hstd : Base cfg (InScope cfg w0 targets) w0) (h : cmdCommit cfg strat targets w0 = .ok w') :
    Resume cfg (InScope cfg w0 targets) w0 w'.idx w' ∧
      (∀ sp, InScope cfg w0 targets sp → w'.done.contains sp = true) ∧
      ∀ sp stg, InScope cfg w0 targets sp → alookup w0.idx sp = some stg →
        InputsAt cfg w0 stg w'.ws w'.store := by
  have g := hstd.good
  have hok := hstd.ok
  have hF := outsF_of_commit cfg strat targets w0 w' hstd h
  obtain ⟨_, hall⟩ := cmdCommit_scope_done hok.keys h
  -- along the run a stage that is not done still carries its original record (`CommitPend`), and the inputs
  -- of one that is done stay found; `hrun` is this invariant at `w'`, written out once, as the argument
  refine (fun hrun => ⟨hrun.1, hall, fun sp stg hsc hs => hrun.2.2 sp stg (hall sp hsc) hs⟩)
    (cmdCommit_preserves hok.keys (fun v => Resume cfg (InScope cfg w0 targets) w0 w'.idx v ∧
      Re.CommitPend cfg (InScope cfg w0 targets) w0 v ∧
      ∀ sp stg, v.done.contains sp = true → alookup w0.idx sp = some stg → InputsAt cfg w0 stg v.ws v.store)
    ⟨Resume.self cfg _ w0 w'.idx hstd.cons hok, Re.CommitPend.init cfg _ w0 hstd.cons,
      fun _ _ hd => (Bool.false_ne_true hd).elim⟩
    (fun sp v v1 hsc hi ⟨hq, hp, hins⟩ hndone hup hs => ?_) h)
  obtain ⟨stg, hsv⟩ := commitAct_stage hs
  have hs0 : alookup w0.idx sp = some stg := by rw [← hp.pending_idx sp hndone]; exact hsv
  obtain ⟨pl, w1, _, _, h1, _, _⟩ := commitAct_inv hsv hs
  obtain ⟨_, hfound⟩ := commitArts_skip_files_found cfg strat _ pl v w1 (by
    intro b hb
    obtain ⟨b0, hb0, hun, rfl⟩ := mem_plainIn (mem_of_mem_sortArts hb)
    exact ⟨rfl, hstd.files sp stg hsc hs0 b0 hb0 (by rw [← findOwner_isNone_sim _ hi]; exact hun)⟩) h1
  have hin : InputsAt cfg w0 stg v.ws v.store := by
    intro b hb
    obtain ⟨nd, gv, hcase⟩ := hfound b (plainIn_sim hi (SameShape.refl _) stg ▸ hb)
    obtain ⟨b0, hb0, hun, rfl⟩ := mem_plainIn (mem_of_mem_sortArts hb)
    have g0 : getPath w0.ws (Path.comps b0.path) = some nd := by
      rw [← hq.frame _ (hstd.apart sp stg hsc hs0 b0 hb0 hun)]; exact gv
    refine ⟨nd, gv, g0, ?_⟩
    rcases hcase with ⟨c, rfl⟩ | ⟨rfl, hh, hhas⟩
    · rw [show (setFileSum cfg.ctx w0.ws { b0 with skip := true }).sum = cfg.ctx.H c from
        fileSum_of_file g0]
      exact ⟨hasSum_H g c, rfl⟩
    · -- a link: the checksum recorded is the one the input carried
      rw [show (setFileSum cfg.ctx w0.ws { b0 with skip := true }).sum = b0.sum by
        simp only [setFileSum, fileSum, g0]]
      exact ⟨hh, hhas, rfl⟩
  obtain ⟨v1', hs', hq1, hst⟩ := retry_step cfg strat _ w0 w'.idx hstd hF sp stg v hsc hs0 hq hndone hup hin
  cases (show Except.ok v1 = Except.ok v1' from hs.symm.trans hs')
  refine ⟨hq1, hp.step (Re.PipelineOKRe.of_pipelineOK hok) hsc hs0 hst, fun x stgx hx hsx => ?_⟩
  rcases hst.was_done hx with rfl | ⟨_, hx'⟩
  · cases hs0.symm.trans hsx
    exact hin.step hstd.apart hstd.files hsc hs0 hst hsc hs0
  · exact (hins x stgx hx' hsx).step hstd.apart hstd.files hsc hs0 hst (hq.done_sc x hx') hsx

/-- under `Std` the inputs no stage owns are regular files, at every resumption point -/
theorem Std.inputsAt {cfg : Cfg κ} {Sc : Bytes → Prop} {w0 : World κ} {idxF : Index} {wk : World κ}
    (hstd : Std cfg Sc w0) (hres : Resume cfg Sc w0 idxF wk) {sp : Bytes} {stg : Stage} (hsc : Sc sp)
    (hs0 : alookup w0.idx sp = some stg) : InputsAt cfg w0 stg wk.ws wk.store := by
  intro b hb
  obtain ⟨b0, hb0, hun, rfl⟩ := mem_plainIn (mem_of_mem_sortArts hb)
  obtain ⟨c, g0⟩ := hstd.regular sp stg hsc hs0 b0 hb0 hun
  refine ⟨.file c, (hres.frame _ (hstd.apart sp stg hsc hs0 b0 hb0 hun)).trans g0, g0, ?_⟩
  rw [show (setFileSum cfg.ctx w0.ws { b0 with skip := true }).sum = cfg.ctx.H c from fileSum_of_file g0]
  exact ⟨hasSum_H hstd.good c, rfl⟩

/-- what the cache of one resumption point binds, the cache of another in which every stage in scope is done
binds too -/
theorem Resume.has_sub {cfg : Cfg κ} {Sc : Bytes → Prop} {w0 : World κ} {idxF : Index} {v1 v2 : World κ}
    (h1 : Resume cfg Sc w0 idxF v1) (h2 : Resume cfg Sc w0 idxF v2)
    (hall : ∀ sp, Sc sp → v2.done.contains sp = true) (d : Digest) (hd : v1.store.has d = true) :
    v2.store.has d = true := by
  rcases h1.keys d hd with hd | ⟨sp, stg, a, hsc, hs, ha, hsk, hda⟩
  · exact Store.has_le h2.le hd
  · exact holds_allDigests _ _ (h2.done_holds sp stg (hall sp hsc) hs a ha hsk) d hda

/-- in a resumption point in which every stage in scope is done the index is determined -/
theorem Resume.idx_final {cfg : Cfg κ} {Sc : Bytes → Prop} {w0 : World κ} {idxF : Index} {v : World κ}
    (h : Resume cfg Sc w0 idxF v) (hall : ∀ sp, Sc sp → v.done.contains sp = true) (sp : Bytes) :
    (Sc sp → alookup v.idx sp = (alookup w0.idx sp).map (canonStage cfg w0.ws idxF)) ∧
      (¬ Sc sp → alookup v.idx sp = alookup w0.idx sp) := by
  refine ⟨fun hsc => ?_, fun hsc => (h.idx_cases sp).elim id (fun h1 => absurd h1.1 hsc)⟩
  cases hs : alookup w0.idx sp with
  | some stg => exact h.done_idx sp stg (hall sp hsc) hs
  | none => rcases h.idx_cases sp with e | ⟨_, e⟩ <;> rw [e, hs] <;> rfl

/-- **`dud commit` from a resumption point ends in the state of the commit that never failed.**
`wk` is a resumption point of the commit `w0 ↦ w'` at which the un-owned inputs are found.  Then
`dud commit [targets]` in `wk` (either strategy) succeeds in a world `w2` with
* the SAME INDEX (`w2.idx = w'.idx`: every stage, input and output checksum),
* the same cache as a map (`Store.le` both ways: the same digests, bound to objects with the same bytes),
  consistent,
* the same logical content (`deref`) at every output in scope — that of the original workspace —, and the
  same node at every path apart from the outputs.
Both `w'` and `w2` are resumption points in which every stage in scope is done (`commit_canon`,
`commit_from_resume`), and two such worlds agree in all this. -/
theorem commit_retry_world (cfg : Cfg κ) (strat strat2 : Strat) (targets : List Bytes)
    (w0 w' wk : World κ) (hstd : Base cfg (InScope cfg w0 targets) w0)
    (h : cmdCommit cfg strat targets w0 = .ok w')
    (hres : Resume cfg (InScope cfg w0 targets) w0 w'.idx wk)
    (hin : ∀ sp stg, InScope cfg w0 targets sp → alookup w0.idx sp = some stg →
      InputsAt cfg w0 stg wk.ws wk.store) :
    ∃ w2, cmdCommit cfg strat2 targets wk = .ok w2 ∧ w2.idx = w'.idx ∧
      Consistent cfg.ctx w2.store ∧ Store.le cfg.ctx w'.store w2.store ∧
      Store.le cfg.ctx w2.store w'.store ∧
      (∀ sp stg, InScope cfg w0 targets sp → alookup w0.idx sp = some stg →
        ∀ a, a ∈ stg.outputs → ∃ t1 t2, getPath w'.ws (Path.comps a.path) = some t1 ∧
          getPath w2.ws (Path.comps a.path) = some t2 ∧
          deref cfg.ctx w'.store t1 = origAt w0.ws a ∧ deref cfg.ctx w2.store t2 = origAt w0.ws a) ∧
      (∀ q, (∀ sp stg, InScope cfg w0 targets sp → alookup w0.idx sp = some stg →
          ∀ a, a ∈ stg.outputs → Apart (Path.comps a.path) q) →
        getPath w2.ws q = getPath w'.ws q) := by
  have g := hstd.good
  obtain ⟨hq1, hall1, -⟩ := commit_canon cfg strat targets w0 w' hstd h
  obtain ⟨w2, hcmd, hq2, hall2⟩ := commit_from_resume cfg strat strat2 targets w0 w' w'.idx wk hstd h
    (outsF_of_commit cfg strat targets w0 w' hstd h) hres hin
  refine ⟨w2, hcmd, ?_, hq2.cons, le_of_has g hq1.cons hq2.cons (hq1.has_sub hq2 hall2),
    le_of_has g hq2.cons hq1.cons (hq2.has_sub hq1 hall1), fun sp stg hsc hs a ha => ?_,
    fun q hq => (hq2.frame q hq).trans (hq1.frame q hq).symm⟩
  · refine idx_ext _ _ (hq2.shape.keys.trans hq1.shape.keys.symm)
      (by rw [hq2.shape.keys]; exact hstd.ok.keys) (fun sp => ?_)
    by_cases hsc : InScope cfg w0 targets sp
    · rw [(hq2.idx_final hall2 sp).1 hsc, (hq1.idx_final hall1 sp).1 hsc]
    · rw [(hq2.idx_final hall2 sp).2 hsc, (hq1.idx_final hall1 sp).2 hsc]
  · obtain ⟨t1, g1, d1, _⟩ := hq1.outs sp stg hsc hs a ha
    obtain ⟨t2, g2, d2, _⟩ := hq2.outs sp stg hsc hs a ha
    exact ⟨t1, t2, g1, g2, d1, d2⟩

end Dud.Retry
