import DudModel.PipeSpec
import DudModel.Props.C09
/-!
# The `Hence` clause of C09, run side

`dud run` under a frame condition on the stage commands that speaks of ONE index (`ExecFrameOn` of
`Props/C09.lean`): an `exec` that implements a `Fun` cannot satisfy `ExecFrame'` for every index, only
for those whose outputs do not overlap (`ExecIs.frameOn`). `FInv` is the invariant of the run
traversal that carries `FreshStage` of every executed stage to the end of the run.
-/
namespace Dud

open WT

variable {κ : Type}

theorem logicalAt_congr (cfg : Cfg κ) {w1 w2 : World κ} {p : Bytes}
    (h1 : getPath w1.ws (Path.comps p) = getPath w2.ws (Path.comps p)) (h2 : w1.store = w2.store) :
    logicalAt cfg w1 p = logicalAt cfg w2 p := by
  simp only [logicalAt, h1, h2]

theorem insOf_congr (cfg : Cfg κ) {w1 w2 : World κ} {stg : Stage}
    (h : ∀ a, a ∈ stg.inputs → logicalAt cfg w1 a.path = logicalAt cfg w2 a.path) :
    insOf cfg w1 stg = insOf cfg w2 stg := by
  simp only [insOf]
  generalize stg.inputs = l at h
  induction l with
  | nil => rfl
  | cons a r ih =>
    simp only [List.filterMap_cons]
    rw [h a List.mem_cons_self, ih (fun b hb => h b (List.mem_cons_of_mem _ hb))]

theorem FreshStage.congr {cfg : Cfg κ} {F : Fun κ} {w1 w2 : World κ} {stg : Stage}
    (hin : ∀ a, a ∈ stg.inputs → logicalAt cfg w1 a.path = logicalAt cfg w2 a.path)
    (hout : ∀ a, a ∈ stg.outputs → logicalAt cfg w1 a.path = logicalAt cfg w2 a.path)
    (h : FreshStage cfg F w2 stg) : FreshStage cfg F w1 stg := by
  intro a ha
  rw [hout a ha, insOf_congr cfg hin]
  exact h a ha

theorem alookup_insOf (cfg : Cfg κ) (w : World κ) (stg : Stage) (p : Bytes) :
    alookup (insOf cfg w stg) p =
      if p ∈ stg.inputs.map (·.path) then logicalAt cfg w p else none := by
  simp only [insOf]
  generalize stg.inputs = l
  induction l with
  | nil => rfl
  | cons a r ih =>
    rw [List.filterMap_cons, List.map_cons]
    by_cases hp : a.path = p
    · subst hp
      rw [if_pos List.mem_cons_self]
      cases hl : logicalAt cfg w a.path with
      | none => rw [Option.map_none, ih, hl, ite_self]
      | some n => exact alookup_cons_self _ _ _
    · simp only [List.mem_cons, Ne.symm hp, false_or]
      cases logicalAt cfg w a.path with
      | none => exact ih
      | some n => exact (alookup_cons_ne _ _ hp).trans ih

variable [DecidableEq κ]

/-- `cmdRun_sound` of `Props/C09.lean` under the relativised frame condition -/
theorem cmdRun_sound_on (cfg : Cfg κ) (exec : Exec κ) (targets : List Bytes) (w w' : World κ)
    (hex : ExecFrameOn cfg exec w.idx) (h : cmdRun cfg exec false targets w = .ok w') :
    w'.idx = w.idx ∧
    ∀ x stg, (alookup w'.ran x).isSome = true → alookup w.idx x = some stg → RunSound cfg w.idx w' x stg :=
  let ⟨hidx, hq⟩ := cmdRun_runInv cfg exec targets w w' hex h
  ⟨hidx, hq.sound⟩

omit [DecidableEq κ] in
theorem input_apart {cfg : Cfg κ} {idx : Index} (hok : PipeOK cfg idx) {x y : Bytes} {stgx stgy : Stage}
    (hsx : alookup idx x = some stgx) (hsy : alookup idx y = some stgy)
    (hown : ∀ o, o ∈ ownIdx cfg idx x → o ≠ y) {b : Art} (hb : b ∈ stgx.inputs) {a : Art}
    (ha : a ∈ stgy.outputs) : Apart (Path.comps a.path) (Path.comps b.path) := by
  cases ho : findOwner cfg.walkAccumulates idx b.path with
  | none => exact hok.plain_apart x stgx hsx b hb ho y stgy hsy a ha
  | some r =>
    obtain ⟨o, oa⟩ := r
    obtain ⟨stgo, hso, hoa⟩ := owner_lookup hok.keys ho
    have hne : y ≠ o := fun e => hown o (owner_mem_ownIdx hsx hb ho) e.symm
    exact (hok.apart_across y o stgy stgo hne hsy hso a ha oa hoa).of_prefix_right
      (hok.owner_contains x stgx hsx b hb o oa ho)

omit [DecidableEq κ] in
theorem exec_keeps_inputs {cfg : Cfg κ} {F : Fun κ} {exec : Exec κ} (hex : ExecIs cfg F exec)
    {idx : Index} (hok : PipeOK cfg idx) {v w1 : World κ} {sp x : Bytes} {stg stgx : Stage}
    (hs : alookup idx sp = some stg) (he : exec stg v = .ok w1) (hsx : alookup idx x = some stgx)
    (hown : ∀ o, o ∈ ownIdx cfg idx x → o ≠ sp) {b : Art} (hb : b ∈ stgx.inputs) :
    getPath w1.ws (Path.comps b.path) = getPath v.ws (Path.comps b.path) :=
  hex.others stg v w1 he _ (fun _ ha => input_apart hok hsx hs hown hb ha)

theorem ExecIs.frameOn {cfg : Cfg κ} {F : Fun κ} {exec : Exec κ} (hex : ExecIs cfg F exec)
    {idx : Index} (hok : PipeOK cfg idx) : ExecFrameOn cfg exec idx := by
  refine ⟨hex.frame, ?_⟩
  intro sp stg w w1 _ hs he sp' stg' hne hs' a ha
  refine matchShort_congr cfg w1 w a ?_ (hex.frame stg w w1 he).2.2.2.2
  refine hex.others stg w w1 he _ (fun b hb => ?_)
  rcases ha with ha | ha
  · exact hok.apart_across sp sp' stg stg' (Ne.symm hne) hs hs' b hb a (mem_of_mem_sortArts ha)
  · obtain ⟨hin, hn⟩ := List.mem_filter.1 (mem_of_mem_sortArts ha)
    exact hok.plain_apart sp' stg' hs' a hin (by simpa using hn) sp stg hs b hb

/-- Invariant of the run traversal started in `w0`: the cache is untouched; only paths overlapping an
output of an executed stage have changed; every executed stage is `FreshStage` NOW. -/
structure FInv (cfg : Cfg κ) (F : Fun κ) (idx : Index) (w0 v : World κ) : Prop where
  store : v.store = w0.store
  frame : ∀ q, (∀ y, y ∈ v.log → ∀ stgy, alookup idx y = some stgy → ∀ b, b ∈ stgy.outputs →
    Apart (Path.comps b.path) q) → getPath v.ws q = getPath w0.ws q
  fresh : ∀ x, x ∈ v.log → ∀ stg, alookup idx x = some stg → FreshStage cfg F v stg

theorem fInv_step (cfg : Cfg κ) (F : Fun κ) (exec : Exec κ) (hex : ExecIs cfg F exec) (idx : Index)
    (hok : PipeOK cfg idx) (w0 : World κ) (sp : Bytes) (v s : World κ)
    (hi : v.idx = idx) (hr : RunInv cfg idx v) (hq : FInv cfg F idx w0 v)
    (hnd : (alookup v.ran sp).isSome = false)
    (hown : ∀ o, o ∈ ownIdx cfg idx sp → (alookup v.ran o).isSome = true)
    (hact : runAct cfg exec true sp v = .ok s) : FInv cfg F idx w0 s := by
  subst hi
  obtain ⟨stg, d, hs, hd, h1, h2⟩ := runAct_inv cfg exec true sp v s hact
  have hne_done : ∀ x, (alookup v.ran x).isSome = true → x ≠ sp := by
    intro x hx hxs; subst hxs; rw [hnd] at hx; cases hx
  cases hx : (d && stg.hasCmd) with
  | false =>
    cases h2 hx
    exact ⟨hq.store, hq.frame, hq.fresh⟩
  | true =>
    obtain ⟨w1, he, hw⟩ := h1 hx
    obtain ⟨e1, e2, e3, e4, e5⟩ := hex.frame stg v w1 he
    subst hw
    have hlog : ∀ x, x ∈ w1.log ++ [sp] ↔ x ∈ v.log ∨ x = sp := by
      intro x; rw [e3, List.mem_append, List.mem_singleton]
    have hownsp : ∀ o, o ∈ ownIdx cfg v.idx sp → o ≠ sp := fun o ho => hne_done o (hown o ho)
    refine ⟨e5.trans hq.store, ?_, ?_⟩
    · intro q hap
      show getPath w1.ws q = getPath w0.ws q
      rw [hex.others stg v w1 he q (fun a ha => hap sp ((hlog sp).2 (.inr rfl)) stg hs a ha)]
      exact hq.frame q (fun y hy => hap y ((hlog y).2 (.inl hy)))
    · intro x hx stgx hsx
      rcases (hlog x).1 hx with hx | hx
      · -- executed earlier: neither its inputs nor its outputs are touched
        have hxm := didRun_isSome (hr.logged x hx)
        have hxsp : x ≠ sp := hne_done x hxm
        refine FreshStage.congr (w2 := v) ?_ ?_ (hq.fresh x hx stgx hsx)
        · intro b hb
          exact logicalAt_congr cfg (exec_keeps_inputs hex hok hs he hsx
            (fun o ho => hne_done o (hr.owners x hxm o ho)) hb) e5
        · intro b hb
          exact logicalAt_congr cfg (hex.others stg v w1 he _ (fun a ha =>
            hok.apart_across sp x stg stgx (Ne.symm hxsp) hs hsx a ha b hb)) e5
      · subst hx
        rw [hs] at hsx
        cases hsx
        intro a ha
        have hins : insOf cfg { w1 with ran := (x, true) :: w1.ran, log := w1.log ++ [x] } stg
            = insOf cfg v stg :=
          insOf_congr cfg (fun b hb =>
            logicalAt_congr cfg (exec_keeps_inputs hex hok hs he hs hownsp hb) e5)
        rw [hins]
        exact hex.outs stg v w1 he a ha

omit [DecidableEq κ] in
theorem FInv.not_run {cfg : Cfg κ} {F : Fun κ} {idx : Index} (hok : PipeOK cfg idx) {w0 w' : World κ}
    (hq : FInv cfg F idx w0 w') {x : Bytes} {stgx : Stage}
    (hsx : alookup idx x = some stgx) (hx : x ∉ w'.log)
    (hown : ∀ o, o ∈ ownIdx cfg idx x → o ∉ w'.log)
    (h : FreshStage cfg F w0 stgx) : FreshStage cfg F w' stgx := by
  refine FreshStage.congr (w2 := w0) ?_ ?_ h
  · intro b hb
    refine logicalAt_congr cfg (hq.frame _ (fun y hy stgy hsy a ha => ?_)) hq.store
    exact input_apart hok hsx hsy (fun o ho e => hown o ho (e ▸ hy)) hb ha
  · intro b hb
    refine logicalAt_congr cfg (hq.frame _ (fun y hy stgy hsy a ha => ?_)) hq.store
    have hne : y ≠ x := fun e => hx (e ▸ hy)
    exact hok.apart_across y x stgy stgx hne hsy hsx a ha b hb

end Dud
