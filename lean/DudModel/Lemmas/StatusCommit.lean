import DudModel.Lemmas.Status
import DudModel.Lemmas.Checkout
import DudModel.Lemmas.CheckoutEq
import DudModel.Lemmas.Holds
/-!
# What is `UpToDate` after a checkout or a commit

The node a checkout creates in an absent place (`checkoutNode_fresh_upToDate`), and the workspace
`wsAfter` a commit or checkout leaves, in any store holding the tree (`upToDate_of_holds`; entry by
entry `childOK_of_holds`, `pointwise_of_holds`).
-/
namespace Dud

variable {κ : Type}

/-- entry-wise: same names in the same order, each committed node up to date w.r.t. the digest of
the original node -/
def Pointwise (ctx : Ctx κ) (s : Store κ) (fuel : Nat) :
    List (Name × Node κ) → List (Name × Node κ) → Prop
  | [], es' => es' = []
  | (nm, n) :: r, es' => ∃ n' r', es' = (nm, n') :: r' ∧
      UpToDate ctx s fuel n.isDir (treeDigest ctx nm n) n' ∧ Pointwise ctx s fuel r r'

theorem checkoutFile_none {ctx : Ctx κ} {strat : Strat} {sum : Digest} {s : Store κ} {r : Node κ}
    (h : checkoutFile ctx strat none sum s = .ok r) : FileOK ctx s sum r := by
  obtain ⟨hh, -, o, ho, ⟨_, hc, -⟩ | ⟨-, -, ⟨-, rfl⟩ | ⟨-, rfl, -⟩⟩⟩ := checkoutFile_ok h
  · cases hc
  · exact ⟨hh, o, ho, .inr rfl⟩
  · exact ⟨hh, o, ho, .inl rfl⟩

theorem checkoutNode_fresh_upToDate {ctx : Ctx κ} {s : Store κ} {strat : Strat}
    (hnd : ManifestsNodup ctx s) :
    ∀ (fuel : Nat) (c : Child) (r : Node κ), checkoutNode ctx strat s fuel none c = .ok r →
      UpToDate ctx s fuel c.isDir c.sum r := by
  intro fuel
  induction fuel with
  | zero => intro c r h; cases h
  | succ fuel ih =>
    intro c r h
    rcases checkoutNode_ok h with ⟨hc, h⟩ | ⟨hc, hhs, hhas, es, cs, es', hcur, hcs, hes, rfl⟩
    · rw [hc, UpToDate_file]
      exact checkoutFile_none h
    · obtain rfl : es = [] := by
        rcases hcur with hcur | ⟨-, e⟩
        · cases hcur
        · exact e
      rw [hc]
      obtain ⟨hres, hrest⟩ := (checkoutChildren_char _ cs [] (hnd _ _ hcs)).1 es' hes
      refine UpToDate_dir_succ.2 ⟨es', cs, rfl, ⟨hhs, hhas⟩, hcs,
        fun k hk => (hres k hk).imp fun n hn => ⟨hn.2, ih k n hn.1⟩, fun e he => ?_⟩
      -- a name the manifest does not list is as absent from the result as from the empty listing
      cases hf : findChild cs e.1 with
      | some _ => rfl
      | none =>
        have hnone := hrest e.1 fun k hk hn => by simpa [hn] using List.find?_eq_none.1 hf k hk
        exact absurd (hnone ▸ alookup_isSome_of_mem he) (by simp [alookup])

/-- in a store that holds a plain tree (manifests of any schemas) the workspace a commit or a
checkout leaves is up to date -/
theorem upToDate_of_holds {ctx : Ctx κ} (g : Good ctx) (s : Store κ) (strat : Strat) :
    ∀ (fuel : Nat) {t : Node κ} {ch : Choice} {nm : Bytes}, HeldTree ctx s ch nm t fuel →
      UpToDate ctx s fuel t.isDir (digestAs ctx ch nm t) (wsAfter ctx strat t) := by
  intro fuel
  induction fuel with
  | zero =>
    intro t ch nm h
    have := h.depth
    cases t <;> simp [depth] at this
  | succ k ih =>
    intro t ch nm h
    cases t with
    | file x =>
      obtain ⟨_, _, o, ho, hb⟩ := h.file
      simp only [Node.isDir, digestAs, UpToDate_file]
      refine ⟨hasSum_H g x, o, ho, ?_⟩
      rw [hb]
      cases strat
      · exact .inr rfl
      · exact .inl rfl
    | dir es =>
      obtain ⟨_, hk, hl⟩ := h.dir
      cases hk
      obtain ⟨hhas, hread⟩ := readManifest_holds g hl.sorted hl.names h.holds
      refine UpToDate_dir_succ.2 ⟨_, _, wsAfter_dir ctx strat es,
        ⟨hasSum_digestAs_dir g ch nm es, hhas⟩, hread, fun c hc => ?_, fun e' he' => ?_⟩
      · rw [childrenAs_eq_map] at hc
        obtain ⟨e, he, rfl⟩ := List.mem_map.1 hc
        exact ⟨_, alookup_wsAfterList ctx strat es hl.sorted e he, ih (hl.mem e he)⟩
      · obtain ⟨e, he, hname⟩ := mem_wsAfterList ctx strat es e' he'
        rw [hname, findChild_childrenAs ctx ch es hl.sorted e he]
        rfl
    | link _ => exact absurd h.plain (by simp [Node.plain])
    | other => exact absurd h.plain (by simp [Node.plain])

theorem childOK_of_holds {ctx : Ctx κ} (g : Good ctx) (s : Store κ) (strat : Strat)
    {r : List (Name × Node κ)} {ch : Choice} {fuel : Nat} (h : HeldList ctx s ch r fuel)
    (W : List (Name × Node κ)) (hW : ∀ e ∈ r, alookup W e.1 = some (wsAfter ctx strat e.2)) :
    ∀ k ∈ childrenAs ctx ch r, ChildOK ctx s fuel W k := by
  intro k hk
  rw [childrenAs_eq_map] at hk
  obtain ⟨e, he, rfl⟩ := List.mem_map.1 hk
  exact ⟨_, hW e he, upToDate_of_holds g s strat fuel (h.mem e he)⟩

/-- entry by entry, for the current schema -/
theorem pointwise_of_holds {ctx : Ctx κ} (g : Good ctx) (s : Store κ) (strat : Strat) :
    ∀ (es : List (Name × Node κ)) {fuel : Nat}, HeldList ctx s newChoice es fuel →
      Pointwise ctx s fuel es (wsAfterList ctx strat es)
  | [], _, _ => by simp [Pointwise, wsAfterList_nil]
  | (nm, n) :: r, fuel, h => by
    have hu := upToDate_of_holds g s strat fuel (ch := newChoice) h.cons.1
    rw [digestAs_new] at hu
    rw [wsAfterList_cons]
    exact ⟨_, _, rfl, hu, pointwise_of_holds g s strat r h.cons.2⟩

end Dud
