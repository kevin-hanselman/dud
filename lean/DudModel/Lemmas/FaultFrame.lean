import DudModel.Lemmas.FaultWorld
/-!
# `dud commit` writes no workspace path outside the outputs it commits

Every workspace path a call of the whole command writes lies below a (non-`skip-cache`) output of a stage in
scope (`WsBelow`): one `LocalCache.Commit` writes below its artifact's path only, and a stage that is not done
yet still carries its original record (`PendingIdx`).  Hence after the faulted run every
subtree at a path apart from these outputs is in place (`cmdCommit_fault_intact`).
-/
namespace Dud.Sys
open Dud Dud.Retry Dud.WT Dud.WStat
variable {κ : Type}

theorem commitFileT_skip_calls {t : TCfg κ} {w : P} {nd : Option (Node κ)} {sum : Digest} {s : Store κ}
    {n : Nat} {res : Node κ × Digest × Store κ} {calls : List (Call κ)} {k : Nat}
    (h : commitFileT t true w nd sum s n = .ok (res, calls, k)) : calls = [] := by
  rcases (commitFileT_ok_inv h).2 with ⟨_, _, hq, -⟩ | ⟨-, hc, -⟩
  · simp at hq
  · exact hc

/-- the workspace paths one traced `LocalCache.Commit` writes lie below the artifact's path; a `skip-cache`
file artifact writes none -/
theorem commitArtWT_ws {c : CmdCfg κ} {strat : Strat} {a a' : Art} {w w' : World κ}
    {calls : List (Call κ)} (h : commitArtWT c strat a w = .ok ((a', w'), calls)) :
    ∀ x ∈ calls, ∀ q, P.ws q ∈ callWrites x →
      Path.comps a.path <+: q ∧ ¬ (a.isDir = false ∧ a.skip = true) := by
  obtain ⟨n, d, s, ws', hT, -, -, -⟩ := commitArtWT_inv h
  intro x hx q hq
  refine ⟨?_, fun hsk => ?_⟩
  · by_cases hmem : P.ws q ∈ paths (trackedOpt (Path.comps a.path) (getPath w.ws (Path.comps a.path)))
    · exact paths_trackedOpt_prefix hmem
    · exact absurd hq (commitArtT_ws_writes hT hmem x hx)
  · obtain ⟨hd, hs⟩ := hsk
    unfold commitArtT at hT
    simp only [hd, Bool.false_eq_true, if_false, hs] at hT
    generalize hF : commitFileT (c.tc strat) true (.ws (Path.comps a.path))
        (getPath w.ws (Path.comps a.path)) a.sum w.store 1 = res at hT
    cases res with
    | error e => cases hT
    | ok v =>
      obtain ⟨r, calls2, k⟩ := v
      simp only [Except.ok.injEq, Prod.mk.injEq] at hT
      have := commitFileT_skip_calls hF
      subst this
      rw [← hT.2] at hx
      simp only [List.append_nil] at hx
      exact not_written_by_headCalls q x hx hq

theorem commitArtsT_ws {c : CmdCfg κ} {strat : Strat} (as : List Art) (w : World κ)
    (res : List Art × World κ) (segs : List (List (Call κ)))
    (h : commitArtsT c strat as w = .ok (res, segs)) :
    ∀ x ∈ segs.flatten, ∀ q, P.ws q ∈ callWrites x →
      ∃ a, a ∈ as ∧ Path.comps a.path <+: q ∧ ¬ (a.isDir = false ∧ a.skip = true) := by
  intro x hx q hq
  obtain ⟨a, ha, hr⟩ := commitArtsT_calls
    (R := fun a x => ∀ q, P.ws q ∈ callWrites x → Path.comps a.path <+: q ∧ ¬ (a.isDir = false ∧ a.skip = true))
    (fun a _ w r calls h1 => commitArtWT_ws (a' := r.1) (w' := r.2) h1) h x hx
  exact ⟨a, ha, hr q hq⟩

/-- every workspace path the call writes lies below a (non-`skip-cache`) output of a stage in scope -/
def WsBelow (Sc : Bytes → Prop) (w0 : World κ) (x : Call κ) : Prop :=
  ∀ q, P.ws q ∈ callWrites x → ∃ sp stg a, Sc sp ∧ alookup w0.idx sp = some stg ∧ a ∈ stg.outputs ∧
    a.skip = false ∧ Path.comps a.path <+: q

theorem commitActT_wsBelow {c : CmdCfg κ} {strat : Strat} {Sc : Bytes → Prop} {w0 : World κ}
    (hok : PipelineOK c.cfg Sc w0) (hfiles : PlainInputsFiles c.cfg Sc w0)
    {sp : Bytes} {stg : Stage} {w w1 : World κ} {segs : List (List (Call κ))} (hsc : Sc sp)
    (hs0 : alookup w0.idx sp = some stg) (hs : alookup w.idx sp = some stg)
    (hsh : SameShape w.idx w0.idx) (h : commitActT c strat sp w = .ok (w1, segs)) :
    ∀ x ∈ segs.flatten, WsBelow Sc w0 x := by
  obtain ⟨stg', plain', wa, segs1, outs', wb, segs2, hst, h1, h2, rfl, -⟩ := commitActT_inv h
  obtain rfl : stg = stg' := by rw [World.stage_eq_ok.2 hs] at hst; cases hst; rfl
  intro x hx q hq
  simp only [List.flatten_append, List.mem_append] at hx
  rcases hx with hx | hx
  · -- an input no stage owns: a skip-cache file artifact
    obtain ⟨b, hb, _, hns⟩ := commitArtsT_ws _ w _ segs1 h1 x hx q hq
    exfalso
    have hb' := mem_of_mem_sortArts hb
    obtain ⟨b0, hb0, rfl⟩ := List.mem_map.1 hb'
    obtain ⟨hin, hun⟩ := List.mem_filter.1 hb0
    have hun0 : (findOwner c.cfg.walkAccumulates w0.idx b0.path).isNone = true := by
      rw [← findOwner_isNone_sim _ hsh]; exact hun
    exact hns ⟨hfiles sp stg hsc hs0 b0 hin hun0, rfl⟩
  · obtain ⟨a, ha, hp, hns⟩ := commitArtsT_ws _ wa _ segs2 h2 x hx q hq
    have ha' := mem_of_mem_sortArts ha
    obtain ⟨n, _, hpre⟩ := hok.pre sp stg hsc hs0 a ha'
    refine ⟨sp, stg, a, hsc, hs0, ha', ?_, hp⟩
    cases hsk : a.skip with
    | false => rfl
    | true =>
      exfalso
      refine hns ⟨?_, hsk⟩
      cases hd : a.isDir with
      | false => rfl
      | true => have := (hpre.fresh hd).2; rw [hsk] at this; cases this

/-- a stage that is not done carries its original record -/
def PendingIdx (w0 w : World κ) : Prop :=
  ∀ sp, w.done.contains sp = false → alookup w.idx sp = alookup w0.idx sp

theorem PendingIdx.step {cfg : Cfg κ} {strat : Strat} {sp : Bytes} {w0 w w' : World κ}
    (h : PendingIdx w0 w) (ha : commitAct cfg strat sp w = .ok w') : PendingIdx w0 w' := by
  obtain ⟨hd, hidx⟩ := commitAct_idx_stable cfg strat sp w w' ha
  intro x hx
  rw [hd, List.contains_cons, Bool.or_eq_false_iff] at hx
  rw [hidx x (by simpa using hx.1)]
  exact h x hx.2

/-- invariant of the traced traversal: pending stages carry their original records, and the frame of the
calls issued so far -/
def FrameInv (Sc : Bytes → Prop) (w0 : World κ) (q : World κ × List (List (Call κ))) : Prop :=
  PendingIdx w0 q.1 ∧ ∀ x ∈ q.2.flatten, WsBelow Sc w0 x

theorem goTargets_wsBelow {c : CmdCfg κ} {strat : Strat} {w0 : World κ} {Sc : Bytes → Prop}
    (hown : ∀ a o, Sc a → o ∈ ownIdx c.cfg w0.idx a → Sc o)
    (hok : PipelineOK c.cfg Sc w0) (hfiles : PlainInputsFiles c.cfg Sc w0) :
    ∀ (ts : List Bytes) (p p' : World κ × List (Bool × List (Call κ))), (∀ t, t ∈ ts → Sc t) →
      SameShape p.1.idx w0.idx → PendingIdx w0 p.1 → (∀ x ∈ flatSegs p.2, WsBelow Sc w0 x) →
      goTargets c strat ts p = .ok p' → ∀ x ∈ flatSegs p'.2, WsBelow Sc w0 x := by
  intro ts p p' hts hsh hinv hw h
  refine (goTargets_keeps (Q := fun p => SameShape p.1.idx w0.idx ∧ PendingIdx w0 p.1 ∧
      ∀ x ∈ flatSegs p.2, WsBelow Sc w0 x)
    ts p p' (fun t ht p w' arts ⟨hsh, hinv, hw⟩ hv => ?_) ⟨hsh, hinv, hw⟩ h).2.2
  have hT := commitTravT_lawfulOn c strat w0.idx hok.keys
  have hstep := visit_preserves_on (r := true) hT (Q := FrameInv Sc w0) (R := Sc) hown
    (fun sp q s hsc hi hq hnd _ hs => by
      have hnd' : q.1.done.contains sp = false := hnd
      obtain ⟨hpi, hfr⟩ := hq
      refine ⟨hpi.step (commitTravT_act_ok hs), ?_⟩
      obtain ⟨w1, segs, hA, rfl⟩ := commitTravT_act_inv hs
      obtain ⟨stg, _, _, _, _, _, _, hst, -⟩ := commitActT_inv hA
      have hst := World.stage_eq_ok.1 hst
      have hs0 : alookup w0.idx sp = some stg := by
        rw [← hpi sp hnd']; exact hst
      intro x hx
      simp only [List.flatten_append, List.mem_append] at hx
      exact hx.elim (hfr x) (commitActT_wsBelow hok hfiles hsc hs0 hst hi hA x))
    (p.1.idx.length + 1) (allStages p.1) t (p.1, []) (w', arts)
    (hts t ht) hsh ⟨hinv, by simp⟩ hv
  refine ⟨(visit_commitTravT_stable (p := (p.1, [])) hok.keys hsh hv).1, hstep.1, fun x hx => ?_⟩
  simp only [flatSegs_append, flatSegs_arts, flatSegs_metas, List.mem_append] at hx
  rcases hx with (hx | hx) | hx
  · exact hw x hx
  · exact hstep.2 x hx
  · intro q hq
    have := metaPhase_metaOnly c w'.idx _ x hx _ (callWrites_sub _ _ hq)
    simp [P.isMeta] at this

/-- **After the faulted run every subtree apart from the (non-`skip-cache`) outputs in scope is in
place**: no call of `dud commit` writes such a path, and neither do the clean-up and the unlock. -/
theorem cmdCommit_fault_intact {c : CmdCfg κ} {strat : Strat} {emp : κ}
    {targets : List Bytes} {w w' : World κ} {calls : List (Call κ)}
    (hok : PipelineOK c.cfg (InScope c.cfg w targets) w)
    (hfiles : PlainInputsFiles c.cfg (InScope c.cfg w targets) w)
    (hu : uniqNode w.ws) (h : cmdCommitGoT c strat targets w = .ok (w', calls)) (k : Nat) :
    Intact (InScope c.cfg w targets) w (runFaultCleanup emp (fsOfWorld c w) calls k) := by
  obtain ⟨segs, hgo, rfl⟩ := cmdCommitGoT_ok_inv h
  have hw := goTargets_wsBelow (w0 := w)
    (fun a o ⟨t', ht', hr⟩ ho => ⟨t', ht', hr.trans (.step ho (.refl _))⟩) hok hfiles _ (fresh w, [])
    (w', segs) (fun t ht => ⟨t, ht, .refl _⟩) (SameShape.refl _) (fun _ _ => rfl)
    (by intro x hx; simp [flatSegs] at hx) hgo
  intro q0 n hn hap p hpn
  have hp : p ∈ trackedOf [] w.ws := trackedOpt_sub_tracked hu q0 p (by rw [hn]; exact hpn)
  obtain ⟨names, hq, -⟩ := trackedOf_names n q0 p hpn
  have hnt : p.1.isTemp = false := by rw [hq]; rfl
  have hnl : p.1 ≠ .lock := by rw [hq]; simp
  refine ⟨0o644, ?_⟩
  rw [runFaultCleanup_get_frame emp _ _ k hnt hnl, replay_get_frame emp _ _ _ (fun x hx hmem => ?_),
    fsOfWorld_get c w (by rw [hq]; simp)]
  · exact fsOf_get_tracked c.cfg.ctx [] w.ws w.store hu p hp
  · have hx' := List.mem_of_mem_take hx
    simp only [List.mem_append, List.mem_singleton] at hx'
    rw [hq] at hmem
    rcases hx' with (rfl | hx') | rfl
    · simp [callWrites, callPaths] at hmem
    · obtain ⟨sp, stg, a, hsc, hs, ha, hsk, hpre⟩ := hw x hx' _ hmem
      exact ((hap sp stg a hsc hs ha hsk).of_prefix_right (List.prefix_append q0 names)).1 hpre
    · simp [callWrites, callPaths] at hmem

end Dud.Sys
