import DudModel.Lemmas.WorldTrip
/-!
# Committing file artifacts in the world

Committing a file artifact records the hash of the logical content found, leaves that logical
content as it is, and afterwards `ch.Status` says that the artifact matches (`FileMatch`,
`Lemmas/Store.lean`, spells out `ContentsMatch` for files; `ArtMatch`, `matchShort_file`). `CStep` is what a
sequence of such commits does to workspace and cache; `commitAct_files` is the stage action on a
stage of file artifacts; `StagePaths` is what any `commitAct` keeps of the stage definition. No hypothesis on the pipeline: this file is below the C09 family and the
status family, which both use it. The last two lemmas (namespace `WStat`) say what a successful commit
of skip-cache file artifacts found in the workspace; `Lemmas/RetryWorld.lean` uses them.
-/
namespace Dud

open WT

variable {κ : Type}

/-- the logical content at the component path `q` is the regular file with bytes `c` -/
def FileAtC (cfg : Cfg κ) (w : World κ) (q : List Name) (c : κ) : Prop :=
  (getPath w.ws q).map (deref cfg.ctx w.store) = some (.file c)

theorem FileAtC.mono {cfg : Cfg κ} {w w' : World κ} {q : List Name} {c : κ}
    (hg : getPath w'.ws q = getPath w.ws q) (hle : Store.le cfg.ctx w.store w'.store)
    (h : FileAtC cfg w q c) : FileAtC cfg w' q c := by
  obtain ⟨n, hn, hd⟩ := Option.map_eq_some_iff.1 h
  exact Option.map_eq_some_iff.2 ⟨n, hg.trans hn, deref_eq_le cfg.ctx hle hd rfl⟩

theorem FileAtC.unique {cfg : Cfg κ} {w : World κ} {q : List Name} {c c' : κ}
    (h : FileAtC cfg w q c) (h' : FileAtC cfg w q c') : c = c' := by
  simp only [FileAtC] at h h'
  rw [h] at h'
  cases h'
  rfl

/-- the file artifact `a` matches what is found at its path in `w`: `ContentsMatch` of `ch.Status`
for a file artifact (`matchShort_file`) -/
def ArtMatch (cfg : Cfg κ) (w : World κ) (a : Art) : Prop :=
  FileMatch cfg.ctx w.store a.skip a.sum (getPath w.ws (Path.comps a.path))

theorem matchShort_file [DecidableEq κ] (cfg : Cfg κ) (w : World κ) (a : Art) (hf : a.isDir = false) :
    matchShort cfg w a = .ok true ↔ ArtMatch cfg w a := by
  simp only [matchShort, statusArt_file _ _ _ hf, hf, Bool.false_and, Bool.false_eq_true, if_false,
    Except.ok.injEq]
  exact fileStatus_cm_match _ _ _ _ _ _

/-- a matching file artifact: the logical content is the file whose bytes hash to the checksum -/
theorem FileMatch.content {ctx : Ctx κ} {s : Store κ} (hc : Consistent ctx s) {skip : Bool} {sum : Digest}
    {cur : Option (Node κ)} (h : FileMatch ctx s skip sum cur) :
    ∃ c, cur.map (deref ctx s) = some (.file c) ∧ ctx.H c = sum := by
  match cur, h with
  | some (.file c), h =>
    cases skip with
    | true => exact ⟨c, rfl, h.2⟩
    | false =>
      obtain ⟨_, o, ho, rfl⟩ := h
      exact ⟨_, rfl, hc _ _ ho⟩
  | some (.link (.obj _)), ⟨_, hs, hd⟩ =>
    obtain ⟨b, o, ho, rfl⟩ := Store.holds_of_has ctx hs
    exact ⟨_, hd ▸ congrArg some (deref_holds ⟨o, ho, rfl⟩), hc _ _ ho⟩
  | none, h | some (.dir _), h | some (.link (.foreign _)), h | some .other, h => exact h.elim

theorem FileMatch.mono {ctx : Ctx κ} {s s' : Store κ} (hle : Store.le ctx s s') {skip : Bool}
    {sum : Digest} : ∀ {cur : Option (Node κ)}, FileMatch ctx s skip sum cur →
      FileMatch ctx s' skip sum cur
  | some (.file _), h => by
    cases skip with
    | true => exact h
    | false =>
      obtain ⟨h1, o, ho, rfl⟩ := h
      obtain ⟨o', ho', hb'⟩ := hle _ _ ho
      exact ⟨h1, o', ho', hb'.symm⟩
  | some (.link (.obj _)), h => ⟨h.1, Store.has_le hle h.2.1, h.2.2⟩
  | none, h | some (.dir _), h | some (.link (.foreign _)), h | some .other, h => h.elim

/-- `commitFileArtifact`: the checksum recorded is the hash of the logical content found, that
content is still there afterwards, and afterwards the artifact matches -/
theorem commitFile_post {ctx : Ctx κ} (g : Good ctx) {strat : Strat} {skip : Bool} {cur : Option (Node κ)}
    {sum : Digest} {s : Store κ} (hc : Consistent ctx s) {n' : Node κ} {d : Digest} {s' : Store κ}
    (h : commitFile ctx strat skip cur sum s = .ok (n', d, s')) :
    ∃ c, cur.map (deref ctx s) = some (.file c) ∧ deref ctx s' n' = .file c ∧ d = ctx.H c ∧
      FileMatch ctx s' skip d (some n') := by
  rcases commitFile_cases h with ⟨c, rfl, rfl, ⟨hsk, rfl, rfl⟩ | ⟨hsk, rfl, rfl⟩⟩ |
    ⟨t, rfl, rfl, rfl, hcase⟩
  · exact ⟨c, rfl, rfl, rfl, by simp [FileMatch, hsk, hasSum_H g c]⟩
  · have hg : Store.get ((ctx.H c, .blob c) :: s) (ctx.H c) = some (.blob c) :=
      Store.get_put_self s _ _
    refine ⟨c, rfl, ?_, rfl, ?_⟩
    · cases strat <;> simp [wsAfter, linked, deref, hg, Obj.bytes]
    · cases strat
      · exact ⟨hasSum_H g c, Store.has_of_get hg, rfl⟩
      · simp only [wsAfter, FileMatch, hsk, Bool.false_eq_true, if_false]
        exact ⟨hasSum_H g c, _, hg, rfl⟩
  · -- a link: to the very object recorded, or to an object of the cache
    have hdt : d = t ∧ s'.has t = true := by
      rcases hcase with ⟨_, h2, rfl, rfl⟩ | ⟨_, h2, rfl⟩
      · exact ⟨rfl, h2⟩
      · exact ⟨rfl, h2⟩
    obtain ⟨rfl, hhas⟩ := hdt
    obtain ⟨o, hg⟩ := Store.has_eq_true.1 hhas
    refine ⟨o.bytes ctx, by simp [deref, hg], by simp [deref, hg], (hc _ _ hg).symm, ?_, hhas, rfl⟩
    rw [← hc _ _ hg]
    exact hasSum_H g _

/-- What commits of file artifacts at the component paths `P` do to workspace and cache: the cache
stays consistent and grows; paths apart from `P` are untouched; a regular file (logically) at a path
of `P` is still that regular file. -/
structure CStep (cfg : Cfg κ) (P : List Name → Prop) (w w' : World κ) : Prop where
  cons : Consistent cfg.ctx w'.store
  le : Store.le cfg.ctx w.store w'.store
  frame : ∀ q, (∀ pa, P pa → Apart pa q) → getPath w'.ws q = getPath w.ws q
  same : ∀ pa, P pa → ∀ c, FileAtC cfg w pa c → FileAtC cfg w' pa c

theorem CStep.iff {cfg : Cfg κ} {P Q : List Name → Prop} {w w' : World κ} (h : CStep cfg P w w')
    (hPQ : ∀ q, Q q ↔ P q) : CStep cfg Q w w' :=
  ⟨h.cons, h.le, fun q hq => h.frame q (fun pa hp => hq pa ((hPQ pa).2 hp)),
    fun pa hp => h.same pa ((hPQ pa).1 hp)⟩

theorem CStep.fileAt {cfg : Cfg κ} {P : List Name → Prop} {w w' : World κ} (h : CStep cfg P w w')
    {q : List Name} (hq : ∀ pa, P pa → q = pa ∨ Apart pa q) {c : κ} (hf : FileAtC cfg w q c) :
    FileAtC cfg w' q c := by
  by_cases hp : P q
  · exact h.same q hp c hf
  · refine hf.mono (h.frame q (fun pa hpa => ?_)) h.le
    rcases hq pa hpa with e | e
    · exact absurd (e ▸ hpa) hp
    · exact e

theorem CStep.matched {cfg : Cfg κ} {P : List Name → Prop} {w w' : World κ} (h : CStep cfg P w w')
    {b : Art} (hb : ∀ pa, P pa → Apart pa (Path.comps b.path)) (hm : ArtMatch cfg w b) :
    ArtMatch cfg w' b := by
  rw [ArtMatch, h.frame _ hb]
  exact hm.mono h.le

theorem commitArtW_file (cfg : Cfg κ) (g : Good cfg.ctx) (strat : Strat) (a a' : Art) (w w' : World κ)
    (hc : Consistent cfg.ctx w.store) (hf : a.isDir = false)
    (h : commitArtW cfg strat a w = .ok (a', w')) :
    a'.path = a.path ∧ ArtMatch cfg w' a' ∧
      ∀ c, FileAtC cfg w (Path.comps a.path) c → FileAtC cfg w' (Path.comps a.path) c := by
  obtain ⟨n, d, s, ws', hca, hsp, rfl, rfl⟩ := WT.commitArtW_inv h
  rw [commitArt_file _ _ hf] at hca
  obtain ⟨c, h1, h2, _, h4⟩ := commitFile_post g hc hca
  have hget : getPath ws' (Path.comps a.path) = some n := getPath_setPath_self _ _ _ _ hsp
  refine ⟨rfl, ?_, fun c' hc' => ?_⟩
  · show FileMatch cfg.ctx s a.skip d (getPath ws' (Path.comps a.path))
    rw [hget]
    exact h4
  · cases FileAtC.unique hc' h1
    simp only [FileAtC, hget, Option.map_some, h2]

/-- a list of skip-cache file artifacts (the un-owned inputs of a stage): the world is untouched and
every artifact matches the checksum recorded for it -/
theorem commitArts_skip_files_match (cfg : Cfg κ) (g : Good cfg.ctx) (strat : Strat)
    (as as' : List Art) (w w' : World κ) (hc : Consistent cfg.ctx w.store)
    (hall : ∀ a, a ∈ as → a.skip = true ∧ a.isDir = false) (h : commitArts cfg strat as w = .ok (as', w')) :
    w' = w ∧ ∀ a', a' ∈ as' → ArtMatch cfg w a' := by
  obtain ⟨rfl, hr, -⟩ := WT.commitArts_skip_files hall h
  refine ⟨rfl, fun a' ha' => ?_⟩
  obtain ⟨a, ha, h1⟩ := hr a' ha'
  exact (commitArtW_file cfg g strat a a' w' w' hc (hall a ha).2 h1).2.1

/-- a list of file artifacts with pairwise non-overlapping paths (the outputs of a stage) -/
theorem commitArts_files_apart (cfg : Cfg κ) (g : Good cfg.ctx) (strat : Strat)
    (as as' : List Art) (w w' : World κ) (hc : Consistent cfg.ctx w.store) (hap : ApartArts as)
    (hall : ∀ a, a ∈ as → a.isDir = false) (h : commitArts cfg strat as w = .ok (as', w')) :
    CStep cfg (fun q => ∃ a, a ∈ as ∧ q = Path.comps a.path) w w' ∧
      ∀ a', a' ∈ as' → ArtMatch cfg w' a' := by
  -- each artifact, after its own commit and ever after: it matches its record, and a regular file
  -- found (logically) at its path in `w` is still found there
  obtain ⟨e1, e2⟩ := WT.commitArts_each g (w := w)
    (fun a a' u => a'.path = a.path ∧ ArtMatch cfg u a' ∧
      ∀ c, FileAtC cfg w (Path.comps a.path) c → FileAtC cfg u (Path.comps a.path) c)
    (fun a a' u u' ⟨h2, h3, h4⟩ hg hle => ⟨h2, by
      rw [ArtMatch, h2, hg, ← h2]
      exact h3.mono hle, fun c hc' => (h4 c hc').mono hg hle⟩)
    hap hc (Store.le_refl _ _) (fun _ _ => rfl) h
    (fun a ha v a' v' hcv hlev hgv hv =>
      let ⟨hp, hm, hs⟩ := commitArtW_file cfg g strat a a' v v' hcv (hall a ha) hv
      ⟨hp, hm, fun c hc' => hs c (hc'.mono hgv hlev)⟩)
  obtain ⟨cons, le⟩ := WT.commitArts_step g h hc
  refine ⟨⟨cons, le, fun q hq => (WT.commitArts_world h).2 q fun b hb => .inr (hq _ ⟨b, hb, rfl⟩), ?_⟩,
    fun a' ha' => let ⟨_, _, _, h3, _⟩ := e1 a' ha'; h3⟩
  rintro pa ⟨a, ha, rfl⟩
  obtain ⟨a', -, -, -, h4⟩ := e2 a ha
  exact h4

theorem CStep.meta {cfg : Cfg κ} {P : List Name → Prop} {w w' : World κ} (h : CStep cfg P w w')
    (idx : Index) (done : List Bytes) : CStep cfg P w { w' with idx := idx, done := done } :=
  ⟨h.cons, h.le, h.frame, h.same⟩

/-- the definition checksum `commitAct` records is current -/
theorem newStage_sumOk {cfg : Cfg κ} (g : Good cfg.ctx) (stg : Stage) (ins outs : List Art) :
    (WStat.newStage cfg stg ins outs).sumOk cfg = true := by
  have hne : ((WStat.newStage cfg stg ins outs).defSum cfg).isEmpty = false := by
    rw [String.isEmpty_eq_false_iff]
    intro he
    have := hasSum_H g (cfg.ofBytes (WStat.newStage cfg stg ins outs).defBytes)
    rw [show cfg.ctx.H (cfg.ofBytes (WStat.newStage cfg stg ins outs).defBytes) =
      (WStat.newStage cfg stg ins outs).defSum cfg from rfl, he, hasSum_empty] at this
    cases this
  rw [Stage.sumOk, WStat.newStage_sum, hne, beq_self_eq_true]
  rfl

/-- **The inputs `commitAct` records**, when the inputs no stage owns are file artifacts: these are
committed with `skip-cache` set, which leaves the world as it is (so the outputs are committed from `w`
itself), and each of them matches its new record in `w`; an input some stage owns gets the checksum
its owner records. No hypothesis on the outputs. -/
theorem commitAct_inputs (cfg : Cfg κ) (g : Good cfg.ctx) (strat : Strat) {sp : Bytes} {w w' : World κ}
    {stg : Stage} (hs : alookup w.idx sp = some stg) (hc : Consistent cfg.ctx w.store)
    (hfiles : ∀ b, b ∈ stg.inputs → findOwner cfg.walkAccumulates w.idx b.path = none → b.isDir = false)
    (h : commitAct cfg strat sp w = .ok w') :
    ∃ pl outs w2, commitArts cfg strat (sortArts stg.outputs) w = .ok (outs, w2) ∧
      w' = { w2 with
        idx := setStage w2.idx sp
          (WStat.newStage cfg stg (sortArts (WStat.ownedIn cfg w.idx stg ++ pl)) outs),
        done := sp :: w2.done } ∧
      ∀ a', a' ∈ sortArts (WStat.ownedIn cfg w.idx stg ++ pl) →
        ∃ a, a ∈ stg.inputs ∧ a'.path = a.path ∧ a'.isDir = a.isDir ∧
          (findOwner cfg.walkAccumulates w.idx a'.path = none →
            a'.skip = true ∧ ArtMatch cfg w a') ∧
          (∀ o oa, findOwner cfg.walkAccumulates w.idx a'.path = some (o, oa) → a'.sum = oa.sum) := by
  obtain ⟨pl, w1, outs, w2, h1, h2, rfl⟩ := WStat.commitAct_inv hs h
  have hskip : ∀ a, a ∈ sortArts (WStat.plainIn cfg w.idx stg) → a.skip = true ∧ a.isDir = false := by
    intro a ha
    obtain ⟨b, hin, hown, rfl⟩ := WStat.mem_plainIn (mem_of_mem_sortArts ha)
    exact ⟨rfl, hfiles b hin (Option.isNone_iff_eq_none.1 hown)⟩
  obtain ⟨rfl, hpl⟩ := commitArts_skip_files_match cfg g strat _ pl w w1 hc hskip h1
  obtain ⟨-, -, n1⟩ := commitArts_frame cfg strat _ _ _ _ h1
  refine ⟨pl, outs, w2, h2, rfl, fun a' ha' => ?_⟩
  rcases List.mem_append.1 (mem_of_mem_sortArts ha') with ha' | ha'
  · obtain ⟨b, o, oa, hin, ho, rfl⟩ := WStat.mem_ownedIn_inv ha'
    exact ⟨b, hin, rfl, rfl, fun hn => (by rw [ho] at hn; cases hn),
      fun o' oa' ho' => (by cases ho.symm.trans ho'; rfl)⟩
  · obtain ⟨b1, hb1, e⟩ := WStat.mem_of_noSum n1 ha'
    obtain ⟨b, hin, hown, rfl⟩ := WStat.mem_plainIn (mem_of_mem_sortArts hb1)
    have hn : findOwner cfg.walkAccumulates w1.idx a'.path = none := by
      rw [show a'.path = b.path from (congrArg Art.path e :)]
      exact Option.isNone_iff_eq_none.1 hown
    exact ⟨b, hin, (congrArg Art.path e :), (congrArg Art.isDir e :),
      fun _ => ⟨(congrArg Art.skip e :), hpl a' ha'⟩, fun o oa ho => (by rw [hn] at ho; cases ho)⟩

/-- `s'` is `s` as far as `PipeOK` and `FilePipe` can tell: same command line and working directory,
every artifact of `s'` has the path and kind of one of `s`, outputs that did not overlap and input
paths that were distinct still are. A preorder; what `dud commit` keeps of a stage definition. -/
structure StagePaths (s' s : Stage) : Prop where
  cmd : s'.cmd = s.cmd
  wd : s'.wd = s.wd
  outs : ∀ a', a' ∈ s'.outputs → ∃ a, a ∈ s.outputs ∧ a'.path = a.path ∧ a'.isDir = a.isDir
  apart : ApartArts s.outputs → ApartArts s'.outputs
  ins : ∀ a', a' ∈ s'.inputs → ∃ a, a ∈ s.inputs ∧ a'.path = a.path ∧ a'.isDir = a.isDir
  nodup : s.inputs.Pairwise (fun a b => a.path ≠ b.path) →
    s'.inputs.Pairwise (fun a b => a.path ≠ b.path)

theorem StagePaths.refl (s : Stage) : StagePaths s s :=
  ⟨rfl, rfl, fun a h => ⟨a, h, rfl, rfl⟩, id, fun a h => ⟨a, h, rfl, rfl⟩, id⟩

theorem StagePaths.trans {s2 s1 s : Stage} (h2 : StagePaths s2 s1) (h1 : StagePaths s1 s) :
    StagePaths s2 s where
  cmd := h2.cmd.trans h1.cmd
  wd := h2.wd.trans h1.wd
  outs := fun a2 m2 =>
    let ⟨a1, m1, p2, d2⟩ := h2.outs a2 m2
    let ⟨a, m, p1, d1⟩ := h1.outs a1 m1
    ⟨a, m, p2.trans p1, d2.trans d1⟩
  apart := fun h => h2.apart (h1.apart h)
  ins := fun a2 m2 =>
    let ⟨a1, m1, p2, d2⟩ := h2.ins a2 m2
    let ⟨a, m, p1, d1⟩ := h1.ins a1 m1
    ⟨a, m, p2.trans p1, d2.trans d1⟩
  nodup := fun h => h2.nodup (h1.nodup h)

/-- any successful `commitAct` replaces the entry of its stage by one with the same paths -/
theorem commitAct_paths {cfg : Cfg κ} {strat : Strat} {sp : Bytes} {w w' : World κ} {stg : Stage}
    (hs : alookup w.idx sp = some stg) (h : commitAct cfg strat sp w = .ok w') :
    ∃ stg', w'.idx = setStage w.idx sp stg' ∧ StagePaths stg' stg := by
  obtain ⟨pl, w1, outs, w2, h1, h2, rfl⟩ := WStat.commitAct_inv hs h
  obtain ⟨i1, -, n1⟩ := commitArts_frame cfg strat _ _ _ _ h1
  obtain ⟨i2, -, n2⟩ := commitArts_frame cfg strat _ _ _ _ h2
  refine ⟨WStat.newStage cfg stg (sortArts (WStat.ownedIn cfg w.idx stg ++ pl)) outs, by rw [← i1, ← i2],
    rfl, rfl, fun a' ha' => ?_, fun hap => hap.sortArts.of_paths (paths_of_noSum n2),
    fun a' ha' => WStat.mem_newInputs n1 ha', fun _ => sortArts_paths_ne _⟩
  obtain ⟨a, ha, e⟩ := WStat.mem_of_noSum n2 ha'
  exact ⟨a, mem_of_mem_sortArts ha, (congrArg Art.path e :), (congrArg Art.isDir e :)⟩

/-- **`commitAct` on a stage of file artifacts** whose outputs do not overlap and whose un-owned
inputs lie apart from its outputs: the definition checksum of the stage recorded is current, every
output and every un-owned input matches its recorded checksum in the resulting world, and every owned
input carries the checksum its owner records (in the index the commit started from). Workspace and
cache change as described by `CStep` at the outputs. -/
theorem commitAct_files (cfg : Cfg κ) (g : Good cfg.ctx) (strat : Strat) (sp : Bytes) (w w' : World κ)
    (stg : Stage) (hs : alookup w.idx sp = some stg) (hc : Consistent cfg.ctx w.store)
    (hin : ∀ a, a ∈ stg.inputs → a.isDir = false) (hout : ∀ a, a ∈ stg.outputs → a.isDir = false)
    (hap : ApartArts stg.outputs)
    (hpa : ∀ a, a ∈ stg.inputs → findOwner cfg.walkAccumulates w.idx a.path = none →
      ∀ b, b ∈ stg.outputs → Apart (Path.comps b.path) (Path.comps a.path))
    (h : commitAct cfg strat sp w = .ok w') :
    ∃ stg', alookup w'.idx sp = some stg' ∧
      CStep cfg (fun q => ∃ a, a ∈ stg.outputs ∧ q = Path.comps a.path) w w' ∧
      stg'.sumOk cfg = true ∧ (∀ a', a' ∈ stg'.outputs → ArtMatch cfg w' a') ∧
      ∀ a', a' ∈ stg'.inputs →
        (findOwner cfg.walkAccumulates w.idx a'.path = none → ArtMatch cfg w' a') ∧
        (∀ o oa, findOwner cfg.walkAccumulates w.idx a'.path = some (o, oa) → a'.sum = oa.sum) := by
  obtain ⟨pl, outs, w2, h2, rfl, hins⟩ := commitAct_inputs cfg g strat hs hc (fun b hb _ => hin b hb) h
  obtain ⟨s2, hos⟩ := commitArts_files_apart cfg g strat _ outs w w2 hc hap.sortArts
    (fun a ha => hout a (mem_of_mem_sortArts ha)) h2
  obtain ⟨i2, -, -⟩ := commitArts_frame cfg strat _ _ w w2 h2
  have s2' : CStep cfg (fun q => ∃ a, a ∈ stg.outputs ∧ q = Path.comps a.path) w w2 :=
    s2.iff (fun q => ⟨fun ⟨a, ha, e⟩ => ⟨a, mem_sortArts_of_mem hap.paths_ne ha, e⟩,
      fun ⟨a, ha, e⟩ => ⟨a, mem_of_mem_sortArts ha, e⟩⟩)
  refine ⟨_, by rw [i2]; exact alookup_setStage_self _ _ hs, s2'.meta _ _, newStage_sumOk g _ _ _, hos,
    fun a' ha' => ?_⟩
  obtain ⟨a, ha, hp, -, hplain, hown⟩ := hins a' ha'
  refine ⟨fun hn => s2'.matched ?_ (hplain hn).2, hown⟩
  rintro pa ⟨c, hc', rfl⟩
  rw [hp]
  exact hpa a ha (hp ▸ hn) c hc'

namespace WStat

theorem commitFile_skip_inv {ctx : Ctx κ} {strat : Strat} {cur : Option (Node κ)} {sum : Digest}
    {s : Store κ} {n' : Node κ} {d : Digest} {s' : Store κ}
    (h : commitFile ctx strat true cur sum s = .ok (n', d, s')) :
    cur = some n' ∧ s' = s ∧ ((∃ c, n' = .file c ∧ d = ctx.H c) ∨
      (n' = .link (.obj sum) ∧ d = sum ∧ hasSum sum = true ∧ s.has sum = true)) := by
  rcases commitFile_cases h with ⟨c, rfl, rfl, ⟨_, rfl, rfl⟩ | ⟨hsk, _⟩⟩ |
    ⟨t, rfl, rfl, rfl, ⟨hh, hhas, rfl, rfl⟩ | ⟨hsk, _⟩⟩
  · exact ⟨rfl, rfl, .inl ⟨c, rfl, rfl⟩⟩
  · cases hsk
  · exact ⟨rfl, rfl, .inr ⟨rfl, rfl, hh, hhas⟩⟩
  · cases hsk

/-- a successful commit of `skip-cache` file artifacts changes nothing; what it found at each of them -/
theorem commitArts_skip_files_found (cfg : Cfg κ) (strat : Strat) (as : List Art) (as' : List Art) (w w' : World κ)
    (hall : ∀ b, b ∈ as → b.skip = true ∧ b.isDir = false) (h : commitArts cfg strat as w = .ok (as', w')) :
    w' = w ∧
      ∀ b, b ∈ as → ∃ nd, getPath w.ws (Path.comps b.path) = some nd ∧ ((∃ c, nd = .file c) ∨
        (nd = .link (.obj b.sum) ∧ hasSum b.sum = true ∧ w.store.has b.sum = true)) := by
  obtain ⟨rfl, -, hr⟩ := commitArts_skip_files hall h
  refine ⟨rfl, fun b hb => ?_⟩
  obtain ⟨a', -, h1⟩ := hr b hb
  obtain ⟨n, d, s, ws', hca, _, rfl, _⟩ := WT.commitArtW_inv h1
  rw [commitArt_file _ _ (hall b hb).2, (hall b hb).1] at hca
  obtain ⟨hcur, _, hcase⟩ := commitFile_skip_inv hca
  refine ⟨n, hcur, ?_⟩
  rcases hcase with ⟨c, rfl, _⟩ | ⟨rfl, _, hh, hhas⟩
  · exact .inl ⟨c, rfl⟩
  · exact .inr ⟨rfl, hh, hhas⟩

end WStat

end Dud
