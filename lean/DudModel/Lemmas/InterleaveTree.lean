import DudModel.Lemmas.InterleaveN
import DudModel.Lemmas.CrashPost
/-!
# Concurrent workers committing the entries of a directory (C03 + C13, tree level)

* `CommitTrace.owned`, `commitNodeT_disciplined`: the sequential traced commit of a tree is `Disciplined`
  for the workspace paths of its regular files and its temp range.
* `EntryWorkers t pre es rs ts`: worker i commits entry i of the directory `pre` — its trace `tsᵢ` is the
  `commitNodeT` trace of that entry with the temp numbers `[rsᵢ.1, rsᵢ.2)` (one level of concurrency: a
  sub-directory is committed sequentially by its worker).
* `ParTrace t pre nd lo hi calls`: the traces of the fully concurrent commit, as in the Go code — the
  entries of EVERY directory, at every depth, are committed by concurrent workers (`commitDirArtifact`
  starts workers, a worker that meets a sub-directory calls `commitDirArtifact` again), and the
  directory's manifest is written after all its workers have finished (`errGroup.Wait`).
  `commitNodeT_parTrace`: the sequential trace of the model is one of them.
* `parTrace_spec` / `parTraces_spec`: every such trace is `Disciplined` from every safe state in which
  the regular files of the tree are in place and no temp file exists, and ends in the expected state
  (`Post`: bytes in the cache under their digest, workspace path a link to it / the untouched file; temp
  files gone).  The recursion over the tree only combines `leafTrace_spec` (an entry that is not a
  directory) and `dirTrace_spec` (any schedule of workers that each meet the specification, by
  `interleavingN_disciplined`, then the manifest, `manifest_spec`); `Post.of_rel` carries what a worker
  leaves behind into every state that is `Rel`-ated to its solo final state.
* `ParArtTrace` / `parArtTrace_spec`: the same for one whole `LocalCache.Commit` of a directory artifact
  (`MkdirAll(cache)`, rename probe, the workers of the entries that `DisableRecursion` leaves in, the
  manifest); every `ParTrace` follows the permission discipline `ModeOK` (`parTrace_modeOK`), so no
  object is left writable.
-/
namespace Dud.Sys

open Dud

variable {κ : Type}

theorem CommitTrace.owned {t : TCfg κ} {pre : List Name} {nd nd' : Node κ} {full : Bool} {n n' : Nat}
    {calls : List (Call κ)} (h : CommitTrace t pre nd nd' full n n' calls) :
    OwnedAll (PrivOf (paths (trackedOf pre nd)) n n') calls := by
  induction h with
  | file => exact commitFileCalls_owned _ _ _ _ _ _ _
  | pass | nil => exact fun _ hc => nomatch hc
  | dir h ih =>
    exact (ih.mono fun p hp => hp.mono (fun _ h => h) (Nat.le_refl _) (Nat.le_succ _)).append
      ((copyIntoCache_owned _ _ _ _).mono fun p hp => hp.mono (by simp) h.foot.1 (Nat.le_refl _))
  | cons h1 h2 ih1 ih2 =>
    exact (ih1.mono fun p hp => hp.mono (paths_cons_left _ _ _ _) (Nat.le_refl _) h2.foot.1).append
      (ih2.mono fun p hp => hp.mono (paths_cons_right _ _ _ _) h1.foot.1 (Nat.le_refl _))

theorem commitEntriesT_owned (t : TCfg κ) : ∀ (es : List (Name × Node κ)) (pre : List Name)
    (skipDirs : Bool) (old : List Child) (s : Store κ) (n : Nat)
    (res : List (Name × Node κ) × List Child × Store κ) (calls : List (Call κ)) (n' : Nat),
    commitEntriesT t pre skipDirs es old s n = .ok (res, calls, n') →
      OwnedAll (PrivOf (paths (trackedList pre es)) n n') calls
  | es, _, _, _, _, _, _, _, _, h => (commitEntriesT_trace t es h).owned

/-- temp-number ranges `[lo, hi)` that do not overlap -/
def DisjointRanges (rs : List (Nat × Nat)) : Prop := rs.Pairwise (fun a b => a.2 ≤ b.1 ∨ b.2 ≤ a.1)

theorem disjointRanges_pair {a b : Nat × Nat} (h : a.2 ≤ b.1 ∨ b.2 ≤ a.1) : DisjointRanges [a, b] :=
  List.pairwise_pair.2 h

/-- private paths of worker i: the workspace paths of the regular files below entry i, and its temp names -/
def privsOf (pre : List Name) : List (Name × Node κ) → List (Nat × Nat) → List (P → Prop)
  | (nm, nd) :: es, (lo, hi) :: rs => PrivOf (paths (trackedOf (pre ++ [nm]) nd)) lo hi :: privsOf pre es rs
  | _, _ => []

theorem privsOf_mem (pre : List Name) : ∀ (es : List (Name × Node κ)) (rs : List (Nat × Nat)) (B : P → Prop),
    B ∈ privsOf pre es rs →
      ∃ e ∈ es, ∃ r ∈ rs, B = PrivOf (paths (trackedOf (pre ++ [e.1]) e.2)) r.1 r.2
  | [], _, _, h => nomatch h
  | _ :: _, [], _, h => nomatch h
  | (nm, nd) :: es, (lo, hi) :: rs, B, h => by
    rcases List.mem_cons.1 h with rfl | h
    · exact ⟨(nm, nd), List.mem_cons_self, (lo, hi), List.mem_cons_self, rfl⟩
    · obtain ⟨e, he, r, hr, hB⟩ := privsOf_mem pre es rs B h
      exact ⟨e, List.mem_cons_of_mem _ he, r, List.mem_cons_of_mem _ hr, hB⟩

theorem privOf_disjoint {pre : List Name} {nm1 nm2 : Name} (hne : nm1 ≠ nm2) (nd1 nd2 : Node κ)
    {lo1 hi1 lo2 hi2 : Nat} (h : hi1 ≤ lo2 ∨ hi2 ≤ lo1) :
    ∀ p, PrivOf (paths (trackedOf (pre ++ [nm1]) nd1)) lo1 hi1 p →
      ¬ PrivOf (paths (trackedOf (pre ++ [nm2]) nd2)) lo2 hi2 p := by
  refine PrivOf.disjoint (fun p hq hq' => ?_) h
  simp only [paths, List.mem_map] at hq hq'
  obtain ⟨p1, hp1, e1⟩ := hq
  obtain ⟨p2, hp2, e2⟩ := hq'
  obtain ⟨names1, hn1, -⟩ := trackedOf_names nd1 _ p1 hp1
  obtain ⟨names2, hn2, -⟩ := trackedOf_names nd2 _ p2 hp2
  rw [hn1] at e1; rw [hn2] at e2
  exact sibling_paths_ne hne (e1.trans e2.symm)

theorem privsOf_disjoint (pre : List Name) : ∀ {es : List (Name × Node κ)} {rs : List (Nat × Nat)},
    uniqList es → DisjointRanges rs → DisjointAll (privsOf pre es rs)
  | [], _, _, _ => .nil
  | _ :: _, [], _, _ => .nil
  | (nm, nd) :: es, (lo, hi) :: rs, hu, hr => by
    obtain ⟨-, hne, hur⟩ := hu
    obtain ⟨hr1, hr2⟩ := List.pairwise_cons.1 hr
    refine List.pairwise_cons.2 ⟨fun B hB => ?_, privsOf_disjoint pre hur hr2⟩
    obtain ⟨e, he, r, hrr, rfl⟩ := privsOf_mem pre es rs B hB
    exact privOf_disjoint (Ne.symm (hne e he)) nd e.2 (hr1 r hrr)

theorem paths_trackedList_of_mem (pre : List Name) {es : List (Name × Node κ)} {e : Name × Node κ}
    (he : e ∈ es) : ∀ p ∈ paths (trackedOf (pre ++ [e.1]) e.2), p ∈ paths (trackedList pre es) := by
  induction es with
  | nil => cases he
  | cons e' es ih =>
    intro p hp
    rcases List.mem_cons.1 he with rfl | he
    · exact paths_cons_left pre _ _ es p hp
    · exact paths_cons_right pre e'.1 e'.2 es p (ih he p hp)

theorem privsOf_sub (pre : List Name) {es : List (Name × Node κ)} {rs : List (Nat × Nat)} {lo hi : Nat}
    (hrng : ∀ r ∈ rs, lo ≤ r.1 ∧ r.2 ≤ hi) {p : P} (h : UnionOf (privsOf pre es rs) p) :
    PrivOf (paths (trackedList pre es)) lo hi p := by
  obtain ⟨B, hB, hp⟩ := h
  obtain ⟨e, he, r, hr, rfl⟩ := privsOf_mem pre es rs B hB
  exact hp.mono (paths_trackedList_of_mem pre he) (hrng r hr).1 (hrng r hr).2

theorem privOf_tracked {pre : List Name} {nd : Node κ} {p : P × κ} (hp : p ∈ trackedOf pre nd)
    (lo hi : Nat) : PrivOf (paths (trackedOf pre nd)) lo hi p.1 := by
  obtain ⟨q, hq⟩ := trackedOf_ws pre nd p hp
  exact Or.inl ⟨q, hq, List.mem_map_of_mem (f := (·.1)) hp⟩

theorem commitFileCalls_ws_link (emp : κ) (isEmp : κ → Bool) (canRename : Bool) (q : List Name) (n : Nat)
    (c : κ) (d : Digest) (fs : FS κ) :
    (replay emp fs (commitFileCalls isEmp .link canRename (.ws q) n c d)).get (.ws q)
      = some (.link (.obj d)) := by
  cases canRename <;> simp [commitFileCalls, replay, get_apply]
  cases fs.get (.ws q) <;> simp

theorem commitFileCalls_ws_copy (emp : κ) (isEmp : κ → Bool) (canRename : Bool) (q : List Name) (n : Nat)
    (c : κ) (d : Digest) (fs : FS κ) :
    (replay emp fs (commitFileCalls isEmp .copy canRename (.ws q) n c d)).get (.ws q) = fs.get (.ws q) := by
  cases canRename <;>
    exact replay_get_frame emp _ _ fs (not_written_by_copyIntoCache isEmp n c d q)

/-- what the commit of the regular files `tr` leaves behind (`fs`: before, `fs'`: after): the bytes of
every file are in the cache under their digest; under the link strategy the workspace path is a link to
that object, under the copy strategy it is untouched -/
structure Post (t : TCfg κ) (fs fs' : FS κ) (tr : List (P × κ)) : Prop where
  stored : ∀ p ∈ tr, ∃ m, fs'.get (.obj (t.ctx.H p.2)) = some (.file p.2 m)
  wsLink : t.strat = .link → ∀ p ∈ tr, fs'.get p.1 = some (.link (.obj (t.ctx.H p.2)))
  wsCopy : t.strat = .copy → ∀ p ∈ tr, fs'.get p.1 = fs.get p.1

theorem Post.nil (t : TCfg κ) (fs fs' : FS κ) : Post t fs fs' [] :=
  ⟨fun _ h => by simp at h, fun _ _ h => by simp at h, fun _ _ h => by simp at h⟩

theorem Post.append {t : TCfg κ} {fs fs' : FS κ} {tr1 tr2 : List (P × κ)} (h1 : Post t fs fs' tr1)
    (h2 : Post t fs fs' tr2) : Post t fs fs' (tr1 ++ tr2) :=
  ⟨fun p hp => (List.mem_append.1 hp).elim (h1.stored p) (h2.stored p),
   fun hl p hp => (List.mem_append.1 hp).elim (h1.wsLink hl p) (h2.wsLink hl p),
   fun hl p hp => (List.mem_append.1 hp).elim (h1.wsCopy hl p) (h2.wsCopy hl p)⟩

/-- what a worker leaves behind is found in every state that agrees with its solo final state `s` on
its private paths and holds the objects of `s` -/
theorem Post.of_rel {t : TCfg κ} {fs s f : FS κ} {tr : List (P × κ)} {A : P → Prop} (h : Post t fs s tr)
    (hr : Rel A s f) (hA : ∀ p ∈ tr, A p.1) : Post t fs f tr :=
  ⟨fun p hp => let ⟨_, hm⟩ := h.stored p hp; hr.objs _ _ _ hm,
   fun hl p hp => (hr.priv _ (hA p hp)).trans (h.wsLink hl p hp),
   fun hl p hp => (hr.priv _ (hA p hp)).trans (h.wsCopy hl p hp)⟩

theorem Post.of_start {t : TCfg κ} {fs fs0 f : FS κ} {tr : List (P × κ)} (h : Post t fs f tr)
    (he : ∀ p ∈ tr, fs.get p.1 = fs0.get p.1) : Post t fs0 f tr :=
  ⟨h.stored, h.wsLink, fun hl p hp => (h.wsCopy hl p hp).trans (he p hp)⟩

/-- storing a manifest once the workers have finished (state `f`, no temp file): the calls are allowed,
what the workers left at the workspace paths and in the cache stays, and no temp file is left -/
theorem manifest_spec {t : TCfg κ} (g : Good t.ctx) {tracked : List (P × κ)} (htw : TrackedWs tracked)
    {emp : κ} (hemp : ∀ c, t.isEmp c = true → c = emp) {fs f : FS κ} {tr : List (P × κ)}
    (hs : Safe t.ctx tracked f) (hpost : Post t fs f tr) (hws : TrackedWs tr)
    (hct : ∀ k, f.get (.ctmp k) = none) (n : Nat) (mb : κ) :
    AllowedTrace t.ctx emp tracked f (copyIntoCache t.isEmp n mb (t.ctx.H mb)) ∧
      Post t fs (replay emp f (copyIntoCache t.isEmp n mb (t.ctx.H mb))) tr ∧
      ∀ k, (replay emp f (copyIntoCache t.isEmp n mb (t.ctx.H mb))).get (.ctmp k) = none := by
  have hspec := copyIntoCache_spec (ctx := t.ctx) (tracked := tracked) htw hemp (hct n) mb
  have hwsf : ∀ p ∈ tr, (replay emp f (copyIntoCache t.isEmp n mb (t.ctx.H mb))).get p.1 = f.get p.1 := by
    intro p hp
    obtain ⟨q, hq⟩ := hws p hp
    rw [hq]
    exact replay_get_frame emp _ _ _ (not_written_by_copyIntoCache _ _ _ _ q)
  refine ⟨hspec.1, ⟨fun p hp => ?_, fun hl p hp => ?_, fun hl p hp => ?_⟩,
    fun k => copyIntoCache_ctmp_free emp _ _ _ _ (lo := 0) (fun k _ => hct k) k (Nat.zero_le _)⟩
  · obtain ⟨m, hm⟩ := hpost.stored p hp
    exact objLe_replay g emp hs hspec.1 _ _ _ hm
  · rw [hwsf p hp]; exact hpost.wsLink hl p hp
  · rw [hwsf p hp]; exact hpost.wsCopy hl p hp

theorem Merged.noTemp {emp : κ} {fs f : FS κ} {ts : List (List (Call κ))}
    (m : Merged fs (ts.map (replay emp fs)) f) (hfr : ∀ k, fs.get (.ctmp k) = none)
    (hct : ∀ x ∈ ts, ∀ k, (replay emp fs x).get (.ctmp k) = none) (k : Nat) : f.get (.ctmp k) = none := by
  refine ((m.nonObj (.ctmp k) rfl).2 fun s hs => ?_).trans (hfr k)
  obtain ⟨x, hx, rfl⟩ := List.mem_map.1 hs
  rw [hct x hx k, hfr k]

/-- the trace of an entry that is not a directory: the `commitNodeT` trace (a regular file: one of the
three variants of `commitFileArtifact`; a link: no call; a special file is not committed, so it has no
trace) with a temp number in `[lo, hi)` -/
def LeafTrace (t : TCfg κ) (pre : List Name) (nd : Node κ) (lo hi : Nat) (calls : List (Call κ)) : Prop :=
  ∃ (c : Child) (s : Store κ) (n : Nat) (r : Node κ × Child × Store κ) (k : Nat),
    lo ≤ n ∧ k ≤ hi ∧ commitNodeT t pre nd c s n = .ok (r, calls, k)

mutual
/-- **The traces of the concurrent commit of the tree at `pre`**, temp numbers in `[lo, hi)`.
A directory: its entries are committed by workers whose own traces are again concurrent commits, with
pairwise disjoint temp ranges; the calls of the workers interleave in any way (`InterleavingN`); after
the last worker has finished, the manifest (any bytes `mb`) is stored with `copyIntoCache`. -/
def ParTrace (t : TCfg κ) : List Name → Node κ → Nat → Nat → List (Call κ) → Prop
  | pre, .dir es, lo, hi, calls =>
    ∃ (rs : List (Nat × Nat)) (ts : List (List (Call κ))) (l : List (Call κ)) (n : Nat) (mb : κ),
      ParTraces t pre es rs ts ∧ DisjointRanges rs ∧ (∀ r ∈ rs, lo ≤ r.1 ∧ r.2 ≤ hi) ∧
      lo ≤ n ∧ n < hi ∧ InterleavingN ts l ∧
      calls = l ++ copyIntoCache t.isEmp n mb (t.ctx.H mb)
  | pre, .file x, lo, hi, calls => LeafTrace t pre (.file x) lo hi calls
  | pre, .link l, lo, hi, calls => LeafTrace t pre (.link l) lo hi calls
  | pre, .other, lo, hi, calls => LeafTrace t pre .other lo hi calls
/-- one worker per entry: worker i has the temp range `rsᵢ` and issues the trace `tsᵢ` -/
def ParTraces (t : TCfg κ) : List Name → List (Name × Node κ) → List (Nat × Nat) →
    List (List (Call κ)) → Prop
  | _, [], rs, ts => rs = [] ∧ ts = []
  | pre, (nm, nd) :: es, rs, ts =>
    ∃ (lo hi : Nat) (calls : List (Call κ)) (rs' : List (Nat × Nat)) (ts' : List (List (Call κ))),
      rs = (lo, hi) :: rs' ∧ ts = calls :: ts' ∧ ParTrace t (pre ++ [nm]) nd lo hi calls ∧
      ParTraces t pre es rs' ts'
end

theorem parTrace_leaf {t : TCfg κ} {pre : List Name} {nd : Node κ} (hnd : nd.isDir = false) {lo hi : Nat}
    {calls : List (Call κ)} : ParTrace t pre nd lo hi calls ↔ LeafTrace t pre nd lo hi calls := by
  cases nd with
  | dir es => cases hnd
  | _ => exact Iff.rfl

theorem parTrace_dir {t : TCfg κ} {pre : List Name} {es : List (Name × Node κ)} {lo hi : Nat}
    {calls : List (Call κ)} : ParTrace t pre (.dir es) lo hi calls ↔
      ∃ (rs : List (Nat × Nat)) (ts : List (List (Call κ))) (l : List (Call κ)) (n : Nat) (mb : κ),
        ParTraces t pre es rs ts ∧ DisjointRanges rs ∧ (∀ r ∈ rs, lo ≤ r.1 ∧ r.2 ≤ hi) ∧
        lo ≤ n ∧ n < hi ∧ InterleavingN ts l ∧
        calls = l ++ copyIntoCache t.isEmp n mb (t.ctx.H mb) := Iff.rfl

theorem parTraces_nil {t : TCfg κ} {pre : List Name} {rs : List (Nat × Nat)} {ts : List (List (Call κ))} :
    ParTraces t pre [] rs ts ↔ rs = [] ∧ ts = [] := Iff.rfl

theorem parTraces_cons {t : TCfg κ} {pre : List Name} {nm : Name} {nd : Node κ}
    {es : List (Name × Node κ)} {rs : List (Nat × Nat)} {ts : List (List (Call κ))} :
    ParTraces t pre ((nm, nd) :: es) rs ts ↔
      ∃ (lo hi : Nat) (calls : List (Call κ)) (rs' : List (Nat × Nat)) (ts' : List (List (Call κ))),
        rs = (lo, hi) :: rs' ∧ ts = calls :: ts' ∧ ParTrace t (pre ++ [nm]) nd lo hi calls ∧
        ParTraces t pre es rs' ts' := Iff.rfl

theorem ParTraces.nil {t : TCfg κ} {pre : List Name} : ParTraces t pre [] [] [] := ⟨rfl, rfl⟩

theorem ParTraces.cons {t : TCfg κ} {pre : List Name} {nm : Name} {nd : Node κ} {es : List (Name × Node κ)}
    {lo hi : Nat} {calls : List (Call κ)} {rs : List (Nat × Nat)} {ts : List (List (Call κ))}
    (h : ParTrace t (pre ++ [nm]) nd lo hi calls) (hs : ParTraces t pre es rs ts) :
    ParTraces t pre ((nm, nd) :: es) ((lo, hi) :: rs) (calls :: ts) :=
  ⟨lo, hi, calls, rs, ts, rfl, rfl, h, hs⟩

/-- **One level of concurrency**: worker i commits entry i of the directory `pre`; its trace is the
(sequential) `commitNodeT` trace of that entry, computed from any child artifact `c` and any store `s`
(in particular: all workers from the same initial store), with the temp numbers `[lo, hi)`. -/
inductive EntryWorkers (t : TCfg κ) (pre : List Name) :
    List (Name × Node κ) → List (Nat × Nat) → List (List (Call κ)) → Prop
  | nil : EntryWorkers t pre [] [] []
  | cons {nm : Name} {nd : Node κ} {c : Child} {s : Store κ} {lo hi : Nat}
      {r : Node κ × Child × Store κ} {calls : List (Call κ)} {es : List (Name × Node κ)}
      {rs : List (Nat × Nat)} {ts : List (List (Call κ))} :
      commitNodeT t (pre ++ [nm]) nd c s lo = .ok (r, calls, hi) → EntryWorkers t pre es rs ts →
      EntryWorkers t pre ((nm, nd) :: es) ((lo, hi) :: rs) (calls :: ts)

/-- the entries the workers are started for: with `DisableRecursion` the sub-directories are left out -/
def skipFilter (skipDirs : Bool) (es : List (Name × Node κ)) : List (Name × Node κ) :=
  if skipDirs then es.filter (fun e => !e.2.isDir) else es

theorem skipFilter_nil (skipDirs : Bool) : skipFilter skipDirs ([] : List (Name × Node κ)) = [] := by
  cases skipDirs <;> rfl

theorem skipFilter_cons (skipDirs : Bool) (nm : Name) (nd : Node κ) (es : List (Name × Node κ)) :
    skipFilter skipDirs ((nm, nd) :: es) =
      if skipDirs && nd.isDir then skipFilter skipDirs es else (nm, nd) :: skipFilter skipDirs es := by
  cases skipDirs
  · simp [skipFilter]
  · cases h : nd.isDir <;> simp [skipFilter, h]

/-- the sequential loop of the model (`commitEntriesT`) is the schedule in which the workers of the
entries that are not skipped run one after the other, with consecutive temp ranges: its trace is the
concatenation of the workers' traces -/
theorem commitEntriesT_entryWorkers (t : TCfg κ) (skipDirs : Bool) (es : List (Name × Node κ))
    (pre : List Name) (old : List Child) (s : Store κ) (n : Nat)
    (res : List (Name × Node κ) × List Child × Store κ) (calls : List (Call κ)) (n' : Nat)
    (h : commitEntriesT t pre skipDirs es old s n = .ok (res, calls, n')) :
    ∃ rs ts, EntryWorkers t pre (skipFilter skipDirs es) rs ts ∧ calls = ts.flatten ∧ n ≤ n' ∧
      (∀ r ∈ rs, n ≤ r.1 ∧ r.2 ≤ n') ∧ DisjointRanges rs := by
  induction es generalizing s n res calls with
  | nil =>
    obtain ⟨-, rfl, rfl⟩ := commitEntriesT_nil_ok h
    exact ⟨[], [], by rw [skipFilter_nil]; exact .nil, rfl, Nat.le_refl _, fun _ hr => (List.not_mem_nil hr).elim, List.Pairwise.nil⟩
  | cons e r ih =>
    obtain ⟨nm, nd⟩ := e
    rw [skipFilter_cons]
    rcases commitEntriesT_cons_inv h with ⟨hc, res', h', -⟩ |
      ⟨hc, c0, nd', c', s1, calls1, n1, res2, calls2, h1, h2, rfl, -⟩
    · rw [if_pos hc]
      exact ih s n res' calls h'
    · rw [if_neg hc]
      have hle1 := (commitNodeT_trace t nd h1).foot.1
      obtain ⟨rs, ts, hw, rfl, hle2, hrng, hdr⟩ := ih s1 n1 res2 calls2 h2
      refine ⟨(n, n1) :: rs, calls1 :: ts, .cons h1 hw, List.flatten_cons.symm, by omega, ?_,
        List.pairwise_cons.2 ⟨fun r' hr' => Or.inl (hrng r' hr').1, hdr⟩⟩
      intro r' hr'
      rcases List.mem_cons.1 hr' with rfl | hr'
      · exact ⟨Nat.le_refl _, hle2⟩
      · exact ⟨by have := (hrng r' hr').1; omega, (hrng r' hr').2⟩

mutual
/-- **The sequential trace is one of the concurrent traces** (the schedule in which every worker runs
to completion before the next one starts). -/
theorem commitNodeT_parTrace (t : TCfg κ) : ∀ (nd : Node κ) (pre : List Name) (c : Child) (s : Store κ)
    (n : Nat) (res : Node κ × Child × Store κ) (calls : List (Call κ)) (n' : Nat),
    commitNodeT t pre nd c s n = .ok (res, calls, n') → ParTrace t pre nd n n' calls
  | .file _ => fun _ c s n res _ n' h => ⟨c, s, n, res, n', Nat.le_refl _, Nat.le_refl _, h⟩
  | .link _ => fun _ c s n res _ n' h => ⟨c, s, n, res, n', Nat.le_refl _, Nat.le_refl _, h⟩
  | .other => fun _ c s n res _ n' h => ⟨c, s, n, res, n', Nat.le_refl _, Nat.le_refl _, h⟩
  | .dir es => fun pre c s n res calls n' h => by
    obtain ⟨old, res1, calls1, n1, mb, hT, rfl, rfl, -⟩ := commitNodeT_dir_inv h
    obtain ⟨rs, ts, hw, rfl, hle, hrng, hdr⟩ := commitEntriesT_entryWorkers t false es pre old s n res1 _ n1 hT
    exact ⟨rs, ts, ts.flatten, n1, mb, entryWorkers_parTraces t es pre rs ts hw, hdr,
      fun r hr => ⟨(hrng r hr).1, Nat.le_succ_of_le (hrng r hr).2⟩, hle, Nat.lt_succ_self _,
      InterleavingN.flatten ts, rfl⟩
/-- one level of concurrency is a special case: each worker's sequential trace is a concurrent trace -/
theorem entryWorkers_parTraces (t : TCfg κ) : ∀ (es : List (Name × Node κ)) (pre : List Name)
    (rs : List (Nat × Nat)) (ts : List (List (Call κ))),
    EntryWorkers t pre es rs ts → ParTraces t pre es rs ts
  | [] => fun _ _ _ h => by cases h; exact .nil
  | (nm, nd) :: es => fun pre _ _ h => by
    cases h with
    | cons h1 h2 =>
      exact .cons (commitNodeT_parTrace t nd _ _ _ _ _ _ _ h1) (entryWorkers_parTraces t es pre _ _ h2)
end

theorem EntryWorkers.parTraces {t : TCfg κ} {pre : List Name} {es : List (Name × Node κ)}
    {rs : List (Nat × Nat)} {ts : List (List (Call κ))} (h : EntryWorkers t pre es rs ts) :
    ParTraces t pre es rs ts := entryWorkers_parTraces t es pre rs ts h

theorem commitEntriesT_parTraces (t : TCfg κ) : ∀ (es : List (Name × Node κ)) (pre : List Name)
    (old : List Child) (s : Store κ) (n : Nat) (res : List (Name × Node κ) × List Child × Store κ)
    (calls : List (Call κ)) (n' : Nat),
    commitEntriesT t pre false es old s n = .ok (res, calls, n') →
      ∃ rs ts, ParTraces t pre es rs ts ∧ calls = ts.flatten ∧ n ≤ n' ∧
        (∀ r ∈ rs, n ≤ r.1 ∧ r.2 ≤ n') ∧ DisjointRanges rs := by
  intro es pre old s n res calls n' h
  obtain ⟨rs, ts, hw, hrest⟩ := commitEntriesT_entryWorkers t false es pre old s n res calls n' h
  exact ⟨rs, ts, EntryWorkers.parTraces hw, hrest⟩

theorem privsOf_ws (pre : List Name) {es : List (Name × Node κ)} {rs : List (Nat × Nat)} {q : List Name}
    (h : UnionOf (privsOf pre es rs) (.ws q)) : P.ws q ∈ paths (trackedList pre es) := by
  obtain ⟨B, hB, hp⟩ := h
  obtain ⟨e, he, r, -, rfl⟩ := privsOf_mem pre es rs B hB
  rcases hp with ⟨q', -, hmem⟩ | ⟨k, heq, -⟩
  · exact paths_trackedList_of_mem pre he _ hmem
  · cases heq

/-- an entry that is not a directory: a regular file (all three variants of `commitFileArtifact`), or
a link (no call); by `commitNodeT_leaf_calls` there is no other case -/
theorem leafTrace_spec {t : TCfg κ} (g : Good t.ctx) {tracked : List (P × κ)}
    (htw : TrackedWs tracked) {emp : κ} (hemp : ∀ c, t.isEmp c = true → c = emp)
    {pre : List Name} {nd : Node κ} (hnd : nd.isDir = false) {lo hi : Nat} {calls : List (Call κ)}
    (h : LeafTrace t pre nd lo hi calls) {fs : FS κ} (hs : Safe t.ctx tracked fs)
    (hin : ∀ p ∈ trackedOf pre nd, ∃ m, fs.get p.1 = some (.file p.2 m))
    (hfr : ∀ k, fs.get (.ctmp k) = none) :
    Disciplined t.ctx emp tracked fs (PrivOf (paths (trackedOf pre nd)) lo hi) calls ∧
      Post t fs (replay emp fs calls) (trackedOf pre nd) ∧
      ∀ k, (replay emp fs calls).get (.ctmp k) = none := by
  obtain ⟨c, s, n, r, k, hlo, hhi, hT⟩ := h
  rcases commitNodeT_leaf_calls hnd hT with ⟨x, rfl, rfl, rfl⟩ | ⟨l, rfl, rfl, -⟩
  · have hone : ∀ p ∈ trackedOf pre (.file x), p = (.ws pre, x) := fun p hp => List.mem_singleton.1 hp
    obtain ⟨m, hm⟩ := hin (.ws pre, x) (List.mem_singleton.2 rfl)
    have hspec := commitFileCalls_spec g htw hemp hs hm (hfr n) t.strat t.canRename
    refine ⟨⟨privOf_priv _ _ _, hspec.1, ?_⟩, ⟨?_, ?_, ?_⟩, ?_⟩
    · have := commitFileCalls_owned t.isEmp t.strat t.canRename pre n x (t.ctx.H x)
      exact this.mono (fun p hp => hp.mono (fun _ h => h) hlo hhi)
    · intro p hp
      rw [hone p hp]
      exact ⟨_, hspec.2⟩
    · intro hl p hp
      rw [hone p hp, hl]
      exact commitFileCalls_ws_link emp _ _ _ _ _ _ _
    · intro hl p hp
      rw [hone p hp, hl]
      exact commitFileCalls_ws_copy emp _ _ _ _ _ _ _
    · intro k
      exact commitFileCalls_ctmp_free emp _ _ _ _ _ _ _ (lo := 0) (fun k _ => hfr k) k (Nat.zero_le _)
  · exact ⟨Disciplined.nil (privOf_priv _ _ _), Post.nil _ _ _, hfr⟩

/-- a directory: any schedule `l` of workers that meet the conclusion of `parTraces_spec`, then the manifest -/
theorem dirTrace_spec {t : TCfg κ} (g : Good t.ctx) {tracked : List (P × κ)}
    (htw : TrackedWs tracked) {emp : κ} (hemp : ∀ c, t.isEmp c = true → c = emp)
    {pre : List Name} {es : List (Name × Node κ)} {rs : List (Nat × Nat)} {ts : List (List (Call κ))}
    {l : List (Call κ)} {lo hi n : Nat} (hu : uniqList es) (hdr : DisjointRanges rs)
    (hrng : ∀ r ∈ rs, lo ≤ r.1 ∧ r.2 ≤ hi) (hlo : lo ≤ n) (hhi : n < hi) (hil : InterleavingN ts l)
    {fs : FS κ} (hs : Safe t.ctx tracked fs) (hfr : ∀ k, fs.get (.ctmp k) = none)
    (hF : Forall2 (Disciplined t.ctx emp tracked fs) (privsOf pre es rs) ts)
    (hct : ∀ tr ∈ ts, ∀ k, (replay emp fs tr).get (.ctmp k) = none)
    (hpost : ∀ f : FS κ, Forall2 (fun A tr => Rel A (replay emp fs tr) f) (privsOf pre es rs) ts →
      Post t fs f (trackedList pre es)) (mb : κ) :
    Disciplined t.ctx emp tracked fs (PrivOf (paths (trackedList pre es)) lo hi)
        (l ++ copyIntoCache t.isEmp n mb (t.ctx.H mb)) ∧
      Post t fs (replay emp fs (l ++ copyIntoCache t.isEmp n mb (t.ctx.H mb))) (trackedList pre es) ∧
      ∀ k, (replay emp fs (l ++ copyIntoCache t.isEmp n mb (t.ctx.H mb))).get (.ctmp k) = none := by
  obtain ⟨dl, rel, mrg⟩ := interleavingN_disciplined g emp hs hF (privsOf_disjoint pre hu hdr) hil
  obtain ⟨ha, hp, hc⟩ := manifest_spec g htw hemp (dl.safe_final g hs) (hpost _ rel)
    (fun p hp => trackedList_is_ws hp) (mrg.noTemp hfr hct) n mb
  rw [replay_append]
  exact ⟨⟨privOf_priv _ _ _, AllowedTrace.append dl.allowed ha,
    OwnedAll.append (dl.owned.mono (fun p hp => privsOf_sub pre hrng hp))
      ((copyIntoCache_owned t.isEmp n mb _).mono (fun p hp => hp.mono (by simp) hlo (by omega)))⟩, hp, hc⟩

mutual
/-- **Every trace of the concurrent commit** of a tree with duplicate-free entry names, from any safe
state in which the regular files of the tree are in place and no temp file exists:
it is `Disciplined` for the workspace paths of the tree's regular files and its temp range (so it is an
`AllowedTrace`: safe after every prefix), it ends in the expected state (`Post`), and all temp files
are gone. -/
theorem parTrace_spec {t : TCfg κ} (g : Good t.ctx) {tracked : List (P × κ)}
    (htw : TrackedWs tracked) {emp : κ} (hemp : ∀ c, t.isEmp c = true → c = emp) :
    ∀ (nd : Node κ) (pre : List Name) (lo hi : Nat) (calls : List (Call κ)),
      uniqNode nd → ParTrace t pre nd lo hi calls →
      ∀ fs : FS κ, Safe t.ctx tracked fs →
        (∀ p ∈ trackedOf pre nd, ∃ m, fs.get p.1 = some (.file p.2 m)) →
        (∀ k, fs.get (.ctmp k) = none) →
        Disciplined t.ctx emp tracked fs (PrivOf (paths (trackedOf pre nd)) lo hi) calls ∧
          Post t fs (replay emp fs calls) (trackedOf pre nd) ∧
          ∀ k, (replay emp fs calls).get (.ctmp k) = none
  | .file _ => fun _ _ _ _ _ h _ hs hin hfr => leafTrace_spec g htw hemp rfl h hs hin hfr
  | .link _ => fun _ _ _ _ _ h _ hs hin hfr => leafTrace_spec g htw hemp rfl h hs hin hfr
  | .other => fun _ _ _ _ _ h _ hs hin hfr => leafTrace_spec g htw hemp rfl h hs hin hfr
  | .dir es => fun pre lo hi _ hu h fs hs hin hfr => by
    obtain ⟨rs, ts, l, n, mb, hpt, hdr, hrng, hlo, hhi, hil, rfl⟩ := h
    obtain ⟨hF, hct, hpost⟩ := parTraces_spec g htw hemp es pre rs ts hu hpt fs hs hin hfr
    exact dirTrace_spec g htw hemp hu hdr hrng hlo hhi hil hs hfr hF hct hpost mb
/-- the workers of one directory: each is disciplined when run alone from `fs`, leaves no temp file,
and whatever state `f` agrees with each worker's solo final state on that worker's private paths and
has the objects of each solo run (`Rel`) is the expected final state of all entries -/
theorem parTraces_spec {t : TCfg κ} (g : Good t.ctx) {tracked : List (P × κ)}
    (htw : TrackedWs tracked) {emp : κ} (hemp : ∀ c, t.isEmp c = true → c = emp) :
    ∀ (es : List (Name × Node κ)) (pre : List Name) (rs : List (Nat × Nat))
      (ts : List (List (Call κ))),
      uniqList es → ParTraces t pre es rs ts →
      ∀ fs : FS κ, Safe t.ctx tracked fs →
        (∀ p ∈ trackedList pre es, ∃ m, fs.get p.1 = some (.file p.2 m)) →
        (∀ k, fs.get (.ctmp k) = none) →
        Forall2 (Disciplined t.ctx emp tracked fs) (privsOf pre es rs) ts ∧
          (∀ tr ∈ ts, ∀ k, (replay emp fs tr).get (.ctmp k) = none) ∧
          (∀ f : FS κ, Forall2 (fun A tr => Rel A (replay emp fs tr) f) (privsOf pre es rs) ts →
            Post t fs f (trackedList pre es))
  | [] => fun _ _ _ _ h _ _ _ _ => by
    obtain ⟨rfl, rfl⟩ := h
    exact ⟨.nil, fun _ h => (List.not_mem_nil h).elim, fun _ _ => Post.nil _ _ _⟩
  | (nm, nd) :: es => fun pre _ _ hu h fs hs hin hfr => by
    obtain ⟨lo, hi, calls, rs', ts', rfl, rfl, h1, h2⟩ := h
    obtain ⟨hun, -, hur⟩ := hu
    obtain ⟨d1, p1, c1⟩ := parTrace_spec g htw hemp nd (pre ++ [nm]) lo hi calls hun h1 fs hs
      (fun p hp => hin p (List.mem_append_left _ hp)) hfr
    obtain ⟨hF, hct, hpost⟩ := parTraces_spec g htw hemp es pre rs' ts' hur h2 fs hs
      (fun p hp => hin p (List.mem_append_right _ hp)) hfr
    refine ⟨.cons d1 hF, List.forall_mem_cons.2 ⟨c1, hct⟩, fun f hrel => ?_⟩
    cases hrel with
    | cons hr1 hrest => exact (p1.of_rel hr1 (fun p hp => privOf_tracked hp lo hi)).append (hpost f hrest)
end

theorem copyIntoCache_modeOK (isEmp : κ → Bool) (n : Nat) (c : κ) (d : Digest) :
    ModeOK (copyIntoCache isEmp n c d) := by
  unfold copyIntoCache
  cases isEmp c
  · exact .cons_plain trivial (.cons_plain trivial (.cons_plain trivial (.cons_put _ _ _ trivial)))
  · exact .cons_plain trivial (.cons_put _ _ _ trivial)

theorem commitFileCalls_modeOK (isEmp : κ → Bool) (strat : Strat) (canRename : Bool) (w : P) (n : Nat)
    (c : κ) (d : Digest) : ModeOK (commitFileCalls isEmp strat canRename w n c d) := by
  cases strat <;> cases canRename <;> simp only [commitFileCalls]
  · exact ModeOK.append (copyIntoCache_modeOK isEmp n c d)
      (.cons_plain trivial (.cons_plain trivial trivial))
  · exact .cons_put _ _ _ (.cons_plain trivial trivial)
  · exact copyIntoCache_modeOK isEmp n c d
  · exact copyIntoCache_modeOK isEmp n c d

theorem leafTrace_modeOK {t : TCfg κ} {pre : List Name} {nd : Node κ} (hnd : nd.isDir = false)
    {lo hi : Nat} {calls : List (Call κ)} (h : LeafTrace t pre nd lo hi calls) : ModeOK calls := by
  obtain ⟨c, s, n, r, k, -, -, hT⟩ := h
  rcases commitNodeT_leaf_calls hnd hT with ⟨x, -, rfl, -⟩ | ⟨l, -, rfl, -⟩
  · exact commitFileCalls_modeOK _ _ _ _ _ _ _
  · trivial

mutual
/-- every trace of the concurrent commit follows the permission discipline -/
theorem parTrace_modeOK (t : TCfg κ) : ∀ (nd : Node κ) (pre : List Name) (lo hi : Nat)
    (calls : List (Call κ)), ParTrace t pre nd lo hi calls → ModeOK calls
  | .file _ => fun _ _ _ _ h => leafTrace_modeOK rfl h
  | .link _ => fun _ _ _ _ h => leafTrace_modeOK rfl h
  | .other => fun _ _ _ _ h => leafTrace_modeOK rfl h
  | .dir es => fun pre _ _ _ h => by
    obtain ⟨rs, ts, l, n, mb, hpt, -, -, -, -, hil, rfl⟩ := h
    exact ModeOK.append (ModeOK.interleavingN hil (parTraces_modeOK t es pre rs ts hpt))
      (copyIntoCache_modeOK _ _ _ _)
theorem parTraces_modeOK (t : TCfg κ) : ∀ (es : List (Name × Node κ)) (pre : List Name)
    (rs : List (Nat × Nat)) (ts : List (List (Call κ))), ParTraces t pre es rs ts → ∀ tr ∈ ts, ModeOK tr
  | [] => fun _ _ _ h => by
    obtain ⟨-, rfl⟩ := h
    exact fun _ h => (List.not_mem_nil h).elim
  | (nm, nd) :: es => fun pre _ _ h => by
    obtain ⟨lo, hi, calls, rs', ts', rfl, rfl, h1, h2⟩ := h
    exact List.forall_mem_cons.2 ⟨parTrace_modeOK t nd (pre ++ [nm]) lo hi _ h1,
      parTraces_modeOK t es pre rs' ts' h2⟩
end

/-- **n workers committing the entries of one directory** (each worker's own trace any concurrent
trace of its entry), from any safe state in which the regular files are in place and no temp file
exists; `l` ANY schedule of the workers.  The schedule is disciplined; the final state is the merge of
the solo final states, is the expected one (`Post`), and holds no temp file. -/
theorem parTraces_interleavingN {t : TCfg κ} (g : Good t.ctx) {tracked : List (P × κ)}
    (htw : TrackedWs tracked) {emp : κ} (hemp : ∀ c, t.isEmp c = true → c = emp)
    {es : List (Name × Node κ)} {pre : List Name} {rs : List (Nat × Nat)} {ts : List (List (Call κ))}
    (hu : uniqList es) (hpt : ParTraces t pre es rs ts) (hdr : DisjointRanges rs)
    {fs : FS κ} (hs : Safe t.ctx tracked fs)
    (hin : ∀ p ∈ trackedList pre es, ∃ m, fs.get p.1 = some (.file p.2 m))
    (hfr : ∀ k, fs.get (.ctmp k) = none) {l : List (Call κ)} (hil : InterleavingN ts l) :
    Disciplined t.ctx emp tracked fs (UnionOf (privsOf pre es rs)) l ∧
      Merged fs (ts.map (replay emp fs)) (replay emp fs l) ∧
      (∀ tr ∈ ts, Safe t.ctx tracked (replay emp fs tr)) ∧
      Post t fs (replay emp fs l) (trackedList pre es) ∧
      ∀ k, (replay emp fs l).get (.ctmp k) = none := by
  obtain ⟨hF, hct, hpost⟩ := parTraces_spec g htw hemp es pre rs ts hu hpt fs hs hin hfr
  obtain ⟨dl, rel, mrg⟩ := interleavingN_disciplined g emp hs hF (privsOf_disjoint pre hu hdr) hil
  refine ⟨dl, mrg, ?_, hpost _ rel, ?_⟩
  · intro tr htr
    obtain ⟨A, -, hd⟩ := (all2_iff_forall2.2 hF).mem_right tr htr
    exact hd.safe_final g hs
  · exact mrg.noTemp hfr hct

/-- a workspace path outside `A` is left alone by a trace whose calls are owned for `A`
(`OwnedAll.replay_frame` at a workspace path) -/
theorem parTraces_frame_ws {A : P → Prop} {l : List (Call κ)} (ho : OwnedAll A l)
    {q : List Name} (hq : ¬ A (.ws q)) (emp : κ) (fs : FS κ) :
    (replay emp fs l).get (.ws q) = fs.get (.ws q) :=
  ho.replay_frame hq rfl emp fs

theorem commitFileT_owned {t : TCfg κ} {skip : Bool} {q : List Name} {nd : Option (Node κ)}
    {sum : Digest} {s : Store κ} {n : Nat} {res : Node κ × Digest × Store κ}
    {calls : List (Call κ)} {k : Nat}
    (h : commitFileT t skip (.ws q) nd sum s n = .ok (res, calls, k)) :
    OwnedAll (PrivOf (paths (trackedOpt q nd)) n k) calls := by
  rcases (commitFileT_ok_inv h).2 with ⟨x, rfl, -, rfl, rfl⟩ | ⟨-, rfl, rfl⟩
  · exact commitFileCalls_owned t.isEmp t.strat t.canRename q n x (t.ctx.H x)
  · exact fun _ hc => (List.not_mem_nil hc).elim

/-- `commitFileArtifact` (all three variants; also the cases without calls: skip, up to date, link) -/
theorem commitFileT_disciplined {t : TCfg κ} (g : Good t.ctx) {tracked : List (P × κ)}
    (htw : TrackedWs tracked) {emp : κ} (hemp : ∀ c, t.isEmp c = true → c = emp)
    {skip : Bool} {q : List Name} {nd : Option (Node κ)} {sum : Digest} {s : Store κ} {n : Nat}
    {res : Node κ × Digest × Store κ} {calls : List (Call κ)} {k : Nat}
    (h : commitFileT t skip (.ws q) nd sum s n = .ok (res, calls, k))
    {fs : FS κ} (hs : Safe t.ctx tracked fs)
    (hin : ∀ p ∈ trackedOpt q nd, ∃ m, fs.get p.1 = some (.file p.2 m))
    (hfr : fs.get (.ctmp n) = none) :
    Disciplined t.ctx emp tracked fs (PrivOf (paths (trackedOpt q nd)) n k) calls :=
  ⟨privOf_priv _ _ _, commitFileT_allowed g htw hemp h hs hin hfr, commitFileT_owned h⟩

/-- the sequential commit of a tree -/
theorem commitNodeT_disciplined {t : TCfg κ} (g : Good t.ctx) {tracked : List (P × κ)}
    (htw : TrackedWs tracked) {emp : κ} (hemp : ∀ c, t.isEmp c = true → c = emp)
    {nd : Node κ} {pre : List Name} {c : Child} {s : Store κ} {n : Nat}
    {res : Node κ × Child × Store κ} {calls : List (Call κ)} {n' : Nat}
    (hu : uniqNode nd) (h : commitNodeT t pre nd c s n = .ok (res, calls, n'))
    {fs : FS κ} (hs : Safe t.ctx tracked fs)
    (hin : ∀ p ∈ trackedOf pre nd, ∃ m, fs.get p.1 = some (.file p.2 m))
    (hfr : ∀ k, n ≤ k → fs.get (.ctmp k) = none) :
    Disciplined t.ctx emp tracked fs (PrivOf (paths (trackedOf pre nd)) n n') calls :=
  have ht := commitNodeT_trace t nd h
  ⟨privOf_priv _ _ _, ht.allowed g htw hemp hu hs hin hfr, ht.owned⟩

theorem skipFilter_sub (skipDirs : Bool) (es : List (Name × Node κ)) :
    ∀ e ∈ skipFilter skipDirs es, e ∈ es := by
  intro e he
  cases skipDirs
  · exact he
  · exact (List.mem_filter.1 he).1

theorem uniqList_skipFilter (skipDirs : Bool) (es : List (Name × Node κ)) (hu : uniqList es) :
    uniqList (skipFilter skipDirs es) := by
  induction es with
  | nil => rw [skipFilter_nil]; trivial
  | cons e es ih =>
    obtain ⟨hun, hne, hur⟩ := hu
    rw [skipFilter_cons]
    split
    · exact ih hur
    · exact ⟨hun, fun e' he => hne e' (skipFilter_sub skipDirs es e' he), ih hur⟩

theorem trackedList_skipFilter_sub (skipDirs : Bool) (pre : List Name) (es : List (Name × Node κ)) :
    ∀ p ∈ trackedList pre (skipFilter skipDirs es), p ∈ trackedList pre es := by
  induction es with
  | nil => rw [skipFilter_nil]; exact fun _ hp => hp
  | cons e es ih =>
    intro p hp
    rw [skipFilter_cons] at hp
    split at hp
    · exact List.mem_append_right _ (ih p hp)
    · exact (List.mem_append.1 hp).elim (List.mem_append_left _) (fun h => List.mem_append_right _ (ih p h))

/-- **The traces of `LocalCache.Commit` on a directory artifact with concurrent workers**:
`MkdirAll(cache)` and the rename probe (one goroutine, before any worker is started), then any
schedule of the workers of the entries (sub-directories left out under `DisableRecursion`; each
worker's trace a nested concurrent commit, temp ranges pairwise disjoint and otherwise free: `commitArtT`
numbers from 1 on, nothing here needs that), then the manifest. -/
def ParArtTrace (t : TCfg κ) (a : Art) (pre : List Name) (es : List (Name × Node κ))
    (calls : List (Call κ)) : Prop :=
  ∃ (rs : List (Nat × Nat)) (ts : List (List (Call κ))) (l : List (Call κ)) (n : Nat) (mb : κ),
    ParTraces t pre (skipFilter a.noRec es) rs ts ∧ DisjointRanges rs ∧ InterleavingN ts l ∧
    calls = headCalls ++ l ++ copyIntoCache t.isEmp n mb (t.ctx.H mb)

theorem ParArtTrace.ne_nil {t : TCfg κ} {a : Art} {pre : List Name} {es : List (Name × Node κ)}
    {calls : List (Call κ)} (h : ParArtTrace t a pre es calls) : calls ≠ [] := by
  obtain ⟨rs, ts, l, n, mb, -, -, -, rfl⟩ := h
  exact nofun

/-- every trace of the concurrent `LocalCache.Commit` of a directory is an `AllowedTrace`, ends in the
expected state for the committed entries, and leaves no temp file -/
theorem parArtTrace_spec {t : TCfg κ} (g : Good t.ctx) {tracked : List (P × κ)}
    (htw : TrackedWs tracked) {emp : κ} (hemp : ∀ c, t.isEmp c = true → c = emp)
    {a : Art} {pre : List Name} {es : List (Name × Node κ)} {calls : List (Call κ)}
    (hu : uniqList es) (h : ParArtTrace t a pre es calls)
    {fs : FS κ} (hs : Safe t.ctx tracked fs)
    (hin : ∀ p ∈ trackedList pre es, ∃ m, fs.get p.1 = some (.file p.2 m))
    (hfr : ∀ k, fs.get (.ctmp k) = none) :
    AllowedTrace t.ctx emp tracked fs calls ∧
      Post t fs (replay emp fs calls) (trackedList pre (skipFilter a.noRec es)) ∧
      (∀ k, (replay emp fs calls).get (.ctmp k) = none) ∧
      (ObjsReadOnly fs → ObjsReadOnly (replay emp fs calls)) := by
  obtain ⟨rs, ts, l, n, mb, hpt, hdr, hil, rfl⟩ := h
  have hhead : AllowedTrace t.ctx emp tracked fs headCalls :=
    allowedTrace_of_harmless htw emp _ headCalls_harmless fs
  have hs0 : Safe t.ctx tracked (replay emp fs headCalls) := (hhead.prefixSafe g hs).final
  have hws0 : ∀ p ∈ trackedList pre es, (replay emp fs headCalls).get p.1 = fs.get p.1 := by
    intro p hp
    obtain ⟨q, hq⟩ := trackedList_is_ws hp
    rw [hq, headCalls_frame_ws]
  have hin0 : ∀ p ∈ trackedList pre (skipFilter a.noRec es),
      ∃ m, (replay emp fs headCalls).get p.1 = some (.file p.2 m) := by
    intro p hp
    have hp' := trackedList_skipFilter_sub a.noRec pre es p hp
    rw [hws0 p hp']; exact hin p hp'
  have hfr0 : ∀ k, (replay emp fs headCalls).get (.ctmp k) = none :=
    fun k => headCalls_ctmp_free emp (n := 0) (fun k _ => hfr k) k (Nat.zero_le k)
  obtain ⟨dl, -, -, hpost, hct⟩ := parTraces_interleavingN g htw hemp (uniqList_skipFilter a.noRec es hu)
    hpt hdr hs0 hin0 hfr0 hil
  obtain ⟨ha, hp, hc⟩ := manifest_spec g htw hemp (dl.safe_final g hs0)
    (hpost.of_start (fun p hp => hws0 p (trackedList_skipFilter_sub a.noRec pre es p hp)))
    (fun p hp => trackedList_is_ws hp) hct n mb
  rw [replay_append, replay_append]
  refine ⟨AllowedTrace.append (AllowedTrace.append hhead dl.allowed) (by rw [replay_append]; exact ha),
    hp, hc, fun hro => ?_⟩
  have hro0 : ObjsReadOnly (replay emp fs headCalls) := by
    intro d c m hd
    rw [replay_get_frame emp _ _ fs (by
      intro call hcall hmem
      rcases headCalls_paths call hcall _ (callWrites_sub _ _ hmem) with h | h | h <;> cases h)] at hd
    exact hro d c m hd
  exact (copyIntoCache_modeOK t.isEmp n mb _).objsReadOnly (privOf_priv [] n (n + 1)) emp
    (copyIntoCache_owned t.isEmp n mb _)
    ((ModeOK.interleavingN hil (parTraces_modeOK t _ pre rs ts hpt)).objsReadOnly dl.priv emp dl.owned hro0)

end Dud.Sys
