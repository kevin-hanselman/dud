import DudModel.StatusSpec
/-!
# What `stored` / `storedChildren` return, and `SameList` by membership

Inversions of `stored` (`StatusSpec.lean`: the tree read back from the store alone) — `stored_dir`,
`stored_file`, `storedChildren_cons/_alookup/_mem` — and `SameList_iff`.  On these
`Lemmas/StoredStatus.lean` proves `upToDate_sameTree` / `sameTree_upToDate`, the two directions under
C05 `status_sound` / `status_complete_tree` (`Props/C05.lean`): up to date ⇔ the logical workspace
tree is the stored tree.
-/
namespace Dud

variable {κ : Type}

theorem SameList_iff {ts : List (Name × Node κ)} : ∀ {es : List (Name × Node κ)},
    SameList es ts ↔ ∀ e ∈ es, ∃ t', alookup ts e.1 = some t' ∧ SameTree e.2 t' := by
  intro es
  induction es with
  | nil => simp [SameList]
  | cons x r ih =>
    obtain ⟨nm, n⟩ := x
    simp only [SameList, List.mem_cons, forall_eq_or_imp, ih]

theorem storedChildren_cons {f : Child → Option (Node κ)} {k : Child} {r : List Child}
    {ts : List (Name × Node κ)} (h : storedChildren f (k :: r) = some ts) :
    ∃ n l, f k = some n ∧ storedChildren f r = some l ∧ ts = (k.name, n) :: l := by
  simp only [storedChildren] at h
  split at h
  · rename_i n l hn hl
    simp only [Option.some.injEq] at h
    exact ⟨n, l, hn, hl, h.symm⟩
  · cases h

theorem storedChildren_alookup {f : Child → Option (Node κ)} (nm : Name) :
    ∀ (cs : List Child) (ts : List (Name × Node κ)), storedChildren f cs = some ts →
      alookup ts nm = (findChild cs nm).bind f := by
  intro cs
  induction cs with
  | nil =>
    intro ts h
    simp only [storedChildren, Option.some.injEq] at h; subst h; simp [alookup, findChild]
  | cons k r ih =>
    intro ts h
    obtain ⟨n, l, hn, hl, rfl⟩ := storedChildren_cons h
    have ih := ih l hl
    by_cases hk : k.name = nm
    · simp [alookup, findChild, hk, hn]
    · have hb : (k.name == nm) = false := by simpa using hk
      simp only [alookup, findChild, List.find?_cons, hb, Bool.false_eq_true, if_false] at ih ⊢
      exact ih

theorem storedChildren_mem {f : Child → Option (Node κ)} :
    ∀ (cs : List Child) (ts : List (Name × Node κ)), storedChildren f cs = some ts →
      (∀ e ∈ ts, ∃ k ∈ cs, k.name = e.1) ∧
        (∀ k ∈ cs, ∃ t, f k = some t ∧ (k.name, t) ∈ ts) := by
  intro cs
  induction cs with
  | nil =>
    intro ts h
    simp only [storedChildren, Option.some.injEq] at h; subst h; simp
  | cons k r ih =>
    intro ts h
    obtain ⟨n, l, hn, hl, rfl⟩ := storedChildren_cons h
    obtain ⟨ih1, ih2⟩ := ih l hl
    constructor
    · intro e he
      rcases List.mem_cons.mp he with rfl | he
      · exact ⟨k, List.mem_cons_self .., rfl⟩
      · obtain ⟨k', hk', hn'⟩ := ih1 e he
        exact ⟨k', List.mem_cons_of_mem _ hk', hn'⟩
    · intro k' hk'
      rcases List.mem_cons.mp hk' with rfl | hk'
      · exact ⟨n, hn, List.mem_cons_self ..⟩
      · obtain ⟨t, ht, hm⟩ := ih2 k' hk'
        exact ⟨t, ht, List.mem_cons_of_mem _ hm⟩

theorem stored_dir {ctx : Ctx κ} {s : Store κ} {fuel : Nat} {c : Child} {t : Node κ}
    (hc : c.isDir = true) (h : stored ctx s (fuel + 1) c = some t) :
    (hasSum c.sum = true ∧ s.has c.sum = true) ∧
      ∃ cs ts, readManifest ctx s c.sum = .ok cs ∧
        storedChildren (stored ctx s fuel) cs = some ts ∧ t = .dir ts := by
  simp only [stored, hc, if_true] at h
  split at h
  · rename_i hin
    split at h
    · rename_i cs hcs
      cases hts : storedChildren (stored ctx s fuel) cs with
      | none => rw [hts] at h; cases h
      | some ts =>
        rw [hts] at h
        simp only [Option.map_some, Option.some.injEq] at h
        exact ⟨by simpa using hin, cs, ts, hcs, hts, h.symm⟩
    · cases h
  · cases h

theorem stored_file {ctx : Ctx κ} {s : Store κ} {fuel : Nat} {c : Child} {t : Node κ}
    (hc : c.isDir = false) (h : stored ctx s fuel c = some t) :
    hasSum c.sum = true ∧ ∃ o, s.get c.sum = some o ∧ t = .file (o.bytes ctx) := by
  have h' : storedFile ctx s c.sum = some t := by
    cases fuel <;> simpa [stored, hc] using h
  unfold storedFile at h'
  split at h'
  · rename_i hh
    cases ho : s.get c.sum with
    | none => rw [ho] at h'; cases h'
    | some o =>
      rw [ho] at h'
      simp only [Option.map_some, Option.some.injEq] at h'
      exact ⟨hh, o, rfl, h'.symm⟩
  · cases h'

end Dud
