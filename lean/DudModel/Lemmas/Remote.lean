import DudModel.World
import DudModel.RemoteSpec
import DudModel.Lemmas.Store
import DudModel.Lemmas.Trav
import DudModel.Lemmas.CheckoutEq
/-!
# Push and fetch: `gather`, `copyObjs`, `fetchLevel`, `fetchFix`, `pushAct`, `fetchAct`

One post-condition per function, in four notions: `GatherPost s R acc acc'` (a gathering pass adds
exactly the digests `R` to the accumulator, all of them present), `Closed ctx s c` (the closure
`Reaches` of an entry lies inside the store), `Store.Fed src s s'` (the store got bindings added
verbatim from `src`) and, for whole worlds, `PushLe` / `FetchLe` (what `dud push` / `dud fetch` may
change); each of `Fed`, `PushLe`, `FetchLe` is a preorder, so it lifts through the traversal.  At
the end, what a closed entry is good for: its checkout never reports a missing object
(`checkoutNode_not_missing`, `checkoutArt_not_missing`).
-/
namespace Dud

variable {κ : Type}

theorem Reaches.inv {ctx : Ctx κ} {s : Store κ} {c : Child} {d : Digest} (h : Reaches ctx s c d) :
    d = c.sum ∨ (c.isDir = true ∧ ∃ cs k, readManifest ctx s c.sum = .ok cs ∧ k ∈ cs ∧ Reaches ctx s k d) := by
  cases h
  · exact .inl rfl
  · rename_i cs k hk hd hm hr
    exact .inr ⟨hd, cs, k, hm, hk, hr⟩

/-- the closure depends on the checksum and the kind only, not on the entry name -/
theorem Reaches.congr {ctx : Ctx κ} {s : Store κ} {c c' : Child} {d : Digest} (hs : c.sum = c'.sum)
    (hk : c.isDir = c'.isDir) (h : Reaches ctx s c d) : Reaches ctx s c' d := by
  rcases h.inv with rfl | ⟨hd, cs, k, hm, hk', hr⟩
  · rw [hs]; exact .self _
  · exact .child c' cs k d (hk ▸ hd) (hs ▸ hm) hk' hr

/-- a larger store (same bindings) reaches at least as much -/
theorem Reaches.mono {ctx : Ctx κ} {s s' : Store κ} (he : Store.ext s s') {c : Child} {d : Digest}
    (h : Reaches ctx s c d) : Reaches ctx s' c d := by
  induction h with
  | self c => exact .self c
  | child c cs k d hd hm hk _ ih =>
    exact .child c cs k d hd (by rw [readManifest_ext ctx he (readManifest_ok_has hm)]; exact hm) hk ih

/-- the closure of `c` lies inside `s`: what push and fetch establish and checkout needs -/
def Closed (ctx : Ctx κ) (s : Store κ) (c : Child) : Prop := ∀ d, Reaches ctx s c d → s.has d = true

theorem Closed.child {ctx : Ctx κ} {s : Store κ} {c k : Child} {cs : List Child} (h : Closed ctx s c)
    (hd : c.isDir = true) (hm : readManifest ctx s c.sum = .ok cs) (hk : k ∈ cs) : Closed ctx s k :=
  fun d hr => h d (.child c cs k d hd hm hk hr)

/-- a closure of `s` lies in the closure taken in `s'`, when `s'` holds whatever it reaches from the
entry and reads the manifests it holds as `s` does -/
theorem Reaches.into {ctx : Ctx κ} {s s' : Store κ}
    (hread : ∀ x cs, readManifest ctx s x = .ok cs → s'.has x = true → readManifest ctx s' x = .ok cs)
    {c : Child} {d : Digest} (h : Reaches ctx s c d) : Closed ctx s' c → Reaches ctx s' c d := by
  induction h with
  | self c => intro _; exact .self c
  | child c cs k d hd hm hk _ ih =>
    intro hcl
    have hm' := hread _ cs hm (hcl _ (.self c))
    exact .child c cs k d hd hm' hk (ih (hcl.child hd hm' hk))

/-- a closure that lies inside `s` stays complete when the store grows: a larger store reaches
nothing more from `c` -/
theorem Closed.mono {ctx : Ctx κ} {s s' : Store κ} {c : Child} (hcl : Closed ctx s c)
    (he : Store.ext s s') : Closed ctx s' c :=
  fun d hr => he.has (hcl d (hr.into (fun _ _ hm hx => readManifest_ext ctx he hx ▸ hm) hcl))

theorem Reaches.file {ctx : Ctx κ} {s : Store κ} {c : Child} {d : Digest} (hc : c.isDir = false)
    (h : Reaches ctx s c d) : d = c.sum := by
  rcases h.inv with h | ⟨hd, _⟩
  · exact h
  · rw [hc] at hd; cases hd

theorem Reaches.dir_iff {ctx : Ctx κ} {s : Store κ} {c : Child} {cs : List Child} (hd : c.isDir = true)
    (hm : readManifest ctx s c.sum = .ok cs) {d : Digest} :
    Reaches ctx s c d ↔ d = c.sum ∨ ∃ k, k ∈ cs ∧ Reaches ctx s k d := by
  constructor
  · intro h
    rcases h.inv with h | ⟨_, cs', k, hm', hk, hr⟩
    · exact .inl h
    · rw [hm] at hm'; cases hm'
      exact .inr ⟨k, hk, hr⟩
  · rintro (rfl | ⟨k, hk, hr⟩)
    · exact .self c
    · exact .child c cs k d hd hm hk hr

/-- `s'` is `s` with bindings added verbatim from `src`: what a copy, a push and a fetch do to
their destination -/
structure Store.Fed (src s s' : Store κ) : Prop where
  ext : Store.ext s s'
  prov : ∀ d o, s'.get d = some o → s.get d = some o ∨ src.get d = some o

theorem Store.Fed.refl (src s : Store κ) : Store.Fed src s s := ⟨.refl _, fun _ _ h => .inl h⟩

theorem Store.Fed.trans {src s1 s2 s3 : Store κ} (h1 : Store.Fed src s1 s2) (h2 : Store.Fed src s2 s3) :
    Store.Fed src s1 s3 :=
  ⟨h1.ext.trans h2.ext, fun d o h => (h2.prov d o h).elim (h1.prov d o) .inr⟩

theorem Store.Fed.consistent {ctx : Ctx κ} {src s s' : Store κ} (h : Store.Fed src s s')
    (hs : Consistent ctx s) (hsrc : Consistent ctx src) : Consistent ctx s' :=
  .of_prov h.prov hs hsrc

theorem mem_addNew {x d : Digest} {acc : List Digest} :
    d ∈ (if acc.contains x then acc else x :: acc) ↔ d = x ∨ d ∈ acc := by
  split
  · rename_i h
    have : x ∈ acc := by simpa using h
    constructor
    · exact .inr
    · rintro (rfl | h) <;> assumption
  · simp

/-- what a successful gathering pass does to the accumulator, for a set `R` of digests: it adds
exactly `R`, and all of `R` is present -/
def GatherPost (s : Store κ) (R : Digest → Prop) (acc acc' : List Digest) : Prop :=
  (∀ d, d ∈ acc' ↔ d ∈ acc ∨ R d) ∧ ∀ d, R d → s.has d = true

theorem GatherPost.of_empty {s : Store κ} {R : Digest → Prop} (h : ∀ d, ¬ R d) (acc : List Digest) :
    GatherPost s R acc acc :=
  ⟨fun d => ⟨.inl, fun hd => hd.resolve_right (h d)⟩, fun d hr => absurd hr (h d)⟩

theorem GatherPost.congr {s : Store κ} {R R' : Digest → Prop} {a b : List Digest}
    (h : GatherPost s R a b) (e : ∀ d, R d ↔ R' d) : GatherPost s R' a b :=
  ⟨fun d => (h.1 d).trans (or_congr_right (e d)), fun d hr => h.2 d ((e d).2 hr)⟩

theorem GatherPost.union {s : Store κ} {R1 R2 : Digest → Prop} {a b c : List Digest}
    (h1 : GatherPost s R1 a b) (h2 : GatherPost s R2 b c) :
    GatherPost s (fun d => R1 d ∨ R2 d) a c :=
  ⟨fun d => by rw [h2.1, h1.1, or_assoc], fun d hr => hr.elim (h1.2 d) (h2.2 d)⟩

theorem GatherPost.addNew {s : Store κ} {R : Digest → Prop} {a b : List Digest}
    (h : GatherPost s R a b) {x : Digest} (hx : s.has x = true) :
    GatherPost s (fun d => d = x ∨ R d) a (if b.contains x then b else x :: b) :=
  ⟨fun d => by rw [mem_addNew, h.1, or_left_comm], fun d hr => hr.elim (· ▸ hx) (h.2 d)⟩

theorem gatherChildren_post {ctx : Ctx κ} {s : Store κ} {f : Child → List Digest → Except Err (List Digest)}
    (hf : ∀ c acc acc', f c acc = .ok acc' → GatherPost s (Reaches ctx s c) acc acc') :
    ∀ (cs : List Child) (acc acc' : List Digest), gatherChildren f cs acc = .ok acc' →
      GatherPost s (fun d => ∃ k, k ∈ cs ∧ Reaches ctx s k d) acc acc' := by
  intro cs
  induction cs with
  | nil =>
    intro acc acc' h
    cases h
    exact .of_empty (by simp) acc
  | cons c cs ih =>
    intro acc acc' h
    rw [gatherChildren] at h
    split at h
    · cases h
    · rename_i acc1 h1
      exact ((hf c acc acc1 h1).union (ih acc1 acc' h)).congr fun d => by simp

theorem gather_post (ctx : Ctx κ) (s : Store κ) : ∀ (fuel : Nat) (c : Child) (acc acc' : List Digest),
    gather ctx s fuel c acc = .ok acc' → GatherPost s (Reaches ctx s c) acc acc' := by
  intro fuel
  induction fuel with
  | zero => intro c acc acc' h; cases h
  | succ fuel ih =>
    intro c acc acc' h
    rw [gather] at h
    by_cases hs : hasSum c.sum = true
    case neg => simp [hs] at h
    by_cases hhas : s.has c.sum = true
    case neg => simp [hs, hhas] at h
    simp only [hs, hhas, Bool.not_true, Bool.false_eq_true, if_false] at h
    split at h
    · rename_i hdir
      split at h
      · cases h
      rename_i cs hm
      split at h
      · cases h
      rename_i acc1 h1
      cases h
      exact ((gatherChildren_post ih cs acc acc1 h1).addNew hhas).congr fun d =>
        (Reaches.dir_iff hdir hm).symm
    · rename_i hdir
      cases h
      refine ((GatherPost.of_empty (fun _ => id) acc).addNew hhas).congr fun d => ?_
      exact ⟨fun h => h.elim (· ▸ .self c) False.elim, fun h => .inl (h.file (by simpa using hdir))⟩

theorem gatherArts_post (cfg : Cfg κ) (s : Store κ) : ∀ (arts : List Art) (acc acc' : List Digest),
    gatherArts cfg s arts acc = .ok acc' →
      GatherPost s (fun d => ∃ a, a ∈ arts ∧ a.skip = false ∧ Reaches cfg.ctx s a.child d) acc acc' := by
  intro arts
  induction arts with
  | nil =>
    intro acc acc' h
    cases h
    exact .of_empty (by simp) acc
  | cons a r ih =>
    intro acc acc' h
    rw [gatherArts] at h
    split at h
    · rename_i hskip
      exact (ih acc acc' h).congr fun d => by simp [hskip]
    · rename_i hskip
      split at h
      · cases h
      rename_i acc1 h1
      exact ((gather_post cfg.ctx s cfg.fuel a.child acc acc1 h1).union (ih acc1 acc' h)).congr
        fun d => by simp [hskip]

theorem copyObjs_post (src : Store κ) : ∀ (ds : List Digest) (dst dst' : Store κ),
    copyObjs src dst ds = .ok dst' →
      Store.ext dst dst' ∧ (∀ d, d ∈ ds → dst'.has d = true ∧ src.has d = true) ∧
        (∀ d o, dst'.get d = some o → dst.get d = some o ∨ (d ∈ ds ∧ dst.has d = false ∧ src.get d = some o)) := by
  intro ds
  induction ds with
  | nil =>
    intro dst dst' h
    simp only [copyObjs, Except.ok.injEq] at h
    subst h
    refine ⟨.refl _, ?_, fun d o h => .inl h⟩
    intro d hd
    cases hd
  | cons x r ih =>
    intro dst dst' h
    rw [copyObjs] at h
    split at h
    · cases h
    rename_i o hx
    obtain ⟨b1, b2, b3⟩ := ih _ dst' h
    by_cases hh : dst.has x = true
    · simp only [hh, if_true] at b1 b2 b3
      refine ⟨b1, ?_, ?_⟩
      · intro d hd
        rcases List.mem_cons.1 hd with rfl | hd
        · exact ⟨b1.has hh, Store.has_of_get hx⟩
        · exact b2 d hd
      · intro d o' hd
        rcases b3 d o' hd with h | ⟨h1, h2, h3⟩
        · exact .inl h
        · exact .inr ⟨List.mem_cons_of_mem _ h1, h2, h3⟩
    · have hh : dst.has x = false := by simpa using hh
      simp only [hh, Bool.false_eq_true, if_false] at b1 b2 b3
      have e0 : Store.ext dst (dst.put x o) := Store.ext_put_fresh o hh
      refine ⟨e0.trans b1, ?_, ?_⟩
      · intro d hd
        rcases List.mem_cons.1 hd with rfl | hd
        · exact ⟨b1.has (Store.has_of_get (Store.get_put_self _ _ _)), Store.has_of_get hx⟩
        · exact b2 d hd
      · intro d o' hd
        rcases b3 d o' hd with h | ⟨h1, h2, h3⟩
        · by_cases hxd : x = d
          · subst hxd
            rw [Store.get_put_self] at h; cases h
            exact .inr ⟨List.mem_cons_self, hh, hx⟩
          · rw [Store.get_put_ne _ _ hxd] at h; exact .inl h
        · refine .inr ⟨List.mem_cons_of_mem _ h1, ?_, h3⟩
          by_cases hxd : x = d
          · subst hxd; exact hh
          · rw [Store.has, Store.get_put_ne _ _ hxd] at h2; exact h2

theorem copyObjs_fed {src dst dst' : Store κ} {ds : List Digest} (h : copyObjs src dst ds = .ok dst') :
    Store.Fed src dst dst' :=
  ⟨(copyObjs_post src ds dst dst' h).1,
    fun d o ho => ((copyObjs_post src ds dst dst' h).2.2 d o ho).imp_right (·.2.2)⟩

theorem Occurs.mono {ctx : Ctx κ} {s s' : Store κ} (he : Store.ext s s') {c : Child} (h : Occurs ctx s c) :
    Occurs ctx s' c := by
  obtain ⟨d, cs, hm, hc⟩ := h
  exact ⟨d, cs, by rw [readManifest_ext ctx he (readManifest_ok_has hm)]; exact hm, hc⟩

theorem Occurs.of_prov {ctx : Ctx κ} {s a b : Store κ}
    (hp : ∀ d o, s.get d = some o → a.get d = some o ∨ b.get d = some o) {c : Child} (h : Occurs ctx s c) :
    Occurs ctx a c ∨ Occurs ctx b c := by
  obtain ⟨d, cs, hm, hc⟩ := h
  obtain ⟨o, ho⟩ := Store.has_eq_true.1 (readManifest_ok_has hm)
  rcases hp d o ho with h | h
  · exact .inl ⟨d, cs, by rw [← hm]; exact readManifest_congr ctx (by rw [h, ho]), hc⟩
  · exact .inr ⟨d, cs, by rw [← hm]; exact readManifest_congr ctx (by rw [h, ho]), hc⟩

theorem Store.Fed.kindsAgree {ctx : Ctx κ} {src s s' : Store κ} (h : Store.Fed src s s')
    (hk : KindsAgree (fun c => Occurs ctx s c ∨ Occurs ctx src c)) : KindsAgree (Occurs ctx s') :=
  fun c1 c2 h1 h2 => hk c1 c2 (Occurs.of_prov h.prov h1) (Occurs.of_prov h.prov h2)

theorem dedupBySum_sub : ∀ (l : List Child) (c : Child), c ∈ dedupBySum l → c ∈ l := by
  intro l
  induction l with
  | nil => intro c h; cases h
  | cons x r ih =>
    intro c h
    rw [dedupBySum] at h
    split at h
    · exact List.mem_cons_of_mem _ (ih c h)
    · rcases List.mem_cons.1 h with rfl | h
      · exact List.mem_cons_self
      · exact List.mem_cons_of_mem _ (ih c h)

/-- every checksum of the level survives the keying by checksum (possibly under another entry) -/
theorem dedupBySum_cover : ∀ (l : List Child) (c : Child), c ∈ l → ∃ c', c' ∈ dedupBySum l ∧ c'.sum = c.sum := by
  intro l
  induction l with
  | nil => intro c h; cases h
  | cons x r ih =>
    intro c h
    rw [dedupBySum]
    split
    · rename_i hany
      rcases List.mem_cons.1 h with rfl | h
      · obtain ⟨y, hy, hys⟩ := List.any_eq_true.1 hany
        obtain ⟨c', hc', hs⟩ := ih y hy
        exact ⟨c', hc', hs.trans (by simpa using hys)⟩
      · exact ih c h
    · rcases List.mem_cons.1 h with rfl | h
      · exact ⟨c, List.mem_cons_self, rfl⟩
      · obtain ⟨c', hc', hs⟩ := ih c h
        exact ⟨c', List.mem_cons_of_mem _ hc', hs⟩

theorem fetchKids_post (ctx : Ctx κ) (s : Store κ) : ∀ (ds : List Digest) (cs : List Child),
    fetchLevel.kids ctx s ds = .ok cs →
      ∀ k, k ∈ cs ↔ ∃ d, d ∈ ds ∧ ∃ cs0, readManifest ctx s d = .ok cs0 ∧ k ∈ cs0 := by
  intro ds
  induction ds with
  | nil =>
    intro cs h
    cases h
    simp
  | cons x r ih =>
    intro cs h
    rw [fetchLevel.kids] at h
    split at h
    · cases h
    rename_i cs0 hm
    split at h
    · cases h
    rename_i rest hr
    cases h
    simp [ih rest hr, hm]

/-- one level of fetch: everything the level names is present afterwards, and the next level is made of
the entries of the manifests of its directories -/
theorem fetchLevel_post {ctx : Ctx κ} {remote loc loc1 : Store κ} {arts kids : List Child}
    (h : fetchLevel ctx remote loc arts = .ok (loc1, kids)) :
    Store.Fed remote loc loc1 ∧
    (∀ a, a ∈ arts → loc1.has a.sum = true) ∧
    (∀ k, k ∈ kids ↔ ∃ a, a ∈ arts ∧ a.isDir = true ∧ ∃ cs0, readManifest ctx loc1 a.sum = .ok cs0 ∧ k ∈ cs0) := by
  unfold fetchLevel at h
  split at h
  · cases h
  dsimp only at h
  split at h
  · cases h
  rename_i l1 hc
  split at h
  · cases h
  rename_i cs hk
  simp only [Except.ok.injEq, Prod.mk.injEq] at h
  obtain ⟨rfl, rfl⟩ := h
  obtain ⟨c1, c2, -⟩ := copyObjs_post remote _ loc l1 hc
  have k2 := fetchKids_post ctx l1 _ cs hk
  refine ⟨copyObjs_fed hc, ?_, ?_⟩
  · intro a ha
    by_cases hl : loc.has a.sum = true
    · exact c1.has hl
    · refine (c2 a.sum ?_).1
      rw [List.mem_eraseDups]
      exact List.mem_map.2 ⟨a, List.mem_filter.2 ⟨ha, by simpa using hl⟩, rfl⟩
  · intro k
    rw [k2]
    simp only [List.mem_eraseDups, List.mem_map, List.mem_filter]
    exact ⟨fun ⟨_, ⟨a, ⟨ha, hd⟩, e⟩, h⟩ => ⟨a, ha, hd, e ▸ h⟩, fun ⟨a, ha, hd, h⟩ => ⟨_, ⟨a, ⟨ha, hd⟩, rfl⟩, h⟩⟩

/-- `fetchFix`, one induction over the levels: the cache is fed from the remote, and (closure of
fetch) if in the resulting cache no checksum is listed both as a file and as a directory, the closure
of every requested entry is present.  Keying the next level by checksum (`dedupBySum`) keeps some
entry `k'` for each entry `k`; `KindsAgree` makes the closures of the two coincide. -/
theorem fetchFix_post (ctx : Ctx κ) (remote : Store κ) : ∀ (fuel : Nat) (loc : Store κ) (arts : List Child)
    (loc' : Store κ), fetchFix ctx remote fuel loc arts = .ok loc' →
      Store.Fed remote loc loc' ∧ (KindsAgree (Occurs ctx loc') → ∀ a, a ∈ arts → Closed ctx loc' a) := by
  intro fuel
  induction fuel with
  | zero => intro loc arts loc' h; simp [fetchFix] at h
  | succ fuel ih =>
    intro loc arts loc' h
    rw [fetchFix] at h
    split at h
    · cases h
    rename_i loc1 kids hl
    obtain ⟨f1, q1, q3⟩ := fetchLevel_post hl
    split at h
    · rename_i hemp
      cases h
      refine ⟨f1, fun _ a ha d hr => ?_⟩
      rcases hr.inv with rfl | ⟨hdir, cs, k, hm, hk, _⟩
      · exact (q1 a ha)
      · have := (q3 k).2 ⟨a, ha, hdir, cs, hm, hk⟩
        rw [List.isEmpty_iff.1 hemp] at this
        cases this
    · obtain ⟨f2, hcl⟩ := ih _ _ _ h
      refine ⟨f1.trans f2, fun hka a ha d hr => ?_⟩
      rcases hr.inv with rfl | ⟨hdir, cs, k, hm, hk, hrk⟩
      · exact f2.ext.has (q1 a ha)
      · rw [readManifest_ext ctx f2.ext (q1 a ha)] at hm
        obtain ⟨k', hk', hs⟩ := dedupBySum_cover kids k ((q3 k).2 ⟨a, ha, hdir, cs, hm, hk⟩)
        have ok : Occurs ctx loc' k := Occurs.mono f2.ext ⟨a.sum, cs, hm, hk⟩
        have ok' : Occurs ctx loc' k' := by
          obtain ⟨b, _, _, cs1, hm1, hk1⟩ := (q3 k').1 (dedupBySum_sub kids k' hk')
          exact Occurs.mono f2.ext ⟨b.sum, cs1, hm1, hk1⟩
        exact hcl hka k' hk' d (hrk.congr hs.symm (hka k k' ok ok' hs.symm))

/-- `pushAct` changes the remote and the done list only; the remote keeps its bindings, gets new
ones verbatim from the local cache, and ends up holding the closure of every non-skipped output,
all of it present locally -/
theorem pushAct_post {cfg : Cfg κ} {sp : Bytes} {w w' : World κ} (h : pushAct cfg sp w = .ok w') :
    ∃ stg rem, w.stage sp = .ok stg ∧ w' = { w with remote := rem, done := sp :: w.done } ∧
      Store.Fed w.store w.remote rem ∧
      ∀ a, a ∈ sortArts stg.outputs → a.skip = false → ∀ d, Reaches cfg.ctx w.store a.child d →
        rem.has d = true ∧ w.store.has d = true := by
  unfold pushAct at h
  split at h
  · cases h
  rename_i stg hs
  split at h
  · cases h
  rename_i ds hg
  split at h
  · cases h
  rename_i rem hc
  simp only [Except.ok.injEq] at h
  obtain ⟨g1, g2⟩ := gatherArts_post cfg w.store _ [] ds hg
  refine ⟨stg, rem, hs, h.symm, copyObjs_fed hc, fun a ha hsk d hr => ?_⟩
  have hr' : ∃ a, a ∈ sortArts stg.outputs ∧ a.skip = false ∧ Reaches cfg.ctx w.store a.child d :=
    ⟨a, ha, hsk, hr⟩
  exact ⟨((copyObjs_post w.store ds w.remote rem hc).2.1 d ((g1 d).2 (.inr hr'))).1, g2 d hr'⟩

/-- `fetchAct` changes the local cache and the done list only; the cache keeps its bindings, gets new
ones verbatim from the remote, and (when no checksum in it is listed both as a file and as a
directory) ends up holding the closure of every non-skipped output -/
theorem fetchAct_post {cfg : Cfg κ} {sp : Bytes} {w w' : World κ} (h : fetchAct cfg sp w = .ok w') :
    ∃ stg loc, w.stage sp = .ok stg ∧ w' = { w with store := loc, done := sp :: w.done } ∧
      Store.Fed w.remote w.store loc ∧
      (KindsAgree (Occurs cfg.ctx loc) → ∀ a, a ∈ sortArts stg.outputs → a.skip = false →
        Closed cfg.ctx loc a.child) := by
  unfold fetchAct at h
  split at h
  · cases h
  rename_i stg hs
  dsimp only at h
  split at h
  · cases h
  rename_i loc hf
  simp only [Except.ok.injEq] at h
  obtain ⟨f1, hcl⟩ := fetchFix_post cfg.ctx w.remote cfg.fuel w.store _ loc hf
  refine ⟨stg, loc, hs, h.symm, f1, fun hk a ha hsk d hr => hcl hk a.child ?_ d hr⟩
  exact List.mem_map.2 ⟨a, List.mem_filter.2 ⟨ha, by simp [hsk]⟩, rfl⟩

/-- what `dud push` may change, in one stage action or in a whole command: the remote is fed from the
local cache -/
structure PushLe (u u' : World κ) : Prop where
  store : u'.store = u.store
  ws : u'.ws = u.ws
  idx : u'.idx = u.idx
  fed : Store.Fed u.store u.remote u'.remote

theorem PushLe.refl (u : World κ) : PushLe u u := ⟨rfl, rfl, rfl, .refl _ _⟩

theorem PushLe.trans {a b c : World κ} (h1 : PushLe a b) (h2 : PushLe b c) : PushLe a c :=
  ⟨h2.store.trans h1.store, h2.ws.trans h1.ws, h2.idx.trans h1.idx, h1.fed.trans (h1.store ▸ h2.fed)⟩

theorem pushAct_le {cfg : Cfg κ} (sp : Bytes) (u u' : World κ) (h : pushAct cfg sp u = .ok u') :
    PushLe u u' := by
  obtain ⟨_, rem, _, rfl, hf, _⟩ := pushAct_post h
  exact ⟨rfl, rfl, rfl, hf⟩

theorem cmdPush_le {cfg : Cfg κ} {single : Bool} {targets : List Bytes} {w w' : World κ}
    (h : cmdPush cfg single targets w = .ok w') : PushLe w w' :=
  runTargets_keeps (PushLe w) (fun sp a b ha hb => ha.trans (pushAct_le sp a b hb))
    ⟨rfl, rfl, rfl, .refl _ _⟩ (cmdPush_ok_iff.1 h).2

/-- what `dud fetch` may change: the local cache is fed from the remote -/
structure FetchLe (u u' : World κ) : Prop where
  remote : u'.remote = u.remote
  ws : u'.ws = u.ws
  idx : u'.idx = u.idx
  fed : Store.Fed u.remote u.store u'.store

theorem FetchLe.refl (u : World κ) : FetchLe u u := ⟨rfl, rfl, rfl, .refl _ _⟩

theorem FetchLe.trans {a b c : World κ} (h1 : FetchLe a b) (h2 : FetchLe b c) : FetchLe a c :=
  ⟨h2.remote.trans h1.remote, h2.ws.trans h1.ws, h2.idx.trans h1.idx, h1.fed.trans (h1.remote ▸ h2.fed)⟩

theorem fetchAct_le {cfg : Cfg κ} (sp : Bytes) (u u' : World κ) (h : fetchAct cfg sp u = .ok u') :
    FetchLe u u' := by
  obtain ⟨_, loc, _, rfl, hf, _⟩ := fetchAct_post h
  exact ⟨rfl, rfl, rfl, hf⟩

theorem cmdFetch_le {cfg : Cfg κ} {single : Bool} {targets : List Bytes} {w w' : World κ}
    (h : cmdFetch cfg single targets w = .ok w') : FetchLe w w' :=
  runTargets_keeps (FetchLe w) (fun sp a b ha hb => ha.trans (fetchAct_le sp a b hb))
    ⟨rfl, rfl, rfl, .refl _ _⟩ (cmdFetch_ok_iff.1 h)

theorem readManifest_not_missing {ctx : Ctx κ} {s : Store κ} {d : Digest} (h : s.has d = true) :
    readManifest ctx s d ≠ .error .missingFromCache := by
  obtain ⟨o, ho⟩ := Store.has_eq_true.1 h
  have hck : ∀ cs : List Child, checkedChildren cs ≠ .error .missingFromCache := by
    intro cs; unfold checkedChildren; split <;> simp
  rw [readManifest_eq, ho]
  cases o with
  | blob c => dsimp only; split
              · exact hck _
              · simp
  | man sch p cs => exact hck _

theorem checkoutFile_not_missing {ctx : Ctx κ} {strat : Strat} {cur : Option (Node κ)} {sum : Digest} {s : Store κ}
    (h : s.has sum = true) : checkoutFile ctx strat cur sum s ≠ .error .missingFromCache := by
  intro hh
  obtain ⟨o, ho⟩ := Store.has_eq_true.1 h
  cases hs : hasSum sum with
  | false => simp [checkoutFile, quick, hs] at hh
  | true =>
    -- both guards pass and the object is read: every arm left returns `.ok` or another error
    simp only [checkoutFile, quick, hs, h, ho, Bool.and_self, Bool.not_true, Bool.false_eq_true, if_false] at hh
    repeat' split at hh
    all_goals cases hh

theorem checkoutChildren_not_missing {f : Option (Node κ) → Child → Except Err (Node κ)} {P : Child → Prop}
    (hf : ∀ cur c, P c → f cur c ≠ .error .missingFromCache) :
    ∀ (cs : List Child) (es : List (Name × Node κ)), (∀ c, c ∈ cs → P c) →
      checkoutChildren f es cs ≠ .error .missingFromCache := by
  intro cs
  induction cs with
  | nil => intro es _ h; cases h
  | cons c cs ih =>
    intro es hp h
    rw [checkoutChildren_cons] at h
    split at h
    · rename_i e he
      injection h with h
      subst h
      exact hf _ c (hp c List.mem_cons_self) he
    · exact ih _ (fun k hk => hp k (List.mem_cons_of_mem _ hk)) h

theorem checkoutNode_not_missing (ctx : Ctx κ) (strat : Strat) (s : Store κ) :
    ∀ (fuel : Nat) (cur : Option (Node κ)) (c : Child), Closed ctx s c →
      checkoutNode ctx strat s fuel cur c ≠ .error .missingFromCache := by
  intro fuel
  induction fuel with
  | zero => intro cur c _ h; cases h
  | succ fuel ih =>
    intro cur c hcl h
    have hself := hcl _ (.self c)
    -- the two arms of the directory case (a directory in place, nothing in place) past the guards
    have harm : c.isDir = true → ∀ es, (match readManifest ctx s c.sum with
        | .error e => .error e
        | .ok cs => match checkoutChildren (checkoutNode ctx strat s fuel) es cs with
          | .error e => .error e
          | .ok es' => .ok (.dir es') : Except Err (Node κ)) ≠ .error .missingFromCache := by
      intro hd es h
      split at h
      · rename_i e he
        cases h
        exact readManifest_not_missing hself he
      · rename_i cs hm
        split at h
        · rename_i e he
          cases h
          exact checkoutChildren_not_missing (P := Closed ctx s) (fun cur k hk => ih cur k hk) cs es
            (fun k hk => hcl.child hd hm hk) he
        · cases h
    cases hd : c.isDir with
    | false =>
      exact checkoutFile_not_missing hself (checkoutNode_file hd ▸ h)
    | true =>
      simp only [checkoutNode, hd, hself, if_true, Bool.not_true, Bool.false_eq_true, if_false] at h
      split at h
      · cases h
      split at h
      · exact harm hd _ h
      · exact harm hd _ h
      · cases h

theorem checkoutArt_not_missing {ctx : Ctx κ} {strat : Strat} {fuel : Nat} {a : Art}
    {cur : Option (Node κ)} {s : Store κ}
    (hcl : a.skip = false → Closed ctx s a.child) :
    checkoutArt ctx strat fuel a cur s ≠ .error .missingFromCache := by
  intro hc
  unfold checkoutArt at hc
  split at hc
  · cases hc
  rename_i hsk
  split at hc
  · rename_i e he
    injection hc with hc
    subst hc
    exact checkoutNode_not_missing ctx strat s fuel cur a.child (hcl (by simpa using hsk)) he
  · cases hc

end Dud

/-! The fetch invariant `FetchInv` of `Props/C11world.lean` is stated with `Dud.RT.Store.ext`, which
has the body of `Dud.Store.ext`, so the two are interchangeable. -/
namespace Dud.RT

variable {κ : Type}

/-- `get`-extension: every binding of `s` is kept verbatim -/
def Store.ext (s s' : Store κ) : Prop := ∀ d o, s.get d = some o → s'.get d = some o

theorem Store.ext.le (ctx : Ctx κ) {s s' : Store κ} (h : Store.ext s s') : Store.le ctx s s' :=
  Dud.Store.ext.le ctx h

/-- a larger store (same bindings) reaches at least as much -/
theorem Reaches.mono {ctx : Ctx κ} {s s' : Store κ} (he : Store.ext s s') {c : Child} {d : Digest}
    (h : Reaches ctx s c d) : Reaches ctx s' c d :=
  Dud.Reaches.mono he h

/-- new objects of a copy are consistent when the source is -/
theorem copyObjs_consistent {ctx : Ctx κ} {src dst dst' : Store κ} {ds : List Digest}
    (h : copyObjs src dst ds = .ok dst') (hs : Consistent ctx src) (hd : Consistent ctx dst) :
    Consistent ctx dst' :=
  (copyObjs_fed h).consistent hd hs

end Dud.RT
