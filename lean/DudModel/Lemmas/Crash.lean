import DudModel.Sys
import DudModel.Spec
/-!
# Crash safety at the system-call level (C03): vocabulary and the preservation argument

A crash after the k-th mutating call leaves `replay emp fs (calls.take k)`.  `get_apply` reads `apply`
through `FS.get`: every fact about the state after a concrete trace is a computation with it.  `Safe` says
that every recorded (path, bytes) is still retrievable and that nothing torn or foreign sits under a digest
name; `Allowed` is the per-call discipline under which `Safe` is preserved (`Safe.apply`: objects only
arrive complete and stay, `objs_apply`; a path loses a file or a link only when what is recorded for it
is in the cache, `keeps_apply`), so a trace of allowed calls is safe after every prefix
(`AllowedTrace.prefixSafe`; `Pref Q` says that `Q` holds after every prefix of a trace).  `Spec` adds a
post-condition; the file-level traces `copyIntoCache` and `commitFileCalls` are specified here.
-/
namespace Dud.Sys

open Dud

variable {κ : Type}

theorem alookup_aerase {α β : Type} [DecidableEq α] (l : List (α × β)) (a b : α) :
    alookup (aerase l a) b = if a = b then none else alookup l b := by
  induction l with
  | nil => simp [aerase, alookup]
  | cons x xs ih =>
    obtain ⟨k, v⟩ := x
    simp only [aerase] at ih ⊢
    by_cases hk : k = a
    · subst hk
      simp only [List.filter_cons, beq_self_eq_true, Bool.not_true, Bool.false_eq_true, if_false]
      rw [ih]
      by_cases hb : k = b
      · simp [hb]
      · simp [hb, alookup]
    · have : (!(k == a)) = true := by simp [hk]
      simp only [List.filter_cons, this, if_true]
      by_cases hb : k = b
      · subst hb
        have hak : ¬ a = k := fun h => hk h.symm
        simp [alookup, hak]
      · simp only [alookup, beq_iff_eq, hb, if_false]
        exact ih

theorem alookup_append {α β : Type} [BEq α] (l1 l2 : List (α × β)) (a : α) :
    alookup (l1 ++ l2) a = match alookup l1 a with
      | some b => some b
      | none => alookup l2 a := by
  induction l1 with
  | nil => simp [alookup]
  | cons x xs ih =>
    obtain ⟨k, v⟩ := x
    simp only [List.cons_append, alookup]
    split
    · rfl
    · exact ih

theorem alookup_none_of_keys {α β : Type} [BEq α] [LawfulBEq α] (l : List (α × β)) (a : α)
    (h : ∀ p ∈ l, p.1 ≠ a) : alookup l a = none := by
  induction l with
  | nil => rfl
  | cons x xs ih =>
    obtain ⟨k, v⟩ := x
    have hk : k ≠ a := h (k, v) (by simp)
    simp only [alookup, beq_iff_eq, hk, if_false]
    exact ih (fun p hp => h p (by simp [hp]))

theorem FS.get_set (fs : FS κ) (p q : P) (e : Entry κ) :
    (fs.set p e).get q = if p = q then some e else fs.get q := by
  unfold FS.set FS.get
  by_cases h : p = q
  · subst h; simp [alookup]
  · simp only [alookup, beq_iff_eq, h, if_false]
    rw [alookup_aerase]; simp [h]

theorem FS.get_del (fs : FS κ) (p q : P) :
    (fs.del p).get q = if p = q then none else fs.get q := by
  unfold FS.del FS.get
  exact alookup_aerase fs p q

def callPaths : Call κ → List P
  | .mkdir p => [p]
  | .createExcl p => [p]
  | .createTrunc p => [p]
  | .writePart p => [p]
  | .write p _ => [p]
  | .rename s d => [s, d]
  | .chmod p _ => [p]
  | .unlink p => [p]
  | .symlink t p => [t, p]

/-- the paths a call can change (a symlink's target is only mentioned) -/
def callWrites : Call κ → List P
  | .symlink _ p => [p]
  | c => callPaths c

theorem callWrites_sub (c : Call κ) : ∀ p ∈ callWrites c, p ∈ callPaths c := by
  cases c <;> simp [callWrites, callPaths]

/-- what `writePart`, `write c` and `chmod m` make of the entry at their path -/
def Entry.tear : Entry κ → Entry κ
  | .file _ m => .torn m
  | e => e

def Entry.fill (c : κ) : Entry κ → Entry κ
  | .file _ m | .torn m => .file c m
  | e => e

def Entry.chmod (m : Nat) : Entry κ → Entry κ
  | .file c _ => .file c m
  | .torn _ => .torn m
  | e => e

/-- **`apply` read through `FS.get`**: the entry at every path after a call, from the entries before it.
With `replay_cons` it turns every question about the state after a concrete trace into a computation
(`simp [replay, get_apply]`). -/
theorem get_apply (emp : κ) (fs : FS κ) (c : Call κ) (q : P) : (apply emp fs c).get q =
    match c with
    | .mkdir p => if p = q then some ((fs.get p).getD .dir) else fs.get q
    | .createExcl p => if p = q then some ((fs.get p).getD (.file emp 0o600)) else fs.get q
    | .symlink t p => if p = q then some ((fs.get p).getD (.link t)) else fs.get q
    | .createTrunc p => if p = q then some (.file emp 0o644) else fs.get q
    | .unlink p => if p = q then none else fs.get q
    | .writePart p => if p = q then (fs.get p).map Entry.tear else fs.get q
    | .write p x => if p = q then (fs.get p).map (Entry.fill x) else fs.get q
    | .chmod p m => if p = q then (fs.get p).map (Entry.chmod m) else fs.get q
    | .rename s d => if (fs.get s).isSome then
        if d = q then fs.get s else if s = q then none else fs.get q else fs.get q := by
  cases c with
  | mkdir p | createExcl p | symlink t p =>
    by_cases hq : p = q
    · subst hq; cases h : fs.get p <;> simp [apply, FS.get_set, h]
    · cases h : fs.get p <;> simp [apply, FS.get_set, h, hq]
  | createTrunc p => simp only [apply, FS.get_set]
  | unlink p => simp only [apply, FS.get_del]
  | writePart p | write p x | chmod p m =>
    by_cases hq : p = q
    · subst hq
      rcases h : fs.get p with _ | _ | _ | _ | _ <;>
        simp [apply, FS.get_set, h, Entry.tear, Entry.fill, Entry.chmod]
    · rcases h : fs.get p with _ | _ | _ | _ | _ <;> simp [apply, FS.get_set, h, hq]
  | rename s d => cases h : fs.get s <;> simp [apply, h, FS.get_set, FS.get_del]

theorem apply_get_frame (emp : κ) (fs : FS κ) (c : Call κ) (q : P) (h : q ∉ callWrites c) :
    (apply emp fs c).get q = fs.get q := by
  rw [get_apply]
  cases c <;> simp [callWrites, callPaths] at h <;> simp [Ne.symm, h]

/-- the paths whose content determines the effect of a call on the paths it writes (`apply_get_congr`) -/
def callReads : Call κ → List P
  | .mkdir p => [p]
  | .createExcl p => [p]
  | .createTrunc _ => []
  | .writePart p => [p]
  | .write p _ => [p]
  | .rename s _ => [s]
  | .chmod p _ => [p]
  | .unlink _ => []
  | .symlink _ p => [p]

theorem callReads_sub_writes (c : Call κ) : ∀ p ∈ callReads c, p ∈ callWrites c := by
  cases c <;> simp [callReads, callWrites, callPaths]

theorem apply_get_congr (emp : κ) {fs fs' : FS κ} (c : Call κ) (q : P)
    (hr : ∀ p ∈ callReads c, fs'.get p = fs.get p) (hq : fs'.get q = fs.get q) :
    (apply emp fs' c).get q = (apply emp fs c).get q := by
  rw [get_apply, get_apply]
  cases c <;> simp [callReads] at hr <;> simp [hr, hq]

theorem replay_nil (emp : κ) (fs : FS κ) : replay emp fs [] = fs := rfl

theorem replay_cons (emp : κ) (fs : FS κ) (c : Call κ) (cs : List (Call κ)) :
    replay emp fs (c :: cs) = replay emp (apply emp fs c) cs := rfl

theorem replay_append (emp : κ) (fs : FS κ) (l1 l2 : List (Call κ)) :
    replay emp fs (l1 ++ l2) = replay emp (replay emp fs l1) l2 := by
  simp [replay, List.foldl_append]

theorem replay_get_frame (emp : κ) (calls : List (Call κ)) (q : P) :
    ∀ (fs : FS κ), (∀ c ∈ calls, q ∉ callWrites c) → (replay emp fs calls).get q = fs.get q := by
  induction calls with
  | nil => intro fs _; rfl
  | cons c cs ih =>
    intro fs h
    rw [replay_cons, ih _ (fun c' hc' => h c' (by simp [hc']))]
    exact apply_get_frame emp fs c q (h c (by simp))

/-- the byte sequence `c` recorded for workspace path `w` is still retrievable: at `w`, through a
link at `w`, or as the cache object named by its digest -/
def Retr (ctx : Ctx κ) (fs : FS κ) (w : P) (c : κ) : Prop :=
  (∃ m, fs.get w = some (.file c m)) ∨
  (∃ d m, fs.get w = some (.link (.obj d)) ∧ fs.get (.obj d) = some (.file c m)) ∨
  (∃ m, fs.get (.obj (ctx.H c)) = some (.file c m))

/-- whatever sits under a digest name is a complete file with exactly the bytes of that digest -/
def NoTorn (ctx : Ctx κ) (fs : FS κ) : Prop :=
  ∀ d e, fs.get (.obj d) = some e → ∃ c m, e = .file c m ∧ ctx.H c = d

def Safe (ctx : Ctx κ) (tracked : List (P × κ)) (fs : FS κ) : Prop :=
  (∀ p ∈ tracked, Retr ctx fs p.1 p.2) ∧ NoTorn ctx fs

def P.isObj : P → Bool
  | .obj _ => true
  | _ => false

theorem P.isObj_false {p : P} (h : p.isObj = false) (d : Digest) : p ≠ .obj d := by
  intro e; subst e; simp [P.isObj] at h

theorem P.isObj_true {p : P} (h : p.isObj = true) : ∃ d, p = .obj d := by
  cases p <;> simp [P.isObj] at h
  exact ⟨_, rfl⟩

/-- every content recorded for path `p` is in the cache under its digest -/
def Backed (ctx : Ctx κ) (tracked : List (P × κ)) (fs : FS κ) (p : P) : Prop :=
  ∀ c, (p, c) ∈ tracked → ∃ m, fs.get (.obj (ctx.H c)) = some (.file c m)

/-- The discipline every mutating call of dud's cache operations follows. -/
def Allowed (ctx : Ctx κ) (tracked : List (P × κ)) (fs : FS κ) : Call κ → Prop
  | .mkdir p => p.isObj = false
  | .createExcl p => p.isObj = false
  | .symlink _ p => p.isObj = false
  | .createTrunc p => p.isObj = false ∧ Backed ctx tracked fs p
  | .writePart p => p.isObj = false ∧ Backed ctx tracked fs p
  | .write p _ => p.isObj = false ∧ Backed ctx tracked fs p
  | .unlink p => p.isObj = false ∧ Backed ctx tracked fs p
  | .chmod _ _ => True
  | .rename s d => s.isObj = false ∧
      ∀ e, fs.get s = some e →
        (∀ dd, d = .obj dd → ∃ c m, e = .file c m ∧ ctx.H c = dd) ∧
        (d.isObj = false → Backed ctx tracked fs s ∧ Backed ctx tracked fs d)

/-- every complete object of `a` is a complete object with the same bytes in `b` -/
def ObjLe (a b : FS κ) : Prop :=
  ∀ d c m, a.get (.obj d) = some (.file c m) → ∃ m', b.get (.obj d) = some (.file c m')

theorem ObjLe.refl (a : FS κ) : ObjLe a a := fun _ _ m h => ⟨m, h⟩

theorem ObjLe.trans {a b c : FS κ} (h1 : ObjLe a b) (h2 : ObjLe b c) : ObjLe a c := by
  intro d x m h
  obtain ⟨m', h'⟩ := h1 d x m h
  exact h2 d x m' h'

theorem Backed.objLe {ctx : Ctx κ} {tracked : List (P × κ)} {a b : FS κ} {p : P}
    (h : Backed ctx tracked a p) (hle : ObjLe a b) : Backed ctx tracked b p := by
  intro c hc
  obtain ⟨m, hm⟩ := h c hc
  exact hle _ _ _ hm

theorem Backed.frame {ctx : Ctx κ} {tracked : List (P × κ)} {fs fs' : FS κ} {p : P}
    (h : Backed ctx tracked fs p) (hobj : ∀ d, fs'.get (.obj d) = fs.get (.obj d)) :
    Backed ctx tracked fs' p :=
  h.objLe (fun d _ m hm => ⟨m, (hobj d).trans hm⟩)

theorem backed_of_absent {ctx : Ctx κ} {tracked : List (P × κ)} {fs : FS κ} (hs : Safe ctx tracked fs)
    {p : P} (h : fs.get p = none) : Backed ctx tracked fs p := by
  intro c hc
  rcases hs.1 (p, c) hc with ⟨m, h1⟩ | ⟨d, m, h1, _⟩ | h3
  · simp [h] at h1
  · simp [h] at h1
  · exact h3

theorem backed_of_file {ctx : Ctx κ} {tracked : List (P × κ)} {fs : FS κ} (hs : Safe ctx tracked fs)
    {p : P} {c : κ} {m m' : Nat} (h : fs.get p = some (.file c m))
    (ho : fs.get (.obj (ctx.H c)) = some (.file c m')) : Backed ctx tracked fs p := by
  intro c' hc
  rcases hs.1 (p, c') hc with ⟨m1, h1⟩ | ⟨d, m1, h1, _⟩ | h3
  · rw [h] at h1; cases h1; exact ⟨m', ho⟩
  · rw [h] at h1; cases h1
  · exact h3

theorem backed_of_link {ctx : Ctx κ} {tracked : List (P × κ)} {fs : FS κ} (hs : Safe ctx tracked fs)
    {p : P} {d : Digest} (h : fs.get p = some (.link (.obj d))) : Backed ctx tracked fs p := by
  intro c' hc
  rcases hs.1 (p, c') hc with ⟨m1, h1⟩ | ⟨d', m1, h1, h2⟩ | h3
  · rw [h] at h1; cases h1
  · obtain ⟨c2, m2, he, hd⟩ := hs.2 d' _ h2
    cases he
    exact ⟨m1, by rw [hd]; exact h2⟩
  · exact h3

/-- every complete file and every link of `a` at `w` is still at `w` in `b` (the mode may differ) -/
def KeepsAt (a b : FS κ) (w : P) : Prop :=
  (∀ c m, a.get w = some (.file c m) → ∃ m', b.get w = some (.file c m')) ∧
    ∀ t, a.get w = some (.link t) → b.get w = some (.link t)

theorem KeepsAt.of_eq {a b : FS κ} {w : P} (h : b.get w = a.get w) : KeepsAt a b w :=
  ⟨fun _ m h1 => ⟨m, h.trans h1⟩, fun _ h1 => h.trans h1⟩

/-- **What keeps a file system safe**: nothing torn or foreign arrives under a digest name, complete objects
stay, and a path that is no object name loses a file or a link only when everything recorded for it is in
the cache. -/
theorem Safe.step {ctx : Ctx κ} {tracked : List (P × κ)} {fs fs' : FS κ} (hs : Safe ctx tracked fs)
    (hnt : NoTorn ctx fs') (hle : ObjLe fs fs')
    (hk : ∀ w, w.isObj = false → KeepsAt fs fs' w ∨ Backed ctx tracked fs' w) :
    Safe ctx tracked fs' := by
  refine ⟨?_, hnt⟩
  rintro ⟨w, c⟩ hwc
  have hk' : KeepsAt fs fs' w ∨ Backed ctx tracked fs' w := by
    cases hwo : w.isObj with
    | false => exact hk w hwo
    | true =>
      obtain ⟨d, rfl⟩ := P.isObj_true hwo
      refine .inl ⟨fun _ _ h1 => hle _ _ _ h1, fun t h1 => ?_⟩
      obtain ⟨_, _, he, _⟩ := hs.2 _ _ h1
      cases he
  rcases hk' with hk | hb
  · rcases hs.1 _ hwc with ⟨m, h1⟩ | ⟨d', m, h1, h2⟩ | ⟨m, h1⟩
    · exact .inl (hk.1 _ _ h1)
    · obtain ⟨m', h'⟩ := hle _ _ _ h2
      exact .inr (.inl ⟨d', m', hk.2 _ h1, h'⟩)
    · exact .inr (.inr (hle _ _ _ h1))
  · exact .inr (.inr (hb c hwc))

/-- **What an allowed call does to the objects**: the entry under a digest name stays as it is, or is a
complete file with that digest (a `chmod` of an object; a `rename` onto the name). -/
theorem objs_apply {ctx : Ctx κ} {tracked : List (P × κ)} (emp : κ) {fs : FS κ}
    (hnt : NoTorn ctx fs) {c : Call κ} (ha : Allowed ctx tracked fs c) (d : Digest) :
    (apply emp fs c).get (.obj d) = fs.get (.obj d) ∨
      ∃ x m, ctx.H x = d ∧ (apply emp fs c).get (.obj d) = some (.file x m) := by
  have keep : ∀ p : P, p.isObj = false → callWrites c = [p] →
      (apply emp fs c).get (.obj d) = fs.get (.obj d) := fun p hp hw =>
    apply_get_frame _ _ _ _ (by rw [hw]; simp; exact Ne.symm (P.isObj_false hp d))
  cases c with
  | mkdir p | createExcl p | symlink t p => exact .inl (keep p ha rfl)
  | createTrunc p | writePart p | write p y | unlink p => exact .inl (keep p ha.1 rfl)
  | chmod p mm =>
    by_cases hp : p = .obj d
    · subst hp
      cases hg : fs.get (.obj d) with
      | none => exact .inl (by simp [get_apply, hg])
      | some e =>
        obtain ⟨x, m, rfl, hx⟩ := hnt d e hg
        exact .inr ⟨x, mm, hx, by simp [get_apply, hg, Entry.chmod]⟩
    · exact .inl (by simp [get_apply, hp])
  | rename s dst =>
    have hsne : s ≠ .obj d := P.isObj_false ha.1 d
    cases hs : fs.get s with
    | none => exact .inl (by simp [get_apply, hs])
    | some e =>
      by_cases hdst : dst = .obj d
      · obtain ⟨x, m, rfl, hx⟩ := (ha.2 e hs).1 d hdst
        exact .inr ⟨x, m, hx, by simp [get_apply, hs, hdst]⟩
      · exact .inl (by simp [get_apply, hs, hdst, hsne])

theorem noTorn_apply {ctx : Ctx κ} {tracked : List (P × κ)} (emp : κ) {fs : FS κ}
    (hnt : NoTorn ctx fs) {c : Call κ} (ha : Allowed ctx tracked fs c) : NoTorn ctx (apply emp fs c) := by
  intro d e he
  rcases objs_apply emp hnt ha d with h | ⟨x, m, hx, h⟩
  · exact hnt d e (h ▸ he)
  · exact ⟨x, m, Option.some.inj (he.symm.trans h), hx⟩

theorem objLe_apply {ctx : Ctx κ} (g : Good ctx) {tracked : List (P × κ)} (emp : κ) {fs : FS κ}
    (hnt : NoTorn ctx fs) {c : Call κ} (ha : Allowed ctx tracked fs c) : ObjLe fs (apply emp fs c) := by
  intro d x m hd
  rcases objs_apply emp hnt ha d with h | ⟨x', m', hx', h⟩
  · exact ⟨m, h.trans hd⟩
  · obtain ⟨_, _, he, hx⟩ := hnt d _ hd
    cases he
    cases g.inj _ _ (hx.trans hx'.symm)
    exact ⟨m', h⟩

theorem keeps_apply {ctx : Ctx κ} (g : Good ctx) {tracked : List (P × κ)} (emp : κ) {fs : FS κ}
    (hs : Safe ctx tracked fs) {c : Call κ} (ha : Allowed ctx tracked fs c) (w : P) (hwo : w.isObj = false) :
    KeepsAt fs (apply emp fs c) w ∨ Backed ctx tracked (apply emp fs c) w := by
  have hle := objLe_apply g emp hs.2 ha
  by_cases hw : w ∈ callWrites c
  · cases c with
    | mkdir p | createExcl p | symlink t p =>
      obtain rfl : w = p := by simpa [callWrites, callPaths] using hw
      cases hg : fs.get w with
      | none => exact .inl ⟨fun _ _ h => (by rw [hg] at h; cases h), fun _ h => (by rw [hg] at h; cases h)⟩
      | some e => exact .inl (.of_eq (by simp [get_apply, hg]))
    | createTrunc p | writePart p | write p x | unlink p =>
      obtain rfl : w = p := by simpa [callWrites, callPaths] using hw
      exact .inr (ha.2.objLe hle)
    | chmod p m =>
      obtain rfl : w = p := by simpa [callWrites, callPaths] using hw
      exact .inl ⟨fun x m0 h => ⟨m, by simp [get_apply, h, Entry.chmod]⟩,
        fun t h => by simp [get_apply, h, Entry.chmod]⟩
    | rename s d =>
      cases hg : fs.get s with
      | none => exact .inl (.of_eq (by simp [get_apply, hg]))
      | some e =>
        obtain ⟨h1, h2⟩ := ha.2 e hg
        cases hdo : d.isObj with
        | false =>
          have := h2 hdo
          simp [callWrites, callPaths] at hw
          rcases hw with rfl | rfl
          · exact .inr (this.1.objLe hle)
          · exact .inr (this.2.objLe hle)
        | true =>
          -- the file moved away is now in the cache under its digest
          obtain ⟨dd, rfl⟩ := P.isObj_true hdo
          obtain ⟨x, m, rfl, rfl⟩ := h1 dd rfl
          obtain rfl : w = s := by
            simp [callWrites, callPaths] at hw
            rcases hw with h | h
            · exact h
            · rw [h] at hwo; cases hwo
          refine .inr fun c' hc' => ?_
          rcases hs.1 _ hc' with ⟨m1, h1⟩ | ⟨d', m1, h1, _⟩ | h3
          · rw [hg] at h1; cases h1
            exact ⟨m, by simp [get_apply, hg]⟩
          · rw [hg] at h1; cases h1
          · obtain ⟨m1, h3⟩ := h3
            exact hle _ _ _ h3
  · exact .inl (.of_eq (apply_get_frame emp fs c w hw))

theorem Safe.apply {ctx : Ctx κ} (g : Good ctx) {tracked : List (P × κ)} {fs : FS κ}
    (emp : κ) (hs : Safe ctx tracked fs) {c : Call κ} (ha : Allowed ctx tracked fs c) :
    Safe ctx tracked (Sys.apply emp fs c) :=
  hs.step (noTorn_apply emp hs.2 ha) (objLe_apply g emp hs.2 ha) (keeps_apply g emp hs ha)

/-- `Q` holds in the state after every prefix of the trace (a crash after the k-th call) -/
def Pref (Q : FS κ → Prop) (emp : κ) (fs : FS κ) (calls : List (Call κ)) : Prop :=
  ∀ k, Q (replay emp fs (calls.take k))

theorem Pref.nil {Q : FS κ → Prop} {emp : κ} {fs : FS κ} (h : Q fs) : Pref Q emp fs [] := by
  intro k; rwa [List.take_nil]

theorem Pref.cons {Q : FS κ → Prop} {emp : κ} {fs : FS κ} {c : Call κ} {cs : List (Call κ)}
    (h0 : Q fs) (h : Pref Q emp (apply emp fs c) cs) : Pref Q emp fs (c :: cs)
  | 0 => h0
  | k + 1 => h k

theorem Pref.start {Q : FS κ → Prop} {emp : κ} {fs : FS κ} {calls : List (Call κ)}
    (h : Pref Q emp fs calls) : Q fs :=
  h 0

theorem Pref.final {Q : FS κ → Prop} {emp : κ} {fs : FS κ} {calls : List (Call κ)}
    (h : Pref Q emp fs calls) : Q (replay emp fs calls) :=
  List.take_length (l := calls) ▸ h calls.length

theorem Pref.append {Q : FS κ → Prop} {emp : κ} {fs : FS κ} {l1 l2 : List (Call κ)}
    (h1 : Pref Q emp fs l1) (h2 : Pref Q emp (replay emp fs l1) l2) : Pref Q emp fs (l1 ++ l2) := by
  intro k
  rw [List.take_append, replay_append]
  by_cases hk : k ≤ l1.length
  · rw [Nat.sub_eq_zero_of_le hk]; exact h1 k
  · rw [List.take_of_length_le (by omega)]; exact h2 _

theorem Pref.mono {Q Q' : FS κ → Prop} {emp : κ} {fs : FS κ} {calls : List (Call κ)}
    (h : Pref Q emp fs calls) (hq : ∀ fs', Q fs' → Q' fs') : Pref Q' emp fs calls :=
  fun k => hq _ (h k)

/-- the state after every prefix of the trace is safe; definitionally `Pref (Safe ctx tracked)`, which is what
the lemmas conclude (`AllowedTrace.prefixSafe`); `Props/C03par.lean` states its results with this name -/
def PrefixSafe (ctx : Ctx κ) (emp : κ) (tracked : List (P × κ)) (fs : FS κ)
    (calls : List (Call κ)) : Prop :=
  ∀ k, Safe ctx tracked (replay emp fs (calls.take k))

theorem PrefixSafe.start {ctx : Ctx κ} {emp : κ} {tracked : List (P × κ)} {fs : FS κ}
    {calls : List (Call κ)} (h : PrefixSafe ctx emp tracked fs calls) : Safe ctx tracked fs :=
  Pref.start (Q := Safe ctx tracked) h

theorem PrefixSafe.append {ctx : Ctx κ} {emp : κ} {tracked : List (P × κ)} {fs : FS κ}
    {l1 l2 : List (Call κ)} (h1 : PrefixSafe ctx emp tracked fs l1)
    (h2 : PrefixSafe ctx emp tracked (replay emp fs l1) l2) :
    PrefixSafe ctx emp tracked fs (l1 ++ l2) :=
  Pref.append (Q := Safe ctx tracked) h1 h2

/-- a trace all of whose calls are allowed in the state they are issued in -/
def AllowedTrace (ctx : Ctx κ) (emp : κ) (tracked : List (P × κ)) : FS κ → List (Call κ) → Prop
  | _, [] => True
  | fs, c :: cs => Allowed ctx tracked fs c ∧ AllowedTrace ctx emp tracked (apply emp fs c) cs

theorem AllowedTrace.prefixSafe {ctx : Ctx κ} (g : Good ctx) {emp : κ} {tracked : List (P × κ)} :
    ∀ {fs : FS κ} {calls : List (Call κ)}, Safe ctx tracked fs →
      AllowedTrace ctx emp tracked fs calls → Pref (Safe ctx tracked) emp fs calls
  | _, [], hs, _ => Pref.nil hs
  | _, _ :: _, hs, ha => Pref.cons hs (AllowedTrace.prefixSafe g (hs.apply g emp ha.1) ha.2)

theorem AllowedTrace.safe_final {ctx : Ctx κ} (g : Good ctx) {emp : κ} {tracked : List (P × κ)}
    {fs : FS κ} {calls : List (Call κ)} (hs : Safe ctx tracked fs)
    (ha : AllowedTrace ctx emp tracked fs calls) : Safe ctx tracked (replay emp fs calls) :=
  (ha.prefixSafe g hs).final

theorem AllowedTrace.append {ctx : Ctx κ} {emp : κ} {tracked : List (P × κ)} :
    ∀ {fs : FS κ} {l1 l2 : List (Call κ)}, AllowedTrace ctx emp tracked fs l1 →
      AllowedTrace ctx emp tracked (replay emp fs l1) l2 → AllowedTrace ctx emp tracked fs (l1 ++ l2)
  | _, [], _, _, h2 => h2
  | _, _ :: _, _, h1, h2 => ⟨h1.1, AllowedTrace.append h1.2 h2⟩

theorem allowed_of_backed {ctx : Ctx κ} {tracked : List (P × κ)} {fs : FS κ} {c : Call κ}
    (h : ∀ p ∈ callWrites c, p.isObj = false ∧ Backed ctx tracked fs p) : Allowed ctx tracked fs c := by
  cases c with
  | mkdir p | createExcl p | symlink t p => exact (h p (by simp [callWrites, callPaths])).1
  | createTrunc p | writePart p | write p x | unlink p => exact h p (by simp [callWrites, callPaths])
  | chmod _ _ => trivial
  | rename s d =>
    have hs := h s (by simp [callWrites, callPaths])
    have hd := h d (by simp [callWrites, callPaths])
    exact ⟨hs.1, fun e _ => ⟨fun dd hdd => (by rw [hdd] at hd; cases hd.1), fun _ => ⟨hs.2, hd.2⟩⟩⟩

theorem allowedTrace_at {ctx : Ctx κ} {tracked : List (P × κ)} (emp : κ) {w : P} (hwo : w.isObj = false) :
    ∀ (calls : List (Call κ)) {fs : FS κ}, Backed ctx tracked fs w →
      (∀ c ∈ calls, ∀ p ∈ callWrites c, p = w) → AllowedTrace ctx emp tracked fs calls
  | [], _, _, _ => trivial
  | c :: cs, _, hb, hw =>
    have hc := hw c List.mem_cons_self
    ⟨allowed_of_backed fun p hp => hc p hp ▸ ⟨hwo, hb⟩,
      allowedTrace_at emp hwo cs
        (hb.frame fun d => apply_get_frame _ _ _ _ fun hm => P.isObj_false hwo d (hc _ hm).symm)
        fun c' hc' => hw c' (List.mem_cons_of_mem _ hc')⟩

theorem get_createExcl_self {emp : κ} {fs : FS κ} {p : P} (h : fs.get p = none) :
    (apply emp fs (.createExcl p)).get p = some (.file emp 0o600) := by
  simp [get_apply, h]

theorem get_rename_dst {emp : κ} {fs : FS κ} {s d : P} {e : Entry κ} (h : fs.get s = some e) :
    (apply emp fs (.rename s d)).get d = some e := by
  simp [get_apply, h]

theorem get_chmod_self_file {emp : κ} {fs : FS κ} {p : P} {c : κ} {m0 : Nat} (m : Nat)
    (h : fs.get p = some (.file c m0)) : (apply emp fs (.chmod p m)).get p = some (.file c m) := by
  simp [get_apply, h, Entry.chmod]

theorem get_chmod_self_inv {emp : κ} {fs : FS κ} {p : P} {c : κ} {m m' : Nat}
    (h : (apply emp fs (.chmod p m)).get p = some (.file c m')) :
    m' = m ∧ ∃ m0, fs.get p = some (.file c m0) := by
  rcases hg : fs.get p with _ | _ | _ | _ | _ <;> simp [get_apply, hg, Entry.chmod] at h
  exact ⟨h.2.symm, _, by rw [h.1]⟩

theorem get_unlink_self {emp : κ} {fs : FS κ} {p : P} :
    (apply emp fs (.unlink p)).get p = none := by
  simp [get_apply]

/-- the cache temp names from `n` on are unused -/
def CtmpFree (n : Nat) (fs : FS κ) : Prop := ∀ k, n ≤ k → fs.get (.ctmp k) = none

theorem CtmpFree.mono {n n' : Nat} {fs : FS κ} (h : CtmpFree n fs) (hle : n ≤ n') : CtmpFree n' fs :=
  fun k hk => h k (by omega)

/-- Hoare-style specification of a trace: all calls allowed, and a post-condition -/
def Spec (ctx : Ctx κ) (emp : κ) (tracked : List (P × κ)) (fs : FS κ) (calls : List (Call κ))
    (Q : FS κ → Prop) : Prop :=
  AllowedTrace ctx emp tracked fs calls ∧ Q (replay emp fs calls)

theorem Spec.append {ctx : Ctx κ} {emp : κ} {tracked : List (P × κ)} {fs : FS κ} {Q : FS κ → Prop}
    {l1 l2 : List (Call κ)}
    (h : Spec ctx emp tracked fs l1 (fun fs1 => Spec ctx emp tracked fs1 l2 Q)) :
    Spec ctx emp tracked fs (l1 ++ l2) Q :=
  ⟨AllowedTrace.append h.1 h.2.1, by rw [replay_append]; exact h.2.2⟩

theorem Spec.mono {ctx : Ctx κ} {emp : κ} {tracked : List (P × κ)} {fs : FS κ} {Q Q' : FS κ → Prop}
    {l : List (Call κ)} (h : Spec ctx emp tracked fs l Q) (hq : ∀ fs', Q fs' → Q' fs') :
    Spec ctx emp tracked fs l Q' := ⟨h.1, hq _ h.2⟩

def TrackedWs (tracked : List (P × κ)) : Prop := ∀ p ∈ tracked, ∃ q, p.1 = .ws q

theorem backed_of_notWs {ctx : Ctx κ} {tracked : List (P × κ)} (htw : TrackedWs tracked) (fs : FS κ)
    {p : P} (hp : ∀ q, p ≠ .ws q) : Backed ctx tracked fs p := by
  intro c hc
  obtain ⟨q, hq⟩ := htw _ hc
  exact absurd hq (hp q)

theorem copyIntoCache_spec {ctx : Ctx κ} {tracked : List (P × κ)} (htw : TrackedWs tracked)
    {emp : κ} {isEmp : κ → Bool} (hemp : ∀ c, isEmp c = true → c = emp)
    {fs : FS κ} {n : Nat} (hfresh : fs.get (.ctmp n) = none) (c : κ) :
    Spec ctx emp tracked fs (copyIntoCache isEmp n c (ctx.H c))
      (fun fs' => fs'.get (.obj (ctx.H c)) = some (.file c 0o444)) := by
  -- the temp file carries no recorded content; the rename moves it, complete, onto the name of its digest
  have hb : ∀ fs' : FS κ, Backed ctx tracked fs' (.ctmp n) := fun fs' =>
    backed_of_notWs htw fs' (by intro q; simp)
  cases he : isEmp c with
  | true =>
    obtain rfl := hemp c he
    simp [Spec, copyIntoCache, he, AllowedTrace, Allowed, P.isObj, replay, get_apply, hfresh, Entry.chmod]
  | false =>
    simp [Spec, copyIntoCache, he, AllowedTrace, Allowed, P.isObj, replay, get_apply, hfresh, hb,
      Entry.tear, Entry.fill, Entry.chmod]

theorem copyIntoCache_paths (isEmp : κ → Bool) (n : Nat) (c : κ) (d : Digest) :
    ∀ call ∈ copyIntoCache isEmp n c d, ∀ p ∈ callPaths call,
      p = .ctmp n ∨ p = .shard (shardOf d) ∨ p = .obj d := by
  intro call hcall p hp
  have h1 : ∀ {call : Call κ} {q : P}, callPaths call = [q] → p ∈ callPaths call → p = q :=
    fun h hp => List.mem_singleton.1 (h ▸ hp)
  simp only [copyIntoCache, List.mem_append] at hcall
  rcases hcall with (hcall | hcall) | hcall
  · cases List.mem_singleton.1 hcall; exact .inl (h1 rfl hp)
  · cases he : isEmp c with
    | true => rw [he] at hcall; cases hcall
    | false =>
      rw [he] at hcall
      rcases List.mem_cons.1 hcall with rfl | hcall
      · exact .inl (h1 rfl hp)
      · cases List.mem_singleton.1 hcall; exact .inl (h1 rfl hp)
  · rcases List.mem_cons.1 hcall with rfl | hcall
    · exact .inr (.inl (h1 rfl hp))
    · rcases List.mem_cons.1 hcall with rfl | hcall
      · rcases List.mem_cons.1 hp with rfl | hp
        · exact .inl rfl
        · exact .inr (.inr (List.mem_singleton.1 hp))
      · cases List.mem_singleton.1 hcall; exact .inr (.inr (h1 rfl hp))

theorem commitFileCalls_paths (isEmp : κ → Bool) (strat : Strat) (canRename : Bool) (w : P) (n : Nat)
    (c : κ) (d : Digest) :
    ∀ call ∈ commitFileCalls isEmp strat canRename w n c d, ∀ p ∈ callPaths call,
      p = w ∨ (¬ (strat = .link ∧ canRename = true) ∧ p = .ctmp n) ∨  -- a rename uses no temp file
        p = .shard (shardOf d) ∨ p = .obj d := by
  intro call hcall p hp
  cases strat <;> cases canRename <;> simp only [commitFileCalls, List.mem_append] at hcall
  · rcases hcall with h | h
    · rcases copyIntoCache_paths isEmp n c d call h p hp with h | h | h <;> simp [h]
    · simp at h; rcases h with rfl | rfl <;> simp only [callPaths] at hp <;> grind
  · simp at hcall
    rcases hcall with rfl | rfl | rfl | rfl <;> simp only [callPaths] at hp <;> grind
  · rcases copyIntoCache_paths isEmp n c d call hcall p hp with h | h | h <;> simp [h]
  · rcases copyIntoCache_paths isEmp n c d call hcall p hp with h | h | h <;> simp [h]

/-- the calls `checkoutFile` can issue -/
theorem checkoutFileCalls_mem (isEmp : κ → Bool) (strat : Strat) (w : P) (b : Bool) (c : κ) (d : Digest) :
    ∀ call ∈ checkoutFileCalls isEmp strat w b c d,
      call = .unlink w ∨ call = .createExcl w ∨ call = .writePart w ∨ call = .write w c ∨
        call = .symlink (.obj d) w := by
  cases strat <;> cases b <;> cases he : isEmp c <;> simp [checkoutFileCalls, he]

/-- `commitFileArtifact` on a regular file at any path that is neither an object nor a shard
directory: every call is allowed, and afterwards the bytes are in the cache under their digest. -/
theorem commitFileCalls_spec_gen {ctx : Ctx κ} (g : Good ctx) {tracked : List (P × κ)}
    (htw : TrackedWs tracked) {emp : κ} {isEmp : κ → Bool} (hemp : ∀ c, isEmp c = true → c = emp)
    {fs : FS κ} (hs : Safe ctx tracked fs) {w : P} (hwo : w.isObj = false)
    (hwsh : ∀ h, w ≠ .shard h) {c : κ} {m : Nat}
    (hw : fs.get w = some (.file c m)) {n : Nat} (hfresh : fs.get (.ctmp n) = none)
    (strat : Strat) (canRename : Bool) :
    Spec ctx emp tracked fs (commitFileCalls isEmp strat canRename w n c (ctx.H c))
      (fun fs' => fs'.get (.obj (ctx.H c)) = some (.file c 0o444)) := by
  have hcic := copyIntoCache_spec (ctx := ctx) htw hemp hfresh c
  have hwobj : ∀ d, w ≠ .obj d := P.isObj_false hwo
  cases strat with
  | copy => cases canRename <;> exact hcic
  | link =>
    cases canRename with
    | false =>
      -- after the copy the file is still in place and its bytes are in the cache: removing it is allowed
      have hw1 : (replay emp fs (copyIntoCache isEmp n c (ctx.H c))).get w = some (.file c m) := by
        rw [replay_get_frame _ _ _ _ fun call hcall hmem => ?_, hw]
        rcases copyIntoCache_paths isEmp n c (ctx.H c) call hcall _ (callWrites_sub _ _ hmem)
          with h | h | h
        · rw [h, hfresh] at hw; cases hw
        · exact hwsh _ h
        · exact hwobj _ h
      have hb := backed_of_file (hcic.1.safe_final g hs) hw1 hcic.2
      refine ⟨hcic.1.append ⟨⟨hwo, hb⟩, hwo, trivial⟩, ?_⟩
      simp [commitFileCalls, replay_append, replay_cons, replay_nil, get_apply, hwobj, hcic.2]
    | true =>
      -- the file itself is moved onto the name of its digest
      have hsh : ∀ h, P.shard h ≠ w := fun h => (hwsh h).symm
      simp only [Spec, commitFileCalls, AllowedTrace, Allowed, hwo]
      simp [P.isObj, replay, get_apply, hw, hwobj, hsh, Entry.chmod]

/-- `commitFileArtifact` on a regular workspace file: every call is allowed, and afterwards the
bytes are in the cache under their digest. -/
theorem commitFileCalls_spec {ctx : Ctx κ} (g : Good ctx) {tracked : List (P × κ)}
    (htw : TrackedWs tracked) {emp : κ} {isEmp : κ → Bool} (hemp : ∀ c, isEmp c = true → c = emp)
    {fs : FS κ} (hs : Safe ctx tracked fs) {q : List Name} {c : κ} {m : Nat}
    (hw : fs.get (.ws q) = some (.file c m)) {n : Nat} (hfresh : fs.get (.ctmp n) = none)
    (strat : Strat) (canRename : Bool) :
    Spec ctx emp tracked fs (commitFileCalls isEmp strat canRename (.ws q) n c (ctx.H c))
      (fun fs' => fs'.get (.obj (ctx.H c)) = some (.file c 0o444)) :=
  commitFileCalls_spec_gen g htw hemp hs rfl (by simp) hw hfresh strat canRename

theorem AllowedTrace.objLe {ctx : Ctx κ} (g : Good ctx) {emp : κ} {tracked : List (P × κ)} :
    ∀ {fs : FS κ} {calls : List (Call κ)}, Safe ctx tracked fs →
      AllowedTrace ctx emp tracked fs calls → Pref (ObjLe fs) emp fs calls
  | _, [], _, _ => Pref.nil (ObjLe.refl _)
  | _, _ :: _, hs, ha => Pref.cons (ObjLe.refl _)
    ((AllowedTrace.objLe g (hs.apply g emp ha.1) ha.2).mono fun _ h => (objLe_apply g emp hs.2 ha.1).trans h)

end Dud.Sys
