import DudModel.StageFile
import DudModel.Lemmas.PathSpec
import DudModel.Lemmas.InsertSort
/-!
# Lemmas for C17: the stage file

`sortArts` as a canonical form (sorted, permutation-invariant, commuting with path-preserving maps);
what `strings.TrimSpace` returns has no white space at either end and such a string is left alone
(`trimSpace_trimmed`, `trimSpace_fix`); per map entry `docArt` undoes `artDoc` on a clean path
(`docArt_artDoc`).  Idempotence of `TrimSpace` and the round trip of `toDoc` / `fromDoc` are stated
from these in `Props/C17.lean`; idempotence of `filepath.Clean` is `PathSpec.clean_idem`.
-/
namespace Dud

theorem ArtSorted.nodup {l : List Art} (h : ArtSorted l) : (l.map (·.path)).Nodup :=
  SortedBy.nodup (k := Art.path) h

/-- sortedness depends on the paths only -/
theorem ArtSorted.map {l : List Art} (h : ArtSorted l) (f : Art → Art)
    (hf : ∀ a, (f a).path = a.path) : ArtSorted (l.map f) :=
  SortedBy.map (k := Art.path) (k' := Art.path) h f hf

theorem sortArts_sorted (l : List Art) : ArtSorted (sortArts l) :=
  sortArts_eq ▸ sortBy_sorted Art.path l

theorem sortArts_perm_self (l : List Art) (h : (l.map (·.path)).Nodup) : (sortArts l).Perm l :=
  sortArts_eq ▸ sortBy_perm_self l h

theorem sortArts_perm {l1 l2 : List Art} (hp : l1.Perm l2) (hnd : (l1.map (·.path)).Nodup) :
    sortArts l1 = sortArts l2 :=
  sortArts_eq ▸ sortBy_perm hp hnd

theorem sortArts_of_sorted {l : List Art} (h : ArtSorted l) : sortArts l = l :=
  sortArts_eq ▸ sortBy_of_sorted (k := Art.path) h

theorem sortArts_idem (l : List Art) : sortArts (sortArts l) = sortArts l :=
  sortArts_of_sorted (sortArts_sorted l)

theorem sortArts_map (g : Art → Art) (hg : ∀ a, (g a).path = a.path) :
    ∀ (l : List Art), sortArts (l.map g) = (sortArts l).map g
  | [] => rfl
  | c :: cs => sortArts_eq ▸ (sortBy_map g hg (c :: cs)).symm

/-- `(sortArts l).map Art.defArt` only depends on `l.map Art.defArt` -/
theorem sortArts_defArt (l : List Art) :
    (sortArts l).map Art.defArt = sortBy GoJson.DefArt.path (l.map Art.defArt) :=
  sortArts_eq ▸ sortBy_map (k := Art.path) (k' := GoJson.DefArt.path) Art.defArt (fun _ => rfl) l

open Path

theorem clean_ne_nil (s : Bytes) : clean s ≠ [] := PathSpec.clean_ne_nil s

theorem stripOne_none_iff {ws : List Bytes} {b : Bytes} :
    stripOne ws b = none ↔ ∀ w ∈ ws, ¬ w <+: b := by
  simp only [stripOne, List.findSome?_eq_none_iff]
  constructor
  · intro h w hw hp
    have := h w hw
    rw [if_pos (List.isPrefixOf_iff_prefix.2 hp)] at this
    cases this
  · intro h w hw
    rw [if_neg (fun hp => h w hw (List.isPrefixOf_iff_prefix.1 hp))]

theorem stripOne_some {ws : List Bytes} {b r : Bytes} (h : stripOne ws b = some r) :
    ∃ w ∈ ws, b = w ++ r := by
  simp only [stripOne] at h
  obtain ⟨w, hw, h⟩ := List.exists_of_findSome?_eq_some h
  split at h
  · rename_i hp
    obtain ⟨t, ht⟩ := List.isPrefixOf_iff_prefix.1 hp
    refine ⟨w, hw, ?_⟩
    cases h
    rw [← ht]; simp
  · cases h

theorem trimLeftWith_fix {ws : List Bytes} {b : Bytes} (h : stripOne ws b = none) (n : Nat) :
    trimLeftWith ws n b = b := by
  cases n with
  | zero => rfl
  | succ n => simp [trimLeftWith, h]

theorem trimLeftWith_suffix (ws : List Bytes) (n : Nat) : ∀ (b : Bytes),
    trimLeftWith ws n b <:+ b := by
  induction n with
  | zero => exact fun b => List.suffix_refl b
  | succ n ih =>
    intro b
    simp only [trimLeftWith]
    cases h : stripOne ws b with
    | none => exact List.suffix_refl b
    | some r =>
      obtain ⟨w, _, hb⟩ := stripOne_some h
      exact (ih r).trans ⟨w, hb.symm⟩

theorem trimLeftWith_nopre {ws : List Bytes} (hws : ∀ w ∈ ws, w ≠ []) (n : Nat) : ∀ (b : Bytes),
    b.length ≤ n → stripOne ws (trimLeftWith ws n b) = none := by
  induction n with
  | zero =>
    intro b h
    have : b = [] := List.eq_nil_of_length_eq_zero (by omega)
    subst this
    rw [trimLeftWith, stripOne_none_iff]
    intro w hw hp
    exact hws w hw (List.prefix_nil.1 hp)
  | succ n ih =>
    intro b h
    simp only [trimLeftWith]
    cases hs : stripOne ws b with
    | none => exact hs
    | some r =>
      obtain ⟨w, hw, hb⟩ := stripOne_some hs
      have : 0 < w.length := List.length_pos_iff.2 (hws w hw)
      have hl : r.length ≤ n := by
        have := congrArg List.length hb
        simp at this; omega
      exact ih r hl

theorem trimLeft_nopre (b : Bytes) : stripOne wsSeqs (trimLeft b) = none :=
  trimLeftWith_nopre (ws := wsSeqs) (by decide) _ _ (Nat.le_refl _)

theorem trimRight_prefix (b : Bytes) : trimRight b <+: b := by
  simpa [trimRight] using
    List.reverse_prefix.2 (trimLeftWith_suffix (wsSeqs.map List.reverse) b.length b.reverse)

theorem trimRight_nosuf (b : Bytes) :
    stripOne (wsSeqs.map List.reverse) (trimRight b).reverse = none := by
  rw [trimRight, List.reverse_reverse]
  exact trimLeftWith_nopre (ws := wsSeqs.map List.reverse) (by decide) _ _ (by simp)

theorem trimRight_fix {b : Bytes} (h : stripOne (wsSeqs.map List.reverse) b.reverse = none) :
    trimRight b = b := by
  rw [trimRight, trimLeftWith_fix h, List.reverse_reverse]

/-- a trimmed string has no white space at either end … -/
theorem trimSpace_trimmed (b : Bytes) :
    stripOne wsSeqs (trimSpace b) = none ∧
    stripOne (wsSeqs.map List.reverse) (trimSpace b).reverse = none := by
  refine ⟨?_, trimRight_nosuf _⟩
  rw [stripOne_none_iff]
  intro w hw hp
  exact stripOne_none_iff.1 (trimLeft_nopre b) w hw (hp.trans (trimRight_prefix _))

/-- … and such a string is left alone -/
theorem trimSpace_fix {b : Bytes} (h1 : stripOne wsSeqs b = none)
    (h2 : stripOne (wsSeqs.map List.reverse) b.reverse = none) : trimSpace b = b := by
  rw [trimSpace, trimLeft, trimLeftWith_fix h1, trimRight_fix h2]

theorem docArt_path (i : Bool) (e : Bytes × Option FileArt) : (docArt i e).path = clean e.1 := rfl

/-- `FromFile` undoes `toFileFormat` on a clean path; an input comes back flagged `skip-cache` -/
theorem docArt_artDoc (i : Bool) {a : Art} (hp : clean a.path = a.path)
    (hs : i = true → a.skip = true) : docArt i (artDoc i a) = a := by
  cases a; cases i <;> simp_all [docArt, artDoc]

theorem map_docArt_artDoc (i : Bool) {l : List Art} (hp : ∀ a ∈ l, clean a.path = a.path)
    (hs : i = true → ∀ a ∈ l, a.skip = true) : (l.map (artDoc i)).map (docArt i) = l := by
  rw [List.map_map]
  exact (List.map_congr_left fun a ha => docArt_artDoc i (hp a ha) fun e => hs e a ha).trans
    (List.map_id _)

theorem KeysOK.nodup {m : List (Bytes × Option FileArt)} (h : KeysOK m) (i : Bool) :
    ((m.map (docArt i)).map (·.path)).Nodup := by
  simpa [KeysOK, List.map_map, Function.comp_def, docArt_path] using h

end Dud
