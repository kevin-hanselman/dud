import DudModel.Lemmas.Holds
/-!
# The commit functions, one arm at a time, and what every successful commit looks like

The equations (`commitFile_*`, `commitNode_leaf`, `commitNode_dir`, `commitEntries_cons`,
`commitArt_dir`) say what each function does on each form of input (`pickChild` is the record
`commitEntries_cons` hands to `commitNode`).  `commit_ok_induct` is induction over a
successful run of the mutual pair `commitNode` / `commitEntries`: one case per arm that can succeed.
`commit_shape` is its first use: without any hypothesis, a successful commit leaves `wsAfter`, keeps
the name and kind of the child record, and returns the old cache under a block of objects that sit
under their own digests.  `commitArt_eq_commitNode` and `commitArt_noRec` (through
`commitEntries_skipDirs`) bring `commitArt`, without and with `DisableRecursion`, back to `commitNode`
on the artifact's own record; `artAfter` is the node `commitArt` leaves.
-/
namespace Dud

variable {κ : Type}

/-- the child artifact `commitWorker` starts from: the one recovered from the old manifest if its
kind still agrees, a fresh one otherwise -/
def pickChild (old : List Child) (nm : Name) (isDir : Bool) : Child :=
  match findChild old nm with
  | some k => if k.isDir == isDir then k else { name := nm, sum := "", isDir := isDir }
  | none => { name := nm, sum := "", isDir := isDir }

theorem pickChild_cases (old : List Child) (nm : Name) (b : Bool) :
    pickChild old nm b = ⟨nm, "", b⟩ ∨
      ∃ k, findChild old nm = some k ∧ k.isDir = b ∧ pickChild old nm b = k := by
  unfold pickChild
  split
  · next k hk =>
    split
    · next h => exact .inr ⟨k, hk, by simpa using h, rfl⟩
    · exact .inl rfl
  · exact .inl rfl

theorem pickChild_name (old : List Child) (nm : Name) (b : Bool) : (pickChild old nm b).name = nm := by
  rcases pickChild_cases old nm b with h | ⟨k, hk, _, h⟩ <;> rw [h]
  exact findChild_name hk

theorem pickChild_isDir (old : List Child) (nm : Name) (b : Bool) : (pickChild old nm b).isDir = b := by
  rcases pickChild_cases old nm b with h | ⟨k, _, hb, h⟩ <;> rw [h]
  exact hb

/-! ## `commitFile` -/

theorem commitFile_file (ctx : Ctx κ) (strat : Strat) (skip : Bool) (c : κ) (sum : Digest)
    (s : Store κ) :
    commitFile ctx strat skip (some (.file c)) sum s =
      if skip then .ok (.file c, ctx.H c, s)
      else .ok (wsAfter ctx strat (.file c), ctx.H c, (ctx.H c, .blob c) :: s) := by
  simp only [commitFile, quick, Bool.false_eq_true, if_false, Store.put]
  cases skip <;> cases strat <;> rfl

theorem commitFile_link_obj (ctx : Ctx κ) (strat : Strat) (skip : Bool) (d : Digest) (sum : Digest)
    (s : Store κ) :
    commitFile ctx strat skip (some (.link (.obj d))) sum s =
      if (hasSum sum && s.has sum && d == sum) then .ok (.link (.obj d), sum, s)
      else if !skip && s.has d then .ok (.link (.obj d), d, s) else .error .notRegular := by
  simp only [commitFile, quick]
  by_cases h1 : (hasSum sum && s.has sum && d == sum) = true
  · simp only [h1, if_true]
  · by_cases h2 : (!skip && s.has d) = true
    · simp only [h1, h2, if_true]
    · simp only [h1, h2]

theorem commitFile_link_foreign (ctx : Ctx κ) (strat : Strat) (skip : Bool) (l : Bool) (sum : Digest)
    (s : Store κ) :
    commitFile ctx strat skip (some (.link (.foreign l))) sum s = .error .notRegular := by
  simp only [commitFile, quick, Bool.false_eq_true, if_false]

theorem commitFile_other (ctx : Ctx κ) (strat : Strat) (skip : Bool) (sum : Digest)
    (s : Store κ) :
    commitFile ctx strat skip (some .other) sum s = .error .notRegular := by
  simp only [commitFile, quick, Bool.false_eq_true, if_false]

theorem commitFile_dir (ctx : Ctx κ) (strat : Strat) (skip : Bool) (es : List (Name × Node κ))
    (sum : Digest) (s : Store κ) :
    commitFile ctx strat skip (some (.dir es)) sum s = .error .notRegular := by
  simp only [commitFile, quick, Bool.false_eq_true, if_false]

theorem commitFile_none (ctx : Ctx κ) (strat : Strat) (skip : Bool) (sum : Digest) (s : Store κ) :
    commitFile ctx strat skip none sum s = .error .missing := rfl

theorem wsAfter_link (ctx : Ctx κ) (strat : Strat) (l : Link) :
    wsAfter ctx strat (.link l) = .link l := by cases strat <;> rfl

/-- **Every way `commitFile` succeeds.**  A regular file: kept as it is under `skip`, else left as
`wsAfter` with its blob put under its digest.  A link to an object: kept, the cache is unchanged, and
either it is the object recorded (`quickStatus` reports a match) or the object it points to is in
the cache and is recorded now. -/
theorem commitFile_cases {ctx : Ctx κ} {strat : Strat} {skip : Bool} {cur : Option (Node κ)}
    {sum : Digest} {s : Store κ} {n' : Node κ} {d : Digest} {s' : Store κ}
    (h : commitFile ctx strat skip cur sum s = .ok (n', d, s')) :
    (∃ c, cur = some (.file c) ∧ d = ctx.H c ∧
      (skip = true ∧ n' = .file c ∧ s' = s ∨
        skip = false ∧ n' = wsAfter ctx strat (.file c) ∧ s' = (ctx.H c, .blob c) :: s)) ∨
    (∃ t, cur = some (.link (.obj t)) ∧ n' = .link (.obj t) ∧ s' = s ∧
      (hasSum sum = true ∧ s.has sum = true ∧ t = sum ∧ d = sum ∨
        skip = false ∧ s.has t = true ∧ d = t)) := by
  rcases cur with _ | (c | es | (t | b) | _)
  · cases h
  · rw [commitFile_file] at h
    cases skip <;> cases h
    · exact .inl ⟨c, rfl, rfl, .inr ⟨rfl, rfl, rfl⟩⟩
    · exact .inl ⟨c, rfl, rfl, .inl ⟨rfl, rfl, rfl⟩⟩
  · rw [commitFile_dir] at h; cases h
  · rw [commitFile_link_obj] at h
    split at h
    · next hq =>
      cases h
      simp only [Bool.and_eq_true, beq_iff_eq] at hq
      exact .inr ⟨_, rfl, rfl, rfl, .inl ⟨hq.1.1, hq.1.2, hq.2, rfl⟩⟩
    · split at h <;> cases h
      next hq =>
      simp only [Bool.and_eq_true, Bool.not_eq_true'] at hq
      exact .inr ⟨_, rfl, rfl, rfl, .inr ⟨hq.1, hq.2, rfl⟩⟩
  · rw [commitFile_link_foreign] at h; cases h
  · rw [commitFile_other] at h; cases h

/-- in short: the entry is not a directory, it is left as `wsAfter` (as it is under `skip`), and the
cache is the old one or gains one blob under its digest -/
theorem commitFile_ok {ctx : Ctx κ} {strat : Strat} {skip : Bool} {cur : Option (Node κ)}
    {sum : Digest} {s : Store κ} {n' : Node κ} {d : Digest} {s' : Store κ}
    (h : commitFile ctx strat skip cur sum s = .ok (n', d, s')) :
    ∃ n, cur = some n ∧ n.isDir = false ∧ n' = (if skip then n else wsAfter ctx strat n) ∧
      (s' = s ∨ ∃ c, s' = (ctx.H c, .blob c) :: s) := by
  rcases commitFile_cases h with ⟨c, rfl, _, ⟨rfl, rfl, rfl⟩ | ⟨rfl, rfl, rfl⟩⟩ | ⟨t, rfl, rfl, rfl, _⟩
  · exact ⟨_, rfl, rfl, rfl, .inl rfl⟩
  · exact ⟨_, rfl, rfl, rfl, .inr ⟨c, rfl⟩⟩
  · exact ⟨_, rfl, rfl, by rw [wsAfter_link, ite_self], .inl rfl⟩

/-- `commitFileArtifact` with `SkipCache`: the node stays, nothing is stored -/
theorem commitFile_skip {ctx : Ctx κ} {strat : Strat} {n : Option (Node κ)} {sum : Digest} {s : Store κ}
    {n' : Node κ} {d : Digest} {s' : Store κ}
    (h : commitFile ctx strat true n sum s = .ok (n', d, s')) : n = some n' ∧ s' = s := by
  rcases commitFile_cases h with ⟨c, rfl, _, ⟨_, rfl, rfl⟩ | ⟨hsk, _⟩⟩ | ⟨t, rfl, rfl, rfl, _⟩
  · exact ⟨rfl, rfl⟩
  · cases hsk
  · exact ⟨rfl, rfl⟩

/-! ## `commitNode`, `commitEntries`, `commitArt`: one equation per arm -/

/-- the four arms of `commitNode` for an entry that is not a directory are one -/
theorem commitNode_leaf (ctx : Ctx κ) (strat : Strat) {n : Node κ} (hn : n.isDir = false) (c : Child)
    (s : Store κ) :
    commitNode ctx strat n c s =
      if c.isDir then .error .notDir
      else match commitFile ctx strat false (some n) c.sum s with
        | .error e => .error e
        | .ok (n', d, s') => .ok (n', { c with sum := d }, s') := by
  cases n with
  | dir es => cases hn
  | _ => rfl

theorem commitNode_dir (ctx : Ctx κ) (strat : Strat) (es : List (Name × Node κ)) (c : Child)
    (s : Store κ) :
    commitNode ctx strat (.dir es) c s =
      if c.isDir then
        match oldManifest ctx s c.sum with
        | .error e => .error e
        | .ok old =>
          match commitEntries ctx strat false es old s with
          | .error e => .error e
          | .ok (es', cs, s') =>
            .ok (.dir es', { c with sum := (Obj.man .new c.name (sortChildren cs) : Obj κ).digest ctx },
              s'.put ((Obj.man .new c.name (sortChildren cs) : Obj κ).digest ctx)
                (.man .new c.name (sortChildren cs)))
      else .error .notRegular := rfl

theorem commitEntries_nil (ctx : Ctx κ) (strat : Strat) (sk : Bool) (old : List Child) (s : Store κ) :
    commitEntries ctx strat sk [] old s = .ok ([], [], s) := rfl

theorem commitEntries_cons (ctx : Ctx κ) (strat : Strat) (sk : Bool) (nm : Name)
    (n : Node κ) (r : List (Name × Node κ)) (old : List Child) (s : Store κ) :
    commitEntries ctx strat sk ((nm, n) :: r) old s =
      if sk && n.isDir then
        match commitEntries ctx strat sk r old s with
        | .error e => .error e
        | .ok (r', cs, s') => .ok ((nm, n) :: r', cs, s')
      else if !ctx.nameOK nm then .error .invalid
      else
        match commitNode ctx strat n (pickChild old nm n.isDir) s with
        | .error e => .error e
        | .ok (n', c', s1) =>
          match commitEntries ctx strat sk r old s1 with
          | .error e => .error e
          | .ok (r', cs, s2) => .ok ((nm, n') :: r', c' :: cs, s2) := rfl

/-- a directory artifact is committed like a directory entry, from the artifact's own record -/
theorem commitArt_dir (ctx : Ctx κ) (strat : Strat) {a : Art} (ha : a.isDir = true)
    (es : List (Name × Node κ)) (s : Store κ) :
    commitArt ctx strat a (some (.dir es)) s =
      match oldManifest ctx s a.sum with
      | .error e => .error e
      | .ok old =>
        match commitEntries ctx strat a.noRec es old s with
        | .error e => .error e
        | .ok (es', cs, s') =>
          .ok (.dir es', (Obj.man .new a.path (sortChildren cs) : Obj κ).digest ctx,
            s'.put ((Obj.man .new a.path (sortChildren cs) : Obj κ).digest ctx)
              (.man .new a.path (sortChildren cs))) := by
  simp only [commitArt, ha, if_true]
  rfl

theorem commitArt_dir_ok {ctx : Ctx κ} {strat : Strat} {a : Art} (ha : a.isDir = true)
    {cur : Option (Node κ)} {s : Store κ} {r : Node κ × Digest × Store κ}
    (h : commitArt ctx strat a cur s = .ok r) : ∃ es, cur = some (.dir es) := by
  rcases cur with _ | (_ | es | _ | _)
  case some.dir => exact ⟨es, rfl⟩
  all_goals simp [commitArt, ha] at h

theorem commitArt_file (ctx : Ctx κ) (strat : Strat) {a : Art} (ha : a.isDir = false)
    (n : Option (Node κ)) (s : Store κ) :
    commitArt ctx strat a n s = commitFile ctx strat a.skip n a.sum s := by
  simp only [commitArt, ha, Bool.false_eq_true, if_false]

/-! ## Induction over a successful commit -/

/-- **Induction over a successful `commitNode` / `commitEntries`**: `P` for a node, `Q` for a
listing; one case per arm that can return `.ok`. -/
theorem commit_ok_induct {ctx : Ctx κ} {strat : Strat}
    {P : Node κ → Child → Store κ → Node κ → Child → Store κ → Prop}
    {Q : Bool → List (Name × Node κ) → List Child → Store κ →
      List (Name × Node κ) → List Child → Store κ → Prop}
    (leaf : ∀ {n c s n' d s'}, n.isDir = false → c.isDir = false →
      commitFile ctx strat false (some n) c.sum s = .ok (n', d, s') →
      P n c s n' { c with sum := d } s')
    (dir : ∀ {es c s old es' cs s'}, c.isDir = true → oldManifest ctx s c.sum = .ok old →
      commitEntries ctx strat false es old s = .ok (es', cs, s') → Q false es old s es' cs s' →
      P (.dir es) c s (.dir es')
        { c with sum := (Obj.man .new c.name (sortChildren cs) : Obj κ).digest ctx }
        (s'.put ((Obj.man .new c.name (sortChildren cs) : Obj κ).digest ctx)
          (.man .new c.name (sortChildren cs))))
    (nil : ∀ {sk old s}, Q sk [] old s [] [] s)
    (skip : ∀ {nm n r old s r' cs s'}, n.isDir = true → Q true r old s r' cs s' →
      Q true ((nm, n) :: r) old s ((nm, n) :: r') cs s')
    (cons : ∀ {sk nm n r old s n' c' s1 r' cs s2}, (sk && n.isDir) = false →
      ctx.nameOK nm = true →
      commitNode ctx strat n (pickChild old nm n.isDir) s = .ok (n', c', s1) →
      P n (pickChild old nm n.isDir) s n' c' s1 → Q sk r old s1 r' cs s2 →
      Q sk ((nm, n) :: r) old s ((nm, n') :: r') (c' :: cs) s2) :
    (∀ n c s n' c' s', commitNode ctx strat n c s = .ok (n', c', s') → P n c s n' c' s') ∧
    (∀ es sk old s es' cs s', commitEntries ctx strat sk es old s = .ok (es', cs, s') →
      Q sk es old s es' cs s') := by
  -- the mutual pair has no induction principle: both statements at once, by a bound on `sizeOf`
  suffices H : ∀ k, (∀ n, sizeOf n < k → ∀ c s n' c' s',
        commitNode ctx strat n c s = .ok (n', c', s') → P n c s n' c' s') ∧
      (∀ es, sizeOf es < k → ∀ sk old s es' cs s',
        commitEntries ctx strat sk es old s = .ok (es', cs, s') → Q sk es old s es' cs s') from
    ⟨fun n => (H _).1 n (Nat.lt_succ_self _), fun es => (H _).2 es (Nat.lt_succ_self _)⟩
  intro k
  induction k with
  | zero => exact ⟨fun _ h => absurd h (Nat.not_lt_zero _), fun _ h => absurd h (Nat.not_lt_zero _)⟩
  | succ k ih =>
    refine ⟨fun n hk c s n' c' s' h => ?_, fun es hk sk old s es' cs s' h => ?_⟩
    · cases n with
      | dir es =>
        rw [commitNode_dir] at h
        split at h
        · next hd =>
          split at h
          · cases h
          · next old hold =>
            split at h
            · cases h
            · next es' cs s1 he =>
              cases h
              exact dir hd hold he (ih.2 es (by simp only [Node.dir.sizeOf_spec] at hk; omega) _ _ _ _ _ _ he)
        · cases h
      | file _ | link _ | other =>
        rw [commitNode_leaf ctx strat rfl] at h
        split at h
        · cases h
        · next hd =>
          split at h <;> cases h
          exact leaf rfl (by simpa using hd) (by assumption)
    · cases es with
      | nil => rw [commitEntries_nil] at h; cases h; exact nil
      | cons e r =>
        obtain ⟨nm, n⟩ := e
        have hr : sizeOf r < k := by
          simp only [List.cons.sizeOf_spec, Prod.mk.sizeOf_spec] at hk; omega
        have hn : sizeOf n < k := by
          simp only [List.cons.sizeOf_spec, Prod.mk.sizeOf_spec] at hk; omega
        rw [commitEntries_cons] at h
        split at h
        · next hsk =>
          split at h <;> cases h
          simp only [Bool.and_eq_true] at hsk
          obtain ⟨rfl, hd⟩ := hsk
          exact skip hd (ih.2 r hr _ _ _ _ _ _ (by assumption))
        · next hsk =>
          split at h
          · cases h
          · next hnm =>
            split at h
            · cases h
            · next n1 c1 s1 hcn =>
              split at h <;> cases h
              exact cons (by simpa using hsk) (by simpa using hnm) hcn
                (ih.1 n hn _ _ _ _ _ hcn) (ih.2 r hr _ _ _ _ _ _ (by assumption))

/-! ## The shape of every successful commit -/

/-- what `commitEntries` leaves of a listing: `wsAfter` of every entry it does not skip -/
def wsAfterSk (ctx : Ctx κ) (strat : Strat) (sk : Bool) (es : List (Name × Node κ)) :
    List (Name × Node κ) :=
  es.map fun e => (e.1, if sk && e.2.isDir then e.2 else wsAfter ctx strat e.2)

theorem wsAfterSk_false (ctx : Ctx κ) (strat : Strat) : ∀ (es : List (Name × Node κ)),
    wsAfterSk ctx strat false es = wsAfterList ctx strat es
  | [] => by simp [wsAfterSk, wsAfterList_nil]
  | (nm, n) :: r => by
    rw [wsAfterList_cons, ← wsAfterSk_false ctx strat r]
    simp [wsAfterSk]

/-- **Every successful commit**, whatever the tree, the record and the cache: the workspace is left
as `wsAfter`, the record keeps its name and kind, which is the kind of the node, and the new cache is
the old one under a block of objects that sit under their own digests. -/
theorem commit_shape (ctx : Ctx κ) (strat : Strat) :
    (∀ (n : Node κ) c s n' c' s', commitNode ctx strat n c s = .ok (n', c', s') →
      n' = wsAfter ctx strat n ∧ c'.name = c.name ∧ c'.isDir = c.isDir ∧ c.isDir = n.isDir ∧
        ∃ Δ, s' = Δ ++ s ∧ DeltaOK ctx Δ) ∧
    (∀ (es : List (Name × Node κ)) sk old s es' cs s',
      commitEntries ctx strat sk es old s = .ok (es', cs, s') →
      es' = wsAfterSk ctx strat sk es ∧
        cs.map (·.name) = (es.filter fun e => !(sk && e.2.isDir)).map (·.1) ∧
        ∃ Δ, s' = Δ ++ s ∧ DeltaOK ctx Δ) := by
  refine commit_ok_induct ?_ ?_ ?_ ?_ ?_
  · intro n c s n' d s' hn hc h
    obtain ⟨_, hcur, _, rfl, hs⟩ := commitFile_ok h
    cases hcur
    refine ⟨by simp, rfl, rfl, hc.trans hn.symm, ?_⟩
    rcases hs with rfl | ⟨x, rfl⟩
    · exact ⟨[], rfl, DeltaOK.nil ctx⟩
    · exact ⟨[(ctx.H x, .blob x)], rfl, DeltaOK.cons (.blob x) (DeltaOK.nil ctx)⟩
  · intro es c s old es' cs s' hc _ _ ⟨he, _, Δ, hs, hΔ⟩
    subst he hs
    exact ⟨by rw [wsAfter_dir, wsAfterSk_false], rfl, rfl, hc, _ :: Δ, rfl, DeltaOK.cons _ hΔ⟩
  · intro sk old s
    exact ⟨rfl, rfl, [], rfl, DeltaOK.nil ctx⟩
  · intro nm n r old s r' cs s' hd ⟨hr, hcs, hΔ⟩
    subst hr
    refine ⟨by simp only [wsAfterSk, List.map_cons, hd, Bool.and_self, if_true], ?_, hΔ⟩
    rw [List.filter_cons]
    simpa only [hd, Bool.and_self, Bool.not_true, Bool.false_eq_true, if_false] using hcs
  · intro sk nm n r old s n' c' s1 r' cs s2 hsk _ _ ⟨hn, hname, _, _, Δ1, h1, hΔ1⟩ ⟨hr, hcs, Δ2, h2, hΔ2⟩
    subst hn hr h1 h2
    refine ⟨by simp only [wsAfterSk, List.map_cons, hsk, Bool.false_eq_true, if_false], ?_,
      Δ2 ++ Δ1, (List.append_assoc ..).symm, hΔ2.append hΔ1⟩
    rw [pickChild_name] at hname
    rw [List.filter_cons]
    simp only [hsk, Bool.not_false, if_true, List.map_cons, hname, hcs]

/-- the node `commitArt` leaves: a directory with every entry it does not skip as `wsAfter`, anything
else as `wsAfter`, or as it is under `skip-cache` -/
def artAfter (ctx : Ctx κ) (strat : Strat) (a : Art) : Node κ → Node κ
  | .dir es => .dir (wsAfterSk ctx strat a.noRec es)
  | n => if a.skip then n else wsAfter ctx strat n

/-- a recursive directory artifact, or a file artifact without `skip-cache`: the whole node as `wsAfter` -/
theorem artAfter_eq_wsAfter (ctx : Ctx κ) (strat : Strat) {a : Art} {n : Node κ} (hk : n.isDir = a.isDir)
    (hnr : a.isDir = true → a.noRec = false) (hsk : a.isDir = false → a.skip = false) :
    artAfter ctx strat a n = wsAfter ctx strat n := by
  cases n with
  | dir es => rw [artAfter, hnr hk.symm, wsAfterSk_false, wsAfter_dir]
  | file _ => simp only [artAfter, hsk hk.symm, Bool.false_eq_true, if_false]
  | link _ => simp only [artAfter, hsk hk.symm, Bool.false_eq_true, if_false]
  | other => simp only [artAfter, hsk hk.symm, Bool.false_eq_true, if_false]

/-- a `skip-cache` file artifact: the node as it is -/
theorem artAfter_skip (ctx : Ctx κ) (strat : Strat) {a : Art} {n : Node κ} (hk : n.isDir = a.isDir)
    (hd : a.isDir = false) (hsk : a.skip = true) : artAfter ctx strat a n = n := by
  cases n with
  | dir _ => rw [hd] at hk; cases hk
  | _ => simp only [artAfter, hsk, if_true]

/-- `commit_shape` for an artifact: `commitArt` is `commitFile` or the directory arm -/
theorem commitArt_shape {ctx : Ctx κ} {strat : Strat} {a : Art} {cur : Option (Node κ)}
    {s : Store κ} {n' : Node κ} {d : Digest} {s' : Store κ}
    (h : commitArt ctx strat a cur s = .ok (n', d, s')) :
    ∃ n, cur = some n ∧ n.isDir = a.isDir ∧ n' = artAfter ctx strat a n ∧
      ∃ Δ, s' = Δ ++ s ∧ DeltaOK ctx Δ := by
  cases ha : a.isDir with
  | false =>
    rw [commitArt_file ctx strat ha] at h
    obtain ⟨n, rfl, hn, rfl, hs⟩ := commitFile_ok h
    refine ⟨n, rfl, hn, ?_, ?_⟩
    · cases n with
      | dir _ => cases hn
      | _ => rfl
    rcases hs with rfl | ⟨x, rfl⟩
    · exact ⟨[], rfl, DeltaOK.nil ctx⟩
    · exact ⟨[(ctx.H x, .blob x)], rfl, DeltaOK.cons (.blob x) (DeltaOK.nil ctx)⟩
  | true =>
    obtain ⟨es, rfl⟩ := commitArt_dir_ok ha h
    rw [commitArt_dir ctx strat ha] at h
    split at h
    · cases h
    · split at h <;> cases h
      obtain ⟨rfl, _, Δ, rfl, hΔ⟩ := (commit_shape ctx strat).2 _ _ _ _ _ _ _ (by assumption)
      exact ⟨_, rfl, rfl, rfl, _ :: Δ, rfl, DeltaOK.cons _ hΔ⟩

/-! ## `DisableRecursion`, and `commitArt` as `commitNode` on the artifact's own record -/

/-- With `DisableRecursion`, `commitEntries` does on the whole listing what it does on the listing
without its sub-directories (same records, same cache); the sub-directories stay as they are. -/
theorem commitEntries_skipDirs (ctx : Ctx κ) (strat : Strat) (old : List Child) :
    ∀ (es : List (Name × Node κ)) (s : Store κ),
    commitEntries ctx strat true es old s =
      match commitEntries ctx strat false (es.filter fun e => !e.2.isDir) old s with
      | .error e => .error e
      | .ok (_, cs, s') => .ok (wsAfterSk ctx strat true es, cs, s')
  | [], s => by simp only [List.filter_nil, commitEntries_nil, wsAfterSk, List.map_nil]
  | (nm, n) :: r, s => by
    rw [commitEntries_cons, List.filter_cons]
    cases hd : n.isDir with
    | true =>
      have hws : wsAfterSk ctx strat true ((nm, n) :: r) = (nm, n) :: wsAfterSk ctx strat true r := by
        simp only [wsAfterSk, List.map_cons, hd, Bool.and_self, if_true]
      simp only [Bool.and_self, if_true, Bool.not_true, Bool.false_eq_true, if_false, hws,
        commitEntries_skipDirs ctx strat old r s]
      cases commitEntries ctx strat false (r.filter fun e => !e.2.isDir) old s <;> rfl
    | false =>
      have hws : wsAfterSk ctx strat true ((nm, n) :: r) =
          (nm, wsAfter ctx strat n) :: wsAfterSk ctx strat true r := by
        simp only [wsAfterSk, List.map_cons, hd, Bool.and_false, Bool.false_eq_true, if_false]
      simp only [Bool.and_false, Bool.false_eq_true, if_false, Bool.not_false, if_true, hws]
      rw [commitEntries_cons]
      simp only [Bool.false_and, Bool.false_eq_true, if_false, hd]
      split
      · rfl
      · cases hcn : commitNode ctx strat n (pickChild old nm false) s with
        | error e => rfl
        | ok v =>
          obtain ⟨n', c', s1⟩ := v
          obtain ⟨rfl, _⟩ := (commit_shape ctx strat).1 _ _ _ _ _ _ hcn
          simp only [commitEntries_skipDirs ctx strat old r s1]
          cases commitEntries ctx strat false (r.filter fun e => !e.2.isDir) old s1 <;> rfl

/-- the listing a commit with `DisableRecursion` leaves has the logical content of the whole
listing once the sub-directories it left alone and the part it committed have theirs -/
theorem derefList_wsAfterSk {ctx : Ctx κ} {strat : Strat} (s0 s3 : Store κ) :
    ∀ (es : List (Name × Node κ)),
      (∀ e ∈ es, e.2.isDir = true → deref ctx s3 e.2 = deref ctx s0 e.2) →
      derefList ctx s3 (wsAfterList ctx strat (es.filter fun e => !e.2.isDir)) =
        derefList ctx s0 (es.filter fun e => !e.2.isDir) →
      derefList ctx s3 (wsAfterSk ctx strat true es) = derefList ctx s0 es
  | [], _, _ => rfl
  | (nm, n) :: r, hsub, h => by
    have ih := derefList_wsAfterSk (strat := strat) s0 s3 r (fun e he => hsub e (by simp [he]))
    simp only [wsAfterSk, List.map_cons, Bool.true_and, List.filter_cons] at ih h ⊢
    cases hd : n.isDir with
    | true =>
      simp only [hd, Bool.not_true, Bool.false_eq_true, if_false, if_true] at h ⊢
      simp only [derefList, hsub (nm, n) (by simp) hd, ih h]
    | false =>
      simp only [hd, Bool.not_false, if_true, Bool.false_eq_true, if_false, wsAfterList_cons,
        derefList, List.cons.injEq, Prod.mk.injEq, true_and] at h ⊢
      exact ⟨h.1, ih h.2⟩

/-- a file artifact without `skip-cache`, or a recursive directory artifact -/
theorem commitArt_eq_commitNode (ctx : Ctx κ) (strat : Strat) {a : Art} {n : Node κ}
    (hk : n.isDir = a.isDir) (hnr : a.isDir = true → a.noRec = false)
    (hsk : a.isDir = false → a.skip = false) (s : Store κ) :
    commitArt ctx strat a (some n) s =
      (commitNode ctx strat n a.child s).map fun r => (r.1, r.2.1.sum, r.2.2) := by
  cases ha : a.isDir with
  | false =>
    rw [commitArt_file ctx strat ha, commitNode_leaf ctx strat (hk.trans ha), hsk ha]
    simp only [Art.child, ha, Bool.false_eq_true, if_false]
    cases commitFile ctx strat false (some n) a.sum s <;> rfl
  | true =>
    cases n with
    | dir es =>
      rw [commitArt_dir ctx strat ha, commitNode_dir, hnr ha]
      simp only [Art.child, ha, if_true]
      cases oldManifest ctx s a.sum with
      | error e => rfl
      | ok old =>
        dsimp only
        cases commitEntries ctx strat false es old s <;> rfl
    | file _ => rw [ha] at hk; cases hk
    | link _ => rw [ha] at hk; cases hk
    | other => rw [ha] at hk; cases hk

/-- a directory artifact with `DisableRecursion` -/
theorem commitArt_noRec (ctx : Ctx κ) (strat : Strat) {a : Art} (ha : a.isDir = true)
    (hnr : a.noRec = true) (es : List (Name × Node κ)) (s : Store κ) :
    commitArt ctx strat a (some (.dir es)) s =
      (commitNode ctx strat (.dir (es.filter fun e => !e.2.isDir)) a.child s).map fun r =>
        (.dir (wsAfterSk ctx strat true es), r.2.1.sum, r.2.2) := by
  rw [commitArt_dir ctx strat ha, commitNode_dir, hnr]
  simp only [Art.child, ha, if_true]
  cases oldManifest ctx s a.sum with
  | error e => rfl
  | ok old =>
    simp only [commitEntries_skipDirs]
    cases commitEntries ctx strat false (es.filter fun e => !e.2.isDir) old s <;> rfl

/-! ## What follows from the shape alone, and the entry names under `wsAfter` -/

theorem commitNode_step {ctx : Ctx κ} (hg : Good ctx) (strat : Strat) (n : Node κ) (c : Child)
    (s : Store κ) {n' c' s'} (h : commitNode ctx strat n c s = .ok (n', c', s')) :
    Store.Step ctx s s' := by
  obtain ⟨_, _, _, _, Δ, rfl, hΔ⟩ := (commit_shape ctx strat).1 _ _ _ _ _ _ h
  exact .append hg hΔ s

theorem commitEntries_step {ctx : Ctx κ} (hg : Good ctx) (strat : Strat) (skipDirs : Bool)
    (es : List (Name × Node κ)) (old : List Child) (s : Store κ) {es' cs s'}
    (h : commitEntries ctx strat skipDirs es old s = .ok (es', cs, s')) : Store.Step ctx s s' := by
  obtain ⟨_, _, Δ, rfl, hΔ⟩ := (commit_shape ctx strat).2 _ _ _ _ _ _ _ h
  exact .append hg hΔ s

theorem commitArt_step {ctx : Ctx κ} (hg : Good ctx) (strat : Strat) (a : Art) (n : Option (Node κ))
    (s : Store κ) {n' d s'} (h : commitArt ctx strat a n s = .ok (n', d, s')) :
    Store.Step ctx s s' := by
  obtain ⟨_, _, _, _, Δ, rfl, hΔ⟩ := commitArt_shape h
  exact .append hg hΔ s

theorem wsAfterSk_copy (ctx : Ctx κ) (sk : Bool) (es : List (Name × Node κ)) :
    wsAfterSk ctx .copy sk es = es := by
  simp [wsAfterSk, wsAfter]

mutual
theorem allNames_linked (ctx : Ctx κ) : ∀ (n : Node κ), allNames (linked ctx n) = allNames n
  | .file _ => rfl
  | .dir es => by simp only [linked, allNames, allNamesList_linkedList ctx es]
  | .link _ => rfl
  | .other => rfl
theorem allNamesList_linkedList (ctx : Ctx κ) : ∀ (es : List (Name × Node κ)),
    allNamesList (linkedList ctx es) = allNamesList es
  | [] => rfl
  | (nm, n) :: r => by
    simp only [linkedList, allNamesList, allNames_linked ctx n, allNamesList_linkedList ctx r]
end

theorem allNames_wsAfter (ctx : Ctx κ) (strat : Strat) (n : Node κ) :
    allNames (wsAfter ctx strat n) = allNames n := by
  cases strat
  · exact allNames_linked ctx n
  · rfl

theorem allNamesList_wsAfterSk (ctx : Ctx κ) (strat : Strat) (sk : Bool) :
    ∀ (es : List (Name × Node κ)), allNamesList (wsAfterSk ctx strat sk es) = allNamesList es
  | [] => rfl
  | (nm, n) :: r => by
    have ih := allNamesList_wsAfterSk ctx strat sk r
    simp only [wsAfterSk] at ih ⊢
    simp only [List.map_cons, allNamesList, ih]
    split <;> simp only [allNames_wsAfter]

end Dud
