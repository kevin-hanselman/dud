import DudModel.SysFault
import DudModel.Props.C03cmdGo
/-!
# A failing call of `dud commit`: what the clean-up leaves

`callCreates`, `callRemoves` and `liveTmps` (`SysFault.lean`) are the book-keeping behind dud's clean-up.  They
are sound against `apply`: a temp path that exists after a prefix of the trace is on `liveTmps` (`LiveInv`), so
unlinking `liveTmps` leaves no temp path.  The calls issued after the fault write temp paths and the lock only:
they obey the cache discipline and leave workspace, cache objects and stage files alone.
-/
namespace Dud.Sys
open Dud
variable {κ : Type}

theorem apply_get_of_not_creates (emp : κ) (fs : FS κ) (c : Call κ) (p : P)
    (hp : p ∉ callCreates c) (h : (apply emp fs c).get p ≠ none) : fs.get p ≠ none := by
  by_cases hw : p ∈ callWrites c
  · cases c with
    | mkdir q | createExcl q | createTrunc q | symlink t q =>
      simp [callCreates] at hp; simp [callWrites, callPaths] at hw; exact absurd hw hp
    | writePart q | write q x | chmod q m =>
      simp [callWrites, callPaths] at hw; subst hw
      intro hn
      simp only [apply, hn] at h
      exact h rfl
    | unlink q =>
      simp [callWrites, callPaths] at hw; subst hw
      exact absurd (get_unlink_self (emp := emp) (fs := fs) (p := p)) h
    | rename s d =>
      simp [callCreates] at hp
      simp [callWrites, callPaths] at hw
      rcases hw with rfl | rfl
      · intro hn
        simp only [apply, hn] at h
        exact h rfl
      · exact absurd rfl hp
  · rw [apply_get_frame emp fs c p hw] at h
    exact h

theorem apply_get_of_removes (emp : κ) (fs : FS κ) (c : Call κ) (p : P) (hp : p ∈ callRemoves c) :
    (apply emp fs c).get p = none := by
  rw [get_apply]
  cases c <;> simp [callRemoves] at hp <;> simp [hp]
  -- left: `rename s d` with `s ≠ d` and `p = s`
  cases fs.get _ <;> simp [Ne.symm hp.1]

/-- `live` lists every temp path that exists in `fs`: what `liveStep` maintains along a trace -/
def LiveInv (fs : FS κ) (live : List P) : Prop :=
  ∀ p, p.isTemp = true → fs.get p ≠ none → p ∈ live

theorem LiveInv.step {emp : κ} {fs : FS κ} {live : List P} (h : LiveInv fs live) (c : Call κ) :
    LiveInv (apply emp fs c) (liveStep live c) := by
  intro p hpt hex
  by_cases hrem : p ∈ callRemoves c
  · exact absurd (apply_get_of_removes emp fs c p hrem) hex
  · by_cases hcr : p ∈ callCreates c
    · by_cases hl : p ∈ live <;> simp [liveStep, hpt, hrem, hcr, hl]
    · simp [liveStep, hrem, h p hpt (apply_get_of_not_creates emp fs c p hcr hex)]

theorem LiveInv.replay {emp : κ} : ∀ (calls : List (Call κ)) {fs : FS κ} {live : List P},
    LiveInv fs live → LiveInv (replay emp fs calls) (calls.foldl liveStep live)
  | [], _, _, h => h
  | c :: cs, _, _, h => by
    rw [replay_cons, List.foldl_cons]
    exact LiveInv.replay cs (h.step c)

theorem liveTmps_sound {emp : κ} {fs : FS κ} (h0 : ∀ p, p.isTemp = true → fs.get p = none)
    (pre : List (Call κ)) : LiveInv (replay emp fs pre) (liveTmps pre) :=
  LiveInv.replay pre (fun p hp hex => absurd (h0 p hp) hex)

theorem liveStep_isTemp {live : List P} (c : Call κ) (h : ∀ p ∈ live, p.isTemp = true) :
    ∀ p ∈ liveStep live c, p.isTemp = true := by
  intro p hp
  simp only [liveStep, List.mem_append, List.mem_filter] at hp
  rcases hp with ⟨hl, -⟩ | ⟨-, hc⟩
  · exact h p hl
  · simp only [Bool.and_eq_true] at hc
    exact hc.1

theorem liveTmps_isTemp (pre : List (Call κ)) : ∀ p ∈ liveTmps pre, p.isTemp = true := by
  have h : ∀ (calls : List (Call κ)) (live : List P),
      (∀ p ∈ live, p.isTemp = true) → ∀ p ∈ calls.foldl liveStep live, p.isTemp = true := by
    intro calls
    induction calls with
    | nil => exact fun _ h => h
    | cons c cs ih =>
      intro live h
      rw [List.foldl_cons]
      exact ih _ (liveStep_isTemp c h)
  exact h pre [] (by simp)

theorem replay_unlinks_get (emp : κ) : ∀ (ps : List P) (fs : FS κ) (q : P),
    (replay emp fs (ps.map Call.unlink)).get q = if q ∈ ps then none else fs.get q := by
  intro ps
  induction ps with
  | nil => intro fs q; simp [replay]
  | cons p ps ih =>
    intro fs q
    rw [List.map_cons, replay_cons, ih, get_apply]
    by_cases hq : q ∈ ps <;> simp [hq, eq_comm]

theorem cleanup_tmp_free {emp : κ} {fs : FS κ} {live : List P} (h : LiveInv fs live) :
    ∀ p, p.isTemp = true → (replay emp fs (live.map Call.unlink)).get p = none := by
  intro p hp
  rw [replay_unlinks_get]
  split
  · rfl
  · rename_i hnl
    cases hg : fs.get p with
    | none => rfl
    | some e => exact absurd (h p hp (by rw [hg]; simp)) hnl

theorem cleanupCalls_unlinks (pre : List (Call κ)) (failed : Call κ) :
    ∃ ps : List P, cleanupCalls pre failed = ps.map Call.unlink ∧ (∀ p ∈ ps, p.isTemp = true) ∧
      (ps = [] ∨ ps = liveTmps pre) := by
  unfold cleanupCalls
  split
  · split
    · exact ⟨[], rfl, by simp, .inl rfl⟩
    · exact ⟨_, rfl, liveTmps_isTemp pre, .inr rfl⟩
  · exact ⟨_, rfl, liveTmps_isTemp pre, .inr rfl⟩

theorem cleanupCalls_eq (pre : List (Call κ)) (failed : Call κ)
    (h : ∀ p, failed = .unlink p → p.isTemp = false) :
    cleanupCalls pre failed = (liveTmps pre).map Call.unlink := by
  unfold cleanupCalls
  split
  · rename_i p
    simp [h p rfl]
  · rfl

theorem unlockCalls_cases (failed : Call κ) :
    unlockCalls failed = [] ∨ unlockCalls failed = [Call.unlink P.lock] := by
  unfold unlockCalls
  split <;> simp

theorem unlockCalls_of_not_lock {failed : Call κ} (h : P.lock ∉ callWrites failed) :
    unlockCalls failed = [Call.unlink P.lock] := by
  unfold unlockCalls
  split
  · simp [callWrites, callPaths] at h
  · simp [callWrites, callPaths] at h
  · rfl

theorem afterFault_writes (pre : List (Call κ)) (failed : Call κ) :
    ∀ x ∈ cleanupCalls pre failed ++ unlockCalls failed, ∀ p ∈ callWrites x,
      p.isTemp = true ∨ p = .lock := by
  intro x hx p hp
  rcases List.mem_append.1 hx with hx | hx
  · obtain ⟨ps, hps, hpt, -⟩ := cleanupCalls_unlinks pre failed
    rw [hps] at hx
    obtain ⟨q, hq, rfl⟩ := List.mem_map.1 hx
    simp [callWrites, callPaths] at hp
    rw [hp]
    exact .inl (hpt q hq)
  · rcases unlockCalls_cases failed with h | h <;> rw [h] at hx
    · cases hx
    · simp at hx; subst hx
      simp [callWrites, callPaths] at hp
      exact .inr hp

theorem afterFault_harmless (pre : List (Call κ)) (failed : Call κ) :
    ∀ x ∈ cleanupCalls pre failed ++ unlockCalls failed, Harmless x := by
  intro x hx p hp
  rcases afterFault_writes pre failed x hx p hp with h | rfl
  · exact ⟨(isTemp_not_special h).1, (isTemp_not_special h).2.1⟩
  · exact ⟨rfl, by simp⟩

theorem afterFault_frame (pre : List (Call κ)) (failed : Call κ) {q : P}
    (hq : q.isTemp = false) (hl : q ≠ .lock) :
    ∀ x ∈ cleanupCalls pre failed ++ unlockCalls failed, q ∉ callWrites x := by
  intro x hx hmem
  rcases afterFault_writes pre failed x hx _ hmem with h | h
  · rw [hq] at h; cases h
  · exact hl h

/-- the clean-up and the unlock leave every stage file alone -/
theorem afterFault_stageFile (pre : List (Call κ)) (failed : Call κ) (sp : Bytes) :
    ∀ x ∈ cleanupCalls pre failed ++ unlockCalls failed, P.stageFile sp ∉ callWrites x :=
  afterFault_frame pre failed rfl nofun

theorem faultTrace_of_lt {calls : List (Call κ)} {k : Nat} (hk : k < calls.length) :
    faultTrace calls k = calls.take k ++ cleanupCalls (calls.take k) calls[k] ++ unlockCalls calls[k] := by
  unfold faultTrace
  rw [List.getElem?_eq_getElem hk]

theorem faultTrace_of_ge {calls : List (Call κ)} {k : Nat} (hk : calls.length ≤ k) :
    faultTrace calls k = calls := by
  unfold faultTrace
  rw [List.getElem?_eq_none hk]

theorem runFaultCleanup_eq (emp : κ) (fs : FS κ) {calls : List (Call κ)} {k : Nat} (hk : k < calls.length) :
    runFaultCleanup emp fs calls k =
      replay emp (replay emp fs (calls.take k))
        (cleanupCalls (calls.take k) calls[k] ++ unlockCalls calls[k]) := by
  unfold runFaultCleanup
  rw [faultTrace_of_lt hk, List.append_assoc, replay_append]

theorem runFaultCleanup_get_frame (emp : κ) (fs : FS κ) (calls : List (Call κ)) (k : Nat) {q : P}
    (hq : q.isTemp = false) (hl : q ≠ .lock) :
    (runFaultCleanup emp fs calls k).get q = (replay emp fs (calls.take k)).get q := by
  by_cases hk : k < calls.length
  · rw [runFaultCleanup_eq emp _ hk]
    exact replay_get_frame emp _ _ _ (afterFault_frame _ _ hq hl)
  · unfold runFaultCleanup
    rw [faultTrace_of_ge (by omega), List.take_of_length_le (by omega)]

theorem runFaultCleanup_get_lock (emp : κ) (fs : FS κ) {calls : List (Call κ)} {k : Nat}
    (hk : k < calls.length) :
    (runFaultCleanup emp fs calls k).get .lock =
      if unlockCalls calls[k] = [] then (replay emp fs (calls.take k)).get .lock else none := by
  rw [runFaultCleanup_eq emp _ hk]
  rcases unlockCalls_cases calls[k] with hu | hu <;> rw [hu]
  · rw [List.append_nil, if_pos rfl]
    refine replay_get_frame emp _ _ _ (fun x hx hmem => ?_)
    obtain ⟨ps, hps, hpt, -⟩ := cleanupCalls_unlinks (calls.take k) calls[k]
    rw [hps] at hx
    obtain ⟨q, hq, rfl⟩ := List.mem_map.1 hx
    obtain rfl : P.lock = q := by simpa [callWrites, callPaths] using hmem
    exact absurd (hpt _ hq) (by simp [P.isTemp])
  · rw [replay_append, if_neg (by simp)]
    exact get_unlink_self (emp := emp)

/-- **The lock after a faulted run** of a trace that takes the lock first, releases it last and leaves it
alone in between: it stays exactly when the failing call is that last `unlink` (`fatal` does not try again). -/
theorem runFaultCleanup_lock (emp : κ) {fs : FS κ} {mid : List (Call κ)} (hfs : fs.get .lock = none)
    (hmid : ∀ x ∈ mid, P.lock ∉ callWrites x) (k : Nat) :
    (runFaultCleanup emp fs (.createExcl .lock :: (mid ++ [.unlink .lock])) k).get .lock =
      if k = mid.length + 1 then some (.file emp 0o600) else none := by
  have hwin := lock_window emp fs mid hfs hmid
  generalize hl : Call.createExcl P.lock :: (mid ++ [Call.unlink P.lock]) = calls at hwin ⊢
  have hlen : calls.length = mid.length + 2 := by rw [← hl]; simp
  by_cases hlt : k < calls.length
  · rw [runFaultCleanup_get_lock emp _ hlt, hwin]
    subst hl
    rcases k with _ | k
    · simp [unlockCalls]
    · by_cases hk : k < mid.length
      · rw [List.getElem_cons_succ, List.getElem_append_left hk,
          unlockCalls_of_not_lock (hmid _ (List.getElem_mem hk))]
        simp; omega
      · obtain rfl : k = mid.length := by omega
        simp [unlockCalls]
  · unfold runFaultCleanup
    have := hwin calls.length
    rw [List.take_length] at this
    rw [faultTrace_of_ge (by omega), this, if_neg (by omega), if_neg (by omega)]

/-- after the faulted run no temp path exists, from any state without temp paths — unless the failing call
is itself the removal of a temp file (then nothing is cleaned up) -/
theorem runFaultCleanup_tmp_free {emp : κ} {fs : FS κ} (h0 : ∀ p, p.isTemp = true → fs.get p = none)
    (calls : List (Call κ)) (k : Nat) (hk : k < calls.length)
    (hnp : ∀ p, calls[k] = Call.unlink p → p.isTemp = false) :
    ∀ p, p.isTemp = true → (runFaultCleanup emp fs calls k).get p = none := by
  intro p hp
  rw [runFaultCleanup_eq emp _ hk, replay_append, cleanupCalls_eq _ _ hnp]
  have hfree := cleanup_tmp_free (emp := emp) (liveTmps_sound (emp := emp) h0 (calls.take k)) p hp
  rw [replay_get_frame emp _ _ _ (fun x hx => ?_)]
  · exact hfree
  · rcases unlockCalls_cases calls[k] with hu | hu <;> rw [hu] at hx
    · cases hx
    · simp at hx; subst hx
      simp [callWrites, callPaths]
      intro e; subst e; simp [P.isTemp] at hp

theorem fsOfWorld_get_tmp (c : CmdCfg κ) (w : World κ) {p : P} (hp : p.isTemp = true) :
    (fsOfWorld c w).get p = none := by
  rw [fsOfWorld_get c w (fun sp => (isTemp_not_special hp).2.2.2 sp)]
  cases p <;> simp [P.isTemp] at hp <;>
    exact fsOf_get_none _ _ _ _ (by simp) (by simp) (by simp) (by simp)

end Dud.Sys
