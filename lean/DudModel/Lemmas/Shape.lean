import DudModel.Lemmas.Run
import DudModel.Lemmas.OwnerWalk
/-!
# The owner function depends only on the shape of the index

`commitAct` rewrites the index (checksums, `skip` flags, order of artifacts) but not its *shape*:
the stage paths, per stage the set of input paths and, per output path, the `noRec` flag.
`findOwner` and `ownIdx` see nothing else.

The file also holds, in namespace `Dud.WStat`, the one inversion of `commitAct` that later files use
(`commitAct_inv`, with `plainIn`, `ownedIn`, `newStage` naming the parts of the record it writes),
those of `commitArtW` and `commitArts` (`WT.commitArtW_inv`, `WT.commitArts_cons_ok`),
and `ownerArt`: which artifact owns a path is decided by the owning stage's entry alone.
-/
namespace Dud

variable {κ : Type}

/-- the owner function of a fixed index -/
def ownIdx (cfg : Cfg κ) (idx : Index) (sp : Bytes) : List Bytes :=
  match alookup idx sp with
  | some stg => (sortArts stg.inputs).filterMap
      (fun a => (findOwner cfg.walkAccumulates idx a.path).map (·.1))
  | none => []

theorem ownersOf_eq (cfg : Cfg κ) (w : World κ) (sp : Bytes) (os : List Bytes)
    (h : ownersOf cfg w sp = .ok os) : os = ownIdx cfg w.idx sp := by
  simp only [ownersOf, World.stage] at h
  simp only [ownIdx]
  cases hl : alookup w.idx sp with
  | none => rw [hl] at h; cases h
  | some stg => rw [hl] at h; cases h; rfl

theorem findArt_cons (x : Art) (l : List Art) (p : Bytes) :
    findArt (x :: l) p = if x.path == p then some x else findArt l p := by
  simp only [findArt, List.find?_cons]
  cases x.path == p <;> rfl

theorem findArt_sortArts (l : List Art) (p : Bytes) : findArt (sortArts l) p = findArt l p :=
  sortArts_eq ▸ find?_sortBy p l

theorem findArt_isSome_iff_mem_paths (l : List Art) (p : Bytes) :
    (findArt l p).isSome = true ↔ p ∈ l.map (·.path) := by
  simp only [findArt, List.find?_isSome, List.mem_map]
  constructor
  · rintro ⟨a, ha, h⟩; exact ⟨a, ha, by simpa using h⟩
  · rintro ⟨a, ha, h⟩; exact ⟨a, ha, by simpa using h⟩

theorem mem_paths_sortArts (l : List Art) (p : Bytes) :
    p ∈ (sortArts l).map (·.path) ↔ p ∈ l.map (·.path) := by
  rw [← findArt_isSome_iff_mem_paths, ← findArt_isSome_iff_mem_paths, findArt_sortArts]

def Art.noSum (a : Art) : Art := { a with sum := "" }

theorem paths_of_noSum {l l' : List Art} (h : l'.map Art.noSum = l.map Art.noSum) :
    l'.map (·.path) = l.map (·.path) := by
  have := congrArg (List.map (·.path)) h
  simpa [List.map_map, Function.comp_def, Art.noSum] using this

theorem findArt_noSum {l l' : List Art} (h : l'.map Art.noSum = l.map Art.noSum) (p : Bytes) :
    (findArt l' p).map Art.noSum = (findArt l p).map Art.noSum := by
  induction l generalizing l' with
  | nil => cases l' with
    | nil => rfl
    | cons _ _ => simp at h
  | cons x xs ih => cases l' with
    | nil => simp at h
    | cons y ys =>
      simp only [List.map_cons, List.cons.injEq] at h
      have hp : y.path = x.path := congrArg (·.path) h.1
      rw [findArt_cons, findArt_cons, hp]
      by_cases hx : x.path = p
      · simp [hx, h.1]
      · simp [hx, ih h.2]

theorem findArt_noRec_of_noSum {l l' : List Art} (h : l'.map Art.noSum = l.map Art.noSum) (p : Bytes) :
    (findArt l' p).map (·.noRec) = (findArt l p).map (·.noRec) := by
  have := congrArg (Option.map (·.noRec)) (findArt_noSum h p)
  simpa [Option.map_map, Function.comp_def, Art.noSum] using this

/-- same output paths, with the same `noRec` flags -/
def OutSim (o o0 : List Art) : Prop := ∀ p, (findArt o p).map (·.noRec) = (findArt o0 p).map (·.noRec)

/-- same set of input paths, similar outputs -/
def StageSim (s s0 : Stage) : Prop :=
  (∀ p, p ∈ s.inputs.map (·.path) ↔ p ∈ s0.inputs.map (·.path)) ∧ OutSim s.outputs s0.outputs

/-- the same stage paths in the same order, with similar stages -/
inductive SameShape : Index → Index → Prop
  | nil : SameShape [] []
  | cons {e e0 : Bytes × Stage} {r r0 : Index} : e.1 = e0.1 ∧ StageSim e.2 e0.2 → SameShape r r0 →
      SameShape (e :: r) (e0 :: r0)

theorem OutSim.refl (o : List Art) : OutSim o o := fun _ => rfl
theorem OutSim.trans {a b c : List Art} (h1 : OutSim a b) (h2 : OutSim b c) : OutSim a c :=
  fun p => (h1 p).trans (h2 p)
theorem StageSim.refl (s : Stage) : StageSim s s := ⟨fun _ => Iff.rfl, OutSim.refl _⟩
theorem StageSim.trans {a b c : Stage} (h1 : StageSim a b) (h2 : StageSim b c) : StageSim a c :=
  ⟨fun p => (h1.1 p).trans (h2.1 p), h1.2.trans h2.2⟩

theorem SameShape.refl : ∀ idx : Index, SameShape idx idx
  | [] => .nil
  | _ :: r => .cons ⟨rfl, StageSim.refl _⟩ (SameShape.refl r)

theorem SameShape.trans {a b c : Index} (h1 : SameShape a b) (h2 : SameShape b c) : SameShape a c := by
  induction h1 generalizing c with
  | nil => cases h2; exact .nil
  | cons h _ ih =>
    cases h2 with
    | cons h' t' => exact .cons ⟨h.1.trans h'.1, h.2.trans h'.2⟩ (ih t')

theorem SameShape.keys {a b : Index} (h : SameShape a b) : a.map (·.1) = b.map (·.1) := by
  induction h with
  | nil => rfl
  | cons h _ ih => simp only [List.map_cons, h.1, ih]

theorem OutSim.isSome {o o0 : List Art} (h : OutSim o o0) (p : Bytes) :
    (findArt o p).isSome = (findArt o0 p).isSome := by
  have := congrArg Option.isSome (h p)
  simpa using this

theorem findArt_path {arts : List Art} {p : Bytes} {o : Art} (h : findArt arts p = some o) :
    o.path = p := by
  simpa using List.find?_some h

theorem OutSim.path {o o0 : List Art} (h : OutSim o o0) (p : Bytes) :
    (findArt o p).map (·.path) = (findArt o0 p).map (·.path) := by
  have := h.isSome p
  cases hf : findArt o p with
  | none =>
    cases hf0 : findArt o0 p with
    | none => rfl
    | some a0 => rw [hf, hf0] at this; cases this
  | some a =>
    cases hf0 : findArt o0 p with
    | none => rw [hf, hf0] at this; cases this
    | some a0 => simp only [Option.map_some, findArt_path hf, findArt_path hf0]

theorem ownerWalk_sim_path (wa : Bool) {o o0 : List Art} (h : OutSim o o0) (full : Bytes)
    (parts : List Bytes) (dir : Bytes) :
    (ownerWalk wa o full dir parts).map (·.path) = (ownerWalk wa o0 full dir parts).map (·.path) := by
  rw [ownerWalk_eq_findSome, ownerWalk_eq_findSome, List.map_findSome?, List.map_findSome?]
  exact congrArg (fun f => List.findSome? f _) (funext fun d => by
    simp only [Function.comp_apply, ownerAt_path, h d])

/-- one stage of `findOwner`, seen through a projection `g` of the owning artifact -/
theorem findOwner_cons_map {β : Type} (g : Art → β) (wa : Bool) (sp : Bytes) (stg : Stage)
    (r : Index) (p : Bytes) :
    (findOwner wa ((sp, stg) :: r) p).map (fun x => (x.1, g x.2)) =
      match (findArt stg.outputs p).map g with
      | some b => some (sp, b)
      | none => match (findDirOwner wa p stg.outputs).map g with
        | some b => some (sp, b)
        | none => (findOwner wa r p).map (fun x => (x.1, g x.2)) := by
  rw [findOwner]
  cases findArt stg.outputs p with
  | some a => rfl
  | none => cases findDirOwner wa p stg.outputs <;> rfl

/-- the owning stage and the PATH of the owning artifact depend only on the shape of the index -/
theorem findOwner_sim_path (wa : Bool) {idx idx0 : Index} (h : SameShape idx idx0) (p : Bytes) :
    (findOwner wa idx p).map (fun r => (r.1, r.2.path)) =
      (findOwner wa idx0 p).map (fun r => (r.1, r.2.path)) := by
  induction h with
  | nil => rfl
  | @cons e e0 r r0 he _ ih =>
    obtain ⟨sp, stg⟩ := e
    obtain ⟨sp0, stg0⟩ := e0
    obtain ⟨hsp, -, hout⟩ := he
    cases (hsp : sp = sp0)
    have hd : (findDirOwner wa p stg.outputs).map (·.path) =
        (findDirOwner wa p stg0.outputs).map (·.path) := ownerWalk_sim_path wa hout _ _ _
    rw [findOwner_cons_map, findOwner_cons_map, hout.path p, hd, ih]

theorem findOwner_sim (wa : Bool) {idx idx0 : Index} (h : SameShape idx idx0) (p : Bytes) :
    (findOwner wa idx p).map (·.1) = (findOwner wa idx0 p).map (·.1) := by
  have := congrArg (Option.map Prod.fst) (findOwner_sim_path wa h p)
  simpa [Option.map_map, Function.comp_def] using this

theorem alookup_sim {idx idx0 : Index} (h : SameShape idx idx0) (sp : Bytes) :
    (alookup idx sp = none ∧ alookup idx0 sp = none) ∨
    ∃ s s0, alookup idx sp = some s ∧ alookup idx0 sp = some s0 ∧ StageSim s s0 := by
  induction h with
  | nil => exact .inl ⟨rfl, rfl⟩
  | @cons e e0 r r0 he _ ih =>
    obtain ⟨k, stg⟩ := e
    obtain ⟨k0, stg0⟩ := e0
    obtain ⟨hk, hs⟩ := he
    cases (hk : k = k0)
    by_cases hks : k = sp
    · cases hks
      exact .inr ⟨stg, stg0, alookup_cons_self r _ stg, alookup_cons_self r0 _ stg0, hs⟩
    · rw [alookup_cons_ne r stg hks, alookup_cons_ne r0 stg0 hks]
      exact ih

theorem mem_ownIdx (cfg : Cfg κ) (idx : Index) (sp x : Bytes) :
    x ∈ ownIdx cfg idx sp ↔ ∃ stg, alookup idx sp = some stg ∧
      ∃ p, p ∈ stg.inputs.map (·.path) ∧ (findOwner cfg.walkAccumulates idx p).map (·.1) = some x := by
  simp only [ownIdx]
  cases alookup idx sp with
  | none => simp
  | some stg =>
    simp only [List.mem_filterMap, Option.some.injEq, exists_eq_left']
    constructor
    · rintro ⟨a, ha, h⟩
      exact ⟨a.path, (mem_paths_sortArts _ _).1 (List.mem_map.2 ⟨a, ha, rfl⟩), h⟩
    · rintro ⟨p, hp, h⟩
      obtain ⟨a, ha, rfl⟩ := List.mem_map.1 ((mem_paths_sortArts _ _).2 hp)
      exact ⟨a, ha, h⟩

theorem ownIdx_sim (cfg : Cfg κ) {idx idx0 : Index} (h : SameShape idx idx0) (sp x : Bytes) :
    x ∈ ownIdx cfg idx sp ↔ x ∈ ownIdx cfg idx0 sp := by
  rw [mem_ownIdx, mem_ownIdx]
  rcases alookup_sim h sp with ⟨h1, h2⟩ | ⟨s, s0, h1, h2, hs⟩ <;> rw [h1, h2]
  · exact ⟨fun ⟨_, e, _⟩ => (nomatch e), fun ⟨_, e, _⟩ => (nomatch e)⟩
  · constructor
    · rintro ⟨_, e, p, hp, hx⟩
      cases e
      exact ⟨s0, rfl, p, (hs.1 p).1 hp, (findOwner_sim _ h p).symm.trans hx⟩
    · rintro ⟨_, e, p, hp, hx⟩
      cases e
      exact ⟨s, rfl, p, (hs.1 p).2 hp, (findOwner_sim _ h p).trans hx⟩

theorem setStage_sim (idx : Index) (sp : Bytes) (stg' : Stage)
    (h : ∀ s, (sp, s) ∈ idx → StageSim stg' s) : SameShape (setStage idx sp stg') idx := by
  induction idx with
  | nil => exact .nil
  | cons e r ih =>
    obtain ⟨k, s⟩ := e
    simp only [setStage, List.map_cons]
    refine .cons ?_ (ih fun s hs => h s (List.mem_cons_of_mem _ hs))
    by_cases hk : k = sp
    · subst hk
      simp only [beq_self_eq_true, if_true]
      exact ⟨trivial, h s List.mem_cons_self⟩
    · have : (k == sp) = false := by simpa using hk
      simp only [this, Bool.false_eq_true, if_false]
      exact ⟨trivial, StageSim.refl _⟩

end Dud

namespace Dud.WStat

variable {κ : Type}

/-! ## what `commitAct` does, unfolded once -/

/-- the inputs no stage owns, as `commitAct` commits them -/
def plainIn (cfg : Cfg κ) (idx : Index) (stg : Stage) : List Art :=
  (stg.inputs.filter (fun a => (findOwner cfg.walkAccumulates idx a.path).isNone)).map
    (fun a => { a with skip := true })

/-- the inputs some stage owns, with the owner's checksum -/
def ownedIn (cfg : Cfg κ) (idx : Index) (stg : Stage) : List Art :=
  (stg.inputs.filter (fun a => (findOwner cfg.walkAccumulates idx a.path).isSome)).map fun a =>
    match findOwner cfg.walkAccumulates idx a.path with
    | some (_, oa) => { a with sum := oa.sum }
    | none => a

/-- the stage `commitAct` records -/
def newStage (cfg : Cfg κ) (stg : Stage) (ins outs : List Art) : Stage :=
  let stg' : Stage := { stg with inputs := ins, outputs := outs }
  { stg' with sum := stg'.defSum cfg }

theorem newStage_sum (cfg : Cfg κ) (stg : Stage) (ins outs : List Art) :
    (newStage cfg stg ins outs).sum = (newStage cfg stg ins outs).defSum cfg := rfl

theorem commitAct_stage {cfg : Cfg κ} {strat : Strat} {sp : Bytes} {w w' : World κ}
    (h : commitAct cfg strat sp w = .ok w') : ∃ stg, alookup w.idx sp = some stg := by
  cases hl : alookup w.idx sp with
  | some stg => exact ⟨stg, rfl⟩
  | none => simp [commitAct, World.stage, hl] at h

theorem commitAct_inv {cfg : Cfg κ} {strat : Strat} {sp : Bytes} {w w' : World κ} {stg : Stage}
    (hs : alookup w.idx sp = some stg) (h : commitAct cfg strat sp w = .ok w') :
    ∃ pl w1 outs w2, commitArts cfg strat (sortArts (plainIn cfg w.idx stg)) w = .ok (pl, w1) ∧
      commitArts cfg strat (sortArts stg.outputs) w1 = .ok (outs, w2) ∧
      w' = { w2 with
        idx := setStage w2.idx sp (newStage cfg stg (sortArts (ownedIn cfg w.idx stg ++ pl)) outs),
        done := sp :: w2.done } := by
  unfold commitAct at h
  rw [World.stage_eq_ok.2 hs] at h
  dsimp only at h
  split at h
  · cases h
  rename_i pl w1 h1
  split at h
  · cases h
  rename_i outs w2 h2
  simp only [Except.ok.injEq] at h
  exact ⟨pl, w1, outs, w2, h1, h2, h.symm⟩

theorem mem_plainIn {cfg : Cfg κ} {idx : Index} {stg : Stage} {b : Art} (h : b ∈ plainIn cfg idx stg) :
    ∃ b0, b0 ∈ stg.inputs ∧ (findOwner cfg.walkAccumulates idx b0.path).isNone = true ∧
      b = { b0 with skip := true } := by
  obtain ⟨b0, hb0, rfl⟩ := List.mem_map.1 h
  obtain ⟨hin, hown⟩ := List.mem_filter.1 hb0
  exact ⟨b0, hin, hown, rfl⟩

theorem mem_ownedIn_inv {cfg : Cfg κ} {idx : Index} {stg : Stage} {b : Art} (h : b ∈ ownedIn cfg idx stg) :
    ∃ b0 o oa, b0 ∈ stg.inputs ∧ findOwner cfg.walkAccumulates idx b0.path = some (o, oa) ∧
      b = { b0 with sum := oa.sum } := by
  obtain ⟨b0, hb0, rfl⟩ := List.mem_map.1 h
  obtain ⟨hin, hown⟩ := List.mem_filter.1 hb0
  cases ho : findOwner cfg.walkAccumulates idx b0.path with
  | none => rw [ho] at hown; cases hown
  | some r =>
    obtain ⟨o, oa⟩ := r
    exact ⟨b0, o, oa, hin, ho, rfl⟩

theorem mem_ownedIn {cfg : Cfg κ} {idx : Index} {stg : Stage} {b : Art} (h : b ∈ ownedIn cfg idx stg) :
    (findOwner cfg.walkAccumulates idx b.path).isSome = true := by
  obtain ⟨b0, o, oa, -, ho, rfl⟩ := mem_ownedIn_inv h
  exact ho ▸ rfl

theorem mem_of_noSum {l l' : List Art} (h : l'.map Art.noSum = l.map Art.noSum) {b' : Art} (hb : b' ∈ l') :
    ∃ b, b ∈ l ∧ b'.noSum = b.noSum := by
  have hm := List.mem_map_of_mem (f := Art.noSum) hb
  rw [h] at hm
  obtain ⟨b, hbl, e⟩ := List.mem_map.1 hm
  exact ⟨b, hbl, e.symm⟩

/-- every input of the stage `commitAct` records is an input of the old stage, up to checksum and
`skip` (`pl` is what the commit of the plain inputs returned) -/
theorem mem_newInputs {cfg : Cfg κ} {idx : Index} {stg : Stage} {pl : List Art} {b : Art}
    (hn : pl.map Art.noSum = (sortArts (plainIn cfg idx stg)).map Art.noSum)
    (hb : b ∈ sortArts (ownedIn cfg idx stg ++ pl)) :
    ∃ b0, b0 ∈ stg.inputs ∧ b.path = b0.path ∧ b.isDir = b0.isDir := by
  rcases List.mem_append.1 (mem_of_mem_sortArts hb) with hb | hb
  · obtain ⟨b0, hb0, rfl⟩ := List.mem_map.1 hb
    refine ⟨b0, (List.mem_filter.1 hb0).1, ?_⟩
    split
    · exact ⟨rfl, rfl⟩
    · exact ⟨rfl, rfl⟩
  · obtain ⟨b1, hb1, e⟩ := mem_of_noSum hn hb
    obtain ⟨b0, hin, -, rfl⟩ := mem_plainIn (mem_of_mem_sortArts hb1)
    exact ⟨b0, hin, (congrArg Art.path e :), (congrArg Art.isDir e :)⟩

/-! ## the owning artifact is determined by the owner's record -/

/-- the artifact of `stg` that owns the path `p` -/
def ownerArt (wa : Bool) (stg : Stage) (p : Bytes) : Option Art :=
  match findArt stg.outputs p with
  | some a => some a
  | none => findDirOwner wa p stg.outputs

theorem findOwner_entry (wa : Bool) (idx : Index) (p o : Bytes) (oa : Art)
    (h : findOwner wa idx p = some (o, oa)) : ∃ stg, (o, stg) ∈ idx ∧ ownerArt wa stg p = some oa := by
  induction idx with
  | nil => simp [findOwner] at h
  | cons e r ih =>
    obtain ⟨k, stg⟩ := e
    simp only [findOwner] at h
    split at h
    · rename_i a hf
      cases h
      exact ⟨stg, List.mem_cons_self, by simp [ownerArt, hf]⟩
    · rename_i hf
      split at h
      · rename_i a hg
        cases h
        exact ⟨stg, List.mem_cons_self, by simp [ownerArt, hf, hg]⟩
      · obtain ⟨stg', h1, h2⟩ := ih h
        exact ⟨stg', List.mem_cons_of_mem _ h1, h2⟩

theorem findOwner_some (wa : Bool) (idx : Index) (hn : (idx.map (·.1)).Nodup) {p o : Bytes} {oa : Art}
    (h : findOwner wa idx p = some (o, oa)) :
    ∃ stg, alookup idx o = some stg ∧ ownerArt wa stg p = some oa := by
  obtain ⟨stg, hm, ho⟩ := findOwner_entry wa idx p o oa h
  exact ⟨stg, alookup_of_mem_nodup hn hm, ho⟩

end Dud.WStat

namespace Dud

variable {κ : Type}

theorem ownerWalk_mem (wa : Bool) (arts : List Art) (full : Bytes) : ∀ (parts : List Bytes) (dir : Bytes) (o : Art),
    ownerWalk wa arts full dir parts = some o → o ∈ arts := by
  intro parts dir o h
  rw [ownerWalk_eq_findSome] at h
  obtain ⟨d, _, hd⟩ := List.exists_of_findSome?_eq_some h
  exact (ownerAt_some hd).1

/-- the artifact `findOwner` returns is an output of the stage it returns -/
theorem findOwner_mem (wa : Bool) (idx : Index) (p : Bytes) (o : Bytes) (oa : Art)
    (h : findOwner wa idx p = some (o, oa)) : ∃ stg, (o, stg) ∈ idx ∧ oa ∈ stg.outputs := by
  obtain ⟨stg, hm, ho⟩ := WStat.findOwner_entry wa idx p o oa h
  refine ⟨stg, hm, ?_⟩
  rw [WStat.ownerArt] at ho
  split at ho
  · cases ho; exact List.mem_of_find?_eq_some ‹_›
  · exact ownerWalk_mem _ _ _ _ _ _ ho

/-! ## `commitAct` keeps the shape -/

theorem WT.commitArtW_inv {cfg : Cfg κ} {strat : Strat} {a a' : Art} {w w' : World κ}
    (h : commitArtW cfg strat a w = .ok (a', w')) :
    ∃ n d s ws', commitArt cfg.ctx strat a (getPath w.ws (Path.comps a.path)) w.store = .ok (n, d, s) ∧
      setPath w.ws (Path.comps a.path) n = some ws' ∧ a' = { a with sum := d } ∧
      w' = { w with ws := ws', store := s } := by
  unfold commitArtW at h
  dsimp only at h
  split at h
  · cases h
  rename_i n d s hc
  split at h
  · cases h
  rename_i ws' hs
  simp only [Except.ok.injEq, Prod.mk.injEq] at h
  exact ⟨n, d, s, ws', hc, hs, h.1.symm, h.2.symm⟩

theorem WT.commitArts_cons_ok {cfg : Cfg κ} {strat : Strat} {a : Art} {r as' : List Art} {w w' : World κ}
    (h : commitArts cfg strat (a :: r) w = .ok (as', w')) :
    ∃ a1 w1 r2, commitArtW cfg strat a w = .ok (a1, w1) ∧ commitArts cfg strat r w1 = .ok (r2, w') ∧
      as' = a1 :: r2 := by
  rw [commitArts] at h
  split at h
  · cases h
  rename_i a1 w1 h1
  split at h
  · cases h
  rename_i r2 w2 h2
  cases h
  exact ⟨a1, w1, r2, h1, h2, rfl⟩

theorem commitArtW_frame (cfg : Cfg κ) (strat : Strat) (a a' : Art) (w w' : World κ)
    (h : commitArtW cfg strat a w = .ok (a', w')) :
    w'.idx = w.idx ∧ w'.done = w.done ∧ a'.noSum = a.noSum := by
  obtain ⟨n, d, s, ws', -, -, rfl, rfl⟩ := WT.commitArtW_inv h
  exact ⟨rfl, rfl, rfl⟩

theorem commitArts_frame (cfg : Cfg κ) (strat : Strat) : ∀ (as as' : List Art) (w w' : World κ),
    commitArts cfg strat as w = .ok (as', w') →
      w'.idx = w.idx ∧ w'.done = w.done ∧ as'.map Art.noSum = as.map Art.noSum
  | [], _, _, _, h => by cases h; exact ⟨rfl, rfl, rfl⟩
  | a :: as, _, w, w', h => by
    obtain ⟨a1, w1, as2, h1, h2, rfl⟩ := WT.commitArts_cons_ok h
    obtain ⟨f1, f2, f3⟩ := commitArtW_frame cfg strat a a1 w w1 h1
    obtain ⟨g1, g2, g3⟩ := commitArts_frame cfg strat as as2 w1 w' h2
    exact ⟨g1.trans f1, g2.trans f2, by simp only [List.map_cons, f3, g3]⟩

theorem commitAct_frame (cfg : Cfg κ) (strat : Strat) (sp : Bytes) (w w' : World κ)
    (hn : (w.idx.map (·.1)).Nodup) (h : commitAct cfg strat sp w = .ok w') :
    SameShape w'.idx w.idx ∧ w'.done = sp :: w.done := by
  obtain ⟨stg, hl⟩ := WStat.commitAct_stage h
  obtain ⟨plain', w1, outs', w2, hc1, hc2, rfl⟩ := WStat.commitAct_inv hl h
  obtain ⟨f1, f2, f3⟩ := commitArts_frame cfg strat _ _ w w1 hc1
  obtain ⟨g1, g2, g3⟩ := commitArts_frame cfg strat _ _ w1 w2 hc2
  refine ⟨?_, by simp only [g2, f2]⟩
  simp only [g1, f1, WStat.newStage, WStat.ownedIn, WStat.plainIn] at f3 ⊢
  refine setStage_sim w.idx sp _ fun s hs => ?_
  cases Option.some.inj ((alookup_of_mem_nodup hn hs).symm.trans hl)
  refine ⟨fun p => ?_, fun p => ?_⟩
  · -- inputs: the owned ones and the plain ones together are all of them
    simp only
    rw [mem_paths_sortArts, List.map_append, List.mem_append, paths_of_noSum f3, mem_paths_sortArts]
    simp only [List.mem_map, List.mem_filter]
    constructor
    · rintro (⟨a, ⟨b, ⟨hb, _⟩, rfl⟩, rfl⟩ | ⟨a, ⟨b, ⟨hb, _⟩, rfl⟩, rfl⟩)
      · refine ⟨b, hb, ?_⟩
        split <;> rfl
      · exact ⟨b, hb, rfl⟩
    · rintro ⟨b, hb, rfl⟩
      cases ho : (findOwner cfg.walkAccumulates w.idx b.path).isSome with
      | true =>
        refine .inl ⟨_, ⟨b, ⟨hb, ho⟩, rfl⟩, ?_⟩
        split <;> rfl
      | false =>
        refine .inr ⟨_, ⟨b, ⟨hb, by simpa using ho⟩, rfl⟩, rfl⟩
  · -- outputs: sorted, new checksums
    simp only
    rw [findArt_noRec_of_noSum g3, findArt_sortArts]

/-! ## owners in an index of the same shape -/

theorem findOwner_some_sim (wa : Bool) {idx idx0 : Index} (h : SameShape idx idx0) {p o : Bytes} {oa : Art}
    (ho : findOwner wa idx p = some (o, oa)) :
    ∃ oa0, findOwner wa idx0 p = some (o, oa0) ∧ oa0.path = oa.path := by
  have := findOwner_sim_path wa h p
  rw [ho] at this
  cases h0 : findOwner wa idx0 p with
  | none => rw [h0] at this; cases this
  | some r =>
    rw [h0] at this
    simp only [Option.map_some, Option.some.injEq, Prod.mk.injEq] at this
    obtain ⟨o', oa0⟩ := r
    simp only at this
    obtain ⟨rfl, hp⟩ := this
    exact ⟨oa0, rfl, hp.symm⟩

/-- The owner found in an index of the same shape in which the owning stage has the same entry is
the same, artifact included. -/
theorem findOwner_stable (wa : Bool) {idx' idx : Index} (hk : (idx.map (·.1)).Nodup)
    (hsh : SameShape idx' idx) {p o : Bytes} {oa' : Art} (h' : findOwner wa idx' p = some (o, oa'))
    (he : alookup idx' o = alookup idx o) : findOwner wa idx p = some (o, oa') := by
  obtain ⟨oa, h, _⟩ := findOwner_some_sim wa hsh h'
  obtain ⟨stg', m', e'⟩ := WStat.findOwner_entry wa idx' p o oa' h'
  obtain ⟨stg, m, e⟩ := WStat.findOwner_entry wa idx p o oa h
  have hk' : (idx'.map (·.1)).Nodup := by rw [hsh.keys]; exact hk
  have l' := alookup_of_mem_nodup hk' m'
  have l := alookup_of_mem_nodup hk m
  rw [l', l] at he
  cases he
  rw [e'] at e
  cases e
  exact h

theorem findOwner_isNone_sim (wa : Bool) {idx idx0 : Index} (h : SameShape idx idx0) (p : Bytes) :
    (findOwner wa idx p).isNone = (findOwner wa idx0 p).isNone := by
  have := congrArg Option.isNone (findOwner_sim wa h p)
  simpa using this

theorem findOwner_none_sim (wa : Bool) {idx idx0 : Index} (h : SameShape idx idx0) (p : Bytes) :
    findOwner wa idx p = none ↔ findOwner wa idx0 p = none := by
  rw [← Option.isNone_iff_eq_none, ← Option.isNone_iff_eq_none, findOwner_isNone_sim wa h]

end Dud
