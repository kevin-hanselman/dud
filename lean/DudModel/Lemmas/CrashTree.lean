import DudModel.Lemmas.Crash
import DudModel.Lemmas.Tree
import DudModel.Lemmas.CommitOk
/-!
# Crash safety of the traced directory commit (C03, tree level)

Erasing the trace of `commitNodeT` / `commitEntriesT` / `commitArtT` gives the logical functions of
`Model.lean` (`…_refines`).  What a successful traced commit issues is a `CommitTrace` (`…_trace`): a
relation with one rule per way the trace is put together, so that every fact about the calls is one
induction on it.  A `CommitTrace` mentions only the workspace paths of the tree's regular files, the temp
files it numbers, shard directories and objects (`InFoot`, `CommitTrace.foot`); so what an earlier entry
leaves alone is still in place for the later ones, and every call is `Allowed` in the state it is issued
in (`CommitTrace.allowed`).  `fsOf` is a workspace tree next to a cache, as a file system; `getPath` and
`setPath` meet `trackedOf` and `uniqNode` in `getPath_of_tracked` … `uniqNode_setPath`.
-/
namespace Dud.Sys
open Dud
variable {κ : Type}

theorem commitFileT_refines (t : TCfg κ) (skip : Bool) (w : P) (nd : Option (Node κ)) (sum : Digest)
    (s : Store κ) (n : Nat) :
    (commitFileT t skip w nd sum s n).map (·.1) = commitFile t.ctx t.strat skip nd sum s := by
  unfold commitFileT
  cases commitFile t.ctx t.strat skip nd sum s with
  | error e => rfl
  | ok r => dsimp only; split <;> (try split) <;> rfl

theorem map_fst_eq {α β ε : Type} {x : Except ε (α × β)} {y : Except ε α}
    (h : x.map (·.1) = y) :
    (∀ e, x = .error e → y = .error e) ∧ (∀ a b, x = .ok (a, b) → y = .ok a) := by
  subst h
  constructor
  · intro e he; subst he; rfl
  · intro a b he; subst he; rfl

theorem commitEntriesT_cons (t : TCfg κ) (pre : List Name) (skipDirs : Bool) (nm : Name)
    (nd : Node κ) (r : List (Name × Node κ)) (old : List Child) (s : Store κ) (n : Nat) :
    commitEntriesT t pre skipDirs ((nm, nd) :: r) old s n =
      if skipDirs && nd.isDir then
        match commitEntriesT t pre skipDirs r old s n with
        | .error e => .error e
        | .ok ((r', cs, s'), calls, k) => .ok (((nm, nd) :: r', cs, s'), calls, k)
      else if !t.ctx.nameOK nm then .error .invalid
      else
        match commitNodeT t (pre ++ [nm]) nd (pickChild old nm nd.isDir) s n with
        | .error e => .error e
        | .ok ((nd', c', s1), calls1, n1) =>
          match commitEntriesT t pre skipDirs r old s1 n1 with
          | .error e => .error e
          | .ok ((r', cs, s2), calls2, n2) =>
            .ok (((nm, nd') :: r', c' :: cs, s2), calls1 ++ calls2, n2) := by
  rw [commitEntriesT]; rfl

theorem commitNodeT_leaf (t : TCfg κ) (pre : List Name) {nd : Node κ} (hnd : nd.isDir = false)
    (c : Child) (s : Store κ) (n : Nat) :
    commitNodeT t pre nd c s n =
      if c.isDir then .error .notDir
      else match commitFileT t false (.ws pre) (some nd) c.sum s n with
        | .error e => .error e
        | .ok ((n', d, s'), calls, k) => .ok ((n', { c with sum := d }, s'), calls, k) := by
  cases nd with
  | dir es => cases hnd
  | _ => rfl

theorem commitNodeT_refines_leaf (t : TCfg κ) {nd : Node κ} (hnd : nd.isDir = false) (pre : List Name)
    (c : Child) (s : Store κ) (n : Nat) :
    (commitNodeT t pre nd c s n).map (·.1) = commitNode t.ctx t.strat nd c s := by
  rw [commitNodeT_leaf t pre hnd, commitNode_leaf _ _ hnd, ← commitFileT_refines t false (.ws pre)]
  split
  · rfl
  · cases commitFileT t false (.ws pre) (some nd) c.sum s n with
    | error e => rfl
    | ok v => rfl

mutual
theorem commitNodeT_refines (t : TCfg κ) : ∀ (nd : Node κ) (pre : List Name) (c : Child)
    (s : Store κ) (n : Nat),
    (commitNodeT t pre nd c s n).map (·.1) = commitNode t.ctx t.strat nd c s
  | .dir es, pre, c, s, n => by
    rw [commitNode_dir]
    unfold commitNodeT
    split
    · cases oldManifest t.ctx s c.sum with
      | error e => rfl
      | ok old =>
        dsimp only
        rw [← commitEntriesT_refines t es pre false old s n]
        cases commitEntriesT t pre false es old s n with
        | error e => rfl
        | ok v => rfl
    · rfl
  | .file x, pre, c, s, n => commitNodeT_refines_leaf t rfl pre c s n
  | .link l, pre, c, s, n => commitNodeT_refines_leaf t rfl pre c s n
  | .other, pre, c, s, n => commitNodeT_refines_leaf t rfl pre c s n
theorem commitEntriesT_refines (t : TCfg κ) : ∀ (es : List (Name × Node κ)) (pre : List Name)
    (skipDirs : Bool) (old : List Child) (s : Store κ) (n : Nat),
    (commitEntriesT t pre skipDirs es old s n).map (·.1) = commitEntries t.ctx t.strat skipDirs es old s
  | [], pre, skipDirs, old, s, n => by rw [commitEntriesT, commitEntries_nil]; rfl
  | (nm, nd) :: r, pre, skipDirs, old, s, n => by
    rw [commitEntriesT_cons, commitEntries_cons]
    by_cases h1 : (skipDirs && nd.isDir) = true
    · rw [if_pos h1, if_pos h1, ← commitEntriesT_refines t r pre skipDirs old s n]
      cases commitEntriesT t pre skipDirs r old s n with
      | error e => rfl
      | ok v => rfl
    · rw [if_neg h1, if_neg h1]
      by_cases h2 : (!t.ctx.nameOK nm) = true
      · rw [if_pos h2, if_pos h2]; rfl
      · rw [if_neg h2, if_neg h2, ← commitNodeT_refines t nd (pre ++ [nm]) (pickChild old nm nd.isDir) s n]
        cases commitNodeT t (pre ++ [nm]) nd (pickChild old nm nd.isDir) s n with
        | error e => rfl
        | ok v =>
          obtain ⟨⟨nd', c', s1⟩, calls1, n1⟩ := v
          dsimp only [Except.map]
          rw [← commitEntriesT_refines t r pre skipDirs old s1 n1]
          cases commitEntriesT t pre skipDirs r old s1 n1 with
          | error e => rfl
          | ok v => rfl
end

theorem commitArtT_refines (t : TCfg κ) (a : Art) (pre : List Name) (nd : Option (Node κ))
    (s : Store κ) :
    (commitArtT t a pre nd s).map (·.1) = commitArt t.ctx t.strat a nd s := by
  unfold commitArtT commitArt
  split
  · cases nd with
    | none => rfl
    | some x =>
      cases x with
      | dir es =>
        dsimp only
        cases oldManifest t.ctx s a.sum with
        | error e => rfl
        | ok old =>
          dsimp only
          rw [← commitEntriesT_refines t es pre a.noRec old s 1]
          cases commitEntriesT t pre a.noRec es old s 1 with
          | error e => rfl
          | ok v => rfl
      | _ => rfl
  · rw [← commitFileT_refines t a.skip (.ws pre) nd a.sum s 1]
    cases commitFileT t a.skip (.ws pre) nd a.sum s 1 with
    | error e => rfl
    | ok v => rfl

mutual
/-- (workspace path, content) of every regular file of the tree rooted at `pre` -/
def trackedOf (pre : List Name) : Node κ → List (P × κ)
  | .file c => [(.ws pre, c)]
  | .dir es => trackedList pre es
  | .link _ => []
  | .other => []
def trackedList (pre : List Name) : List (Name × Node κ) → List (P × κ)
  | [] => []
  | (nm, n) :: r => trackedOf (pre ++ [nm]) n ++ trackedList pre r
end

mutual
/-- entry names are pairwise distinct in every directory -/
def uniqNode : Node κ → Prop
  | .dir es => uniqList es
  | _ => True
def uniqList : List (Name × Node κ) → Prop
  | [] => True
  | (nm, n) :: r => uniqNode n ∧ (∀ e ∈ r, e.1 ≠ nm) ∧ uniqList r
end

mutual
theorem uniqNode_of_sorted : ∀ (n : Node κ), n.sorted = true → uniqNode n
  | .dir es, h => by
    simp only [Node.sorted] at h
    simp only [uniqNode]
    exact uniqList_of_sorted es h
  | .file _, _ => by simp [uniqNode]
  | .link _, _ => by simp [uniqNode]
  | .other, _ => by simp [uniqNode]
theorem uniqList_of_sorted : ∀ (es : List (Name × Node κ)), sortedList es = true → uniqList es
  | [], _ => by simp [uniqList]
  | (nm, n) :: r, h => by
    simp only [uniqList]
    exact ⟨uniqNode_of_sorted n (sortedList_cons h).1,
      fun e he heq => sortedList_head_ne h e he heq.symm,
      uniqList_of_sorted r (sortedList_cons h).2⟩
end

theorem allNames_sub_allNamesList : ∀ {es : List (Name × Node κ)} {e : Name × Node κ} {x : Name},
    e ∈ es → x ∈ allNames e.2 → x ∈ allNamesList es
  | (nm, n) :: r, e, x, he, hx => by
    rcases List.mem_cons.1 he with rfl | he'
    · exact mem_allNamesList_of_node hx
    · exact mem_allNamesList_of_tail (allNames_sub_allNamesList he' hx)

mutual
theorem trackedOf_names : ∀ (nd : Node κ) (pre : List Name) (p : P × κ), p ∈ trackedOf pre nd →
    ∃ names, p.1 = .ws (pre ++ names) ∧ ∀ x ∈ names, x ∈ allNames nd
  | .file c, pre, p, h => by
    simp only [trackedOf, List.mem_singleton] at h
    exact ⟨[], by simp [h], by simp⟩
  | .link _, _, _, h => by simp [trackedOf] at h
  | .other, _, _, h => by simp [trackedOf] at h
  | .dir es, pre, p, h => by
    simp only [trackedOf] at h
    obtain ⟨e, he, names, hp, hn⟩ := trackedList_names es pre p h
    refine ⟨e.1 :: names, by simp [hp], ?_⟩
    intro x hx
    simp only [allNames]
    rcases List.mem_cons.1 hx with rfl | hx'
    · exact mem_allNamesList_of_mem he
    · exact allNames_sub_allNamesList he (hn x hx')
theorem trackedList_names : ∀ (es : List (Name × Node κ)) (pre : List Name) (p : P × κ),
    p ∈ trackedList pre es →
    ∃ e ∈ es, ∃ names, p.1 = .ws (pre ++ [e.1] ++ names) ∧ ∀ x ∈ names, x ∈ allNames e.2
  | [], _, _, h => by simp [trackedList] at h
  | (nm, n) :: r, pre, p, h => by
    simp only [trackedList, List.mem_append] at h
    rcases h with h | h
    · obtain ⟨names, hp, hn⟩ := trackedOf_names n (pre ++ [nm]) p h
      exact ⟨(nm, n), by simp, names, hp, hn⟩
    · obtain ⟨e, he, names, hp, hn⟩ := trackedList_names r pre p h
      exact ⟨e, by simp [he], names, hp, hn⟩
end

theorem trackedOf_ws (pre : List Name) (nd : Node κ) : TrackedWs (trackedOf pre nd) := by
  intro p hp
  obtain ⟨names, hn, -⟩ := trackedOf_names nd pre p hp
  exact ⟨_, hn⟩

theorem ws_append_ne_self (pre : List Name) (nm : Name) (r : List Name) :
    P.ws (pre ++ nm :: r) ≠ P.ws pre := by
  intro h
  have := congrArg (fun x => match x with | P.ws q => q.length | _ => 0) h
  simp at this

theorem ws_child_ne {pre : List Name} {a b : Name} (hab : a ≠ b) (r1 r2 : List Name) :
    P.ws (pre ++ a :: r1) ≠ P.ws (pre ++ [b] ++ r2) := by
  intro h
  simp at h
  exact hab h.1

theorem sibling_paths_ne {pre : List Name} {a b : Name} {n1 n2 : List Name} (hab : a ≠ b) :
    P.ws (pre ++ [a] ++ n1) ≠ P.ws (pre ++ [b] ++ n2) := by
  simpa using ws_child_ne (pre := pre) hab n1 n2

def paths (l : List (P × κ)) : List P := l.map (·.1)

/-- the paths a (sub)commit with temp counters `lo … hi-1` may mention -/
def InFoot (wsPaths : List P) (lo hi : Nat) : P → Prop
  | .ws q => P.ws q ∈ wsPaths
  | .ctmp k => lo ≤ k ∧ k < hi
  | .shard _ => True
  | .obj _ => True
  | _ => False

def FootOK (wsPaths : List P) (lo hi : Nat) (calls : List (Call κ)) : Prop :=
  ∀ call ∈ calls, ∀ p ∈ callPaths call, InFoot wsPaths lo hi p

theorem InFoot.mono {ws ws' : List P} {lo hi lo' hi' : Nat} (hws : ∀ p ∈ ws, p ∈ ws')
    (hlo : lo' ≤ lo) (hhi : hi ≤ hi') {p : P} (h : InFoot ws lo hi p) : InFoot ws' lo' hi' p := by
  cases p <;> simp only [InFoot] at h ⊢
  · exact hws _ h
  · omega

theorem FootOK.mono {ws ws' : List P} {lo hi lo' hi' : Nat} (hws : ∀ p ∈ ws, p ∈ ws')
    (hlo : lo' ≤ lo) (hhi : hi ≤ hi') {calls : List (Call κ)} (h : FootOK ws lo hi calls) :
    FootOK ws' lo' hi' calls :=
  fun call hc p hp => (h call hc p hp).mono hws hlo hhi

theorem FootOK.append {ws : List P} {lo hi : Nat} {l1 l2 : List (Call κ)}
    (h1 : FootOK ws lo hi l1) (h2 : FootOK ws lo hi l2) : FootOK ws lo hi (l1 ++ l2) := by
  intro call hc
  rcases List.mem_append.1 hc with h | h
  · exact h1 call h
  · exact h2 call h

theorem FootOK.nil (ws : List P) (lo hi : Nat) : FootOK (κ := κ) ws lo hi [] := by
  intro call hc; simp at hc

theorem copyIntoCache_foot (isEmp : κ → Bool) (n : Nat) (c : κ) (d : Digest) :
    FootOK [] n (n + 1) (copyIntoCache isEmp n c d) := by
  intro call hc p hp
  rcases copyIntoCache_paths isEmp n c d call hc p hp with rfl | rfl | rfl <;> simp [InFoot]

theorem commitFileCalls_foot (isEmp : κ → Bool) (strat : Strat) (canRename : Bool) (q : List Name)
    (n : Nat) (c : κ) (d : Digest) :
    FootOK [.ws q] n (if strat == .link && canRename then n else n + 1)
      (commitFileCalls isEmp strat canRename (.ws q) n c d) := by
  intro call hc p hp
  rcases commitFileCalls_paths isEmp strat canRename (.ws q) n c d call hc p hp
    with rfl | ⟨hno, rfl⟩ | rfl | rfl
  · simp [InFoot]
  · cases strat <;> cases canRename <;> simp [InFoot] at hno ⊢
  · simp [InFoot]
  · simp [InFoot]

/-- a successful `commitFileT` issues the calls of `commitFileCalls` for a regular file that has to
be stored, and no call otherwise -/
theorem commitFileT_ok_inv {t : TCfg κ} {skip : Bool} {w : P} {nd : Option (Node κ)} {sum : Digest}
    {s : Store κ} {n : Nat} {res : Node κ × Digest × Store κ} {calls : List (Call κ)} {k : Nat}
    (h : commitFileT t skip w nd sum s n = .ok (res, calls, k)) :
    commitFile t.ctx t.strat skip nd sum s = .ok res ∧
    ((∃ x, nd = some (.file x) ∧ (skip || (quick s sum nd).cm) = false ∧
        calls = commitFileCalls t.isEmp t.strat t.canRename w n x (t.ctx.H x) ∧
        k = if t.strat == .link && t.canRename then n else n + 1) ∨
      ((∀ x, nd = some (.file x) → (skip || (quick s sum nd).cm) = true) ∧ calls = [] ∧ k = n)) := by
  unfold commitFileT at h
  cases hcf : commitFile t.ctx t.strat skip nd sum s with
  | error e => simp [hcf] at h
  | ok r =>
    simp only [hcf] at h
    split at h
    · next x =>
      split at h
      · next hq => cases h; exact ⟨rfl, .inr ⟨fun _ _ => hq, rfl, rfl⟩⟩
      · next hq => cases h; exact ⟨rfl, .inl ⟨x, rfl, by simpa using hq, rfl, rfl⟩⟩
    · next hnd => cases h; exact ⟨rfl, .inr ⟨fun x hx => absurd hx (hnd x), rfl, rfl⟩⟩

theorem commitNodeT_leaf_ok {t : TCfg κ} {pre : List Name} {nd : Node κ} {c : Child} {s : Store κ}
    {n : Nat} {res : Node κ × Child × Store κ} {calls : List (Call κ)} {k : Nat}
    (hnd : nd.isDir = false) (h : commitNodeT t pre nd c s n = .ok (res, calls, k)) :
    ∃ d s', commitFileT t false (.ws pre) (some nd) c.sum s n = .ok ((res.1, d, s'), calls, k) := by
  rw [commitNodeT_leaf t pre hnd] at h
  split at h
  · cases h
  · cases hT : commitFileT t false (.ws pre) (some nd) c.sum s n with
    | error e => simp [hT] at h
    | ok v =>
      obtain ⟨⟨n', d, s'⟩, calls', k'⟩ := v
      simp only [hT] at h
      cases h
      exact ⟨d, s', rfl⟩

theorem commitNodeT_leaf_calls {t : TCfg κ} {pre : List Name} {nd : Node κ} {c : Child} {s : Store κ}
    {n : Nat} {res : Node κ × Child × Store κ} {calls : List (Call κ)} {k : Nat}
    (hnd : nd.isDir = false) (h : commitNodeT t pre nd c s n = .ok (res, calls, k)) :
    (∃ x, nd = .file x ∧ calls = commitFileCalls t.isEmp t.strat t.canRename (.ws pre) n x (t.ctx.H x) ∧
        k = if t.strat == .link && t.canRename then n else n + 1) ∨
      (∃ l, nd = .link l ∧ calls = [] ∧ k = n) := by
  obtain ⟨d, s', hT⟩ := commitNodeT_leaf_ok hnd h
  obtain ⟨hcf, hc⟩ := commitFileT_ok_inv hT
  cases nd with
  | dir es => cases hnd
  | other => simp [commitFile_other] at hcf
  | file x =>
    rcases hc with ⟨x', hx, -, hc, hk⟩ | ⟨hq, -⟩
    · cases hx; exact .inl ⟨x, rfl, hc, hk⟩
    · simpa [quick] using hq x rfl
  | link l =>
    rcases hc with ⟨x', hx, -⟩ | ⟨-, hc, hk⟩
    · cases hx
    · exact .inr ⟨l, rfl, hc, hk⟩

theorem commitNodeT_dir_inv {t : TCfg κ} {pre : List Name} {es : List (Name × Node κ)} {c : Child}
    {s : Store κ} {n : Nat} {res : Node κ × Child × Store κ} {calls : List (Call κ)} {k : Nat}
    (h : commitNodeT t pre (.dir es) c s n = .ok (res, calls, k)) :
    ∃ old res1 calls1 n1 mb, commitEntriesT t pre false es old s n = .ok (res1, calls1, n1) ∧
      calls = calls1 ++ copyIntoCache t.isEmp n1 mb (t.ctx.H mb) ∧ k = n1 + 1 ∧
      res.1 = .dir res1.1 := by
  unfold commitNodeT at h
  split at h
  · cases hold : oldManifest t.ctx s c.sum with
    | error e => simp [hold] at h
    | ok old =>
      simp only [hold] at h
      cases hT : commitEntriesT t pre false es old s n with
      | error e => simp [hT] at h
      | ok v =>
        obtain ⟨⟨es', cs, s'⟩, calls1, n1⟩ := v
        simp only [hT] at h
        cases h
        exact ⟨old, _, _, _, _, hT, rfl, rfl, rfl⟩
  · cases h

/-- a successful traced commit of a non-empty listing: the head entry is skipped, or committed
before the rest -/
theorem commitEntriesT_cons_inv {t : TCfg κ} {pre : List Name} {skipDirs : Bool} {nm : Name}
    {nd : Node κ} {r : List (Name × Node κ)} {old : List Child} {s : Store κ} {n : Nat}
    {res : List (Name × Node κ) × List Child × Store κ} {calls : List (Call κ)} {k : Nat}
    (h : commitEntriesT t pre skipDirs ((nm, nd) :: r) old s n = .ok (res, calls, k)) :
    ((skipDirs && nd.isDir) = true ∧
      ∃ res', commitEntriesT t pre skipDirs r old s n = .ok (res', calls, k) ∧
        res.1 = (nm, nd) :: res'.1) ∨
    (¬ (skipDirs && nd.isDir) = true ∧ ∃ c0 nd' c' s1 calls1 n1 res2 calls2,
      commitNodeT t (pre ++ [nm]) nd c0 s n = .ok ((nd', c', s1), calls1, n1) ∧
      commitEntriesT t pre skipDirs r old s1 n1 = .ok (res2, calls2, k) ∧ calls = calls1 ++ calls2 ∧
      res.1 = (nm, nd') :: res2.1) := by
  rw [commitEntriesT_cons] at h
  split at h
  · rename_i hc
    refine .inl ⟨hc, ?_⟩
    cases hT : commitEntriesT t pre skipDirs r old s n with
    | error e => simp [hT] at h
    | ok v =>
      obtain ⟨⟨r', cs, s'⟩, calls', k'⟩ := v
      simp only [hT] at h
      cases h
      exact ⟨_, rfl, rfl⟩
  · rename_i hc
    refine .inr ⟨hc, ?_⟩
    split at h
    · cases h
    · cases hT : commitNodeT t (pre ++ [nm]) nd (pickChild old nm nd.isDir) s n with
      | error e => simp [hT] at h
      | ok v =>
        obtain ⟨⟨nd', c', s1⟩, calls1, n1⟩ := v
        simp only [hT] at h
        cases hT2 : commitEntriesT t pre skipDirs r old s1 n1 with
        | error e => simp [hT2] at h
        | ok v =>
          obtain ⟨⟨r', cs, s2⟩, calls2, n2⟩ := v
          simp only [hT2] at h
          cases h
          exact ⟨_, nd', c', s1, calls1, n1, _, calls2, hT, hT2, rfl, rfl⟩

theorem commitEntriesT_nil_ok {t : TCfg κ} {pre : List Name} {skipDirs : Bool} {old : List Child}
    {s : Store κ} {n : Nat} {res : List (Name × Node κ) × List Child × Store κ}
    {calls : List (Call κ)} {k : Nat}
    (h : commitEntriesT t pre skipDirs [] old s n = .ok (res, calls, k)) :
    res.1 = [] ∧ calls = [] ∧ k = n := by
  rw [commitEntriesT] at h; cases h; exact ⟨rfl, rfl, rfl⟩

theorem paths_append (a b : List (P × κ)) : paths (a ++ b) = paths a ++ paths b := by
  simp [paths]

theorem paths_cons_left (pre : List Name) (nm : Name) (nd : Node κ) (r : List (Name × Node κ)) :
    ∀ p ∈ paths (trackedOf (pre ++ [nm]) nd), p ∈ paths (trackedList pre ((nm, nd) :: r)) := by
  intro p hp
  simp only [trackedList, paths_append, List.mem_append]; exact Or.inl hp

theorem paths_cons_right (pre : List Name) (nm : Name) (nd : Node κ) (r : List (Name × Node κ)) :
    ∀ p ∈ paths (trackedList pre r), p ∈ paths (trackedList pre ((nm, nd) :: r)) := by
  intro p hp
  simp only [trackedList, paths_append, List.mem_append]; exact Or.inr hp

def trackedOpt (pre : List Name) : Option (Node κ) → List (P × κ)
  | some n => trackedOf pre n
  | none => []

def uniqOpt : Option (Node κ) → Prop
  | some n => uniqNode n
  | none => True

/-- **The traces a successful commit issues.**  `CommitTrace t pre nd nd' full n n' calls`: committing the
tree `nd` at `pre` with the temp numbers `n … n'-1` issues `calls` and leaves `nd'`; with `full = false`
it is only the loop over the entries of the directory `nd`, without its manifest.  A regular file is
stored by `commitFileCalls`; `pass`: nothing is issued for a link or an entry that is skipped (a special
file is refused: no successful run has one; the rule itself admits any node, so an induction meets `pass` on
a regular file and on a directory too); a directory commits its entries in order and then stores its
manifest (some bytes `mb`). -/
inductive CommitTrace (t : TCfg κ) :
    List Name → Node κ → Node κ → Bool → Nat → Nat → List (Call κ) → Prop
  | file {pre x n} : CommitTrace t pre (.file x) (wsAfter t.ctx t.strat (.file x)) true n
      (if t.strat == .link && t.canRename then n else n + 1)
      (commitFileCalls t.isEmp t.strat t.canRename (.ws pre) n x (t.ctx.H x))
  | pass {pre nd n} : CommitTrace t pre nd nd true n n []
  | dir {pre es es' n n1 calls mb} : CommitTrace t pre (.dir es) (.dir es') false n n1 calls →
      CommitTrace t pre (.dir es) (.dir es') true n (n1 + 1)
        (calls ++ copyIntoCache t.isEmp n1 mb (t.ctx.H mb))
  | nil {pre n} : CommitTrace t pre (.dir []) (.dir []) false n n []
  | cons {pre nm nd nd' r r' n n1 n' calls1 calls2} :
      CommitTrace t (pre ++ [nm]) nd nd' true n n1 calls1 →
      CommitTrace t pre (.dir r) (.dir r') false n1 n' calls2 →
      CommitTrace t pre (.dir ((nm, nd) :: r)) (.dir ((nm, nd') :: r')) false n n' (calls1 ++ calls2)

theorem commitFileT_trace {t : TCfg κ} {skip : Bool} {pre : List Name} {nd : Node κ} {sum : Digest}
    {s : Store κ} {n : Nat} {res : Node κ × Digest × Store κ} {calls : List (Call κ)} {k : Nat}
    (h : commitFileT t skip (.ws pre) (some nd) sum s n = .ok (res, calls, k)) :
    CommitTrace t pre nd res.1 true n k calls := by
  obtain ⟨n', d, s'⟩ := res
  obtain ⟨hcf, hc⟩ := commitFileT_ok_inv h
  rcases hc with ⟨x, hx, hq, rfl, rfl⟩ | ⟨hq, rfl, rfl⟩
  · -- the calls of `commitFileCalls`: `commitFile` has stored the file
    cases hx
    rcases commitFile_cases hcf with ⟨c, hcur, -, ⟨hsk, -⟩ | ⟨-, rfl, -⟩⟩ | ⟨l, hcur, -⟩
    · simp [hsk] at hq
    · cases hcur; exact .file
    · cases hcur
  · -- no call: the node stays
    rcases commitFile_cases hcf with ⟨c, hcur, -, ⟨-, rfl, -⟩ | ⟨hsk, -⟩⟩ | ⟨l, hcur, rfl, -⟩
    · cases hcur; exact .pass
    · cases hcur; simpa [hsk, quick] using hq c rfl
    · cases hcur; exact .pass

mutual
theorem commitNodeT_trace (t : TCfg κ) : ∀ (nd : Node κ) {pre : List Name} {c : Child} {s : Store κ}
    {n : Nat} {res : Node κ × Child × Store κ} {calls : List (Call κ)} {n' : Nat},
    commitNodeT t pre nd c s n = .ok (res, calls, n') → CommitTrace t pre nd res.1 true n n' calls
  | .file x, _, _, _, _, _, _, _, h => let ⟨_, _, hT⟩ := commitNodeT_leaf_ok rfl h; commitFileT_trace hT
  | .link l, _, _, _, _, _, _, _, h => let ⟨_, _, hT⟩ := commitNodeT_leaf_ok rfl h; commitFileT_trace hT
  | .other, _, _, _, _, _, _, _, h => let ⟨_, _, hT⟩ := commitNodeT_leaf_ok rfl h; commitFileT_trace hT
  | .dir es, _, _, _, _, _, _, _, h => by
    obtain ⟨old, res1, calls1, n1, mb, hT, rfl, rfl, hres⟩ := commitNodeT_dir_inv h
    exact hres ▸ .dir (commitEntriesT_trace t es hT)
theorem commitEntriesT_trace (t : TCfg κ) : ∀ (es : List (Name × Node κ)) {pre : List Name}
    {skipDirs : Bool} {old : List Child} {s : Store κ} {n : Nat}
    {res : List (Name × Node κ) × List Child × Store κ} {calls : List (Call κ)} {n' : Nat},
    commitEntriesT t pre skipDirs es old s n = .ok (res, calls, n') →
      CommitTrace t pre (.dir es) (.dir res.1) false n n' calls
  | [], _, _, _, _, _, _, _, _, h => by
    obtain ⟨hres, rfl, rfl⟩ := commitEntriesT_nil_ok h; rw [hres]; exact .nil
  | (nm, nd) :: r, _, _, _, _, _, _, _, _, h => by
    rcases commitEntriesT_cons_inv h with ⟨-, res', h', hres⟩ |
      ⟨-, c0, nd', c', s1, calls1, n1, res2, calls2, h1, h2, rfl, hres⟩
    · exact hres ▸ .cons .pass (commitEntriesT_trace t r h')
    · exact hres ▸ .cons (commitNodeT_trace t nd h1) (commitEntriesT_trace t r h2)
end

/-- **Footprint.** A traced commit of the tree at `pre` mentions only the workspace paths of the
tree's regular files, the temp files it numbers, shard directories and objects. -/
theorem CommitTrace.foot {t : TCfg κ} {pre : List Name} {nd nd' : Node κ} {full : Bool} {n n' : Nat}
    {calls : List (Call κ)} (h : CommitTrace t pre nd nd' full n n' calls) :
    n ≤ n' ∧ FootOK (paths (trackedOf pre nd)) n n' calls := by
  induction h with
  | file => exact ⟨by split <;> omega, commitFileCalls_foot _ _ _ _ _ _ _⟩
  | pass | nil => exact ⟨Nat.le_refl _, FootOK.nil _ _ _⟩
  | dir _ ih =>
    exact ⟨by omega, (ih.2.mono (fun _ h => h) (Nat.le_refl _) (by omega)).append
      ((copyIntoCache_foot _ _ _ _).mono (by simp) ih.1 (Nat.le_refl _))⟩
  | cons _ _ ih1 ih2 =>
    exact ⟨by omega, (ih1.2.mono (paths_cons_left _ _ _ _) (Nat.le_refl _) ih2.1).append
      (ih2.2.mono (paths_cons_right _ _ _ _) ih1.1 (Nat.le_refl _))⟩

theorem not_written_of_foot {ws : List P} {lo hi : Nat} {calls : List (Call κ)}
    (hf : FootOK ws lo hi calls) {p : P} (hp : ¬ InFoot ws lo hi p) :
    ∀ call ∈ calls, p ∉ callWrites call :=
  fun call hc hmem => hp (hf call hc p (callWrites_sub call p hmem))

theorem replay_get_of_foot {ws : List P} {lo hi : Nat} {calls : List (Call κ)}
    (hf : FootOK ws lo hi calls) {p : P} (hp : ¬ InFoot ws lo hi p) (emp : κ) (fs : FS κ) :
    (replay emp fs calls).get p = fs.get p :=
  replay_get_frame emp calls p fs (not_written_of_foot hf hp)

theorem not_inFoot_ctmp (ws : List P) {lo hi k : Nat} (h : hi ≤ k) : ¬ InFoot ws lo hi (.ctmp k) := by
  simp only [InFoot]; omega

/-- files below a later entry are outside the footprint of an earlier sibling -/
theorem not_inFoot_sibling {pre : List Name} {nm : Name} {nd : Node κ} {r : List (Name × Node κ)}
    (hne : ∀ e ∈ r, e.1 ≠ nm) {p : P × κ} (hp : p ∈ trackedList pre r) (lo hi : Nat) :
    ¬ InFoot (paths (trackedOf (pre ++ [nm]) nd)) lo hi p.1 := by
  obtain ⟨e, he, names, hpe, -⟩ := trackedList_names r pre p hp
  rw [hpe]
  simp only [InFoot, paths, List.mem_map]
  rintro ⟨p', hp', heq⟩
  obtain ⟨names', hpe', -⟩ := trackedOf_names nd (pre ++ [nm]) p' hp'
  rw [hpe'] at heq
  exact sibling_paths_ne (Ne.symm (hne e he)) heq

/-- files below an earlier entry are outside the footprint of the later siblings -/
theorem not_inFoot_rest {pre : List Name} {nm : Name} {nd : Node κ} {r : List (Name × Node κ)}
    (hne : ∀ e ∈ r, e.1 ≠ nm) {p : P × κ} (hp : p ∈ trackedOf (pre ++ [nm]) nd) (lo hi : Nat) :
    ¬ InFoot (paths (trackedList pre r)) lo hi p.1 := by
  obtain ⟨names, hpe, -⟩ := trackedOf_names nd (pre ++ [nm]) p hp
  rw [hpe]
  simp only [InFoot, paths, List.mem_map]
  rintro ⟨p', hp', heq⟩
  obtain ⟨e, he, names', hpe', -⟩ := trackedList_names r pre p' hp'
  rw [hpe'] at heq
  exact sibling_paths_ne (hne e he) heq

/-- a call that writes neither a workspace path nor an object -/
def Harmless (c : Call κ) : Prop := ∀ p ∈ callWrites c, p.isObj = false ∧ ∀ q, p ≠ .ws q

theorem allowed_of_harmless {ctx : Ctx κ} {tracked : List (P × κ)} (htw : TrackedWs tracked)
    (fs : FS κ) {c : Call κ} (h : Harmless c) : Allowed ctx tracked fs c :=
  allowed_of_backed fun p hp => ⟨(h p hp).1, backed_of_notWs htw fs (h p hp).2⟩

theorem allowedTrace_of_harmless {ctx : Ctx κ} {tracked : List (P × κ)} (htw : TrackedWs tracked)
    (emp : κ) : ∀ (calls : List (Call κ)), (∀ c ∈ calls, Harmless c) →
      ∀ fs : FS κ, AllowedTrace ctx emp tracked fs calls
  | [], _, _ => trivial
  | c :: cs, h, fs => ⟨allowed_of_harmless htw fs (h c (by simp)),
      allowedTrace_of_harmless htw emp cs (fun c' hc' => h c' (by simp [hc'])) _⟩

theorem commitFileT_allowed {t : TCfg κ} (g : Good t.ctx) {tracked : List (P × κ)}
    (htw : TrackedWs tracked) {emp : κ} (hemp : ∀ c, t.isEmp c = true → c = emp)
    {skip : Bool} {q : List Name} {nd : Option (Node κ)} {sum : Digest} {s : Store κ} {n : Nat}
    {res : Node κ × Digest × Store κ} {calls : List (Call κ)} {k : Nat}
    (h : commitFileT t skip (.ws q) nd sum s n = .ok (res, calls, k))
    {fs : FS κ} (hs : Safe t.ctx tracked fs)
    (hin : ∀ p ∈ trackedOpt q nd, ∃ m, fs.get p.1 = some (.file p.2 m))
    (hfr : fs.get (.ctmp n) = none) : AllowedTrace t.ctx emp tracked fs calls := by
  rcases (commitFileT_ok_inv h).2 with ⟨x, rfl, -, rfl, -⟩ | ⟨-, rfl, -⟩
  · obtain ⟨m, hm⟩ := hin (.ws q, x) (List.mem_singleton.2 rfl)
    exact (commitFileCalls_spec g htw hemp hs hm hfr t.strat t.canRename).1
  · trivial

/-- **Every call of the traced commit is allowed in the state it is issued in**, from any safe
state in which the regular files of the tree are in place and the temp names from `n` on unused. -/
theorem CommitTrace.allowed {t : TCfg κ} (g : Good t.ctx) {tracked : List (P × κ)}
    (htw : TrackedWs tracked) {emp : κ} (hemp : ∀ c, t.isEmp c = true → c = emp)
    {pre : List Name} {nd nd' : Node κ} {full : Bool} {n n' : Nat} {calls : List (Call κ)}
    (h : CommitTrace t pre nd nd' full n n' calls) (hu : uniqNode nd) {fs : FS κ}
    (hs : Safe t.ctx tracked fs) (hin : ∀ p ∈ trackedOf pre nd, ∃ m, fs.get p.1 = some (.file p.2 m))
    (hfr : CtmpFree n fs) : AllowedTrace t.ctx emp tracked fs calls := by
  induction h generalizing fs with
  | file =>
    obtain ⟨m, hm⟩ := hin _ (List.mem_singleton.2 rfl)
    exact (commitFileCalls_spec g htw hemp hs hm (hfr _ (Nat.le_refl _)) _ _).1
  | pass | nil => trivial
  | dir h ih =>
    refine (ih hu hs hin hfr).append (copyIntoCache_spec htw hemp ?_ _).1
    rw [replay_get_of_foot h.foot.2 (not_inFoot_ctmp _ (Nat.le_refl _))]
    exact hfr _ h.foot.1
  | cons h1 _ ih1 ih2 =>
    -- what the first entry leaves alone (its later siblings' files, the temp names from `n1` on) is
    -- still as the rest expects it
    obtain ⟨hun, hne, hur⟩ := hu
    have ha1 := ih1 hun hs (fun p hp => hin p (List.mem_append_left _ hp)) hfr
    refine ha1.append (ih2 hur (ha1.safe_final g hs) (fun p hp => ?_) (fun k hk => ?_))
    · rw [replay_get_of_foot h1.foot.2 (not_inFoot_sibling hne hp _ _)]
      exact hin p (List.mem_append_right _ hp)
    · rw [replay_get_of_foot h1.foot.2 (not_inFoot_ctmp _ hk)]
      exact hfr k (Nat.le_trans h1.foot.1 hk)

/-- `MkdirAll(cache)` and the rename probe -/
def headCalls : List (Call κ) := [.mkdir .cacheRoot] ++ probeCalls

theorem headCalls_paths : ∀ c ∈ (headCalls : List (Call κ)), ∀ p ∈ callPaths c,
    p = .cacheRoot ∨ p = .wtmp 0 ∨ p = .ctmp 0 := by
  intro c hc p hp
  simp [headCalls, probeCalls] at hc
  rcases hc with rfl | rfl | rfl | rfl | rfl | rfl <;> simp only [callPaths] at hp <;> grind

theorem headCalls_writes {c : Call κ} (hc : c ∈ (headCalls : List (Call κ))) {p : P}
    (hp : p ∈ callWrites c) : p = .cacheRoot ∨ p = .wtmp 0 ∨ p = .ctmp 0 :=
  headCalls_paths c hc p (callWrites_sub c p hp)

theorem not_written_by_headCalls (q : List Name) :
    ∀ call ∈ (headCalls : List (Call κ)), P.ws q ∉ callWrites call := by
  intro call hcall hmem
  rcases headCalls_writes hcall hmem with h | h | h <;> cases h

theorem headCalls_harmless : ∀ c ∈ (headCalls : List (Call κ)), Harmless c := by
  intro c hc p hp
  rcases headCalls_writes hc hp with rfl | rfl | rfl <;> exact ⟨rfl, fun _ => nofun⟩

theorem headCalls_frame_ws (emp : κ) (fs : FS κ) (q : List Name) :
    (replay emp fs headCalls).get (.ws q) = fs.get (.ws q) :=
  replay_get_frame emp _ _ fs (not_written_by_headCalls q)

theorem headCalls_frame_ctmp (emp : κ) (fs : FS κ) {k : Nat} (hk : 1 ≤ k) :
    (replay emp fs headCalls).get (.ctmp k) = fs.get (.ctmp k) :=
  replay_get_frame emp _ _ fs (fun c hc hmem => by
    rcases headCalls_writes hc hmem with h | h | h <;> cases h
    exact absurd hk (by decide))

/-- the probe leaves its temp file `ctmp 0` unlinked, and touches no other -/
theorem headCalls_ctmp_free (emp : κ) {n : Nat} {fs : FS κ} (h : CtmpFree n fs) :
    CtmpFree n (replay emp fs (headCalls : List (Call κ))) := by
  intro k hk
  cases k with
  | zero =>
    simp only [headCalls, probeCalls, List.cons_append, List.nil_append, replay_cons, replay_nil]
    exact get_unlink_self
  | succ k => rw [headCalls_frame_ctmp emp fs (Nat.succ_le_succ (Nat.zero_le k))]; exact h _ hk

/-- a successful traced `LocalCache.Commit`: the head calls, then a directory's entries and its
manifest, or one `commitFileT` -/
theorem commitArtT_ok_inv {t : TCfg κ} {a : Art} {pre : List Name} {nd : Option (Node κ)} {s : Store κ}
    {res : Node κ × Digest × Store κ} {calls : List (Call κ)}
    (h : commitArtT t a pre nd s = .ok (res, calls)) :
    (∃ es old res1 calls1 n1 mb, nd = some (.dir es) ∧
        commitEntriesT t pre a.noRec es old s 1 = .ok (res1, calls1, n1) ∧
        calls = headCalls ++ calls1 ++ copyIntoCache t.isEmp n1 mb (t.ctx.H mb) ∧
        res.1 = .dir res1.1 ∧ a.isDir = true) ∨
    (∃ calls1 k, commitFileT t a.skip (.ws pre) nd a.sum s 1 = .ok (res, calls1, k) ∧
        calls = headCalls ++ calls1 ∧ a.isDir = false) := by
  unfold commitArtT at h
  split at h
  · rename_i hd
    left
    cases nd with
    | none => cases h
    | some x =>
      cases x with
      | dir es =>
        dsimp only at h
        cases hold : oldManifest t.ctx s a.sum with
        | error e => simp [hold] at h
        | ok old =>
          simp only [hold] at h
          cases hT : commitEntriesT t pre a.noRec es old s 1 with
          | error e => simp [hT] at h
          | ok v =>
            obtain ⟨⟨es', cs, s'⟩, calls1, n1⟩ := v
            simp only [hT] at h
            cases h
            exact ⟨es, old, _, calls1, n1, _, rfl, hT, rfl, rfl, hd⟩
      | _ => cases h
  · rename_i hd
    right
    cases hT : commitFileT t a.skip (.ws pre) nd a.sum s 1 with
    | error e => simp [hT] at h
    | ok v =>
      obtain ⟨r, calls1, k⟩ := v
      simp only [hT] at h
      cases h
      exact ⟨calls1, k, rfl, rfl, Bool.eq_false_iff.2 hd⟩

theorem commitArtT_trace {t : TCfg κ} {a : Art} {pre : List Name} {nd : Option (Node κ)} {s : Store κ}
    {res : Node κ × Digest × Store κ} {calls : List (Call κ)}
    (h : commitArtT t a pre nd s = .ok (res, calls)) :
    ∃ nd0 calls1 n', nd = some nd0 ∧ calls = headCalls ++ calls1 ∧
      CommitTrace t pre nd0 res.1 true 1 n' calls1 := by
  rcases commitArtT_ok_inv h with ⟨es, old, res1, calls1, n1, mb, rfl, hT, rfl, hres, -⟩ |
    ⟨calls1, k, hT, rfl, -⟩
  · rw [hres]
    exact ⟨_, _, _, rfl, List.append_assoc _ _ _, .dir (commitEntriesT_trace t es hT)⟩
  · cases nd with
    | none => cases (commitFileT_ok_inv hT).1
    | some nd0 => exact ⟨nd0, calls1, k, rfl, rfl, commitFileT_trace hT⟩

theorem commitArtT_allowed {t : TCfg κ} (g : Good t.ctx) {tracked : List (P × κ)}
    (htw : TrackedWs tracked) {emp : κ} (hemp : ∀ c, t.isEmp c = true → c = emp)
    {a : Art} {pre : List Name} {nd : Option (Node κ)} {s : Store κ}
    {res : Node κ × Digest × Store κ} {calls : List (Call κ)}
    (hu : uniqOpt nd) (h : commitArtT t a pre nd s = .ok (res, calls))
    {fs : FS κ} (hs : Safe t.ctx tracked fs)
    (hin : ∀ p ∈ trackedOpt pre nd, ∃ m, fs.get p.1 = some (.file p.2 m))
    (hfr : CtmpFree 1 fs) : AllowedTrace t.ctx emp tracked fs calls := by
  obtain ⟨nd0, calls1, n', rfl, rfl, hct⟩ := commitArtT_trace h
  have hhead : AllowedTrace t.ctx emp tracked fs headCalls :=
    allowedTrace_of_harmless htw emp _ headCalls_harmless fs
  refine hhead.append (hct.allowed g htw hemp hu (hhead.safe_final g hs) (fun p hp => ?_)
    (headCalls_ctmp_free emp hfr))
  obtain ⟨q, hq⟩ := trackedOf_ws pre nd0 p hp
  rw [hq, headCalls_frame_ws, ← hq]
  exact hin p hp

mutual
/-- regular files, directories and links into the cache of the tree rooted at `pre` (foreign links
and special files have no `Entry` kind and are left out: they are never touched) -/
def fsOfNode (pre : List Name) : Node κ → FS κ
  | .file c => [(.ws pre, .file c 0o644)]
  | .dir es => (.ws pre, .dir) :: fsOfList pre es
  | .link (.obj d) => [(.ws pre, .link (.obj d))]
  | .link (.foreign _) => []
  | .other => []
def fsOfList (pre : List Name) : List (Name × Node κ) → FS κ
  | [] => []
  | (nm, n) :: r => fsOfNode (pre ++ [nm]) n ++ fsOfList pre r
end

/-- objects (read-only files holding the object's bytes) and their shard directories -/
def fsOfStore (ctx : Ctx κ) (s : Store κ) : FS κ :=
  s.map (fun e => (P.obj e.1, Entry.file (e.2.bytes ctx) 0o444)) ++
  s.map (fun e => (P.shard (shardOf e.1), Entry.dir))

def fsOf (ctx : Ctx κ) (pre : List Name) (nd : Node κ) (s : Store κ) : FS κ :=
  fsOfNode pre nd ++ fsOfStore ctx s ++ [(.cacheRoot, .dir)]

mutual
theorem fsOfNode_keys : ∀ (nd : Node κ) (pre : List Name) (e : P × Entry κ), e ∈ fsOfNode pre nd →
    ∃ names, e.1 = .ws (pre ++ names)
  | .file c, pre, e, h => by
    simp only [fsOfNode, List.mem_singleton] at h; exact ⟨[], by simp [h]⟩
  | .link (.obj d), pre, e, h => by
    simp only [fsOfNode, List.mem_singleton] at h; exact ⟨[], by simp [h]⟩
  | .link (.foreign _), _, _, h => by simp [fsOfNode] at h
  | .other, _, _, h => by simp [fsOfNode] at h
  | .dir es, pre, e, h => by
    simp only [fsOfNode, List.mem_cons] at h
    rcases h with rfl | h
    · exact ⟨[], by simp⟩
    · obtain ⟨x, -, names, hn⟩ := fsOfList_keys es pre e h
      exact ⟨x.1 :: names, by simp [hn]⟩
theorem fsOfList_keys : ∀ (es : List (Name × Node κ)) (pre : List Name) (e : P × Entry κ),
    e ∈ fsOfList pre es → ∃ x ∈ es, ∃ names, e.1 = .ws (pre ++ [x.1] ++ names)
  | [], _, _, h => by simp [fsOfList] at h
  | (nm, n) :: r, pre, e, h => by
    simp only [fsOfList, List.mem_append] at h
    rcases h with h | h
    · obtain ⟨names, hn⟩ := fsOfNode_keys n (pre ++ [nm]) e h
      exact ⟨(nm, n), by simp, names, hn⟩
    · obtain ⟨x, hx, names, hn⟩ := fsOfList_keys r pre e h
      exact ⟨x, by simp [hx], names, hn⟩
end

/-- the entry `fsOfNode` holds for a node of the workspace tree -/
def entryOf : Option (Node κ) → Option (Entry κ)
  | some (.file x) => some (.file x 0o644)
  | some (.dir _) => some .dir
  | some (.link (.obj d)) => some (.link (.obj d))
  | _ => none

theorem fsOfNode_sibling_none {pre : List Name} {k nm : Name} (hk : k ≠ nm) (v : Node κ) (r : List Name) :
    alookup (fsOfNode (pre ++ [k]) v) (.ws (pre ++ nm :: r)) = none := by
  apply alookup_none_of_keys
  intro e he heq
  obtain ⟨names, hn⟩ := fsOfNode_keys v (pre ++ [k]) e he
  rw [hn] at heq
  exact ws_child_ne (Ne.symm hk) r names heq.symm

theorem fsOfList_absent_none {pre : List Name} {k : Name} {es : List (Name × Node κ)}
    (hne : ∀ e ∈ es, e.1 ≠ k) (r : List Name) : alookup (fsOfList pre es) (.ws (pre ++ k :: r)) = none := by
  apply alookup_none_of_keys
  intro e he heq
  obtain ⟨x, hx, names, hn⟩ := fsOfList_keys es pre e he
  rw [hn] at heq
  exact ws_child_ne (Ne.symm (hne x hx)) r names heq.symm

mutual
/-- **`fsOfNode` read back**: at every path below `pre` the file system of a tree with duplicate-free names
holds exactly the entry of the node the tree has there.  By recursion on the path: a listing is read entry
by entry (`fsOfList_get_eq`), each entry with the rest of the path. -/
theorem fsOfNode_get_eq : ∀ (r : List Name) (nd : Node κ) (pre : List Name), uniqNode nd →
    alookup (fsOfNode pre nd) (.ws (pre ++ r)) = entryOf (getPath nd r)
  | [], nd, pre, _ => by
    rcases nd with x | es | (d | b) | _ <;> simp [fsOfNode, alookup, getPath, entryOf]
  | nm :: r, nd, pre, hu => by
    have hne : ¬ pre = pre ++ nm :: r := fun h => ws_append_ne_self pre nm r (by rw [← h])
    rcases nd with x | es | (d | b) | _
    case dir =>
      simp only [fsOfNode, alookup, beq_iff_eq, P.ws.injEq, hne, if_false, getPath]
      rw [fsOfList_get_eq es pre nm r hu]
      cases alookup es nm <;> rfl
    all_goals simp [fsOfNode, alookup, getPath, entryOf, hne]
termination_by r => (2 * r.length, 0)
theorem fsOfList_get_eq : ∀ (es : List (Name × Node κ)) (pre : List Name) (nm : Name) (r : List Name),
    uniqList es →
    alookup (fsOfList pre es) (.ws (pre ++ nm :: r)) = entryOf ((alookup es nm).bind (getPath · r))
  | [], _, _, _, _ => rfl
  | (k, v) :: rest, pre, nm, r, hu => by
    obtain ⟨huv, hnek, hur⟩ := hu
    simp only [fsOfList, alookup_append, alookup, beq_iff_eq]
    by_cases hk : k = nm
    · subst hk
      have h1 := fsOfNode_get_eq r v (pre ++ [k]) huv
      rw [List.append_assoc, List.singleton_append] at h1
      rw [h1, fsOfList_absent_none hnek, if_pos rfl, Option.bind_some]
      cases entryOf (getPath v r) <;> rfl
    · rw [fsOfNode_sibling_none hk, if_neg hk]
      exact fsOfList_get_eq rest pre nm r hur
termination_by es _ _ r => (2 * r.length + 1, es.length)
end

mutual
theorem getPath_of_tracked : ∀ (nd : Node κ) (pre : List Name) (p : P × κ), uniqNode nd →
    p ∈ trackedOf pre nd → ∃ r, p.1 = .ws (pre ++ r) ∧ getPath nd r = some (.file p.2)
  | .file c, pre, p, _, h => by
    simp only [trackedOf, List.mem_singleton] at h
    subst h
    exact ⟨[], by simp, rfl⟩
  | .link _, _, _, _, h => by simp [trackedOf] at h
  | .other, _, _, _, h => by simp [trackedOf] at h
  | .dir es, pre, p, hu, h => by
    simp only [trackedOf] at h
    simp only [uniqNode] at hu
    obtain ⟨nm, r, m, hp, hm, hg⟩ := getPath_of_trackedList es pre p hu h
    exact ⟨nm :: r, hp, by simp [getPath, hm, hg]⟩
theorem getPath_of_trackedList : ∀ (es : List (Name × Node κ)) (pre : List Name) (p : P × κ),
    uniqList es → p ∈ trackedList pre es →
    ∃ nm r m, p.1 = .ws (pre ++ nm :: r) ∧ alookup es nm = some m ∧ getPath m r = some (.file p.2)
  | [], _, _, _, h => by simp [trackedList] at h
  | (k, v) :: rest, pre, p, hu, h => by
    simp only [uniqList] at hu
    obtain ⟨huv, hne, hur⟩ := hu
    simp only [trackedList, List.mem_append] at h
    rcases h with h | h
    · obtain ⟨r, hp, hg⟩ := getPath_of_tracked v (pre ++ [k]) p huv h
      exact ⟨k, r, v, by simp [hp], by simp [alookup], hg⟩
    · obtain ⟨nm, r, m, hp, hm, hg⟩ := getPath_of_trackedList rest pre p hur h
      have hne' : k ≠ nm := fun e => hne (nm, m) (alookup_mem hm) e.symm
      exact ⟨nm, r, m, hp, by simp [alookup, hne', hm], hg⟩
end

theorem fsOfList_get_tracked : ∀ (es : List (Name × Node κ)) (pre : List Name), uniqList es →
    ∀ p ∈ trackedList pre es, alookup (fsOfList pre es) p.1 = some (.file p.2 0o644)
  | es, pre, hu, p, h => by
    obtain ⟨nm, r, m, hp, hm, hg⟩ := getPath_of_trackedList es pre p hu h
    rw [hp, fsOfList_get_eq es pre nm r hu, hm, Option.bind_some, hg]
    rfl

theorem getPath_append : ∀ (p r : List Name) (n : Node κ),
    getPath n (p ++ r) = (getPath n p).bind (fun m => getPath m r) := by
  intro p r
  induction p with
  | nil => intro n; simp [getPath]
  | cons c p ih =>
    intro n
    cases n with
    | dir es =>
      simp only [List.cons_append, getPath]
      cases alookup es c with
      | none => rfl
      | some m => exact ih m
    | _ => simp [getPath]

theorem trackedList_of_mem {pre : List Name} {es : List (Name × Node κ)} {nm : Name} {m : Node κ}
    {p : P × κ} (he : (nm, m) ∈ es) (hp : p ∈ trackedOf (pre ++ [nm]) m) : p ∈ trackedList pre es := by
  induction es with
  | nil => cases he
  | cons e r ih =>
    obtain ⟨k, v⟩ := e
    simp only [trackedList, List.mem_append]
    rcases List.mem_cons.1 he with heq | he'
    · cases heq; exact .inl hp
    · exact .inr (ih he')

theorem tracked_of_getPath : ∀ (r : List Name) (n : Node κ) (pre : List Name) (x : κ),
    getPath n r = some (.file x) → (P.ws (pre ++ r), x) ∈ trackedOf pre n := by
  intro r
  induction r with
  | nil =>
    intro n pre x h
    simp only [getPath, Option.some.injEq] at h
    subst h
    simp [trackedOf]
  | cons c r ih =>
    intro n pre x h
    obtain ⟨es, m, rfl, hm, hg⟩ := getPath_cons_inv h
    have := ih m (pre ++ [c]) x hg
    rw [List.append_assoc, List.singleton_append] at this
    exact trackedList_of_mem (alookup_mem hm) this

theorem uniqNode_of_alookup {es : List (Name × Node κ)} {c : Name} {m : Node κ}
    (hu : uniqList es) (h : alookup es c = some m) : uniqNode m := by
  induction es with
  | nil => cases h
  | cons e r ih =>
    obtain ⟨k, v⟩ := e
    simp only [uniqList] at hu
    simp only [alookup] at h
    split at h
    · cases h; exact hu.1
    · exact ih hu.2.2 h

theorem uniqNode_getPath : ∀ (p : List Name) (ws n : Node κ), uniqNode ws → getPath ws p = some n →
    uniqNode n := by
  intro p
  induction p with
  | nil => intro ws n hu h; simp only [getPath, Option.some.injEq] at h; subst h; exact hu
  | cons c p ih =>
    intro ws n hu h
    obtain ⟨es, m, rfl, hm, hg⟩ := getPath_cons_inv h
    exact ih m n (uniqNode_of_alookup (by simpa only [uniqNode] using hu) hm) hg

theorem uniqOpt_getPath (p : List Name) (ws : Node κ) (hu : uniqNode ws) : uniqOpt (getPath ws p) := by
  cases h : getPath ws p with
  | none => trivial
  | some n => exact uniqNode_getPath p ws n hu h

/-- a regular file below the node at `pre` is a regular file of the tree, at its path -/
theorem getPath_of_trackedOpt {ws : Node κ} (hu : uniqNode ws) (pre : List Name) :
    ∀ p ∈ trackedOpt pre (getPath ws pre), ∃ q, p.1 = .ws q ∧ getPath ws q = some (.file p.2) := by
  intro p hp
  cases hg : getPath ws pre with
  | none => rw [hg] at hp; cases hp
  | some nd =>
    rw [hg] at hp
    obtain ⟨r, hpr, hgr⟩ := getPath_of_tracked nd pre p (uniqNode_getPath pre ws nd hu hg) hp
    exact ⟨pre ++ r, hpr, by rw [getPath_append, hg]; exact hgr⟩

theorem uniqList_setEntry {es : List (Name × Node κ)} {c : Name} {n : Node κ}
    (hu : uniqList es) (hn : uniqNode n) : uniqList (setEntry es c n) := by
  induction es with
  | nil => simp [setEntry, uniqList, hn]
  | cons kv r ih =>
    obtain ⟨k, v⟩ := kv
    simp only [uniqList] at hu
    obtain ⟨huv, hne, hur⟩ := hu
    simp only [setEntry]
    split
    · simp only [uniqList]; exact ⟨hn, hne, hur⟩
    · rename_i hk
      have hk : k ≠ c := by simpa using hk
      simp only [uniqList]
      refine ⟨huv, fun e he => ?_, ih hur⟩
      rcases mem_setEntry he with he | he
      · exact hne e he
      · rw [he]; exact fun h => hk h.symm

theorem uniqNode_setPath : ∀ (p : List Name) (ws ws' v : Node κ), uniqNode ws → uniqNode v →
    setPath ws p v = some ws' → uniqNode ws' := by
  intro p
  induction p with
  | nil => intro ws ws' v _ hv h; simp only [setPath, Option.some.injEq] at h; subst h; exact hv
  | cons c p ih =>
    intro ws ws' v hu hv h
    obtain ⟨es, k, rfl, hk, rfl⟩ := setPath_cons_inv h
    simp only [uniqNode] at hu ⊢
    refine uniqList_setEntry hu (ih _ k v ?_ hv hk)
    cases hm : alookup es c with
    | none => simp [uniqNode, uniqList]
    | some m => simpa using uniqNode_of_alookup hu hm

theorem alookup_map_obj (ctx : Ctx κ) (s : Store κ) (d : Digest) :
    alookup (s.map (fun e => (P.obj e.1, Entry.file (e.2.bytes ctx) 0o444))) (.obj d) =
      (s.get d).map (fun o => Entry.file (o.bytes ctx) 0o444) := by
  induction s with
  | nil => simp [alookup, Store.get]
  | cons x xs ih =>
    obtain ⟨k, o⟩ := x
    simp only [List.map_cons, alookup, Store.get, beq_iff_eq, P.obj.injEq]
    split
    · rfl
    · exact ih

theorem fsOf_get_obj (ctx : Ctx κ) (pre : List Name) (nd : Node κ) (s : Store κ) (d : Digest) :
    (fsOf ctx pre nd s).get (.obj d) = (s.get d).map (fun o => Entry.file (o.bytes ctx) 0o444) := by
  have h1 : alookup (fsOfNode pre nd) (.obj d) = none := by
    apply alookup_none_of_keys
    intro e he heq
    obtain ⟨names, hn⟩ := fsOfNode_keys nd pre e he
    rw [hn] at heq; cases heq
  simp only [fsOf, fsOfStore, FS.get, alookup_append, h1, alookup_map_obj]
  cases s.get d with
  | some o => rfl
  | none =>
    simp only [Option.map_none]
    have h2 : alookup (s.map (fun e => (P.shard (shardOf e.1), (Entry.dir : Entry κ)))) (.obj d) = none := by
      apply alookup_none_of_keys
      intro e he heq
      simp only [List.mem_map] at he
      obtain ⟨x, -, rfl⟩ := he
      cases heq
    simp [h2, alookup]

theorem fsOf_keys (ctx : Ctx κ) (pre : List Name) (nd : Node κ) (s : Store κ) :
    ∀ e ∈ fsOf ctx pre nd s, (∃ q, e.1 = .ws q) ∨ (∃ d, e.1 = .obj d) ∨ (∃ h, e.1 = .shard h) ∨
      e.1 = .cacheRoot := by
  intro e he
  simp only [fsOf, fsOfStore, List.mem_append, List.mem_map, List.mem_singleton] at he
  rcases he with (he | ⟨x, -, rfl⟩ | ⟨x, -, rfl⟩) | rfl
  · obtain ⟨names, hn⟩ := fsOfNode_keys nd pre e he
    exact .inl ⟨_, hn⟩
  · exact .inr (.inl ⟨_, rfl⟩)
  · exact .inr (.inr (.inl ⟨_, rfl⟩))
  · exact .inr (.inr (.inr rfl))

theorem fsOf_get_none (ctx : Ctx κ) (pre : List Name) (nd : Node κ) (s : Store κ) {p : P}
    (h1 : ∀ q, p ≠ .ws q) (h2 : ∀ d, p ≠ .obj d) (h3 : ∀ h, p ≠ .shard h) (h4 : p ≠ .cacheRoot) :
    (fsOf ctx pre nd s).get p = none := by
  apply alookup_none_of_keys
  intro e he heq
  rcases fsOf_keys ctx pre nd s e he with ⟨q, hq⟩ | ⟨d, hd⟩ | ⟨h, hh⟩ | hc
  · exact h1 q (heq ▸ hq)
  · exact h2 d (heq ▸ hd)
  · exact h3 h (heq ▸ hh)
  · exact h4 (heq ▸ hc)

theorem fsOf_get_ctmp (ctx : Ctx κ) (pre : List Name) (nd : Node κ) (s : Store κ) (k : Nat) :
    (fsOf ctx pre nd s).get (.ctmp k) = none :=
  fsOf_get_none _ _ _ _ (by simp) (by simp) (by simp) (by simp)

theorem fsOf_get_tracked (ctx : Ctx κ) (pre : List Name) (nd : Node κ) (s : Store κ)
    (hu : uniqNode nd) : ∀ p ∈ trackedOf pre nd, (fsOf ctx pre nd s).get p.1 = some (.file p.2 0o644) := by
  intro p hp
  obtain ⟨r, hpr, hg⟩ := getPath_of_tracked nd pre p hu hp
  simp only [fsOf, FS.get, List.append_assoc, alookup_append, hpr, fsOfNode_get_eq r nd pre hu, hg, entryOf]

/-- a workspace tree with duplicate-free names next to a consistent cache is a safe state -/
theorem fsOf_safe (ctx : Ctx κ) (pre : List Name) (nd : Node κ) (s : Store κ) (hu : uniqNode nd)
    (hc : Consistent ctx s) : Safe ctx (trackedOf pre nd) (fsOf ctx pre nd s) := by
  refine ⟨fun p hp => Or.inl ⟨_, fsOf_get_tracked ctx pre nd s hu p hp⟩, ?_⟩
  intro d e he
  rw [fsOf_get_obj] at he
  cases hg : s.get d with
  | none => simp [hg] at he
  | some o =>
    simp [hg] at he
    exact ⟨o.bytes ctx, 0o444, he.symm, hc d o hg⟩

end Dud.Sys
