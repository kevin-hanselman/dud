import DudModel.Blake3Spec
/-!
# Chunks and blocks by position

`chunkAt`, `blockAt`, `chainCV` address the pieces of an input by index.  Every length is `k` full
pieces and a non-empty rest, or at most one piece (`Pieces`, `exists_pieces`); for such a `k`,
`splitChunks_eq_chunkAt` and `chunkTail_eq_chainCV` state the specification's two fuelled loops
(`splitChunksF`, `chunkTailF`) in closed form, and no lemma outside `Blake3Spec.lean` and this file
unfolds those loops.
-/
namespace Dud.Blake3Spec

variable {CV Digest : Type}

/-- the `i`-th 64-byte block of a chunk -/
def blockAt (bs : Bytes) (i : Nat) : Bytes := (bs.drop (64 * i)).take 64

/-- the `j`-th 1024-byte chunk of an input -/
def chunkAt (xs : Bytes) (j : Nat) : Bytes := (xs.drop (1024 * j)).take 1024

/-- chaining value after compressing the first `i` blocks of the chunk `bs` (none of them final) -/
def chainCV (B : BlockParams CV Digest) (ctr : Nat) (bs : Bytes) : Nat → CV
  | 0 => B.iv
  | i + 1 => B.compressBlock (chainCV B ctr bs i) (blockAt bs i) ctr (i == 0)

/-- The longest official test input used in `Props/C14blake3Vectors.lean` (3073 bytes: 0,1,…,250
repeated); its first three chunks are shared by all vectors checked there. -/
abbrev Vectors.X : Bytes := testInput 3073

/-- `n` is `k` full pieces of `m` and a non-empty rest, or at most one piece (`k = 0`). -/
abbrev Pieces (m k n : Nat) : Prop := (m * k < n ∨ k = 0) ∧ n ≤ m * (k + 1)

theorem exists_pieces {m : Nat} (hm : 0 < m) (n : Nat) : ∃ k, Pieces m k n := by
  refine ⟨(n - 1) / m, ?_, ?_⟩
  · have := Nat.mul_div_le (n - 1) m
    generalize (n - 1) / m = q at this
    cases q with
    | zero => exact Or.inr rfl
    | succ q => have h2 : 0 < m * (q + 1) := Nat.mul_pos hm (by omega); exact Or.inl (by omega)
  · have := Nat.lt_mul_div_succ (n - 1) hm
    generalize (n - 1) / m = q at this
    omega

/-- A list is its first `k` pieces of `m` elements (`f j` is the `j`-th) and the rest. -/
theorem flatten_pieces {α : Type} (m : Nat) (xs : List α) {f : Nat → List α}
    (hf : ∀ j, f j = (xs.drop (m * j)).take m) (k : Nat) :
    ((List.range k).map f).flatten ++ xs.drop (m * k) = xs := by
  induction k with
  | zero => simp
  | succ k ih =>
    rw [List.range_succ, List.map_append, List.flatten_append, List.append_assoc]
    simp only [List.map_cons, List.map_nil, List.flatten_cons, List.flatten_nil, List.append_nil]
    rw [hf, Nat.mul_succ, ← List.drop_drop, List.take_append_drop, ih]

/-- If `k` pieces of `m` elements are followed by something (or `k = 0`), the pieces by position
are what `splitChunks_append` and `chunkTailF_blocks` ask for. -/
theorem pieces_spec {α : Type} (m : Nat) (xs : List α) {f : Nat → List α}
    (hf : ∀ j, f j = (xs.drop (m * j)).take m) (k : Nat)
    (h : Pieces m k xs.length) :
    (∀ c ∈ (List.range k).map f, c.length = m) ∧ (xs.drop (m * k)).length ≤ m ∧
      ((List.range k).map f ≠ [] → xs.drop (m * k) ≠ []) := by
  obtain ⟨hlo, hhi⟩ := h
  rw [Nat.mul_succ] at hhi
  refine ⟨fun c hc => ?_, by simp only [List.length_drop]; omega, fun hne => ?_⟩
  · obtain ⟨j, hj, rfl⟩ := List.mem_map.1 hc
    have hj := List.mem_range.1 hj
    have h1 : m * (j + 1) ≤ m * k := Nat.mul_le_mul_left m hj
    have hk : m * k < xs.length := hlo.resolve_right (by omega)
    rw [Nat.mul_succ] at h1
    simp only [hf, List.length_take, List.length_drop]; omega
  · have hk : m * k < xs.length := hlo.resolve_right fun h0 => hne (by rw [h0]; rfl)
    exact List.ne_nil_of_length_pos (by simp only [List.length_drop]; omega)

/-- The chunks by position: `k` full ones and what is left (all of it if `k = 0`). -/
theorem splitChunks_eq_chunkAt (xs : Bytes) (k : Nat) (h : Pieces 1024 k xs.length) :
    splitChunks xs = (List.range k).map (chunkAt xs) ++ [xs.drop (1024 * k)] := by
  obtain ⟨hfull, hcur, hne⟩ := pieces_spec 1024 xs (f := chunkAt xs) (fun _ => rfl) k h
  rw [← splitChunks_append _ _ hfull hcur hne, flatten_pieces 1024 xs (f := chunkAt xs) fun _ => rfl]

theorem foldl_blocks_chainCV (B : BlockParams CV Digest) (ctr : Nat) (bs : Bytes) (k : Nat) :
    ((List.range k).map (blockAt bs)).foldl (fun p b => (B.compressBlock p.1 b ctr p.2, false)) (B.iv, true)
      = (chainCV B ctr bs k, k == 0) := by
  induction k with
  | zero => rfl
  | succ k ih => rw [List.range_succ, List.map_append, List.foldl_append, ih]; rfl

/-- The blockwise processing of a chunk by position: the chaining value after `k` full blocks, and
what is left as the last block. -/
theorem chunkTail_eq_chainCV (B : BlockParams CV Digest) (ctr : Nat) (bs : Bytes) (k : Nat)
    (h : Pieces 64 k bs.length) :
    chunkTail B ctr bs = ⟨chainCV B ctr bs k, k == 0, bs.drop (64 * k)⟩ := by
  obtain ⟨hfull, hlast, hne⟩ := pieces_spec 64 bs (f := blockAt bs) (fun _ => rfl) k h
  have h' := chunkTailF_blocks B ctr _ _ hfull hlast hne B.iv true
  rwa [flatten_pieces 64 bs (f := blockAt bs) fun _ => rfl, foldl_blocks_chainCV B ctr bs k] at h'

/-- `chainCV` reads only the blocks it compresses. -/
theorem chainCV_append (B : BlockParams CV Digest) (ctr : Nat) (bs ys : Bytes) :
    ∀ i, 64 * i ≤ bs.length → chainCV B ctr (bs ++ ys) i = chainCV B ctr bs i := by
  intro i
  induction i with
  | zero => intro _; rfl
  | succ i ih =>
    intro h
    rw [chainCV, chainCV, ih (by omega), blockAt, blockAt, List.drop_append_of_le_length (by omega),
      List.take_append_of_le_length (by simp only [List.length_drop]; omega)]

end Dud.Blake3Spec
