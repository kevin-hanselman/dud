import DudModel.StatusSpec
import DudModel.Lemmas.Store
import DudModel.Lemmas.MapE
/-!
# Status against `UpToDate`

`dirStatus` on a workspace directory is one equation, a chain of binds over `statusManifest`,
`childStatuses` and `untrackedStatuses` of `untrackedOf` (both a `mapE`: `childStatuses_eq_mapE`,
`untrackedStatuses_eq_mapE`) (`dirStatus_dir`; read backwards `dirStatus_dir_ok`, introduction
`dirStatus_dir_of`); on anything else it is the `quickStatus` part (`dirStatus_not_dir`).
From these: `ContentsMatch` of `fileStatus` / `dirStatus`, together with no type complaint
(`Status.typed`), holds exactly when the workspace node is `UpToDate` w.r.t. the store
(`fileStatus_cm_iff`, `dirStatus_iff`); an up-to-date directory never makes `dirStatus` fail
(`dirStatus_of_upToDate`); `dirStatus_cm_step` is `ContentsMatch` alone, one level.
-/
namespace Dud

variable {κ : Type}

theorem UpToDate_file {ctx : Ctx κ} {s : Store κ} {fuel : Nat} {sum : Digest} {n : Node κ} :
    UpToDate ctx s fuel false sum n ↔ FileOK ctx s sum n := by
  cases fuel <;> simp [UpToDate]

/-- what `UpToDate` asks of one manifest entry `k` of a directory with listing `es` -/
def ChildOK (ctx : Ctx κ) (s : Store κ) (fuel : Nat) (es : List (Name × Node κ)) (k : Child) : Prop :=
  ∃ nk, alookup es k.name = some nk ∧ UpToDate ctx s fuel k.isDir k.sum nk

theorem UpToDate_dir_zero {ctx : Ctx κ} {s : Store κ} {sum : Digest} {n : Node κ} :
    ¬ UpToDate ctx s 0 true sum n := by
  simp [UpToDate]

theorem UpToDate_dir_succ {ctx : Ctx κ} {s : Store κ} {fuel : Nat} {sum : Digest} {n : Node κ} :
    UpToDate ctx s (fuel + 1) true sum n ↔
      ∃ es cs, n = .dir es ∧ (hasSum sum = true ∧ s.has sum = true) ∧
        readManifest ctx s sum = .ok cs ∧ (∀ k ∈ cs, ChildOK ctx s fuel es k) ∧
        (∀ e ∈ es, (findChild cs e.1).isSome = true) := by
  simp only [UpToDate, if_true, ChildOK]

theorem statusManifest_eq (ctx : Ctx κ) (s : Store κ) (sum : Digest) (cur : Option (Node κ)) :
    (if (quick s sum cur).inCache = true then readManifest ctx s sum else .ok [])
      = statusManifest ctx s sum := by
  simp [quick, statusManifest]

theorem statusManifest_of_inCache {ctx : Ctx κ} {s : Store κ} {sum : Digest}
    (hh : hasSum sum = true) (hhas : s.has sum = true) :
    statusManifest ctx s sum = readManifest ctx s sum := by
  simp [statusManifest, hh, hhas]

theorem statusManifest_of_not_inCache {ctx : Ctx κ} {s : Store κ} {sum : Digest}
    (h : (hasSum sum && s.has sum) = false) : statusManifest ctx s sum = .ok [] := by
  simp [statusManifest, h]

/-- the listing entries the manifest does not mention (`noRec`: sub-directories are left out) -/
def untrackedOf (noRec : Bool) (es : List (Name × Node κ)) (cs : List Child) :
    List (Name × Node κ) :=
  (if noRec then es.filter (fun e => !e.2.isDir) else es).filter
    (fun e => (findChild cs e.1).isNone)

theorem untrackedOf_isEmpty_iff (noRec : Bool) (es : List (Name × Node κ)) (cs : List Child) :
    (untrackedOf noRec es cs).isEmpty = true ↔
      ∀ e ∈ es, (noRec = true → e.2.isDir = false) → (findChild cs e.1).isSome = true := by
  cases noRec
  · simp [untrackedOf, List.filter_eq_nil_iff, Option.isSome_iff_ne_none]
  · simp only [untrackedOf, if_true, List.isEmpty_iff, List.filter_eq_nil_iff, List.mem_filter,
      Bool.not_eq_true', Option.isNone_iff_eq_none, forall_const, Option.isSome_iff_ne_none]
    exact ⟨fun h e he hd hn => h e ⟨he, hd⟩ hn, fun h e he hn => h e he.1 he.2 hn⟩

variable [DecidableEq κ]

theorem Status.typed_eq (st : Status) :
    st.typed = ((!st.isDir || st.ws == .directory) && typedList st.children) := by
  cases st; simp [Status.typed]

theorem typedList_append (a b : List Status) : typedList (a ++ b) = (typedList a && typedList b) := by
  induction a with
  | nil => simp [typedList]
  | cons c r ih => simp [typedList, ih, Bool.and_assoc]

/-- `fileArtifactStatus` (not skipped): exact meaning of `ContentsMatch` -/
theorem fileStatus_cm_iff (ctx : Ctx κ) (s : Store κ) (nm : Bytes) (sum : Digest)
    (cur : Option (Node κ)) :
    (fileStatus ctx s nm false sum cur).cm = true ↔ ∃ n, cur = some n ∧ FileOK ctx s sum n := by
  rw [fileStatus_cm_match]
  rcases cur with _ | _ | _ | ⟨_ | _⟩ | _ <;> simp [FileMatch, FileOK, Store.has_eq_true]

/-- `fileStatus` differs from the `quickStatus` part only in `ContentsMatch` -/
theorem fileStatus_shape (ctx : Ctx κ) (s : Store κ) (nm : Bytes) (skip : Bool) (sum : Digest)
    (cur : Option (Node κ)) : ∃ cm, fileStatus ctx s nm skip sum cur =
      ⟨nm, false, skip, (quick s sum cur).ws, (quick s sum cur).has, (quick s sum cur).inCache, cm,
        []⟩ := by
  unfold fileStatus; simp only; split
  · split
    · split <;> exact ⟨_, rfl⟩
    · split
      · exact ⟨_, rfl⟩
      · split <;> exact ⟨_, rfl⟩
  · exact ⟨_, rfl⟩

theorem fileStatus_typed (ctx : Ctx κ) (s : Store κ) (nm : Bytes) (skip : Bool) (sum : Digest)
    (cur : Option (Node κ)) : (fileStatus ctx s nm skip sum cur).typed = true := by
  obtain ⟨cm, h⟩ := fileStatus_shape ctx s nm skip sum cur
  rw [h]; rfl

/-- status of one manifest entry -/
def trackedOne (ctx : Ctx κ) (s : Store κ)
    (fd : Bytes → Digest → Option (Node κ) → Except Err Status) (es : List (Name × Node κ))
    (c : Child) : Except Err Status :=
  if c.isDir then fd c.name c.sum (alookup es c.name)
  else .ok (fileStatus ctx s c.name false c.sum (alookup es c.name))

theorem childStatuses_eq_mapE (ctx : Ctx κ) (s : Store κ)
    (fd : Bytes → Digest → Option (Node κ) → Except Err Status) (es : List (Name × Node κ)) :
    ∀ cs, childStatuses ctx s fd es cs = mapE (trackedOne ctx s fd es) cs
  | [] => rfl
  | c :: cs => by
    simp only [childStatuses, mapE, trackedOne]
    rw [childStatuses_eq_mapE ctx s fd es cs]
    cases (if c.isDir = true then fd c.name c.sum (alookup es c.name)
      else Except.ok (fileStatus ctx s c.name false c.sum (alookup es c.name))) with
    | error e => rfl
    | ok st =>
      simp only
      cases mapE (trackedOne ctx s fd es) cs with
      | error e => rfl
      | ok r => rfl

/-- status of one untracked listing entry -/
def untrackedOne (ctx : Ctx κ) (s : Store κ)
    (fd : Bytes → Digest → Option (Node κ) → Except Err Status) (e : Name × Node κ) :
    Except Err Status :=
  if e.2.isDir then fd e.1 "" (some e.2)
  else .ok (fileStatus ctx s e.1 false "" (some e.2))

theorem untrackedStatuses_eq_mapE (ctx : Ctx κ) (s : Store κ)
    (fd : Bytes → Digest → Option (Node κ) → Except Err Status) :
    ∀ es, untrackedStatuses ctx s fd es = mapE (untrackedOne ctx s fd) es
  | [] => rfl
  | (nm, n) :: r => by
    simp only [untrackedStatuses, mapE, untrackedOne]
    rw [untrackedStatuses_eq_mapE ctx s fd r]
    cases (if n.isDir = true then fd nm "" (some n)
      else Except.ok (fileStatus ctx s nm false "" (some n))) with
    | error e => rfl
    | ok st =>
      simp only
      cases mapE (untrackedOne ctx s fd) r with
      | error e => rfl
      | ok rs => rfl

theorem typedList_iff (l : List Status) : typedList l = true ↔ ∀ st ∈ l, st.typed = true := by
  induction l with
  | nil => simp [typedList]
  | cons c r ih => simp [typedList, ih]

/-- the statement proved by induction on the fuel -/
def DirIff (ctx : Ctx κ) (s : Store κ) (fuel : Nat) : Prop :=
  ∀ (nm : Bytes) (sum : Digest) (cur : Option (Node κ)) (st : Status),
    dirStatus ctx s fuel nm false sum cur = .ok st →
      ((st.cm = true ∧ st.typed = true) ↔ ∃ n, cur = some n ∧ UpToDate ctx s fuel true sum n)

theorem childStatuses_iff {ctx : Ctx κ} {s : Store κ} {fuel : Nat} (ih : DirIff ctx s fuel)
    (es : List (Name × Node κ)) (cs : List Child) (tracked : List Status)
    (h : childStatuses ctx s (fun nm sm cu => dirStatus ctx s fuel nm false sm cu) es cs = .ok tracked) :
    (tracked.all (·.cm) = true ∧ typedList tracked = true) ↔ ∀ k ∈ cs, ChildOK ctx s fuel es k := by
  rw [childStatuses_eq_mapE] at h
  simp only [List.all_eq_true, typedList_iff, ← forall_and]
  refine mapE_all_iff (P := fun st => st.cm = true ∧ st.typed = true) (fun c st hst => ?_) h
  unfold trackedOne at hst
  unfold ChildOK
  split at hst
  · rename_i hd
    rw [ih c.name c.sum (alookup es c.name) st hst, hd]
  · rename_i hd
    cases hst
    rw [fileStatus_typed, fileStatus_cm_iff, Bool.eq_false_iff.2 hd]
    simp only [and_true, UpToDate_file]

/-- **`dirStatus` on a workspace directory**, the `match` cascade as one chain of binds: read the
manifest (the empty one if it is not in the cache), the statuses of its entries, the statuses of the
listing entries it does not name -/
theorem dirStatus_dir (ctx : Ctx κ) (s : Store κ) (fuel : Nat) (nm : Bytes) (noRec : Bool)
    (sum : Digest) (es : List (Name × Node κ)) :
    dirStatus ctx s (fuel + 1) nm noRec sum (some (.dir es)) =
      (statusManifest ctx s sum).bind fun cs =>
      (childStatuses ctx s (fun nm sm cu => dirStatus ctx s fuel nm false sm cu) es cs).bind
        fun tracked =>
      (untrackedStatuses ctx s (fun nm sm cu => dirStatus ctx s fuel nm false sm cu)
        (untrackedOf noRec es cs)).bind fun un =>
      .ok ⟨nm, true, false, .directory, hasSum sum, hasSum sum && s.has sum,
        hasSum sum && s.has sum && tracked.all (·.cm) && (untrackedOf noRec es cs).isEmpty,
        tracked ++ un⟩ := by
  simp only [dirStatus, statusManifest_eq, untrackedOf]
  cases statusManifest ctx s sum with
  | error e => rfl
  | ok cs =>
    simp only [Except.bind]
    cases childStatuses ctx s (fun nm sm cu => dirStatus ctx s fuel nm false sm cu) es cs with
    | error e => rfl
    | ok tracked =>
      simp only
      cases untrackedStatuses ctx s (fun nm sm cu => dirStatus ctx s fuel nm false sm cu)
          ((if noRec = true then es.filter (fun e => !e.2.isDir) else es).filter
            (fun e => (findChild cs e.1).isNone)) with
      | error e => rfl
      | ok un => simp only [quick, wsOf, ← Bool.and_assoc, Bool.and_self]

/-- … and on anything else: the `quickStatus` part alone -/
theorem dirStatus_not_dir (ctx : Ctx κ) (s : Store κ) (fuel : Nat) (nm : Bytes) (noRec : Bool)
    (sum : Digest) {cur : Option (Node κ)} (h : ∀ es, cur ≠ some (.dir es)) :
    dirStatus ctx s (fuel + 1) nm noRec sum cur =
      .ok ⟨nm, true, false, wsOf cur, hasSum sum, hasSum sum && s.has sum, (quick s sum cur).cm,
        []⟩ := by
  -- `simp` takes the catch-all arm of the `match` by discharging its side condition with `h`
  simp only [dirStatus]
  rfl

/-- a successful `dirStatus` on a workspace directory, read backwards -/
theorem dirStatus_dir_ok {ctx : Ctx κ} {s : Store κ} {fuel : Nat} {nm : Bytes} {noRec : Bool}
    {sum : Digest} {es : List (Name × Node κ)} {st : Status}
    (h : dirStatus ctx s fuel nm noRec sum (some (.dir es)) = .ok st) :
    ∃ f cs tracked un, fuel = f + 1 ∧ statusManifest ctx s sum = .ok cs ∧
      childStatuses ctx s (fun nm sm cu => dirStatus ctx s f nm false sm cu) es cs = .ok tracked ∧
      untrackedStatuses ctx s (fun nm sm cu => dirStatus ctx s f nm false sm cu)
        (untrackedOf noRec es cs) = .ok un ∧
      st = ⟨nm, true, false, .directory, hasSum sum, hasSum sum && s.has sum,
        hasSum sum && s.has sum && tracked.all (·.cm) && (untrackedOf noRec es cs).isEmpty,
        tracked ++ un⟩ := by
  cases fuel with
  | zero => cases h
  | succ f =>
    rw [dirStatus_dir] at h
    obtain ⟨cs, hcs, h⟩ := bind_eq_ok h
    obtain ⟨tracked, htr, h⟩ := bind_eq_ok h
    obtain ⟨un, hun, h⟩ := bind_eq_ok h
    exact ⟨f, cs, tracked, un, rfl, hcs, htr, hun, (Except.ok.inj h).symm⟩

/-- **Exact meaning of `ContentsMatch` for a directory artifact.** -/
theorem dirStatus_iff (ctx : Ctx κ) (s : Store κ) : ∀ fuel, DirIff ctx s fuel := by
  intro fuel
  induction fuel with
  | zero => intro nm sum cur st h; cases h
  | succ fuel ih =>
    intro nm sum cur st h
    by_cases hd : ∃ es, cur = some (.dir es)
    · obtain ⟨es, rfl⟩ := hd
      obtain ⟨_, cs, tracked, un, hf, hcs, htr, hun, rfl⟩ := dirStatus_dir_ok h
      cases hf
      have hch := childStatuses_iff ih es cs tracked htr
      simp only [Status.typed_eq, Bool.not_true, Bool.false_or, beq_self_eq_true, Bool.true_and,
        Bool.and_eq_true, Option.some.injEq, exists_eq_left', UpToDate_dir_succ, Node.dir.injEq,
        untrackedOf_isEmpty_iff, Bool.false_eq_true, false_imp_iff, true_imp_iff]
      constructor
      · rintro ⟨⟨⟨⟨hh, hhas⟩, hall⟩, hemp⟩, hty⟩
        rw [typedList_append, Bool.and_eq_true] at hty
        rw [statusManifest_of_inCache hh hhas] at hcs
        exact ⟨es, cs, rfl, ⟨hh, hhas⟩, hcs, hch.mp ⟨hall, hty.1⟩, hemp⟩
      · rintro ⟨es', cs', rfl, ⟨hh, hhas⟩, hcs', hall, hun'⟩
        rw [statusManifest_of_inCache hh hhas, hcs'] at hcs; cases hcs
        rw [List.isEmpty_iff.mp ((untrackedOf_isEmpty_iff false es cs).mpr (by simpa using hun'))]
          at hun
        cases hun
        obtain ⟨h1, h2⟩ := hch.mpr hall
        exact ⟨⟨⟨⟨hh, hhas⟩, h1⟩, hun'⟩, by rw [List.append_nil]; exact h2⟩
    · -- anything else: never up to date *and* typed
      have hnd : ∀ es, cur ≠ some (.dir es) := fun es e => hd ⟨es, e⟩
      rw [dirStatus_not_dir ctx s fuel nm false sum hnd] at h
      cases h
      constructor
      · rintro ⟨_, hty⟩
        simp only [Status.typed_eq, Bool.not_true, Bool.false_or, Bool.and_eq_true,
          beq_iff_eq] at hty
        rcases cur with _ | ⟨_ | es | _ | _⟩
        · cases hty.1
        · cases hty.1
        · exact absurd rfl (hnd es)
        · cases hty.1
        · cases hty.1
      · rintro ⟨n, rfl, hu⟩
        obtain ⟨es, _, rfl, _⟩ := UpToDate_dir_succ.1 hu
        exact (hnd es rfl).elim

theorem childStatuses_ok {ctx : Ctx κ} {s : Store κ} {fuel : Nat}
    (ih : ∀ (nm : Bytes) (sum : Digest) (n : Node κ), UpToDate ctx s fuel true sum n →
      ∃ st, dirStatus ctx s fuel nm false sum (some n) = .ok st)
    (es : List (Name × Node κ)) (cs : List Child) (h : ∀ k ∈ cs, ChildOK ctx s fuel es k) :
    ∃ tracked,
      childStatuses ctx s (fun nm sm cu => dirStatus ctx s fuel nm false sm cu) es cs = .ok tracked := by
  rw [childStatuses_eq_mapE]
  refine (mapE_ok_iff _ cs).2 fun c hc => ?_
  obtain ⟨nk, hnk, hu⟩ := h c hc
  unfold trackedOne
  split
  · rename_i hd
    rw [hd] at hu
    exact hnk ▸ ih c.name c.sum nk hu
  · exact ⟨_, rfl⟩

theorem dirStatus_ok_of_upToDate (ctx : Ctx κ) (s : Store κ) :
    ∀ (fuel : Nat) (nm : Bytes) (sum : Digest) (n : Node κ), UpToDate ctx s fuel true sum n →
      ∃ st, dirStatus ctx s fuel nm false sum (some n) = .ok st := by
  intro fuel
  induction fuel with
  | zero => intro nm sum n h; exact (UpToDate_dir_zero h).elim
  | succ fuel ih =>
    intro nm sum n h
    obtain ⟨es, cs, rfl, ⟨hh, hhas⟩, hcs, hall, hun⟩ := UpToDate_dir_succ.1 h
    obtain ⟨tracked, htr⟩ := childStatuses_ok ih es cs hall
    rw [dirStatus_dir, statusManifest_of_inCache hh hhas, hcs, Except.bind, htr, Except.bind,
      List.isEmpty_iff.mp ((untrackedOf_isEmpty_iff false es cs).mpr (by simpa using hun))]
    exact ⟨_, rfl⟩

/-- **complete**: an up-to-date directory gets `ContentsMatch = true` (and no type complaint) -/
theorem dirStatus_of_upToDate {ctx : Ctx κ} {s : Store κ} {fuel : Nat} {sum : Digest} {n : Node κ}
    (nm : Bytes) (h : UpToDate ctx s fuel true sum n) :
    ∃ st, dirStatus ctx s fuel nm false sum (some n) = .ok st ∧ st.cm = true ∧ st.typed = true := by
  obtain ⟨st, hst⟩ := dirStatus_ok_of_upToDate ctx s fuel nm sum n h
  exact ⟨st, hst, (dirStatus_iff ctx s fuel nm sum (some n) st hst).mpr ⟨n, rfl, h⟩⟩

/-- the same one level down and for either recursion mode: the manifest is in the cache, its
entries are up to date, and every listing entry the walk looks at (`noRec`: no sub-directories) is
named by it -/
theorem dirStatus_dir_of {ctx : Ctx κ} {s : Store κ} {fuel : Nat} (nm : Bytes) (noRec : Bool)
    {sum : Digest} {es : List (Name × Node κ)} {cs : List Child} (hh : hasSum sum = true)
    (hhas : s.has sum = true) (hread : readManifest ctx s sum = .ok cs)
    (hall : ∀ k ∈ cs, ChildOK ctx s fuel es k)
    (hun : ∀ e ∈ es, (noRec = true → e.2.isDir = false) → (findChild cs e.1).isSome = true) :
    ∃ st, dirStatus ctx s (fuel + 1) nm noRec sum (some (.dir es)) = .ok st ∧ st.cm = true ∧
      st.typed = true := by
  obtain ⟨tracked, htr⟩ := childStatuses_ok (dirStatus_ok_of_upToDate ctx s fuel) es cs hall
  obtain ⟨hcm, hty⟩ := (childStatuses_iff (dirStatus_iff ctx s fuel) es cs tracked htr).mpr hall
  rw [dirStatus_dir, statusManifest_of_inCache hh hhas, hread, Except.bind, htr, Except.bind,
    List.isEmpty_iff.mp ((untrackedOf_isEmpty_iff noRec es cs).mpr hun)]
  exact ⟨_, rfl, by simp [hh, hhas, hcm], by simp [Status.typed_eq, hty]⟩

/-! ## one-step unfolding of `ContentsMatch` (no typing side condition) -/

/-- the status `childStatuses` computes for one manifest entry -/
abbrev childStatus (ctx : Ctx κ) (s : Store κ) (fuel : Nat) (es : List (Name × Node κ)) (k : Child) :
    Except Err Status :=
  trackedOne ctx s (fun nm sm cu => dirStatus ctx s fuel nm false sm cu) es k

theorem childStatuses_all (ctx : Ctx κ) (s : Store κ) (fuel : Nat) (es : List (Name × Node κ))
    (cs : List Child) (tracked : List Status)
    (h : childStatuses ctx s (fun nm sm cu => dirStatus ctx s fuel nm false sm cu) es cs = .ok tracked) :
    tracked.all (·.cm) = true ↔
      ∀ k ∈ cs, ∃ st, childStatus ctx s fuel es k = .ok st ∧ st.cm = true := by
  rw [childStatuses_eq_mapE] at h
  rw [List.all_eq_true]
  exact mapE_all_iff (fun k st hk =>
    ⟨fun hc => ⟨st, hk, hc⟩, fun ⟨_, hk', hc⟩ => Except.ok.inj (hk.symm.trans hk') ▸ hc⟩) h

/-- **`ContentsMatch` of a directory, one level**: the manifest is recorded and in the cache, all
manifest entries match and the listing has no entry the manifest does not name. -/
theorem dirStatus_cm_step {ctx : Ctx κ} {s : Store κ} {fuel : Nat} {nm : Bytes} {sum : Digest}
    {es : List (Name × Node κ)} {st : Status}
    (h : dirStatus ctx s (fuel + 1) nm false sum (some (.dir es)) = .ok st) :
    ∃ cs, statusManifest ctx s sum = .ok cs ∧
      (st.cm = true ↔
        (hasSum sum = true ∧ s.has sum = true) ∧
        (∀ k ∈ cs, ∃ st', childStatus ctx s fuel es k = .ok st' ∧ st'.cm = true) ∧
        (∀ e ∈ es, (findChild cs e.1).isSome = true)) := by
  obtain ⟨_, cs, tracked, un, hf, hcs, htr, -, rfl⟩ := dirStatus_dir_ok h
  cases hf
  refine ⟨cs, hcs, ?_⟩
  simp only [Bool.and_eq_true, childStatuses_all ctx s fuel es cs tracked htr,
    untrackedOf_isEmpty_iff, Bool.false_eq_true, false_imp_iff, true_imp_iff, and_assoc]

end Dud
