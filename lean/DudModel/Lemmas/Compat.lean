import DudModel.Lemmas.Recommit
/-!
# Compatibility of a tree with the old manifests a recommit starts from

`commitWorker` reuses the child artifact found (by name) in the old manifest when its kind
(`IsDir`) agrees with the workspace entry; otherwise it starts from a fresh child.
`CompatNode ctx s t sum` says that along the tree the old manifests that *are* reused, reachable
from the checksum `sum` through the store `s`, are present (or the checksum is empty) and
readable.  It is the hypothesis of the C16 statements; the commit induction of `Lemmas/Recommit.lean`
asks for `Re.RecommitOK`, which follows (`Re.RecommitOK.of_compat`).
-/
namespace Dud

variable {κ : Type}

mutual
def CompatNode (ctx : Ctx κ) (s : Store κ) : Node κ → Digest → Prop
  | .dir es, sum => (hasSum sum = true → s.has sum = true) ∧
      ∃ old, oldManifest ctx s sum = .ok old ∧ CompatList ctx s es old
  | .file _, _ => True
  | .link _, _ => True
  | .other, _ => True
def CompatList (ctx : Ctx κ) (s : Store κ) : List (Name × Node κ) → List Child → Prop
  | [], _ => True
  | (nm, n) :: r, old =>
    (∀ k, findChild old nm = some k → k.isDir = n.isDir → CompatNode ctx s n k.sum) ∧
      CompatList ctx s r old
end

mutual
theorem CompatNode.mono {ctx : Ctx κ} (g : Good ctx) {s s1 : Store κ} (hle : Store.le ctx s s1) :
    ∀ (t : Node κ) (sum : Digest), CompatNode ctx s t sum → CompatNode ctx s1 t sum
  | .dir es, _, ⟨hpres, old, hold, hcl⟩ =>
    ⟨fun hh => Store.has_le hle (hpres hh), old, (oldManifest_le g hle hpres).trans hold,
      CompatList.mono g hle es old hcl⟩
  | .file _, _, _ => trivial
  | .link _, _, _ => trivial
  | .other, _, _ => trivial
theorem CompatList.mono {ctx : Ctx κ} (g : Good ctx) {s s1 : Store κ} (hle : Store.le ctx s s1) :
    ∀ (es : List (Name × Node κ)) (old : List Child), CompatList ctx s es old →
      CompatList ctx s1 es old
  | [], _, _ => trivial
  | (_, n) :: r, old, h =>
    ⟨fun k hk hd => CompatNode.mono g hle n k.sum (h.1 k hk hd), CompatList.mono g hle r old h.2⟩
end

theorem compatList_nil (ctx : Ctx κ) (s : Store κ) : ∀ (es : List (Name × Node κ)),
    CompatList ctx s es [] := by
  intro es
  induction es with
  | nil => simp [CompatList]
  | cons _ _ ih => exact ⟨fun k hk _ => by simp [findChild] at hk, ih⟩

/-- a fresh child artifact (no checksum) is compatible with every tree -/
theorem compatNode_empty (ctx : Ctx κ) (s : Store κ) (t : Node κ) : CompatNode ctx s t "" := by
  cases t with
  | dir es =>
    simp only [CompatNode]
    exact ⟨fun h => by simp [hasSum_empty] at h, [], oldManifest_empty ctx s,
      compatList_nil ctx s es⟩
  | file _ => simp [CompatNode]
  | link _ => simp [CompatNode]
  | other => simp [CompatNode]

mutual
/-- **Any** tree `t2` (edited however) of the same kind as a held tree `t1` is compatible with the
manifests of `t1`: where kinds agree entry by entry the old manifests are present and readable,
where they do not the old child is not reused. -/
theorem compatNode_any {ctx : Ctx κ} (g : Good ctx) {s : Store κ} :
    ∀ (t2 t1 : Node κ) (ch : Choice) (nm : Bytes), t1.sorted = true → NamesOK ctx t1 →
      HoldsNode ctx s ch nm t1 → t1.isDir = t2.isDir → CompatNode ctx s t2 (digestAs ctx ch nm t1)
  | .dir es2, .dir es1, ch, nm, hs, hn, h, _ => by
    have hs' : sortedList es1 = true := by simpa [Node.sorted] using hs
    have hn' : NamesOKList ctx es1 := namesOK_dir hn
    simp only [CompatNode]
    refine ⟨fun _ => (readManifest_holds g hs' hn' h).1, childrenAs ctx ch es1,
      oldManifest_holds g hs' hn' h, ?_⟩
    simp only [HoldsNode] at h
    exact compatList_any g es2 es1 ch hs' hn' h.2
  | .dir _, .file _, _, _, _, _, _, hd => by simp [Node.isDir] at hd
  | .dir _, .link _, _, _, _, _, _, hd => by simp [Node.isDir] at hd
  | .dir _, .other, _, _, _, _, _, hd => by simp [Node.isDir] at hd
  | .file _, _, _, _, _, _, _, _ => by simp [CompatNode]
  | .link _, _, _, _, _, _, _, _ => by simp [CompatNode]
  | .other, _, _, _, _, _, _, _ => by simp [CompatNode]
theorem compatList_any {ctx : Ctx κ} (g : Good ctx) {s : Store κ} :
    ∀ (es2 es1 : List (Name × Node κ)) (ch : Choice), sortedList es1 = true →
      NamesOKList ctx es1 → HoldsList ctx s ch es1 → CompatList ctx s es2 (childrenAs ctx ch es1)
  | [], _, _, _, _, _ => by simp [CompatList]
  | (nm, n2) :: r2, es1, ch, hs, hn, h => by
    simp only [CompatList]
    refine ⟨?_, compatList_any g r2 es1 ch hs hn h⟩
    intro k hk hkind
    obtain ⟨e, he, rfl⟩ := findChild_childrenAs_mem hk
    exact compatNode_any g n2 e.2 (subChoice ch e.1) e.1 (sortedList_mem hs he)
      (namesOKList_mem hn he) (holdsList_mem h he) hkind
end

theorem compatNode_of_holds {ctx : Ctx κ} (g : Good ctx) {s : Store κ} (t : Node κ) (ch : Choice)
    (nm : Bytes) (hs : t.sorted = true) (hn : NamesOK ctx t) (h : HoldsNode ctx s ch nm t) :
    CompatNode ctx s t (digestAs ctx ch nm t) :=
  compatNode_any g t t ch nm hs hn h rfl

theorem compatList_of_holds {ctx : Ctx κ} (g : Good ctx) {s : Store κ} :
    ∀ (r : List (Name × Node κ)) (ch : Choice) (old : List Child), sortedList r = true →
      NamesOKList ctx r → HoldsList ctx s ch r →
      (∀ e ∈ r, findChild old e.1 =
        some ⟨e.1, digestAs ctx (subChoice ch e.1) e.1 e.2, e.2.isDir⟩) →
      CompatList ctx s r old
  | [], _, _, _, _, _, _ => by simp [CompatList]
  | (nm, n) :: r, ch, old, hs, hn, h, hfind => by
    simp only [HoldsList] at h
    simp only [CompatList]
    refine ⟨?_, compatList_of_holds g r ch old (sortedList_cons hs).2 (namesOK_tail hn) h.2
      (fun e he => hfind e (by simp [he]))⟩
    intro k hk _
    rw [hfind (nm, n) (by simp)] at hk
    cases hk
    exact compatNode_of_holds g n (subChoice ch nm) nm (sortedList_cons hs).1
      (namesOK_node hn) h.1

namespace Re

mutual
theorem readableNode_of_compat {ctx : Ctx κ} {s : Store κ} : ∀ (t : Node κ) (sum : Digest),
    CompatNode ctx s t sum → ReadableNode ctx s t sum
  | .dir es, sum, h => by
    simp only [CompatNode] at h
    simp only [ReadableNode]
    obtain ⟨_, old, hold, hcl⟩ := h
    exact ⟨old, hold, readableList_of_compat es old hcl⟩
  | .file _, _, _ => by simp [ReadableNode]
  | .link _, _, _ => by simp [ReadableNode]
  | .other, _, _ => by simp [ReadableNode]
theorem readableList_of_compat {ctx : Ctx κ} {s : Store κ} : ∀ (es : List (Name × Node κ))
    (old : List Child), CompatList ctx s es old → ReadableList ctx s es old
  | [], _, _ => by simp [ReadableList]
  | (nm, n) :: r, old, h => by
    simp only [CompatList] at h
    simp only [ReadableList]
    exact ⟨fun k hk hd => readableNode_of_compat n k.sum (h.1 k hk hd),
      readableList_of_compat r old h.2⟩
end

/-- the recorded checksums are in the cache (or empty) and readable where they are reused:
`CompatNode`, the hypothesis of `recommit_post` -/
theorem RecommitOK.of_compat {ctx : Ctx κ} (g : Good ctx) {s : Store κ} {t : Node κ} {sum : Digest}
    (h : CompatNode ctx s t sum) : RecommitOK ctx s t sum :=
  fun _ hle _ => readableNode_of_compat t sum (CompatNode.mono g hle t sum h)

theorem RecommitOKList.of_compat {ctx : Ctx κ} (g : Good ctx) {s : Store κ}
    {es : List (Name × Node κ)} {old : List Child} (h : CompatList ctx s es old) :
    RecommitOKList ctx s es old :=
  fun _ hle _ => readableList_of_compat es old (CompatList.mono g hle es old h)

end Re

end Dud
