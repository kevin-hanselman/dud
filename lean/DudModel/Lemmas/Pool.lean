import DudModel.Pool

/-!
# Lemmas about the worker-pool protocol (C13)

One instance: every enabled step keeps `WF` and decreases `mu` (`fire_dec`), and the scheduler `next`
answers with an enabled core step, or — given a dedicated token or a failure — with nothing only in a
terminal state (`next_ok`).  Trees of instances: `Entries` is the bookkeeping shared by the
instrumentations of `Step` by lists; `dstep_dec` and `dprog` carry invariant, measure and progress through
one level of nesting, `level_safe` and `level_good` through any depth, and `level_mu_start` bounds the
measure of a fresh tree by `cost`.  Also here: what a decreasing measure gives for `Run` (`Run.bound`,
`Run.no_infinite`) and `lookup` after `putAll` in the toy store.
-/
namespace Dud.Pool

/-! The nineteen labels of one instance are built from nine effects; invariant and measure are checked once
per effect (`dec_*`, `le_*`) and `fire_dec` dispatches, composing them for `failS`, `failD`, `deliverShort`. -/

variable {p : P}

theorem wf_init (n : Nat) (c : Bool) : WF (init n c) := by
  constructor <;> simp [init]

/-- counters that only grow, weighted as in `mu` -/
def paid (p : P) : Nat := p.spawned + 2 * p.fed + 2 * p.got + p.exited

/-- the rest of `mu`: what the entries, the busy workers and the four flags still contribute -/
def owed (p : P) : Nat :=
  6 * p.n + p.busy + (if p.loopDone then 0 else 1) + (if p.failed then 0 else 1) +
    (if p.feedStop then 0 else 1) + (if p.collStop then 0 else 1)

/-- Under the invariant the truncated subtractions of `mu` are exact. -/
theorem mu_add_paid (w : WF p) : mu p + paid p = owed p := by
  have := w.got_busy_le; have := w.workers; have := w.fed_le; have := w.spawned_le
  unfold mu paid owed; omega

def Dec (p q : P) : Prop := WF q ∧ mu q < mu p

theorem Dec.intro {q : P} (w : WF p) (wq : WF q) (h : owed q + paid p < owed p + paid q) :
    Dec p q :=
  ⟨wq, by have := mu_add_paid w; have := mu_add_paid wq; omega⟩

/-- `spawnD` (`d = 1`) and `spawnS` (`d = 0`). -/
theorem dec_spawn (w : WF p) (d : Nat) (hd : d ≤ 1) (hl : p.loopDone = false)
    (hs : p.spawned < p.n) :
    Dec p { p with spawned := p.spawned + 1, ded := p.ded + d, idle := p.idle + 1 } := by
  have := w.workers; have := w.ded_le
  refine Dec.intro w { w with workers := ?_, spawned_le := ?_, ded_le := ?_, loop_done := ?_ } ?_ <;>
    simp only [owed, paid, hl]
  · omega
  · omega
  · omega
  · exact fun h => nomatch h
  · omega

/-- `loopEndN`, `loopEndReady`, `loopEndCancel`. -/
theorem dec_loopEnd (w : WF p) (hl : p.loopDone = false)
    (h : p.spawned = p.n ∨ p.got = p.n ∨ p.failed = true) : Dec p { p with loopDone := true } := by
  refine Dec.intro w { w with loop_done := fun _ => h } ?_
  simp only [owed, paid, hl, Bool.false_eq_true, if_true, if_false]; omega

theorem dec_take (w : WF p) (hi : 0 < p.idle) (hf : p.fed < p.n) :
    Dec p { p with idle := p.idle - 1, busy := p.busy + 1, fed := p.fed + 1 } := by
  have := w.got_busy_le; have := w.workers; have := w.ded_le
  refine Dec.intro w { w with
    got_busy_le := ?_, fed_eq := ?_, workers := ?_, fed_le := ?_, exited_closed := ?_,
    ded_le := ?_ } ?_ <;> simp only [owed, paid]
  · omega
  · intro h; have := w.fed_eq h; omega
  · omega
  · omega
  · exact fun h => .inr ((w.exited_closed h).resolve_left (by omega))
  · omega
  · omega

theorem Dec.of_le {q r : P} {k : Nat} (h : WF q ∧ mu q + k ≤ mu p) (h' : Dec q r) : Dec p r :=
  ⟨h'.1, by have := h.2; have := h'.2; omega⟩

/-- The context is cancelled: `cancel`; the first half of `failS`, `failD`; part of `deliverShort`. -/
theorem le_fail (w : WF p) : WF { p with failed := true } ∧
    mu { p with failed := true } + (if p.failed then 0 else 1) ≤ mu p := by
  have wq : WF { p with failed := true } := { w with
    fed_eq := nofun, exited_closed := fun _ => .inr rfl, loop_done := fun _ => .inr (.inr rfl),
    feed_stop := fun _ => rfl, coll_stop := fun h => ⟨rfl, (w.coll_stop h).2⟩ }
  refine ⟨wq, ?_⟩
  have := mu_add_paid w; have := mu_add_paid wq
  simp only [owed, paid, if_true] at *; omega

/-- The collector returns without closing `ready`: `collStop`; the last part of `deliverShort`. -/
theorem le_collStop (w : WF p) (hf : p.failed = true) (hc : p.coll = true) :
    WF { p with collStop := true } ∧
    mu { p with collStop := true } + (if p.collStop then 0 else 1) ≤ mu p := by
  have wq : WF { p with collStop := true } := { w with coll_stop := fun _ => ⟨hf, hc⟩ }
  refine ⟨wq, ?_⟩
  have := mu_add_paid w; have := mu_add_paid wq
  simp only [owed, paid, if_true] at *; omega

theorem dec_deliver (w : WF p) (hb : 0 < p.busy) :
    Dec p { p with busy := p.busy - 1, got := p.got + 1, idle := p.idle + 1 } := by
  have := w.got_busy_le; have := w.workers; have := w.fed_le; have := w.ded_le
  refine Dec.intro w { w with
    got_busy_le := ?_, fed_eq := ?_, workers := ?_, ded_le := ?_, loop_done := ?_ } ?_ <;>
    simp only [owed, paid]
  · omega
  · intro h; have := w.fed_eq h; omega
  · omega
  · omega
  · exact fun h => (w.loop_done h).imp_right fun h => h.imp_left (by omega)
  · omega

/-- `exitS`, `abortIdleS` (`d = 0`) and `exitD`, `abortIdleD` (`d = 1`). -/
theorem dec_idleExit (w : WF p) (d : Nat) (hi : 0 < p.idle) (hx : p.fed = p.n ∨ p.failed = true)
    (hd : p.ded < p.idle + p.busy + d) :
    Dec p { p with idle := p.idle - 1, exited := p.exited + 1, ded := p.ded - d } := by
  have := w.workers; have := w.ded_le
  refine Dec.intro w { w with workers := ?_, exited_closed := fun _ => hx, ded_le := ?_ } ?_ <;>
    simp only [owed, paid] <;> omega

/-- `abortBusyS` (`d = 0`) and `abortBusyD` (`d = 1`). -/
theorem dec_busyExit (w : WF p) (d : Nat) (hb : 0 < p.busy) (hf : p.failed = true)
    (hd : p.ded < p.idle + p.busy + d) :
    Dec p { p with busy := p.busy - 1, exited := p.exited + 1, ded := p.ded - d } := by
  have := w.got_busy_le; have := w.workers; have := w.ded_le
  refine Dec.intro w { w with
    got_busy_le := ?_, fed_eq := ?_, workers := ?_, exited_closed := fun _ => .inr hf,
    ded_le := ?_ } ?_ <;> simp only [owed, paid]
  · omega
  · intro h; rw [hf] at h; cases h
  · omega
  · omega
  · omega

theorem dec_feedStop (w : WF p) (hf : p.failed = true) (hs : p.feedStop = false) :
    Dec p { p with feedStop := true } := by
  refine Dec.intro w { w with feed_stop := fun _ => hf } ?_
  simp only [owed, paid, hs, Bool.false_eq_true, if_true, if_false]; omega

/-- `failS`, `failD` are `cancel` (whatever `failed` was) followed by `abortBusyS`, `abortBusyD`;
    `deliverShort` is the collector cancelling and returning, with a `deliver`. -/
theorem fire_dec {D : Nat} {l : Label} (h : enabled D l p = true) (w : WF p) :
    Dec p (fire l p) := by
  cases l <;> simp only [enabled, Bool.and_eq_true, Bool.or_eq_true, decide_eq_true_eq,
    Bool.not_eq_true'] at h
  · exact dec_spawn w 1 (Nat.le_refl 1) h.1.1 h.1.2
  · exact dec_spawn w 0 (Nat.zero_le 1) h.1 h.2
  · exact dec_loopEnd w h.1 (.inl h.2)
  · exact dec_loopEnd w h.1.1.1 (.inr (.inl h.2))
  · exact dec_loopEnd w h.1 (.inr (.inr h.2))
  · exact dec_take w h.1.1 h.1.2
  · exact dec_deliver w h.1
  · have c := le_collStop (le_fail w).1 rfl h.1.2
    exact Dec.of_le (le_fail w) (Dec.of_le c (dec_deliver c.1 h.1.1))
  · exact dec_idleExit w 0 h.1.1 (h.1.2.imp_right w.feed_stop) h.2
  · exact dec_idleExit w 1 h.1.1 (h.1.2.imp_right w.feed_stop) (Nat.lt_succ_of_le w.ded_le)
  · exact dec_idleExit w 0 h.1.1.1 (.inr h.1.1.2) h.2
  · exact dec_idleExit w 1 h.1.1.1 (.inr h.1.1.2) (Nat.lt_succ_of_le w.ded_le)
  · exact Dec.of_le (le_fail w) (dec_busyExit (le_fail w).1 0 h.1 rfl h.2)
  · exact Dec.of_le (le_fail w) (dec_busyExit (le_fail w).1 1 h.1 rfl (Nat.lt_succ_of_le w.ded_le))
  · exact dec_busyExit w 0 h.1.1 h.1.2 h.2
  · exact dec_busyExit w 1 h.1.1 h.1.2 (Nat.lt_succ_of_le w.ded_le)
  · exact ⟨(le_fail w).1, by have := (le_fail w).2; rw [h] at this; exact this⟩
  · exact dec_feedStop w h.1.1 h.1.2
  · have c := le_collStop w h.1.1.1 h.1.1.2
    exact ⟨c.1, by have := c.2; rw [h.1.2] at this; exact this⟩

theorem wf_fire {D : Nat} {l : Label} (h : enabled D l p = true) (w : WF p) : WF (fire l p) :=
  (fire_dec h w).1

theorem mu_fire {D : Nat} {l : Label} (h : enabled D l p = true) (w : WF p) :
    mu (fire l p) < mu p :=
  (fire_dec h w).2

/-- With no worker left and the spawn loop gone, a state the scheduler has nothing to propose for
    is terminal. -/
theorem terminal_of_quiet (w : WF p) (hb : ¬ 0 < p.busy) (hi : ¬ 0 < p.idle) (hl : p.loopDone = true)
    (h1 : ¬ (p.failed = true ∧ p.fed < p.n ∧ p.feedStop = false))
    (h2 : ¬ (p.failed = true ∧ p.coll = true ∧ p.got < p.n ∧ p.collStop = false)) : Terminal p := by
  have := w.fed_le; have := w.got_busy_le; have := w.workers
  cases hf : p.failed with
  | true =>
    refine ⟨hl, by omega, by omega, ?_, fun hc => ?_⟩
    · cases hs : p.feedStop
      · exact .inl (by have := Nat.le_of_not_lt fun h => h1 ⟨hf, h, hs⟩; omega)
      · exact .inr rfl
    · cases hs : p.collStop
      · exact .inl (by have := Nat.le_of_not_lt fun h => h2 ⟨hf, hc, h, hs⟩; omega)
      · exact .inr rfl
  | false =>
    have := w.fed_eq hf
    have : p.fed = p.n := by
      rcases w.loop_done hl with h | h | h
      · by_cases hn : p.n = 0
        · omega
        · exact (w.exited_closed (by omega)).resolve_right (by simp [hf])
      · omega
      · simp [hf] at h
    exact ⟨hl, by omega, by omega, .inl this, fun _ => .inl (by omega)⟩

/-- What the canonical scheduler may answer in `p`: an enabled core step, a spawn only while nothing
    has failed; and nothing only if `p` is terminal (given a dedicated token, or a failure). -/
def NextOk (D : Nat) (p : P) : Option Label → Prop
  | some l => l.core = true ∧ enabled D l p = true ∧ (l = .spawnD → p.failed = false)
  | none => 0 < D ∨ p.failed = true → Terminal p

theorem next_ok {D : Nat} (w : WF p) : NextOk D p (next D p) := by
  have := w.coll_stop; have := w.spawned_le; have := w.ded_le
  have hx : ¬ (p.fed < p.n ∧ p.feedStop = false) → (p.fed = p.n ∨ p.feedStop = true) := fun h => by
    cases hs : p.feedStop
    · exact .inl (by have := w.fed_le; have := Nat.le_of_not_lt fun h' => h ⟨h', hs⟩; omega)
    · exact .inr rfl
  unfold next
  by_cases hb : 0 < p.busy
  · rw [if_pos hb]
    by_cases hc : p.collStop = true
    · rw [if_pos hc]
      by_cases hd : 0 < p.ded
      · rw [if_pos hd]; refine ⟨rfl, ?_, nofun⟩; simp [enabled, *]
      · rw [if_neg hd]; refine ⟨rfl, ?_, nofun⟩; simp [enabled, *]; omega
    · rw [if_neg hc]; refine ⟨rfl, ?_, nofun⟩; simp [enabled, *]
  rw [if_neg hb]
  by_cases hi : 0 < p.idle
  · rw [if_pos hi]
    by_cases hf : p.fed < p.n ∧ p.feedStop = false
    · rw [if_pos hf]; refine ⟨rfl, ?_, nofun⟩; simp [enabled, *]
    · rw [if_neg hf]
      by_cases hd : 0 < p.ded
      · rw [if_pos hd]; refine ⟨rfl, ?_, nofun⟩; simp [enabled, *]
      · rw [if_neg hd]; refine ⟨rfl, ?_, nofun⟩; simp [enabled, *]; omega
  rw [if_neg hi]
  by_cases hl : p.loopDone = false
  · rw [if_pos hl]
    by_cases hs : p.spawned = p.n
    · rw [if_pos hs]; refine ⟨rfl, ?_, nofun⟩; simp [enabled, *]
    rw [if_neg hs]
    by_cases hf : p.failed = true
    · rw [if_pos hf]; refine ⟨rfl, ?_, nofun⟩; simp [enabled, *]
    rw [if_neg hf]
    by_cases hd : p.ded < D
    · rw [if_pos hd]; refine ⟨rfl, ?_, fun _ => by simpa using hf⟩; simp [enabled, *]; omega
    · rw [if_neg hd]; exact fun h => h.elim (fun _ => by omega) (absurd · hf)
  rw [if_neg hl]
  by_cases h1 : p.failed = true ∧ p.fed < p.n ∧ p.feedStop = false
  · rw [if_pos h1]; refine ⟨rfl, ?_, nofun⟩; simp [enabled, *]
  rw [if_neg h1]
  by_cases h2 : p.failed = true ∧ p.coll = true ∧ p.got < p.n ∧ p.collStop = false
  · rw [if_pos h2]; refine ⟨rfl, ?_, nofun⟩; simp [enabled, *]
  · rw [if_neg h2]; exact fun _ => terminal_of_quiet w hb hi (by simpa using hl) h1 h2

theorem next_some {D : Nat} {l : Label} (w : WF p) (h : next D p = some l) :
    l.core = true ∧ enabled D l p = true ∧ (l = .spawnD → p.failed = false) := by
  have := next_ok (D := D) w
  rwa [h] at this

theorem next_none {D : Nat} (w : WF p) (h : next D p = none) (hD : 0 < D ∨ p.failed = true) :
    Terminal p := by
  have := next_ok (D := D) w
  rw [h] at this
  exact this hD

/-- A call that returns without error fed every entry to a worker and collected every result. -/
theorem terminal_counts (w : WF p) (t : Terminal p) (nf : p.failed = false) :
    p.fed = p.n ∧ p.got = p.n := by
  obtain ⟨_, _, tb, tf, _⟩ := t
  have h2 := w.fed_eq nf
  have h9 := w.feed_stop
  have : p.fed = p.n := by
    rcases tf with h | h
    · exact h
    · rw [h9 h] at nf; cases nf
  omega

/-- What can always move unless `T` holds, and cannot move, satisfies `T`. -/
theorem of_stuck {β : Type} {R : β → Prop} {T : Prop} (prog : ¬ T → ∃ b, R b) (stuck : ∀ b, ¬ R b) :
    T :=
  Classical.byContradiction fun nt => let ⟨b, hb⟩ := prog nt; stuck b hb

theorem Run.bound {α : Type} {r : α → α → Prop} {inv : α → Prop} {m : α → Nat}
    (hinv : ∀ a b, inv a → r a b → inv b) (hdec : ∀ a b, inv a → r a b → m b < m a)
    {a : α} {k : Nat} {b : α} (ha : inv a) (h : Run r a k b) : inv b ∧ k + m b ≤ m a := by
  induction h with
  | refl => exact ⟨ha, by omega⟩
  | cons s _ ih =>
    have := hdec _ _ ha s
    have ⟨i, le⟩ := ih (hinv _ _ ha s)
    exact ⟨i, by omega⟩

theorem Run.of_seq {α : Type} {r : α → α → Prop} (f : Nat → α) (hf : ∀ i, r (f i) (f (i + 1)))
    (j k : Nat) : Run r (f j) k (f (j + k)) := by
  induction k generalizing j with
  | zero => exact .refl
  | succ k ih =>
    have := ih (j + 1)
    rw [show j + 1 + k = j + (k + 1) by omega] at this
    exact .cons (hf j) this

theorem Run.no_infinite {α : Type} {r : α → α → Prop} {inv : α → Prop} {m : α → Nat}
    (hinv : ∀ a b, inv a → r a b → inv b) (hdec : ∀ a b, inv a → r a b → m b < m a)
    (f : Nat → α) (h0 : inv (f 0)) : ¬ ∀ i, r (f i) (f (i + 1)) := by
  intro hf
  have := (Run.bound hinv hdec h0 (Run.of_seq f hf 0 (m (f 0) + 1))).2
  omega

theorem Run.append {α : Type} {r : α → α → Prop} {a b c : α} {k j : Nat}
    (h1 : Run r a k b) (h2 : Run r b j c) : Run r a (k + j) c := by
  induction h1 with
  | refl => rw [Nat.zero_add]; exact h2
  | cons s _ ih => rw [Nat.add_right_comm]; exact .cons s (ih h2)

theorem lookup_put (k k' : String) (v : Nat) (m : List (String × Nat)) :
    lookup k (put k' v m) = if k = k' then some v else lookup k m := rfl

theorem putAll_cons (m : List (String × Nat)) (kv : String × Nat) (l : List (String × Nat)) :
    putAll m (kv :: l) = putAll (put kv.1 kv.2 m) l := rfl

theorem lookup_putAll_of_not_mem (k : String) (l : List (String × Nat)) :
    ∀ m, (∀ v, (k, v) ∉ l) → lookup k (putAll m l) = lookup k m := by
  induction l with
  | nil => intro m _; rfl
  | cons kv t ih =>
    intro m h
    obtain ⟨k', v'⟩ := kv
    rw [putAll_cons, ih _ (fun v hv => h v (List.mem_cons_of_mem _ hv)), lookup_put]
    have : k ≠ k' := fun e => h v' (by rw [e]; exact List.mem_cons_self ..)
    simp [this]

theorem lookup_putAll_of_mem (k : String) (v : Nat) (l : List (String × Nat)) :
    ∀ m, Consistent l → (k, v) ∈ l → lookup k (putAll m l) = some v := by
  induction l with
  | nil => intro m _ h; cases h
  | cons kv t ih =>
    intro m hc h
    obtain ⟨k', v'⟩ := kv
    have hct : Consistent t := fun a b c hb hc' =>
      hc a b c (List.mem_cons_of_mem _ hb) (List.mem_cons_of_mem _ hc')
    rw [putAll_cons]
    by_cases hex : ∃ w, (k, w) ∈ t
    · obtain ⟨w, hw⟩ := hex
      have : w = v := hc k w v (List.mem_cons_of_mem _ hw) h
      subst this
      exact ih _ hct hw
    · have hno : ∀ w, (k, w) ∉ t := fun w hw => hex ⟨w, hw⟩
      rw [lookup_putAll_of_not_mem k t _ hno, lookup_put]
      rcases List.mem_cons.1 h with e | e
      · cases e; simp
      · exact absurd e (hno v)

theorem Consistent.perm {l1 l2 : List (String × Nat)} (hp : l1.Perm l2) (h : Consistent l1) :
    Consistent l2 := fun k v v' a b => h k v v' (hp.mem_iff.2 a) (hp.mem_iff.2 b)

theorem fire_n (l : Label) (p : P) : (fire l p).n = p.n := by cases l <;> rfl

theorem fire_fed (l : Label) (p : P) (h : l ≠ .take) : (fire l p).fed = p.fed := by
  cases l <;> first | rfl | exact absurd rfl h

theorem fire_busy_loc (l : Label) (p : P) (h : l ≠ .take) (hc : l.consumes = false) :
    (fire l p).busy = p.busy := by
  cases l <;> first | rfl | exact absurd rfl h | cases hc

theorem fire_busy_consumes {D : Nat} (l : Label) (p : P) (hc : l.consumes = true)
    (he : enabled D l p = true) : (fire l p).busy + 1 = p.busy ∧ l ≠ .take := by
  cases l <;> first | cases hc | skip
  all_goals
    simp only [enabled, Bool.and_eq_true, decide_eq_true_eq] at he
    simp only [fire]
    refine ⟨by omega, by simp⟩

theorem fire_take {D : Nat} (p : P) (he : enabled D .take p = true) :
    (fire .take p).busy = p.busy + 1 ∧ (fire .take p).fed = p.fed + 1 ∧ p.fed < p.n := by
  simp only [enabled, Bool.and_eq_true, decide_eq_true_eq] at he
  exact ⟨rfl, rfl, he.1.2⟩

theorem listSum_append (a b : List Nat) : listSum (a ++ b) = listSum a + listSum b := by
  induction a with
  | nil => simp [listSum]
  | cons x xs ih => simp [listSum, ih]; omega

/-- What the two instrumentations of `Step` by lists (`DStep` of the model, `TStep` in `OrderPool`) have in common:
    `pend` are the entries not yet handed out, `act` those held by busy workers. -/
structure Entries {α β : Type} (p : P) (pend : List α) (act : List β) : Prop where
  wf : WF p
  pend_len : pend.length + p.fed = p.n
  act_len : act.length = p.busy

namespace Entries

variable {α β : Type} {D : Nat} {l : Label} {pend : List α} {act : List β}

theorem loc (k : Entries p pend act) (he : enabled D l p = true) (hc : l.consumes = false) (hne : l ≠ .take) :
    Entries (fire l p) pend act :=
  ⟨wf_fire he k.wf, by rw [fire_n, fire_fed l p hne]; exact k.pend_len,
    by rw [fire_busy_loc l p hne hc]; exact k.act_len⟩

theorem take {x : α} {rest : List α} (k : Entries p (x :: rest) act) (he : enabled D .take p = true) (y : β) :
    Entries (fire .take p) rest (y :: act) := by
  have ⟨w, hp, ha⟩ := k
  exact ⟨wf_fire he w, by simp only [fire, List.length_cons] at hp ⊢; omega,
    by simp only [fire, List.length_cons, ha]⟩

theorem consume {x : β} {pre post : List β} (k : Entries p pend (pre ++ x :: post))
    (he : enabled D l p = true) (hc : l.consumes = true) : Entries (fire l p) pend (pre ++ post) := by
  obtain ⟨hb, hne⟩ := fire_busy_consumes l p hc he
  have ⟨w, hp, ha⟩ := k
  refine ⟨wf_fire he w, by rw [fire_n, fire_fed l p hne]; exact hp, ?_⟩
  simp only [List.length_append, List.length_cons] at ha ⊢; omega

/-- the feeder can hand out an entry only while one is left -/
theorem pend_cons (k : Entries p pend act) (he : enabled D .take p = true) : ∃ x rest, pend = x :: rest :=
  List.exists_cons_of_length_pos (by have := (fire_take p he).2.2; have := k.pend_len; omega)

/-- a busy worker holds an entry -/
theorem act_cons (k : Entries p pend act) (he : enabled D l p = true) (hc : l.consumes = true) :
    ∃ x post, act = x :: post :=
  List.exists_cons_of_length_pos (by have := (fire_busy_consumes l p hc he).1; have := k.act_len; omega)

/-- when the call returns no entry is held any more, and none is left over unless it failed -/
theorem terminal (k : Entries p pend act) (t : Terminal p) : act = [] ∧ (p.failed = false → pend = []) :=
  ⟨List.eq_nil_of_length_eq_zero (k.act_len.trans t.2.2.1), fun nf => List.eq_nil_of_length_eq_zero (by
    have := (terminal_counts k.wf t nf).1; have := k.pend_len; omega)⟩

end Entries

theorem DInv.entries {C : Sys} {s : DState C.σ} (i : DInv C s) : Entries s.p s.pend s.act :=
  ⟨i.wf, i.pend_len, i.act_len⟩

/-- A step of a directory over `C` keeps `DInv` and decreases `DMu`: the counters by `fire_dec`, a nested
    instance by `C.Safe`. -/
theorem dstep_dec {D : Nat} {ok : Label → Bool} {C : Sys} (g : C.Safe) {s t : DState C.σ}
    (i : DInv C s) (h : DStep D ok C s t) : DInv C t ∧ DMu C t < DMu C s := by
  have k := i.entries
  obtain ⟨w, hp, ha, hc⟩ := i
  cases h with
  | loc l _ he hcons hne =>
    have k' := k.loc he hcons hne
    exact ⟨⟨k'.wf, k'.pend_len, k'.act_len, hc⟩, by have := mu_fire he w; simp only [DMu]; omega⟩
  | take sh rest _ he hpend =>
    have k' := (hpend ▸ k).take he (job C sh)
    refine ⟨⟨k'.wf, k'.pend_len, k'.act_len, fun c hm => ?_⟩,
      by have := mu_fire he w; simp only [DMu, hpend, List.map_cons, listSum]; omega⟩
    rcases List.mem_cons.1 hm with e | e
    · cases sh with
      | leaf => cases e
      | dir cs => simp only [job, Option.some.injEq] at e; rw [e]; exact g.inv_start cs
    · exact hc c e
  | consume l pre j post _ he hcons hact _ _ =>
    have k' := (hact ▸ k).consume he hcons
    refine ⟨⟨k'.wf, k'.pend_len, k'.act_len, fun c hm => hc c ?_⟩, by
      have := mu_fire he w
      simp only [DMu, hact, List.map_append, List.map_cons, listSum_append, listSum]; omega⟩
    rw [hact]
    exact (List.mem_append.1 hm).elim (List.mem_append_left _)
      fun e => List.mem_append_right _ (List.mem_cons_of_mem _ e)
  | inner pre c c' post hact hs =>
    have hci := hc c (by rw [hact]; simp)
    have := g.dec _ _ hci hs
    refine ⟨⟨w, hp, ?_, ?_⟩,
      by simp only [DMu, hact, List.map_append, List.map_cons, listSum_append, listSum, jobMu]; omega⟩
    · rw [hact] at ha; simpa using ha
    · intro x hm
      rcases List.mem_append.1 hm with e | e
      · exact hc x (by rw [hact]; exact List.mem_append_left _ e)
      · rcases List.mem_cons.1 e with e | e
        · cases e
          exact g.inv_step _ _ hci hs
        · exact hc x (by rw [hact]; exact List.mem_append_right _ (List.mem_cons_of_mem _ e))

theorem dprog {D : Nat} {ok : Label → Bool} {C : Sys} (hD : 0 < D)
    (hok : ∀ l, l.needed = true → ok l = true) (g : C.Good) {s : DState C.σ}
    (i : DInv C s) (nt : ¬ Terminal s.p) : ∃ t, DStep D ok C s t := by
  have k := i.entries
  obtain ⟨w, -, -, hc⟩ := i
  cases hn : next D s.p with
  | none => exact absurd (next_none w hn (.inl hD)) nt
  | some l =>
    obtain ⟨hcore, he, _⟩ := next_some w hn
    have hokl : ok l = true := hok l (by simp [Label.needed, hcore])
    by_cases ht : l = .take
    · subst ht
      obtain ⟨sh, rest, hpend⟩ := k.pend_cons he
      exact ⟨_, .take sh rest hokl he hpend⟩
    · cases hcons : l.consumes with
      | false => exact ⟨_, .loc l hokl he hcons ht⟩
      | true =>
        obtain ⟨j, post, hact⟩ := k.act_cons he hcons
        have hact' : s.act = [] ++ j :: post := hact
        cases j with
        | none => exact ⟨_, .consume l [] none post hokl he hcons hact' trivial (fun _ => rfl)⟩
        | some c =>
          by_cases htc : C.term c
          · cases hfc : C.failed c with
            | false =>
              exact ⟨_, .consume l [] (some c) post hokl he hcons hact' htc (fun _ => hfc)⟩
            | true =>
              -- the nested call returned an error: the worker returns it
              have hbusy : 0 < s.p.busy := by have := (fire_busy_consumes l _ hcons he).1; omega
              by_cases hd : 0 < s.p.ded
              · exact ⟨_, .consume .failD [] (some c) post (hok _ rfl)
                  (by simp [enabled, hbusy, hd]) rfl hact' htc (fun h => by cases h)⟩
              · exact ⟨_, .consume .failS [] (some c) post (hok _ rfl)
                  (by simp [enabled, hbusy]; omega) rfl hact' htc (fun h => by cases h)⟩
          · obtain ⟨c', hs⟩ := g.prog c (hc c (by rw [hact]; simp)) htc
            exact ⟨_, .inner [] c c' post hact' hs⟩

theorem dirSys_safe (D : Nat) (coll : Bool) (ok : Label → Bool) {C : Sys} (g : C.Safe) :
    (dirSys D coll ok C).Safe where
  inv_start cs := by
    show DInv C ⟨init cs.length coll, cs, []⟩
    exact ⟨wf_init _ _, Nat.add_zero _, rfl, fun c h => by cases h⟩
  inv_step _ _ i h := (dstep_dec g i h).1
  dec _ _ i h := (dstep_dec g i h).2

theorem dirSys_good {D : Nat} (hD : 0 < D) (coll : Bool) {ok : Label → Bool}
    (hok : ∀ l, l.needed = true → ok l = true) {C : Sys} (g : C.Good) :
    (dirSys D coll ok C).Good where
  toSafe := dirSys_safe D coll ok g.toSafe
  prog _ i nt := dprog hD hok g i nt

theorem baseSys_safe : baseSys.Safe where
  inv_start _ := trivial
  inv_step _ _ _ h := h.elim
  dec _ _ _ h := h.elim

theorem baseSys_good : baseSys.Good where
  toSafe := baseSys_safe
  prog _ _ nt := (nt trivial).elim

/-- All runs of a tree are finite: no hypothesis on `D`, any set `ok` of permitted labels. -/
theorem level_safe (D : Nat) (coll : Bool) (ok : Label → Bool) : ∀ d, (level D coll ok d).Safe
  | 0 => baseSys_safe
  | d + 1 => dirSys_safe D coll ok (level_safe D coll ok d)

/-- No deadlock in a tree, given `D ≥ 1` at every level and the needed labels. -/
theorem level_good {D : Nat} (hD : 0 < D) (coll : Bool) {ok : Label → Bool}
    (hok : ∀ l, l.needed = true → ok l = true) : ∀ d, (level D coll ok d).Good
  | 0 => baseSys_good
  | d + 1 => dirSys_good hD coll hok (level_good hD coll hok d)

theorem jobMu_job_leaf (C : Sys) : jobMu C (job C .leaf) = 0 := rfl

theorem jobMu_job_dir (C : Sys) (cs : List Shape) :
    jobMu C (job C (.dir cs)) = C.mu (C.start cs) := rfl

theorem mu_init (n : Nat) (c : Bool) : mu (init n c) = 6 * n + 4 := by
  simp [mu, init]; omega

/-- The measure of a fresh tree of instances is bounded by `cost`, with equality when the tree is
    not deeper than the tower of systems: every sub-directory is then a real nested instance, none
    is treated as atomic. -/
theorem level_mu_start (D : Nat) (coll : Bool) (ok : Label → Bool) (d : Nat) :
    ∀ cs, (level D coll ok d).mu ((level D coll ok d).start cs) ≤ cost (.dir cs) ∧
      (depth (.dir cs) ≤ d →
        (level D coll ok d).mu ((level D coll ok d).start cs) = cost (.dir cs)) := by
  induction d with
  | zero => exact fun cs => ⟨Nat.zero_le _, fun h => by simp [depth] at h⟩
  | succ d ih =>
    intro cs
    have key : ∀ l : List Shape,
        listSum (l.map fun sh => jobMu (level D coll ok d) (job (level D coll ok d) sh)) ≤ costs l ∧
        (depths l ≤ d →
          listSum (l.map fun sh => jobMu (level D coll ok d) (job (level D coll ok d) sh)) =
            costs l) := by
      intro l
      induction l with
      | nil => simp [listSum, costs]
      | cons sh t iht =>
        simp only [List.map_cons, listSum, costs, depths, Nat.max_le]
        cases sh with
        | leaf => simp only [jobMu_job_leaf, cost]; omega
        | dir cs' =>
          have := ih cs'
          simp only [jobMu_job_dir]; omega
    have := key cs
    simp only [level, dirSys, DMu, List.map_nil, listSum, cost, mu_init, depth] at *
    omega

theorem fire_failed_core (l : Label) (p : P) (h : l.core = true) :
    (fire l p).failed = p.failed := by
  cases l <;> first | rfl | cases h

/-- The canonical scheduler, given fuel `mu p`, ends in a terminal state; it keeps `n`, and `failed`
    because it only takes core steps. -/
theorem runToEnd_spec {D : Nat} (hD : 0 < D) (fuel : Nat) :
    ∀ (p : P), WF p → mu p ≤ fuel →
      Terminal (runToEnd D fuel p) ∧ WF (runToEnd D fuel p) ∧
      (runToEnd D fuel p).n = p.n ∧ (runToEnd D fuel p).failed = p.failed := by
  induction fuel with
  | zero =>
    intro p w h
    cases hn : next D p with
    | none => exact ⟨next_none w hn (.inl hD), w, rfl, rfl⟩
    | some l => have := mu_fire (next_some w hn).2.1 w; omega
  | succ fuel ih =>
    intro p w h
    unfold runToEnd
    cases hn : next D p with
    | none => exact ⟨next_none w hn (.inl hD), w, rfl, rfl⟩
    | some l =>
      obtain ⟨hc, he, _⟩ := next_some w hn
      have := mu_fire he w
      obtain ⟨t, w', en, ef⟩ := ih _ (wf_fire he w) (by omega)
      exact ⟨t, w', by rw [en, fire_n], by rw [ef, fire_failed_core l p hc]⟩

theorem runLabels_steps {D : Nat} (ls : List Label) :
    ∀ (p q : P), runLabels D ls p = some q → Steps D p ls.length q := by
  induction ls with
  | nil =>
    intro p q h
    cases h
    exact .refl
  | cons l ls ih =>
    intro p q h
    simp only [runLabels] at h
    split at h
    · rename_i he
      exact .cons (.mk l he) (ih _ q h)
    · cases h

theorem Sys.Good.reaches_term {C : Sys} (g : C.Good) (m : Nat) :
    ∀ (a : C.σ), C.mu a < m → C.inv a → ∃ k b, Run C.step a k b ∧ C.term b ∧ C.inv b := by
  induction m with
  | zero => exact fun _ hm _ => absurd hm (Nat.not_lt_zero _)
  | succ m ih =>
    intro a hm i
    by_cases t : C.term a
    · exact ⟨0, a, .refl, t, i⟩
    · obtain ⟨b, hb⟩ := g.prog a i t
      have := g.dec a b i hb
      obtain ⟨k, c, hr, hc⟩ := ih b (by omega) (g.inv_step a b i hb)
      exact ⟨k + 1, c, .cons hb hr, hc⟩

theorem inner_run {D : Nat} {ok : Label → Bool} {C : Sys} (p : P) (pend : List Shape) :
    ∀ {k : Nat} {c c' : C.σ}, Run C.step c k c' →
      Run (DStep D ok C) ⟨p, pend, [some c]⟩ k ⟨p, pend, [some c']⟩ := by
  intro k c c' h
  induction h with
  | refl => exact .refl
  | cons s _ ih => exact .cons (DStep.inner [] _ _ [] rfl s) ih

end Dud.Pool
