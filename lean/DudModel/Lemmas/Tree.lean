import DudModel.Lemmas.Store
import DudModel.World
import DudModel.Lemmas.InsertSort
import DudModel.Lemmas.CheckoutEq
/-!
# Trees, listings and workspace paths

Lemmas under the tree round trip (C01) and everything built on it: `readManifest` as a function of
the bytes found (`readManifest_eq_dec`; read backwards `readManifest_ok_inv`), the two cases of
`oldManifest` (`oldManifest_cases`), `deref`
on growing stores and membership in `derefList`, `sortChildren` as an instance of
`sortBy` and on sorted listings, `treeDigest_perm` (C16: the digest of a directory does not depend
on the listing order), `NamesOKList` and the Boolean checker `namesOKb` of `NamesOK`, the checkout
loop on fresh names, `checkoutArtW` by whether the artifact is skipped (`checkoutArtW_skip`,
`_noskip`), `alookup`/`setEntry` and `getPath`/`setPath`, `ManifestsNodup` (manifests list every name
once) with its checker `manifestsNodupB`.
-/
namespace Dud

variable {κ : Type}

theorem hasSum_empty : hasSum "" = false := by
  simp [hasSum]

theorem hasSum_H {ctx : Ctx κ} (g : Good ctx) (a : κ) : hasSum (ctx.H a) = true := by
  simp [hasSum, g.len a]

/-- what reads as a manifest in this object -/
def manifestChildren (ctx : Ctx κ) : Obj κ → Option (List Child)
  | .man sch _ cs => some (cs.map (ctx.reload sch))
  | .blob c => ctx.decBlob c

theorem readManifest_ok_inv {ctx : Ctx κ} {s : Store κ} {d : Digest} {cs : List Child}
    (h : readManifest ctx s d = .ok cs) :
    ∃ o, s.get d = some o ∧ manifestChildren ctx o = some cs := by
  rw [readManifest_eq] at h
  cases hg : s.get d with
  | none => rw [hg] at h; cases h
  | some o =>
    rw [hg] at h
    refine ⟨o, rfl, ?_⟩
    cases o with
    | man sch p cs0 => rw [(checkedChildren_eq_ok h).1]; rfl
    | blob c =>
      simp only [manifestChildren] at h ⊢
      cases hd : ctx.decBlob c with
      | none => rw [hd] at h; cases h
      | some cs0 => rw [hd] at h; rw [(checkedChildren_eq_ok h).1]

/-- manifests list every name once (in Go `directoryManifest.Contents` is a map) -/
def ManifestsNodup (ctx : Ctx κ) (s : Store κ) : Prop :=
  ∀ d cs, readManifest ctx s d = .ok cs → (cs.map (·.name)).Nodup

/-- decidable sufficient condition for `ManifestsNodup`: every object that reads as a manifest
lists each name once -/
def manifestsNodupB (ctx : Ctx κ) (s : Store κ) : Bool :=
  s.all fun p =>
    match p.2 with
    | .man sch _ cs => decide (((cs.map (ctx.reload sch)).map (·.name)).Nodup)
    | .blob c =>
      match ctx.decBlob c with
      | some cs => decide ((cs.map (·.name)).Nodup)
      | none => true

theorem manifestsNodup_of_check {ctx : Ctx κ} {s : Store κ} (h : manifestsNodupB ctx s = true) :
    ManifestsNodup ctx s := by
  intro d cs hr
  obtain ⟨o, hg, hcs⟩ := readManifest_ok_inv hr
  have hm := List.all_eq_true.1 h (d, o) (alookup_mem hg)
  cases o with
  | man sch p cs0 => cases hcs; simpa using hm
  | blob c =>
    simp only [manifestChildren] at hcs
    simpa [hcs] using hm

/-- `readManifest` is a function of the bytes found under the digest. -/
theorem readManifest_eq_dec {ctx : Ctx κ} (g : Good ctx) {s : Store κ} {d : Digest} {b : κ}
    (h : s.Holds ctx d b) :
    readManifest ctx s d = match ctx.decBlob b with
      | some cs => checkedChildren cs
      | none => .error .badManifest := by
  obtain ⟨o, ho, rfl⟩ := h
  rw [readManifest_eq, ho]
  cases o with
  | blob c => rfl
  | man sch p cs => simp only [Obj.bytes, g.dec]

theorem readManifest_agree {ctx : Ctx κ} (g : Good ctx) {s s1 : Store κ} {d : Digest} {b : κ}
    (h : s.Holds ctx d b) (h1 : s1.Holds ctx d b) : readManifest ctx s1 d = readManifest ctx s d := by
  rw [readManifest_eq_dec g h, readManifest_eq_dec g h1]

theorem readManifest_consistent {ctx : Ctx κ} (g : Good ctx) {s s' : Store κ}
    (hc : Consistent ctx s) (hc' : Consistent ctx s') {d : Digest} (h : s.has d = true)
    (h' : s'.has d = true) : readManifest ctx s' d = readManifest ctx s d :=
  let ⟨_, _, ho, ho', hb⟩ := hc.has_same_bytes g hc' h h'
  readManifest_agree g ⟨_, ho, rfl⟩ ⟨_, ho', hb⟩

theorem readManifest_of_bytes {ctx : Ctx κ} (g : Good ctx) {s : Store κ} {d : Digest}
    {sch : Schema} {p : Bytes} {cs : List Child} (h : s.Holds ctx d (ctx.encMan sch p cs))
    (hok : ChildrenOK (cs.map (ctx.reload sch))) :
    readManifest ctx s d = .ok (cs.map (ctx.reload sch)) := by
  rw [readManifest_eq_dec g h, g.dec]
  exact checkedChildren_ok hok

theorem readManifest_le {ctx : Ctx κ} (g : Good ctx) {s s1 : Store κ} (hle : Store.le ctx s s1)
    {d : Digest} (hd : s.has d = true) : readManifest ctx s1 d = readManifest ctx s d :=
  let ⟨_, hb⟩ := Store.holds_of_has ctx hd; readManifest_agree g hb (hle.holds hb)

theorem deref_holds {ctx : Ctx κ} {s : Store κ} {d : Digest} {b : κ} (h : s.Holds ctx d b) :
    deref ctx s (.link (.obj d)) = .file b := by
  obtain ⟨o, ho, rfl⟩ := h
  simp [deref, ho]

mutual
theorem deref_le (ctx : Ctx κ) {s s' : Store κ} (hle : Store.le ctx s s') :
    ∀ (n : Node κ), (deref ctx s n).plain = true → deref ctx s' n = deref ctx s n
  | .file _, _ => rfl
  | .link (.obj d), h => by
    cases hg : s.get d with
    | none => simp [deref, hg, Node.plain] at h
    | some o => exact (deref_holds (hle.holds ⟨o, hg, rfl⟩)).trans (deref_holds ⟨o, hg, rfl⟩).symm
  | .link (.foreign _), h => by simp [deref, Node.plain] at h
  | .other, h => by simp [deref, Node.plain] at h
  | .dir es, h => by
    simp only [deref, Node.plain] at h ⊢
    rw [derefList_le ctx hle es h]
theorem derefList_le (ctx : Ctx κ) {s s' : Store κ} (hle : Store.le ctx s s') :
    ∀ (es : List (Name × Node κ)), plainList (derefList ctx s es) = true →
      derefList ctx s' es = derefList ctx s es
  | [], _ => rfl
  | (nm, n) :: r, h => by
    simp only [derefList, plainList, Bool.and_eq_true] at h ⊢
    rw [deref_le ctx hle n h.1, derefList_le ctx hle r h.2]
end

/-- a logical content that resolved is the logical content in every larger cache -/
theorem deref_eq_le (ctx : Ctx κ) {s s' : Store κ} (hle : Store.le ctx s s') {n t : Node κ}
    (h : deref ctx s n = t) (hp : t.plain = true) : deref ctx s' n = t :=
  (deref_le ctx hle n (h ▸ hp)).trans h

theorem sortedList_cons {nm : Name} {n : Node κ} {r : List (Name × Node κ)}
    (h : sortedList ((nm, n) :: r) = true) : n.sorted = true ∧ sortedList r = true := by
  simp only [sortedList, Bool.and_eq_true] at h
  exact ⟨h.1.1, h.1.2⟩

theorem plainList_cons {nm : Name} {n : Node κ} {r : List (Name × Node κ)}
    (h : plainList ((nm, n) :: r) = true) : n.plain = true ∧ plainList r = true := by
  simpa [plainList] using h

theorem sortedList_head_lt : ∀ {r : List (Name × Node κ)} {nm : Name} {n : Node κ},
    sortedList ((nm, n) :: r) = true → ∀ e ∈ r, nm < e.1
  | [], _, _, _, e, he => by simp at he
  | (nm2, n2) :: r2, nm, n, h, e, he => by
    have hlt : nm < nm2 := by
      simp only [sortedList, headName, List.head?_cons, Option.map_some, Bool.and_eq_true,
        decide_eq_true_eq] at h
      exact h.2
    have htl := (sortedList_cons h).2
    rcases List.mem_cons.1 he with rfl | he'
    · exact hlt
    · exact List.lt_trans hlt (sortedList_head_lt htl e he')

theorem sortedList_head_ne {r : List (Name × Node κ)} {nm : Name} {n : Node κ}
    (h : sortedList ((nm, n) :: r) = true) : ∀ e ∈ r, nm ≠ e.1 := by
  intro e he heq
  have := sortedList_head_lt h e he
  rw [← heq] at this
  exact List.lt_irrefl _ this

theorem sortedList_mem : ∀ {es : List (Name × Node κ)} {e : Name × Node κ},
    sortedList es = true → e ∈ es → e.2.sorted = true := by
  intro es
  induction es with
  | nil => intro _ _ he; cases he
  | cons _ _ ih =>
    intro e h he
    rcases List.mem_cons.1 he with rfl | he'
    · exact (sortedList_cons h).1
    · exact ih (sortedList_cons h).2 he'

theorem alookup_of_sortedList : ∀ (es : List (Name × Node κ)), sortedList es = true →
    ∀ e ∈ es, alookup es e.1 = some e.2 := by
  intro es
  induction es with
  | nil => intro _ _ h; cases h
  | cons x r ih =>
    intro hs e h
    rcases List.mem_cons.mp h with rfl | h
    · simp [alookup]
    · rw [alookup_cons_ne _ _ (sortedList_head_ne hs e h)]
      exact ih (sortedList_cons hs).2 e h

theorem sortedList_sortedBy : ∀ {es : List (Name × Node κ)}, sortedList es = true →
    SortedBy (·.1) es
  | [], _ => .nil
  | (_, _) :: _, h =>
    List.pairwise_cons.2 ⟨sortedList_head_lt h, sortedList_sortedBy (sortedList_cons h).2⟩

theorem insertChild_eq : insertChild = insertBy Child.name := by
  funext c l
  induction l with
  | nil => rfl
  | cons x xs ih => simp only [insertChild, insertBy, ih]

theorem sortChildren_eq : sortChildren = sortBy Child.name := by
  funext l; rw [sortChildren, insertChild_eq]; rfl

theorem childrenOf_eq_map (ctx : Ctx κ) : ∀ (es : List (Name × Node κ)),
    childrenOf ctx es = es.map (fun e => ⟨e.1, treeDigest ctx e.1 e.2, e.2.isDir⟩)
  | [] => by simp [childrenOf]
  | (nm, n) :: r => by simp [childrenOf, childrenOf_eq_map ctx r]

theorem mem_childrenOf_name (ctx : Ctx κ) (es : List (Name × Node κ)) (k : Child)
    (h : k ∈ childrenOf ctx es) : ∃ e ∈ es, e.1 = k.name := by
  rw [childrenOf_eq_map] at h
  obtain ⟨e, he, rfl⟩ := List.mem_map.1 h
  exact ⟨e, he, rfl⟩

theorem sortChildren_childrenOf (ctx : Ctx κ) (es : List (Name × Node κ))
    (h : sortedList es = true) : sortChildren (childrenOf ctx es) = childrenOf ctx es := by
  rw [sortChildren_eq, childrenOf_eq_map]
  exact sortBy_of_sorted ((sortedList_sortedBy h).map _ fun _ => rfl)

/-- on lists without duplicate names `sortChildren` is insensitive to the order of the input -/
theorem sortChildren_perm {cs1 cs2 : List Child} (hp : cs1.Perm cs2)
    (hnd : (cs1.map (·.name)).Nodup) : sortChildren cs1 = sortChildren cs2 :=
  sortChildren_eq ▸ sortBy_perm hp hnd

theorem childrenOf_names (ctx : Ctx κ) (es : List (Name × Node κ)) :
    (childrenOf ctx es).map (·.name) = es.map (·.1) := by
  simp [childrenOf_eq_map, Function.comp_def]

/-- The digest of a directory does not depend on the listing order. -/
theorem treeDigest_perm (ctx : Ctx κ) (nm : Bytes) {es1 es2 : List (Name × Node κ)}
    (hp : es1.Perm es2) (hnd : (es1.map (·.1)).Nodup) :
    treeDigest ctx nm (.dir es1) = treeDigest ctx nm (.dir es2) := by
  simp only [treeDigest]
  rw [sortChildren_perm (cs1 := childrenOf ctx es1) (cs2 := childrenOf ctx es2)]
  · rw [childrenOf_eq_map, childrenOf_eq_map]
    exact hp.map _
  · rw [childrenOf_names]; exact hnd

theorem mem_allNamesList_head {nm : Name} {n : Node κ} {r : List (Name × Node κ)} :
    nm ∈ allNamesList ((nm, n) :: r) := by simp [allNamesList]

theorem mem_allNamesList_of_node {nm x : Name} {n : Node κ} {r : List (Name × Node κ)}
    (h : x ∈ allNames n) : x ∈ allNamesList ((nm, n) :: r) := by simp [allNamesList, h]

theorem mem_allNamesList_of_tail {nm x : Name} {n : Node κ} {r : List (Name × Node κ)}
    (h : x ∈ allNamesList r) : x ∈ allNamesList ((nm, n) :: r) := by simp [allNamesList, h]

theorem mem_allNamesList_of_mem : ∀ {es : List (Name × Node κ)} {e : Name × Node κ},
    e ∈ es → e.1 ∈ allNamesList es
  | (nm, n) :: r, e, he => by
    rcases List.mem_cons.1 he with rfl | he'
    · exact mem_allNamesList_head
    · exact mem_allNamesList_of_tail (mem_allNamesList_of_mem he')

theorem plainList_iff : ∀ {es : List (Name × Node κ)},
    plainList es = true ↔ ∀ e ∈ es, e.2.plain = true
  | [] => by simp [plainList]
  | (nm, n) :: r => by
    simp only [plainList, Bool.and_eq_true, List.mem_cons, forall_eq_or_imp, plainList_iff (es := r)]

theorem mem_allNamesList_iff : ∀ {es : List (Name × Node κ)} {x : Name},
    x ∈ allNamesList es ↔ ∃ e ∈ es, x = e.1 ∨ x ∈ allNames e.2
  | [], x => by simp [allNamesList]
  | (nm, n) :: r, x => by
    simp only [allNamesList, List.mem_cons, List.mem_append, mem_allNamesList_iff (es := r),
      exists_eq_or_imp]
    constructor
    · rintro (h | h | h)
      · exact Or.inl (Or.inl h)
      · exact Or.inl (Or.inr h)
      · exact Or.inr h
    · rintro ((h | h) | h)
      · exact Or.inl h
      · exact Or.inr (Or.inl h)
      · exact Or.inr (Or.inr h)

theorem alookup_fresh {β : Type} : ∀ (acc : List (Name × β)) (nm : Name),
    (∀ p ∈ acc, p.1 ≠ nm) → alookup acc nm = none
  | [], _, _ => rfl
  | (k, v) :: r, nm, h => by
    have hk : k ≠ nm := h (k, v) (by simp)
    simp only [alookup, beq_iff_eq, hk, if_false]
    exact alookup_fresh r nm (fun p hp => h p (by simp [hp]))

theorem alookup_isSome_of_mem {β : Type} {l : List (Name × β)} {e : Name × β} (h : e ∈ l) :
    (alookup l e.1).isSome = true := by
  induction l with
  | nil => cases h
  | cons x r ih =>
    obtain ⟨k, v⟩ := x
    by_cases hk : k = e.1
    · simp [alookup, hk]
    · rw [alookup_cons_ne r v hk]
      exact ih ((List.mem_cons.1 h).resolve_left fun he => hk (he ▸ rfl))

theorem setEntry_fresh : ∀ (acc : List (Name × Node κ)) (nm : Name) (n : Node κ),
    (∀ p ∈ acc, p.1 ≠ nm) → setEntry acc nm n = acc ++ [(nm, n)]
  | [], _, _, _ => rfl
  | (k, v) :: r, nm, n, h => by
    have hk : k ≠ nm := h (k, v) (by simp)
    simp only [setEntry, beq_iff_eq, hk, if_false, List.cons_append]
    rw [setEntry_fresh r nm n (fun p hp => h p (by simp [hp]))]

theorem alookup_append_fresh {β : Type} (pre : List (Name × β)) (nm : Name) (b : β)
    (rest : List (Name × β)) (h : ∀ p ∈ pre, p.1 ≠ nm) :
    alookup (pre ++ (nm, b) :: rest) nm = some b := by
  induction pre with
  | nil => simp [alookup]
  | cons kv r ih =>
    have hk : kv.1 ≠ nm := h kv (by simp)
    simp only [List.cons_append, alookup, beq_iff_eq, hk, if_false]
    exact ih (fun p hp => h p (by simp [hp]))

theorem setEntry_append_fresh (pre : List (Name × Node κ)) (nm : Name) (b c : Node κ)
    (rest : List (Name × Node κ)) (h : ∀ p ∈ pre, p.1 ≠ nm) :
    setEntry (pre ++ (nm, b) :: rest) nm c = pre ++ (nm, c) :: rest := by
  induction pre with
  | nil => simp [setEntry]
  | cons kv r ih =>
    have hk : kv.1 ≠ nm := h kv (by simp)
    simp only [List.cons_append, setEntry, beq_iff_eq, hk, if_false]
    rw [ih (fun p hp => h p (by simp [hp]))]

/-- One turn of the `checkoutWorker` loop for an entry whose name is not in the directory yet:
the checked-out node is appended to the listing. -/
theorem checkoutChildren_cons_fresh (f : Option (Node κ) → Child → Except Err (Node κ))
    (acc : List (Name × Node κ)) (c : Child) (cs : List Child) (n : Node κ)
    (hfresh : ∀ p ∈ acc, p.1 ≠ c.name) (hf : f none c = .ok n) :
    checkoutChildren f acc (c :: cs) = checkoutChildren f (acc ++ [(c.name, n)]) cs := by
  simp only [checkoutChildren_cons, alookup_fresh acc c.name hfresh, hf,
    setEntry_fresh acc c.name n hfresh]

theorem checkoutArtW_skip (cfg : Cfg κ) (strat : Strat) (a : Art) (w : World κ) (hskip : a.skip = true) :
    checkoutArtW cfg strat a w = .ok w := by
  simp only [checkoutArtW, checkoutArt, hskip, if_true]
  cases getPath w.ws (Path.comps a.path) <;> rfl

theorem checkoutArtW_noskip (cfg : Cfg κ) (strat : Strat) (a : Art) (w : World κ) (hskip : a.skip = false) :
    checkoutArtW cfg strat a w =
      match checkoutNode cfg.ctx strat w.store cfg.fuel (getPath w.ws (Path.comps a.path)) a.child with
      | .error e => .error e
      | .ok n => match setPath w.ws (Path.comps a.path) n with
        | none => .error .other
        | some ws' => .ok { w with ws := ws' } := by
  simp only [checkoutArtW, checkoutArt, hskip, Bool.false_eq_true, if_false]
  cases checkoutNode cfg.ctx strat w.store cfg.fuel (getPath w.ws (Path.comps a.path)) a.child <;> rfl

mutual
theorem deref_plain (ctx : Ctx κ) (s : Store κ) :
    ∀ (n : Node κ), n.plain = true → deref ctx s n = n
  | .file c, _ => by simp [deref]
  | .dir es, h => by
    simp only [Node.plain] at h
    simp only [deref]
    rw [derefList_plain ctx s es h]
  | .link _, h => by simp [Node.plain] at h
  | .other, h => by simp [Node.plain] at h
theorem derefList_plain (ctx : Ctx κ) (s : Store κ) :
    ∀ (es : List (Name × Node κ)), plainList es = true → derefList ctx s es = es
  | [], _ => by simp [derefList]
  | (nm, n) :: r, h => by
    simp only [derefList]
    rw [deref_plain ctx s n (plainList_cons h).1, derefList_plain ctx s r (plainList_cons h).2]
end

theorem plainList_filter (p : Name × Node κ → Bool) : ∀ (es : List (Name × Node κ)),
    plainList es = true → plainList (es.filter p) = true
  | [], _ => by simp [plainList]
  | (nm, n) :: r, h => by
    have ih := plainList_filter p r (plainList_cons h).2
    simp only [List.filter_cons]
    split
    · simp [plainList, (plainList_cons h).1, ih]
    · exact ih

theorem headName_mem {es : List (Name × Node κ)} {x : Name} (h : headName es = some x) :
    ∃ e ∈ es, e.1 = x := by
  cases es with
  | nil => simp [headName] at h
  | cons e r => exact ⟨e, by simp, by simpa [headName] using h⟩

theorem sortedList_filter (p : Name × Node κ → Bool) : ∀ (es : List (Name × Node κ)),
    sortedList es = true → sortedList (es.filter p) = true
  | [], _ => by simp [sortedList]
  | (nm, n) :: r, h => by
    have ih := sortedList_filter p r (sortedList_cons h).2
    simp only [List.filter_cons]
    split
    · simp only [sortedList, Bool.and_eq_true]
      refine ⟨⟨(sortedList_cons h).1, ih⟩, ?_⟩
      cases hh : headName (r.filter p) with
      | none => rfl
      | some nm2 =>
        obtain ⟨e, he, rfl⟩ := headName_mem hh
        have := sortedList_head_lt h e (List.mem_filter.1 he).1
        simp [this]
    · exact ih

theorem mem_allNamesList_filter (p : Name × Node κ → Bool) : ∀ (es : List (Name × Node κ))
    (x : Name), x ∈ allNamesList (es.filter p) → x ∈ allNamesList es
  | [], _, h => by simpa using h
  | (nm, n) :: r, x, h => by
    simp only [List.filter_cons] at h
    split at h
    · simp only [allNamesList, List.mem_cons, List.mem_append] at h ⊢
      rcases h with h | h | h
      · exact Or.inl h
      · exact Or.inr (Or.inl h)
      · exact Or.inr (Or.inr (mem_allNamesList_filter p r x h))
    · exact mem_allNamesList_of_tail (mem_allNamesList_filter p r x h)

theorem oldManifest_present (ctx : Ctx κ) {s : Store κ} {sum : Digest} (hh : hasSum sum = true)
    (hs : s.has sum = true) : oldManifest ctx s sum = readManifest ctx s sum := by
  simp [oldManifest, hh, hs]

theorem oldManifest_cases (ctx : Ctx κ) (s : Store κ) (sum : Digest) :
    oldManifest ctx s sum = .ok [] ∨
      hasSum sum = true ∧ s.has sum = true ∧ oldManifest ctx s sum = readManifest ctx s sum := by
  cases hh : hasSum sum
  · exact .inl (by simp [oldManifest, hh])
  cases hs : s.has sum
  · exact .inl (by simp [oldManifest, hs])
  · exact .inr ⟨rfl, rfl, oldManifest_present ctx hh hs⟩

theorem oldManifest_le {ctx : Ctx κ} (g : Good ctx) {s s1 : Store κ} (hle : Store.le ctx s s1)
    {sum : Digest} (hpres : hasSum sum = true → s.has sum = true) :
    oldManifest ctx s1 sum = oldManifest ctx s sum := by
  unfold oldManifest
  cases hh : hasSum sum with
  | false => rfl
  | true => simp [hpres hh, Store.has_le hle (hpres hh), readManifest_le g hle (hpres hh)]

theorem oldManifest_empty (ctx : Ctx κ) (s : Store κ) : oldManifest ctx s "" = .ok [] := by
  simp [oldManifest, hasSum_empty]

theorem findChild_name {old : List Child} {nm : Bytes} {k : Child}
    (h : findChild old nm = some k) : k.name = nm := by
  have := List.find?_some h
  simpa using this

theorem findChild_nil (nm : Bytes) : findChild [] nm = none := rfl

theorem findChild_of_nodup : ∀ {cs : List Child}, (cs.map (·.name)).Nodup → ∀ k ∈ cs,
    findChild cs k.name = some k := by
  intro cs
  induction cs with
  | nil => intro _ _ h; cases h
  | cons c r ih =>
    intro hnd k h
    simp only [List.map_cons, List.nodup_cons, List.mem_map, not_exists, not_and] at hnd
    simp only [findChild, List.find?_cons]
    rcases List.mem_cons.mp h with rfl | h
    · simp
    · have hne : c.name ≠ k.name := fun e => hnd.1 k h e.symm
      have hb : (c.name == k.name) = false := by simpa using hne
      simp only [hb]
      exact ih hnd.2 k h

theorem findChild_cons_isSome (c : Child) (cs : List Child) (nm : Bytes)
    (h : c.name = nm ∨ (findChild cs nm).isSome = true) : (findChild (c :: cs) nm).isSome = true := by
  simp only [findChild, List.find?_cons]
  split
  · rfl
  · rename_i hb
    exact h.resolve_left fun e => by simp [e] at hb

/-- commit accepts, the decoder leaves alone and `readManifest` accepts every entry name of the
listing (at any depth) -/
def NamesOKList (ctx : Ctx κ) (es : List (Name × Node κ)) : Prop :=
  ∀ nm, nm ∈ allNamesList es → ctx.nameOK nm = true ∧
    (∀ sch sum isDir, ctx.reload sch ⟨nm, sum, isDir⟩ = ⟨nm, sum, isDir⟩) ∧
    entryNameOK nm = true

/-- `NamesOK` as a Boolean, for a context whose decoder returns the entries of a manifest as stored -/
def namesOKb (ctx : Ctx κ) (t : Node κ) : Bool :=
  (allNames t).all fun nm => ctx.nameOK nm && entryNameOK nm

theorem NamesOK.of_check {ctx : Ctx κ} (hre : ∀ sch c, ctx.reload sch c = c) {t : Node κ}
    (h : namesOKb ctx t = true) : NamesOK ctx t := fun nm hnm =>
  have := Bool.and_eq_true_iff.1 (List.all_eq_true.1 h nm hnm)
  ⟨this.1, fun _ _ _ => hre _ _, this.2⟩

theorem namesOK_node {ctx : Ctx κ} {nm : Name} {n : Node κ} {r : List (Name × Node κ)}
    (h : NamesOKList ctx ((nm, n) :: r)) : NamesOK ctx n :=
  fun x hx => h x (mem_allNamesList_of_node hx)

theorem namesOK_tail {ctx : Ctx κ} {nm : Name} {n : Node κ} {r : List (Name × Node κ)}
    (h : NamesOKList ctx ((nm, n) :: r)) : NamesOKList ctx r :=
  fun x hx => h x (mem_allNamesList_of_tail hx)

theorem namesOK_head {ctx : Ctx κ} {nm : Name} {n : Node κ} {r : List (Name × Node κ)}
    (h : NamesOKList ctx ((nm, n) :: r)) : ctx.nameOK nm = true ∧
      ∀ sch sum isDir, ctx.reload sch ⟨nm, sum, isDir⟩ = ⟨nm, sum, isDir⟩ :=
  ⟨(h nm mem_allNamesList_head).1, (h nm mem_allNamesList_head).2.1⟩

theorem namesOK_head_entry {ctx : Ctx κ} {nm : Name} {n : Node κ} {r : List (Name × Node κ)}
    (h : NamesOKList ctx ((nm, n) :: r)) : entryNameOK nm = true :=
  (h nm mem_allNamesList_head).2.2

theorem NamesOKList.entry {ctx : Ctx κ} {es : List (Name × Node κ)} (h : NamesOKList ctx es)
    {e : Name × Node κ} (he : e ∈ es) : entryNameOK e.1 = true :=
  (h e.1 (mem_allNamesList_of_mem he)).2.2

theorem namesOKList_mem {ctx : Ctx κ} : ∀ {es : List (Name × Node κ)} {e : Name × Node κ},
    NamesOKList ctx es → e ∈ es → NamesOK ctx e.2 := by
  intro es
  induction es with
  | nil => intro _ _ he; cases he
  | cons _ _ ih =>
    intro e h he
    rcases List.mem_cons.1 he with rfl | he'
    · exact namesOK_node h
    · exact ih (namesOK_tail h) he'

theorem childrenOK_childrenOf {ctx : Ctx κ} : ∀ {es : List (Name × Node κ)},
    NamesOKList ctx es → ChildrenOK (childrenOf ctx es)
  | [], _ => by simpa [childrenOf] using ChildrenOK.nil
  | (_, _) :: _, h => by
    simp only [childrenOf]
    exact ChildrenOK.cons (namesOK_head_entry h) (childrenOK_childrenOf (namesOK_tail h))

theorem namesOK_dir {ctx : Ctx κ} {es : List (Name × Node κ)} (h : NamesOK ctx (.dir es)) :
    NamesOKList ctx es := fun x hx => h x (by simpa [allNames] using hx)

theorem alookup_setEntry_ne (es : List (Name × Node κ)) {k nm : Name} (n : Node κ) (h : k ≠ nm) :
    alookup (setEntry es k n) nm = alookup es nm := by
  induction es with
  | nil => simp [setEntry, alookup, h]
  | cons e r ih =>
    obtain ⟨a, v⟩ := e
    by_cases hk : a = k
    · subst hk
      simp [setEntry, alookup, h]
    · by_cases hy : a = nm
      · subst hy
        simp [setEntry, alookup, hk]
      · simp [setEntry, alookup, hk, hy, ih]

theorem alookup_setEntry_self : ∀ (es : List (Name × Node κ)) (x : Name) (n : Node κ),
    alookup (setEntry es x n) x = some n
  | [], x, n => by simp [setEntry, alookup]
  | (k, v) :: r, x, n => by
    by_cases hk : k = x
    · subst hk; simp [setEntry, alookup]
    · simp [setEntry, alookup, hk, alookup_setEntry_self r x n]

theorem setEntry_same : ∀ (es : List (Name × Node κ)) (nm : Name) (n : Node κ),
    alookup es nm = some n → setEntry es nm n = es
  | [], _, _, h => by simp [alookup] at h
  | (k, v) :: r, nm, n, h => by
    by_cases hk : k = nm
    · subst hk
      simp only [alookup, beq_self_eq_true, if_true, Option.some.injEq] at h
      simp [setEntry, h]
    · simp only [alookup, beq_iff_eq, hk, if_false] at h
      simp [setEntry, hk, setEntry_same r nm n h]

theorem mem_setEntry {es : List (Name × Node κ)} {c : Name} {n : Node κ} {e : Name × Node κ}
    (h : e ∈ setEntry es c n) : e ∈ es ∨ e = (c, n) := by
  induction es with
  | nil => simpa [setEntry] using h
  | cons kv r ih =>
    obtain ⟨k, v⟩ := kv
    simp only [setEntry] at h
    split at h
    · rename_i hk
      have hk : k = c := by simpa using hk
      rcases List.mem_cons.1 h with h | h
      · exact .inr (by rw [h, hk])
      · exact .inl (List.mem_cons_of_mem _ h)
    · rcases List.mem_cons.1 h with h | h
      · exact .inl (by rw [h]; simp)
      · exact (ih h).imp (List.mem_cons_of_mem _) id

theorem getPath_setPath_self : ∀ (p : List Name) (ws ws' v : Node κ),
    setPath ws p v = some ws' → getPath ws' p = some v
  | [], ws, ws', v, h => by
    simp only [setPath, Option.some.injEq] at h
    subst h
    rfl
  | c :: r, .dir es, ws', v, h => by
    rw [setPath] at h
    split at h
    · rename_i n hn
      injection h with h
      subst h
      simp only [getPath]
      rw [alookup_setEntry_self]
      exact getPath_setPath_self r _ n v hn
    · cases h
  | _ :: _, .file _, _, _, h => by simp [setPath] at h
  | _ :: _, .link _, _, _, h => by simp [setPath] at h
  | _ :: _, .other, _, _, h => by simp [setPath] at h

theorem setPath_getPath_same : ∀ (p : List Name) (ws n : Node κ),
    getPath ws p = some n → setPath ws p n = some ws
  | [], ws, n, h => by
    simp only [getPath, Option.some.injEq] at h
    subst h
    simp [setPath]
  | c :: r, .dir es, n, h => by
    rw [getPath] at h
    split at h
    · rename_i m hm
      rw [setPath, hm]
      simp only [Option.getD_some]
      rw [setPath_getPath_same r m n h]
      simp only
      rw [setEntry_same es c m hm]
    · cases h
  | _ :: _, .file _, _, h => by simp [getPath] at h
  | _ :: _, .link _, _, h => by simp [getPath] at h
  | _ :: _, .other, _, h => by simp [getPath] at h

theorem getPath_cons_inv {x : Name} {r : List Name} {w m : Node κ} (h : getPath w (x :: r) = some m) :
    ∃ es mx, w = .dir es ∧ alookup es x = some mx ∧ getPath mx r = some m := by
  cases w with
  | dir es =>
    rw [getPath] at h
    split at h
    · rename_i mx hmx; exact ⟨es, mx, rfl, hmx, h⟩
    · cases h
  | file _ => simp [getPath] at h
  | link _ => simp [getPath] at h
  | other => simp [getPath] at h

theorem getPath_nil_dir_cases (q : List Name) :
    getPath (.dir [] : Node κ) q = none ∨ getPath (.dir [] : Node κ) q = some (.dir []) := by
  cases q with
  | nil => exact .inr rfl
  | cons y q => exact .inl rfl

theorem setPath_cons_inv {x : Name} {r : List Name} {w v w' : Node κ}
    (h : setPath w (x :: r) v = some w') :
    ∃ es k, w = .dir es ∧ setPath ((alookup es x).getD (.dir [])) r v = some k ∧
      w' = .dir (setEntry es x k) := by
  cases w with
  | dir es =>
    rw [setPath] at h
    split at h
    · rename_i k hk
      injection h with h
      exact ⟨es, k, rfl, hk, h.symm⟩
    · cases h
  | file _ => simp [setPath] at h
  | link _ => simp [setPath] at h
  | other => simp [setPath] at h

theorem getPath_nil_dir (q : List Name) (y : Name) : getPath (.dir [] : Node κ) (y :: q) = none := by
  simp [getPath, alookup]

theorem getPath_setPath_diverge : ∀ (pre : List Name) (x y : Name) (p' q' : List Name)
    (ws ws' v : Node κ), x ≠ y → setPath ws (pre ++ x :: p') v = some ws' →
    getPath ws' (pre ++ y :: q') = getPath ws (pre ++ y :: q')
  | [], x, y, p', q', .dir es, ws', v, hne, h => by
    simp only [List.nil_append] at h ⊢
    rw [setPath] at h
    split at h
    · rename_i n hn
      injection h with h
      subst h
      simp only [getPath]
      rw [alookup_setEntry_ne es n hne]
    · cases h
  | c :: pre, x, y, p', q', .dir es, ws', v, hne, h => by
    simp only [List.cons_append] at h ⊢
    rw [setPath] at h
    split at h
    · rename_i n hn
      injection h with h
      subst h
      have ih := getPath_setPath_diverge pre x y p' q' _ n v hne hn
      simp only [getPath]
      rw [alookup_setEntry_self]
      simp only
      rw [ih]
      cases hl : alookup es c with
      | some m => simp
      | none =>
        simp only [Option.getD_none]
        cases pre <;> exact getPath_nil_dir _ _
    · cases h
  | [], _, _, _, _, .file _, _, _, _, h => by simp [setPath] at h
  | [], _, _, _, _, .link _, _, _, _, h => by simp [setPath] at h
  | [], _, _, _, _, .other, _, _, _, h => by simp [setPath] at h
  | _ :: _, _, _, _, _, .file _, _, _, _, h => by simp [setPath] at h
  | _ :: _, _, _, _, _, .link _, _, _, _, h => by simp [setPath] at h
  | _ :: _, _, _, _, _, .other, _, _, _, h => by simp [setPath] at h

theorem alookup_derefList (ctx : Ctx κ) (s : Store κ) (nm : Name) :
    ∀ es : List (Name × Node κ),
      alookup (derefList ctx s es) nm = (alookup es nm).map (deref ctx s)
  | [] => by simp [derefList, alookup]
  | (k, v) :: r => by
    by_cases h : k = nm
    · subst h; simp [derefList, alookup]
    · simp [derefList, alookup, h, alookup_derefList ctx s nm r]

theorem mem_derefList_iff (ctx : Ctx κ) (s : Store κ) {e' : Name × Node κ} :
    ∀ {es : List (Name × Node κ)},
      e' ∈ derefList ctx s es ↔ ∃ e ∈ es, e' = (e.1, deref ctx s e.2) := by
  intro es
  induction es with
  | nil => simp [derefList]
  | cons x r ih => simp only [derefList, List.mem_cons, ih, exists_eq_or_imp]

theorem mem_derefList (ctx : Ctx κ) (s : Store κ) (es : List (Name × Node κ))
    (e : Name × Node κ) (h : e ∈ es) : (e.1, deref ctx s e.2) ∈ derefList ctx s es :=
  (mem_derefList_iff ctx s).2 ⟨e, h, rfl⟩

end Dud
