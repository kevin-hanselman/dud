import DudModel.Lemmas.Blake3Eval
/-!
# The compression function over an abstract word type, and BLAKE3 over `Nat` words

Core-only.  `Blake3.compress` works on `Array UInt32`, which the kernel evaluates slowly (every word
operation unfolds through `BitVec` and `Fin`, every array access through lists and bound proofs).
Here the compression function is written once over an arbitrary word type with its three operations
(`Words.Ops`), the state being structures of words with no recursion over them.  At `UInt32` it is
`Blake3.compress` (`compress_u32`); `UInt32.ofNat` maps the instance over `Nat` (words reduced
modulo `2^32`, literal arithmetic the kernel does natively) onto the instance over `UInt32`
(`compress_ofNat`).  So the block parameters over `Nat` words, `natBlockParams`, are mapped onto
`realBlockParams` (`natHom`), and as the specification commutes with such maps
(`BlockParams.Hom.treeHash`), `hashSpecReal` can be evaluated over `Nat` (`hashSpecReal_eq_nat`).
-/
namespace Dud.Blake3Spec

/-! ## The specification commutes with maps of block parameters -/

section Hom
variable {CV CV' Digest : Type}

/-- `f` maps the operations of `B'` to those of `B`. -/
structure BlockParams.Hom (f : CV' → CV) (B' : BlockParams CV' Digest) (B : BlockParams CV Digest) :
    Prop where
  iv : f B'.iv = B.iv
  compressBlock : ∀ cv b c s, f (B'.compressBlock cv b c s) = B.compressBlock (f cv) b c s
  finalCV : ∀ cv b c s, f (B'.finalCV cv b c s) = B.finalCV (f cv) b c s
  finalRoot : ∀ cv b c s, B'.finalRoot cv b c s = B.finalRoot (f cv) b c s
  parentCV : ∀ l r, f (B'.parentCV l r) = B.parentCV (f l) (f r)
  parentRoot : ∀ l r, B'.parentRoot l r = B.parentRoot (f l) (f r)

namespace BlockParams.Hom
variable {f : CV' → CV} {B' : BlockParams CV' Digest} {B : BlockParams CV Digest} (h : Hom f B' B)
include h

theorem chainCV (ctr : Nat) (bs : Bytes) (k : Nat) :
    f (Blake3Spec.chainCV B' ctr bs k) = Blake3Spec.chainCV B ctr bs k := by
  induction k with
  | zero => exact h.iv
  | succ k ih => rw [Blake3Spec.chainCV, Blake3Spec.chainCV, h.compressBlock, ih]

theorem chunkCVOf (bs : Bytes) (ctr : Nat) : f (chunkCVOf B' bs ctr) = Blake3Spec.chunkCVOf B bs ctr := by
  obtain ⟨k, hk⟩ := exists_pieces (m := 64) (by decide) bs.length
  simp only [Blake3Spec.chunkCVOf, chunkTail_eq_chainCV _ ctr bs k hk, h.finalCV, h.chainCV]

theorem chunkRootOf (bs : Bytes) (ctr : Nat) : chunkRootOf B' bs ctr = Blake3Spec.chunkRootOf B bs ctr := by
  obtain ⟨k, hk⟩ := exists_pieces (m := 64) (by decide) bs.length
  simp only [Blake3Spec.chunkRootOf, chunkTail_eq_chainCV _ ctr bs k hk, h.finalRoot, h.chainCV]

theorem treeNodeF_cv (fuel c0 : Nat) (cs : List Bytes) :
    f ((treeNodeF B'.toParams fuel c0 cs).cv B'.toParams) = (treeNodeF B.toParams fuel c0 cs).cv B.toParams := by
  induction fuel generalizing c0 cs with
  | zero => exact h.chunkCVOf _ _
  | succ fuel ih =>
    simp only [treeNodeF]
    split
    · exact h.chunkCVOf _ _
    · show f (B'.parentCV _ _) = B.parentCV _ _
      rw [h.parentCV, ih, ih]

/-- The digest does not depend on how chaining values are represented. -/
theorem treeHash (cs : List Bytes) : treeHash B'.toParams cs = Blake3Spec.treeHash B.toParams cs := by
  unfold Blake3Spec.treeHash treeNode
  cases cs.length with
  | zero => exact h.chunkRootOf _ _
  | succ fuel =>
    simp only [treeNodeF]
    split
    · exact h.chunkRootOf _ _
    · show B'.parentRoot _ _ = B.parentRoot _ _
      rw [h.parentRoot, h.treeNodeF_cv, h.treeNodeF_cv]

end BlockParams.Hom
end Hom

namespace Words

structure Ops (α : Type) where
  add : α → α → α
  xor : α → α → α
  /-- rotate right by `n` bits, `0 < n < 32` -/
  rotr : Nat → α → α

/-- eight words: a chaining value, or half of a state or message block -/
structure Oct (α : Type) where
  (w0 w1 w2 w3 w4 w5 w6 w7 : α)
deriving DecidableEq

structure Quad (α : Type) where
  (a b c d : α)

/-- sixteen words: the state, or a message block -/
abbrev Blk (α : Type) := Oct α × Oct α

variable {α β : Type}

/-- `Blake3.g` on the four state words it touches -/
def g (o : Ops α) (a b c d mx my : α) : Quad α :=
  let a := o.add (o.add a b) mx
  let d := o.rotr 16 (o.xor d a)
  let c := o.add c d
  let b := o.rotr 12 (o.xor b c)
  let a := o.add (o.add a b) my
  let d := o.rotr 8 (o.xor d a)
  let c := o.add c d
  let b := o.rotr 7 (o.xor b c)
  ⟨a, b, c, d⟩

/-- `Blake3.round`: `g` on the four columns, then on the four diagonals -/
def round (o : Ops α) (s m : Blk α) : Blk α :=
  let p := g o s.1.w0 s.1.w4 s.2.w0 s.2.w4 m.1.w0 m.1.w1
  let q := g o s.1.w1 s.1.w5 s.2.w1 s.2.w5 m.1.w2 m.1.w3
  let r := g o s.1.w2 s.1.w6 s.2.w2 s.2.w6 m.1.w4 m.1.w5
  let t := g o s.1.w3 s.1.w7 s.2.w3 s.2.w7 m.1.w6 m.1.w7
  let p' := g o p.a q.b r.c t.d m.2.w0 m.2.w1
  let q' := g o q.a r.b t.c p.d m.2.w2 m.2.w3
  let r' := g o r.a t.b p.c q.d m.2.w4 m.2.w5
  let t' := g o t.a p.b q.c r.d m.2.w6 m.2.w7
  (⟨p'.a, q'.a, r'.a, t'.a, t'.b, p'.b, q'.b, r'.b⟩, ⟨r'.c, t'.c, p'.c, q'.c, q'.d, r'.d, t'.d, p'.d⟩)

/-- `Blake3.permute` (the table `Blake3.MSG_PERM`) -/
def permute (m : Blk α) : Blk α :=
  (⟨m.1.w2, m.1.w6, m.1.w3, m.2.w2, m.1.w7, m.1.w0, m.1.w4, m.2.w5⟩,
   ⟨m.1.w1, m.2.w3, m.2.w4, m.1.w5, m.2.w1, m.2.w6, m.2.w7, m.2.w0⟩)

def rounds (o : Ops α) : Nat → Blk α → Blk α → Blk α
  | 0, s, _ => s
  | i + 1, s, m => rounds o i (round o s m) (permute m)

def Oct.zip (f : α → α → α) (x y : Oct α) : Oct α :=
  ⟨f x.w0 y.w0, f x.w1 y.w1, f x.w2 y.w2, f x.w3 y.w3, f x.w4 y.w4, f x.w5 y.w5, f x.w6 y.w6, f x.w7 y.w7⟩

/-- `Blake3.compress`; `t0`, `t1` are the low and high word of the counter -/
def compress (o : Ops α) (iv cv : Oct α) (m : Blk α) (t0 t1 len fl : α) : Blk α :=
  let s := rounds o 7 (cv, ⟨iv.w0, iv.w1, iv.w2, iv.w3, t0, t1, len, fl⟩) m
  (Oct.zip o.xor s.1 s.2, Oct.zip o.xor s.2 cv)

def Oct.map (f : α → β) (x : Oct α) : Oct β :=
  ⟨f x.w0, f x.w1, f x.w2, f x.w3, f x.w4, f x.w5, f x.w6, f x.w7⟩

def Quad.map (f : α → β) (x : Quad α) : Quad β := ⟨f x.a, f x.b, f x.c, f x.d⟩

def Oct.toArray (x : Oct α) : Array α := #[x.w0, x.w1, x.w2, x.w3, x.w4, x.w5, x.w6, x.w7]

def Blk.toArray (x : Blk α) : Array α :=
  #[x.1.w0, x.1.w1, x.1.w2, x.1.w3, x.1.w4, x.1.w5, x.1.w6, x.1.w7,
    x.2.w0, x.2.w1, x.2.w2, x.2.w3, x.2.w4, x.2.w5, x.2.w6, x.2.w7]

theorem Blk.toArray_append (x : Blk α) : x.1.toArray ++ x.2.toArray = Blk.toArray x := by
  simp only [Blk.toArray, Oct.toArray, List.append_toArray, List.cons_append, List.nil_append]

/-! ## At `UInt32` it is `Blake3.compress` -/

def u32 : Ops UInt32 where
  add x y := x + y
  xor x y := x ^^^ y
  rotr n x := Blake3.rotr x n.toUInt32

theorem g_u32 (s : Array UInt32) (a b c d : Nat) (mx my : UInt32) :
    Blake3.g s a b c d mx my =
      (((s.set! a (g u32 s[a]! s[b]! s[c]! s[d]! mx my).a).set! b (g u32 s[a]! s[b]! s[c]! s[d]! mx my).b).set! c
        (g u32 s[a]! s[b]! s[c]! s[d]! mx my).c).set! d (g u32 s[a]! s[b]! s[c]! s[d]! mx my).d := rfl

theorem round_u32 (s m : Blk UInt32) :
    Blake3.round (Blk.toArray s) (Blk.toArray m) = Blk.toArray (round u32 s m) := by
  -- reads and writes at literal indices of sixteen-element array literals; `g` stays folded
  simp only [Blake3.round, g_u32, Blk.toArray, List.getElem!_toArray, List.getElem!_cons_succ,
    List.getElem!_cons_zero, Array.set!_eq_setIfInBounds, List.setIfInBounds_toArray, List.set_cons_succ,
    List.set_cons_zero]
  rfl

theorem permute_u32 (m : Blk UInt32) : Blake3.permute (Blk.toArray m) = Blk.toArray (permute m) := by
  simp only [Blake3.permute, Blake3.MSG_PERM, Blk.toArray, List.map_toArray, List.map_cons, List.map_nil,
    List.getElem!_toArray, List.getElem!_cons_succ, List.getElem!_cons_zero]
  rfl

theorem loop_u32 (n : Nat) (s m : Blk UInt32) :
    Blake3.compress.loop (n + 1) (Blk.toArray s) (Blk.toArray m) = Blk.toArray (rounds u32 (n + 1) s m) := by
  induction n generalizing s m with
  | zero => simp only [Blake3.compress.loop, round_u32, rounds, if_true]
  | succ n ih =>
    rw [Blake3.compress.loop, round_u32, permute_u32, if_neg (Nat.succ_ne_zero n), ih]; rfl

def iv32 : Oct UInt32 :=
  ⟨0x6A09E667, 0xBB67AE85, 0x3C6EF372, 0xA54FF53A, 0x510E527F, 0x9B05688C, 0x1F83D9AB, 0x5BE0CD19⟩

theorem range16 : Array.range 16 = #[0, 1, 2, 3, 4, 5, 6, 7, 8, 9, 10, 11, 12, 13, 14, 15] := rfl

theorem compress_u32 (cv : Oct UInt32) (m : Blk UInt32) (t : UInt64) (len fl : UInt32) :
    Blake3.compress cv.toArray (Blk.toArray m) t len fl =
      Blk.toArray (compress u32 iv32 cv m t.toUInt32 (t >>> 32).toUInt32 len fl) := by
  unfold Blake3.compress compress
  dsimp only
  -- the initial state, written with reads of `cv.toArray` and `Blake3.IV`, is that array by evaluation
  erw [loop_u32 6 (cv, ⟨iv32.w0, iv32.w1, iv32.w2, iv32.w3, t.toUInt32, (t >>> 32).toUInt32, len, fl⟩) m]
  generalize rounds u32 _ _ m = s
  simp only [range16, Blk.toArray, Oct.toArray, Oct.zip, u32, List.map_toArray, List.map_cons, List.map_nil,
    List.getElem!_toArray, List.getElem!_cons_succ, List.getElem!_cons_zero, Nat.reduceLT, Nat.reduceSub,
    if_true, if_false]

/-! ## `UInt32.ofNat` maps the instance over `Nat` onto it -/

def nat32 : Ops Nat where
  add x y := (x + y) % 4294967296
  xor x y := x ^^^ y
  rotr n x := (x % 4294967296) >>> n ||| x <<< (32 - n) % 4294967296

theorem ofNat_shiftRight (x n : Nat) (hn : n < 32) : UInt32.ofNat ((x % 4294967296) >>> n)
    = UInt32.ofNat x >>> UInt32.ofNat n := by
  have h1 : n % 4294967296 % 32 = n := by omega
  have h2 : (x % 4294967296) >>> n < 4294967296 := Nat.lt_of_le_of_lt (Nat.shiftRight_le _ _) (by omega)
  apply UInt32.toNat_inj.1
  simp only [UInt32.toNat_shiftRight, UInt32.toNat_ofNat', Nat.reducePow, h1, Nat.mod_eq_of_lt h2]

theorem ofNat_rotr (n x : Nat) (hn : 0 < n ∧ n < 32) : UInt32.ofNat (nat32.rotr n x)
    = u32.rotr n (UInt32.ofNat x) := by
  show UInt32.ofNat (_ ||| _ % 2 ^ 32)
      = UInt32.ofNat x >>> UInt32.ofNat n ||| UInt32.ofNat x <<< (UInt32.ofNat 32 - UInt32.ofNat n)
  rw [UInt32.ofNat_or, UInt32.ofNat_mod_size, ofNat_shiftRight x n hn.2, ← UInt32.ofNat_sub (by omega),
    UInt32.ofNat_shiftLeft _ _ (by omega)]

theorem g_ofNat (a b c d mx my : Nat) :
    g u32 (UInt32.ofNat a) (UInt32.ofNat b) (UInt32.ofNat c) (UInt32.ofNat d) (UInt32.ofNat mx)
        (UInt32.ofNat my) = (g nat32 a b c d mx my).map UInt32.ofNat := by
  have hadd (x y : Nat) : u32.add (UInt32.ofNat x) (UInt32.ofNat y) = UInt32.ofNat (nat32.add x y) :=
    ((UInt32.ofNat_mod_size (x := x + y)).trans (UInt32.ofNat_add x y)).symm
  have hxor (x y : Nat) : u32.xor (UInt32.ofNat x) (UInt32.ofNat y)
      = UInt32.ofNat (nat32.xor x y) := (UInt32.ofNat_xor x y).symm
  simp only [g, Quad.map, hadd, hxor, ← ofNat_rotr _ _ (by decide : 0 < 16 ∧ 16 < 32),
    ← ofNat_rotr _ _ (by decide : 0 < 12 ∧ 12 < 32), ← ofNat_rotr _ _ (by decide : 0 < 8 ∧ 8 < 32),
    ← ofNat_rotr _ _ (by decide : 0 < 7 ∧ 7 < 32)]

def Blk.map (f : α → β) (x : Blk α) : Blk β := (x.1.map f, x.2.map f)

theorem round_ofNat (s m : Blk Nat) : round u32 (s.map UInt32.ofNat) (m.map UInt32.ofNat)
    = (round nat32 s m).map UInt32.ofNat := by
  simp only [round, Blk.map, Oct.map, g_ofNat, Quad.map]

theorem rounds_ofNat (n : Nat) (s m : Blk Nat) :
    rounds u32 n (s.map UInt32.ofNat) (m.map UInt32.ofNat) = (rounds nat32 n s m).map UInt32.ofNat := by
  induction n generalizing s m with
  | zero => rfl
  | succ n ih =>
    -- `permute` only rearranges fields: `permute (m.map f) = (permute m).map f` by `rfl`
    show rounds u32 n (round u32 _ _) (Blk.map UInt32.ofNat (permute m)) = _
    rw [round_ofNat, ih]; rfl

theorem compress_ofNat (iv cv : Oct Nat) (m : Blk Nat) (t0 t1 len fl : Nat) :
    compress u32 (iv.map UInt32.ofNat) (cv.map UInt32.ofNat) (m.map UInt32.ofNat) (UInt32.ofNat t0)
        (UInt32.ofNat t1) (UInt32.ofNat len) (UInt32.ofNat fl) =
      (compress nat32 iv cv m t0 t1 len fl).map UInt32.ofNat := by
  have h := rounds_ofNat 7 (cv, ⟨iv.w0, iv.w1, iv.w2, iv.w3, t0, t1, len, fl⟩) m
  simp only [Blk.map, Oct.map] at h
  simp only [compress, Blk.map, Oct.map, h, Oct.zip]
  simp only [u32, nat32, UInt32.ofNat_xor]

def ivN : Oct Nat :=
  ⟨0x6A09E667, 0xBB67AE85, 0x3C6EF372, 0xA54FF53A, 0x510E527F, 0x9B05688C, 0x1F83D9AB, 0x5BE0CD19⟩

def compressN (cv : Oct Nat) (m : Blk Nat) (ctr len fl : Nat) : Blk Nat :=
  compress nat32 ivN cv m ctr ((ctr % 18446744073709551616) >>> 32) len fl

theorem compressN_eq (cv : Oct Nat) (m : Blk Nat) (ctr len fl : Nat) :
    Blake3.compress (cv.map UInt32.ofNat).toArray (Blk.toArray (m.map UInt32.ofNat)) ctr.toUInt64
        (UInt32.ofNat len) (UInt32.ofNat fl) =
      Blk.toArray ((compressN cv m ctr len fl).map UInt32.ofNat) := by
  have hlo : ctr.toUInt64.toUInt32 = UInt32.ofNat ctr := UInt64.toUInt32_ofNat' ctr
  have hhi : (ctr.toUInt64 >>> 32).toUInt32 = UInt32.ofNat ((ctr % 18446744073709551616) >>> 32) := by
    show UInt32.ofNat (UInt64.ofNat ctr >>> 32).toNat = _
    simp [UInt64.toNat_shiftRight]
  rw [compress_u32, hlo, hhi]
  exact congrArg Blk.toArray (compress_ofNat ivN cv m _ _ len fl)

/-- little-endian word of the first four bytes, zero padded -/
def word (bs : Bytes) : Nat :=
  (bs.getD 0 0).toNat ||| (bs.getD 1 0).toNat <<< 8 ||| (bs.getD 2 0).toNat <<< 16 |||
    (bs.getD 3 0).toNat <<< 24

def octOfBytes (bs : Bytes) : Oct Nat :=
  ⟨word bs, word (bs.drop 4), word (bs.drop 8), word (bs.drop 12), word (bs.drop 16), word (bs.drop 20),
    word (bs.drop 24), word (bs.drop 28)⟩

def blkOfBytes (bs : Bytes) : Blk Nat := (octOfBytes bs, octOfBytes (bs.drop 32))

theorem ofNat_word (bs : Bytes) (i : Nat) :
    UInt32.ofNat (word (bs.drop i)) = (bs.getD i 0).toUInt32 ||| (bs.getD (i + 1) 0).toUInt32 <<< 8 |||
      (bs.getD (i + 2) 0).toUInt32 <<< 16 ||| (bs.getD (i + 3) 0).toUInt32 <<< 24 := by
  simp [word, UInt32.ofNat_shiftLeft, List.getD_eq_getElem?_getD]

theorem wordsOfBytes_eq (bs : Bytes) : wordsOfBytes bs = Blk.toArray ((blkOfBytes bs).map UInt32.ofNat) := by
  have h0 := ofNat_word bs 0
  rw [List.drop_zero] at h0
  simp only [wordsOfBytes, range16, blkOfBytes, octOfBytes, Blk.map, Oct.map, Blk.toArray, List.drop_drop,
    ofNat_word, h0, List.map_toArray, List.map_cons, List.map_nil, Nat.reduceMul, Nat.reduceAdd, Nat.add_zero]

def le4 (x : Nat) : Bytes :=
  [(x % 4294967296).toUInt8, ((x % 4294967296) >>> 8).toUInt8, ((x % 4294967296) >>> 16).toUInt8,
    ((x % 4294967296) >>> 24).toUInt8]

/-- the eight words as 32 bytes, little endian -/
def bytesOfOct (c : Oct Nat) : Bytes :=
  le4 c.w0 ++ le4 c.w1 ++ le4 c.w2 ++ le4 c.w3 ++ le4 c.w4 ++ le4 c.w5 ++ le4 c.w6 ++ le4 c.w7

theorem bytesOfWords_eq (s : Blk Nat) : bytesOfWords (Blk.toArray (s.map UInt32.ofNat)) = bytesOfOct s.1 := by
  have hr : List.range 8 = [0, 1, 2, 3, 4, 5, 6, 7] := rfl
  have h (x : Nat) : [(UInt32.ofNat x).toUInt8, (UInt32.ofNat x >>> 8).toUInt8, (UInt32.ofNat x >>> 16).toUInt8,
      (UInt32.ofNat x >>> 24).toUInt8] = le4 x := by
    simp [le4, UInt32.toUInt8, UInt32.toNat_shiftRight]
  simp only [bytesOfWords, hr, bytesOfOct, ← h, Blk.map, Oct.map, Blk.toArray, List.flatMap_cons,
    List.flatMap_nil, List.cons_append, List.nil_append, List.append_nil, List.getElem!_toArray,
    List.getElem!_cons_succ, List.getElem!_cons_zero]

def flagN (start : Bool) (fl : Nat) : Nat := (if start then 1 else 0) ||| fl

/-- Unkeyed BLAKE3 over `Nat` words: `realBlockParams` with `compressN` for `Blake3.compress`
(flags: CHUNK_END = 2, PARENT = 4, ROOT = 8). -/
def natBlockParams : BlockParams (Oct Nat) Bytes where
  iv := ivN
  compressBlock cv block ctr start := (compressN cv (blkOfBytes block) ctr 64 (flagN start 0)).1
  finalCV cv block ctr start := (compressN cv (blkOfBytes block) ctr block.length (flagN start 2)).1
  finalRoot cv block _ start := bytesOfOct (compressN cv (blkOfBytes block) 0 block.length (flagN start 10)).1
  parentCV l r := (compressN ivN (l, r) 0 64 4).1
  parentRoot l r := bytesOfOct (compressN ivN (l, r) 0 64 12).1

theorem chaining_nat (cv : Oct Nat) (m : Blk Nat) (ctr len fl : Nat) :
    (Blake3.compress (cv.map UInt32.ofNat).toArray (Blk.toArray (m.map UInt32.ofNat)) ctr.toUInt64
        (UInt32.ofNat len)
      (UInt32.ofNat fl)).extract 0 8 = ((compressN cv m ctr len fl).1.map UInt32.ofNat).toArray := by
  rw [compressN_eq]; simp [Blk.toArray, Oct.toArray, Blk.map]

theorem root_nat (cv : Oct Nat) (m : Blk Nat) (ctr len fl : Nat) :
    bytesOfWords (Blake3.compress (cv.map UInt32.ofNat).toArray (Blk.toArray (m.map UInt32.ofNat))
        ctr.toUInt64 (UInt32.ofNat len)
      (UInt32.ofNat fl)) = bytesOfOct (compressN cv m ctr len fl).1 := by
  rw [compressN_eq, bytesOfWords_eq]

theorem natHom : BlockParams.Hom (fun c => (c.map UInt32.ofNat).toArray) natBlockParams realBlockParams := by
  have hfl (start : Bool) : startFlag start = UInt32.ofNat (flagN start 0) ∧
      startFlag start ||| Blake3.CHUNK_END = UInt32.ofNat (flagN start 2) ∧
      startFlag start ||| Blake3.CHUNK_END ||| Blake3.ROOT = UInt32.ofNat (flagN start 10) := by
    cases start <;> exact ⟨rfl, rfl, rfl⟩
  constructor
  · rfl
  · intro cv b c s
    show _ = (Blake3.compress _ (wordsOfBytes b) _ _ (startFlag s)).extract 0 8
    rw [wordsOfBytes_eq, (hfl s).1]
    exact (chaining_nat cv _ c 64 _).symm
  · intro cv b c s
    show _ = (Blake3.compress _ (wordsOfBytes b) _ _ (startFlag s ||| Blake3.CHUNK_END)).extract 0 8
    rw [wordsOfBytes_eq, (hfl s).2.1]
    exact (chaining_nat cv _ c _ _).symm
  · intro cv b c s
    show _ = bytesOfWords (Blake3.compress _ (wordsOfBytes b) _ _ (startFlag s ||| Blake3.CHUNK_END
        ||| Blake3.ROOT))
    rw [wordsOfBytes_eq, (hfl s).2.2]
    exact (root_nat cv _ 0 _ _).symm
  · intro l r
    exact (Blk.toArray_append _ ▸ chaining_nat ivN (l, r) 0 64 4).symm
  · intro l r
    exact (Blk.toArray_append _ ▸ root_nat ivN (l, r) 0 64 12).symm

theorem hashSpecReal_eq_nat (xs : Bytes) : hashSpecReal xs = hashSpec natBlockParams.toParams xs :=
  (natHom.treeHash _).symm

end Words

/-- For comparing a digest with a string literal in the kernel: string equality is decided on UTF-8
bytes, which is dear, whereas a literal unfolds to `String.ofList` of its characters, so that `l`
is found by unification and what is evaluated is an equation between lists of characters. -/
theorem toHex_eq_ofList {b : Bytes} {l : List Char}
    (h : (b.flatMap fun (x : UInt8) => [hexDigitL (x >>> 4), hexDigitL (x &&& 15)]) = l) :
    toHex b = String.ofList l :=
  congrArg String.ofList h

end Dud.Blake3Spec
