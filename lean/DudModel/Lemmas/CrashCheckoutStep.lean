import DudModel.Lemmas.CrashCheckout
import DudModel.Lemmas.CheckoutEq
/-!
# Crash safety of `dud checkout`: one file, the entries of a manifest, one directory

`KeptB` / `KeptP` say what happened to the entries the workspace held before the command: at a boundary
between two artifacts (`KeptB`: kept, or a link into the cache replaced by a complete copy of that very
object) and at any instant (`KeptP`: the link may be gone, the copy may be empty or incomplete).  Three facts
about a successful traced checkout, each by induction on `CheckoutTrace`: where it writes
(`CheckoutTrace.writes_below`: a fact of the trace alone), that entry names stay distinct
(`CheckoutTrace.uniq`: a fact of the logical result alone), and what it does to the file system
(`CheckoutTrace.step`: `StepRes` — the state afterwards agrees with the new node (`AbsAt`,
`Lemmas/CrashCheckout.lean`), `KeptP` after every prefix, `KeptB` at the end; one file: `checkoutFileT_step`).
`Lemmas/CrashCheckoutCmd.lean` continues with one `LocalCache.Checkout` and the whole command.
-/
namespace Dud.Sys
open Dud
variable {κ : Type} {st : Strat}

/-- **between two artifacts**: every workspace entry of `fs0` is still there, unchanged — or (copy
strategy only) it was a link to a cache object and is now a regular file holding exactly the bytes of that
object -/
def KeptB (st : Strat) (fs0 fs : FS κ) : Prop :=
  ∀ q e, fs0.get (.ws q) = some e →
    fs.get (.ws q) = some e ∨
    st = .copy ∧ ∃ d x m0 m, e = .link (.obj d) ∧ fs0.get (.obj d) = some (.file x m0) ∧
      fs.get (.ws q) = some (.file x m)

/-- **at any instant**: every workspace entry of `fs0` is still there, unchanged — or (copy strategy only)
it was a link to a cache object `d` (holding the bytes `x`) and the path is now absent (the link was
removed), an empty or incomplete regular file (the copy is being written), or a regular file holding `x` -/
def KeptP (st : Strat) (emp : κ) (fs0 fs : FS κ) : Prop :=
  ∀ q e, fs0.get (.ws q) = some e →
    fs.get (.ws q) = some e ∨
    st = .copy ∧ ∃ d x m0, e = .link (.obj d) ∧ fs0.get (.obj d) = some (.file x m0) ∧
      (fs.get (.ws q) = none ∨ ∃ m, fs.get (.ws q) = some (.file emp m) ∨
        fs.get (.ws q) = some (.torn m) ∨ fs.get (.ws q) = some (.file x m))

theorem KeptB.refl (st : Strat) (fs0 : FS κ) : KeptB st fs0 fs0 := fun _ _ h => .inl h

theorem KeptB.toP {fs0 fs : FS κ} (emp : κ) (h : KeptB st fs0 fs) : KeptP st emp fs0 fs := by
  intro q e he
  rcases h q e he with h | ⟨hc, d, x, m0, m, h1, h2, h3⟩
  · exact .inl h
  · exact .inr ⟨hc, d, x, m0, h1, h2, .inr ⟨m, .inr (.inr h3)⟩⟩

/-- an entry is kept as it is under the link strategy, and under the copy strategy unless it is a link to
a cache object -/
theorem KeptP.keep {emp : κ} {fs0 fs : FS κ} (h : KeptP st emp fs0 fs) {q : List Name} {e : Entry κ}
    (he : fs0.get (.ws q) = some e) (hn : st = .link ∨ ∀ d, e ≠ .link (.obj d)) :
    fs.get (.ws q) = some e := by
  rcases h q e he with h1 | ⟨hc, d, _, _, hd, -⟩
  · exact h1
  · rcases hn with hl | hn
    · rw [hl] at hc; cases hc
    · exact absurd hd (hn d)

theorem KeptB.absent_before {fs0 fs : FS κ} (h : KeptB st fs0 fs) {q : List Name} (hq : fs.get (.ws q) = none) :
    fs0.get (.ws q) = none := by
  cases h0 : fs0.get (.ws q) with
  | none => rfl
  | some e =>
    rcases h q e h0 with h | ⟨-, d, x, m0, m, -, -, h3⟩
    · rw [hq] at h; cases h
    · rw [hq] at h3; cases h3

theorem KeptB.link_before {fs0 fs : FS κ} (h : KeptB st fs0 fs) {q : List Name} {t : P}
    (hq : fs.get (.ws q) = some (.link t)) :
    fs0.get (.ws q) = none ∨ fs0.get (.ws q) = some (.link t) := by
  cases h0 : fs0.get (.ws q) with
  | none => exact .inl rfl
  | some e =>
    rcases h q e h0 with h | ⟨-, d, x, m0, m, -, -, h3⟩
    · rw [hq] at h; cases h; exact .inr rfl
    · rw [hq] at h3; cases h3

theorem KeptB.frame {fs0 fs fs' : FS κ} (h : KeptB st fs0 fs)
    (hfr : ∀ q, fs0.get (.ws q) ≠ none → fs'.get (.ws q) = fs.get (.ws q)) : KeptB st fs0 fs' := by
  intro q e he
  rw [hfr q (by rw [he]; simp)]
  exact h q e he

theorem keptB_take_of_absent {fs0 fs : FS κ} (hk : KeptB st fs0 fs) (emp : κ) (calls : List (Call κ))
    (hw : ∀ c ∈ calls, ∀ p ∈ callWrites c, ∃ q, p = .ws q ∧ fs0.get (.ws q) = none) (k : Nat) :
    KeptB st fs0 (replay emp fs (calls.take k)) := by
  refine hk.frame (fun q hq => ?_)
  refine replay_take_get_frame emp calls _ fs (fun c hc hmem => ?_) k
  obtain ⟨q', hq', h0⟩ := hw c hc _ hmem
  injection hq' with hq'
  subst hq'
  exact hq h0

theorem pref_keptP_of_absent {fs0 fs : FS κ} (hk : KeptB st fs0 fs) (emp : κ) (calls : List (Call κ))
    (hw : ∀ c ∈ calls, ∀ p ∈ callWrites c, ∃ q, p = .ws q ∧ fs0.get (.ws q) = none) :
    Pref (KeptP st emp fs0) emp fs calls ∧ KeptB st fs0 (replay emp fs calls) := by
  refine ⟨fun k => (keptB_take_of_absent hk emp calls hw k).toP emp, ?_⟩
  have := keptB_take_of_absent hk emp calls hw calls.length
  rwa [List.take_length] at this

theorem checkoutFileCalls_final {emp : κ} {isEmp : κ → Bool} (hemp : ∀ c, isEmp c = true → c = emp)
    (strat : Strat) (w : P) (b : Bool) (x : κ) (d : Digest) {fs : FS κ}
    (hpre : if b then fs.get w = some (.link (.obj d)) else fs.get w = none)
    (hb : b = true → strat = .copy) :
    (replay emp fs (checkoutFileCalls isEmp strat w b x d)).get w =
      match strat with
      | .link => some (.link (.obj d))
      | .copy => some (.file x 0o600) := by
  -- the trace has at most four calls: it is evaluated in each of the eight cases
  cases he : isEmp x with
  | false => cases strat <;> cases b <;> simp_all [checkoutFileCalls, replay, apply, FS.get_set, FS.get_del]
  | true =>
    obtain rfl := hemp x he
    cases strat <;> cases b <;> simp_all [checkoutFileCalls, replay, apply, FS.get_set, FS.get_del]

/-- copy over a link to the very object: the state of the path after every prefix -/
theorem checkoutFileCalls_copy_over_link {emp : κ} {isEmp : κ → Bool}
    (hemp : ∀ c, isEmp c = true → c = emp) (w : P) (x : κ) (d : Digest) {fs : FS κ}
    (hpre : fs.get w = some (.link (.obj d))) (k : Nat) :
    let e := (replay emp fs ((checkoutFileCalls isEmp .copy w true x d).take k)).get w
    e = some (.link (.obj d)) ∨ e = none ∨ ∃ m, e = some (.file emp m) ∨ e = some (.torn m) ∨
      e = some (.file x m) := by
  -- the trace has two or four calls: every prefix is evaluated
  cases he : isEmp x with
  | true =>
    have := hemp x he; subst this
    rcases k with _ | _ | _ | k <;>
      simp [checkoutFileCalls, he, replay, apply, hpre, FS.get_set, FS.get_del]
  | false =>
    rcases k with _ | _ | _ | _ | _ | k <;>
      simp [checkoutFileCalls, he, replay, apply, hpre, FS.get_set, FS.get_del]

theorem checkoutFileT_cases {t : TCfg κ} {w : P} {cur : Option (Node κ)} {sum : Digest} {s : Store κ}
    {r : Node κ} {calls : List (Call κ)} (h : checkoutFileT t w cur sum s = .ok (r, calls)) :
    (cur = some r ∧ calls = []) ∨
    (∃ o, s.get sum = some o ∧ cur = none ∧
      calls = checkoutFileCalls t.isEmp t.strat w false (o.bytes t.ctx) sum ∧
      r = (match t.strat with
        | .copy => .file (o.bytes t.ctx)
        | .link => .link (.obj sum))) ∨
    (∃ o, s.get sum = some o ∧ cur = some (.link (.obj sum)) ∧ t.strat = .copy ∧
      calls = checkoutFileCalls t.isEmp .copy w true (o.bytes t.ctx) sum ∧ r = .file (o.bytes t.ctx)) := by
  unfold checkoutFileT at h
  split at h
  · cases h
  rename_i r' hcf
  obtain ⟨hhas, hin, o, ho, ⟨c, rfl, hH, rfl⟩ | ⟨hup, hcur, hres⟩⟩ := checkoutFile_ok hcf
  · simp only [show upToDateCopy t.ctx (some (.file c)) sum = true from beq_iff_eq.2 hH, if_true,
      Except.ok.injEq, Prod.mk.injEq] at h
    exact .inl ⟨by rw [← h.1], h.2.symm⟩
  · simp only [hup, ho, Bool.false_eq_true, if_false, Except.ok.injEq, Prod.mk.injEq] at h
    obtain ⟨rfl, rfl⟩ := h
    rcases hcur with rfl | rfl
    · refine .inr (.inl ⟨o, ho, rfl, rfl, ?_⟩)
      rcases hres with ⟨hst, rfl⟩ | ⟨hst, rfl, -⟩ <;> rw [hst]
    · have hcm : (quick s sum (some (.link (.obj sum)))).cm = true := quick_cm.2 ⟨rfl, hhas, hin⟩
      rw [hcm]
      rcases hres with ⟨hst, rfl⟩ | ⟨hst, rfl, -⟩
      · exact .inl ⟨rfl, by rw [hst]; rfl⟩
      · exact .inr (.inr ⟨o, ho, rfl, hst, by rw [hst], rfl⟩)

/-- every path the trace writes is a workspace path at or below `pre` -/
def Below (pre : List Name) (calls : List (Call κ)) : Prop :=
  ∀ c ∈ calls, ∀ p ∈ callWrites c, ∃ rel, p = .ws (pre ++ rel)

/-- … strictly below `pre`: the entry at `pre` itself is not written -/
def BelowStrict (pre : List Name) (calls : List (Call κ)) : Prop :=
  ∀ c ∈ calls, ∀ p ∈ callWrites c, ∃ nm rel, p = .ws (pre ++ nm :: rel)

theorem Below.append {pre : List Name} {l1 l2 : List (Call κ)} (h1 : Below pre l1) (h2 : Below pre l2) :
    Below pre (l1 ++ l2) :=
  List.forall_mem_append.2 ⟨h1, h2⟩

theorem BelowStrict.append {pre : List Name} {l1 l2 : List (Call κ)} (h1 : BelowStrict pre l1)
    (h2 : BelowStrict pre l2) : BelowStrict pre (l1 ++ l2) :=
  List.forall_mem_append.2 ⟨h1, h2⟩

/-- a trace below the entry `a` of the directory at `pre` leaves the directory itself and the other entries
alone -/
theorem Below.frame_dir {pre : List Name} {a : Name} {calls : List (Call κ)}
    (h : Below (pre ++ [a]) calls) (emp : κ) (fs : FS κ) :
    (replay emp fs calls).get (.ws pre) = fs.get (.ws pre) ∧ ∀ b r, b ≠ a →
      (replay emp fs calls).get (.ws (pre ++ b :: r)) = fs.get (.ws (pre ++ b :: r)) := by
  refine ⟨replay_get_frame emp calls _ fs (fun c hc hmem => ?_), fun b r hab =>
    replay_get_frame emp calls _ fs (fun c hc hmem => ?_)⟩
  · obtain ⟨rel, h⟩ := h c hc _ hmem
    exact ws_append_ne_self pre a rel (by simpa using h.symm)
  · obtain ⟨rel, h⟩ := h c hc _ hmem
    exact ws_child_ne hab r rel h

theorem Below.up {pre r : List Name} {calls : List (Call κ)} (h : Below (pre ++ r) calls) : Below pre calls := by
  intro c hc p hp
  obtain ⟨rel, h⟩ := h c hc p hp
  exact ⟨r ++ rel, by rw [h, List.append_assoc]⟩

/-- what one traced checkout step (a file, a directory, an artifact, the whole command) guarantees; where it
writes is a fact about the trace alone (`CheckoutTrace.writes_below`) -/
structure StepRes (st : Strat) (emp : κ) (fs0 : FS κ) (pre : List Name) (r : Node κ) (fs : FS κ)
    (calls : List (Call κ)) : Prop where
  /-- afterwards the file system agrees with the new node -/
  abs : AbsAt pre (some r) (replay emp fs calls)
  /-- after every prefix the old entries are kept (up to a link being replaced by a copy) -/
  pref : Pref (KeptP st emp fs0) emp fs calls
  /-- afterwards the old entries are kept (up to links replaced by complete copies) -/
  kept : KeptB st fs0 (replay emp fs calls)

theorem StepRes.nil {emp : κ} {fs0 fs : FS κ} {pre : List Name} {r : Node κ} (ha : AbsAt pre (some r) fs)
    (hk : KeptB st fs0 fs) : StepRes st emp fs0 pre r fs [] :=
  ⟨ha, Pref.nil (hk.toP emp), hk⟩

theorem StepRes.append {emp : κ} {fs0 fs : FS κ} {pre : List Name} {r1 r2 : Node κ} {l1 l2 : List (Call κ)}
    (h1 : StepRes st emp fs0 pre r1 fs l1) (h2 : StepRes st emp fs0 pre r2 (replay emp fs l1) l2) :
    StepRes st emp fs0 pre r2 fs (l1 ++ l2) :=
  ⟨replay_append emp fs l1 l2 ▸ h2.abs, h1.pref.append h2.pref, replay_append emp fs l1 l2 ▸ h2.kept⟩

/-- a call that writes no workspace path is a step that leaves the node as it is -/
theorem StepRes.nonWs {emp : κ} {fs0 fs : FS κ} {pre : List Name} {r : Node κ} (x : Call κ)
    (hx : ∀ q, P.ws q ∉ callWrites x) (ha : AbsAt pre (some r) fs) (hk : KeptB st fs0 fs) :
    StepRes st emp fs0 pre r fs [x] :=
  have hfr : ∀ q, (replay emp fs [x]).get (.ws q) = fs.get (.ws q) := fun q => apply_get_frame emp fs x _ (hx q)
  have hk' := hk.frame fun q _ => hfr q
  ⟨ha.frame fun _ => hfr _, Pref.cons (hk.toP emp) (Pref.nil (hk'.toP emp)), hk'⟩

/-- one level up: a step at the entry `c` of an existing directory -/
theorem StepRes.entry {emp : κ} {fs0 fs : FS κ} {pre : List Name} {c : Name} {n : Node κ}
    {es : List (Name × Node κ)} {calls : List (Call κ)} (h0 : fs.get (.ws pre) = some .dir)
    (hl : AbsList pre es fs) (hb : Below (pre ++ [c]) calls) (h : StepRes st emp fs0 (pre ++ [c]) n fs calls) :
    StepRes st emp fs0 pre (.dir (setEntry es c n)) fs calls := by
  obtain ⟨hself, hsib⟩ := hb.frame_dir emp fs
  refine ⟨AbsAt.dir (hself.trans h0) fun nm r => ?_, h.pref, h.kept⟩
  by_cases hnm : nm = c
  · subst hnm
    rw [alookup_setEntry_self]
    simpa [List.append_assoc] using h.abs r
  · rw [alookup_setEntry_ne _ _ (Ne.symm hnm), hsib nm r hnm]
    exact hl nm r

/-- a step at an absent path that begins by creating the directory -/
theorem StepRes.mkdir {emp : κ} {fs0 fs : FS κ} {pre : List Name} {r : Node κ} {calls : List (Call κ)}
    (ha : AbsAt pre none fs) (hk : KeptB st fs0 fs)
    (h : ∀ fs1, fs1.get (.ws pre) = some .dir → AbsList pre [] fs1 → KeptB st fs0 fs1 →
      StepRes st emp fs0 pre r fs1 calls) :
    StepRes st emp fs0 pre r fs (.mkdir (.ws pre) :: calls) := by
  have hnone : fs.get (.ws pre) = none := by simpa [getOpt, EntOK] using ha []
  have hfr : ∀ q, q ≠ pre → (apply emp fs (.mkdir (.ws pre))).get (.ws q) = fs.get (.ws q) := by
    intro q hq
    exact apply_get_frame emp fs _ _ (by simpa [callWrites, callPaths] using hq)
  have r1 := h (apply emp fs (.mkdir (.ws pre))) (by simp [apply, hnone, FS.get_set])
    (fun nm r => by
      rw [hfr _ (fun h => ws_append_ne_self pre nm r (by rw [h]))]
      simpa [alookup, getOpt] using ha (nm :: r))
    (hk.frame (fun q hq => hfr q (fun h => by subst h; exact hq (hk.absent_before hnone))))
  exact ⟨by rw [replay_cons]; exact r1.abs, Pref.cons (hk.toP emp) r1.pref, by rw [replay_cons]; exact r1.kept⟩

theorem absAt_leaf_after {pre : List Name} {cur : Option (Node κ)} {r : Node κ} {fs fs' : FS κ}
    (ha : AbsAt pre cur fs) (hcur : ∀ nm r', getOpt cur (nm :: r') = none) (hr : r.isDir = false)
    (h0 : EntOK (some r) (fs'.get (.ws pre)))
    (hfr : ∀ nm r', fs'.get (.ws (pre ++ nm :: r')) = fs.get (.ws (pre ++ nm :: r'))) :
    AbsAt pre (some r) fs' := by
  intro r'
  cases r' with
  | nil => simpa [getOpt, getPath] using h0
  | cons nm r' =>
    rw [getOpt_leaf_cons hr, hfr]
    have := ha (nm :: r')
    rwa [hcur] at this

theorem checkoutFileT_step {t : TCfg κ} {emp : κ} (hemp : ∀ c, t.isEmp c = true → c = emp)
    {pre : List Name} {cur : Option (Node κ)} {sum : Digest} {s : Store κ} {r : Node κ}
    {calls : List (Call κ)} (h : checkoutFileT t (.ws pre) cur sum s = .ok (r, calls))
    {fs0 fs : FS κ} (hobj : ObjIn t.ctx s fs0) (ha : AbsAt pre cur fs) (hk : KeptB t.strat fs0 fs) :
    StepRes t.strat emp fs0 pre r fs calls := by
  -- every other path is left alone, after every prefix and at the end
  have hfr : ∀ (b : Bool) (x : κ) (st : Strat) (p : P), p ≠ .ws pre → ∀ k,
      (replay emp fs ((checkoutFileCalls t.isEmp st (.ws pre) b x sum).take k)).get p = fs.get p :=
    fun b x st p hp k => replay_take_get_frame emp _ _ fs
      (fun c hc hmem => hp (checkoutFileCalls_writes _ _ _ _ _ _ c hc _ hmem)) k
  have hfr' : ∀ (b : Bool) (x : κ) (st : Strat) (p : P), p ≠ .ws pre →
      (replay emp fs (checkoutFileCalls t.isEmp st (.ws pre) b x sum)).get p = fs.get p :=
    fun b x st p hp => replay_get_frame emp _ _ fs
      (fun c hc hmem => hp (checkoutFileCalls_writes _ _ _ _ _ _ c hc _ hmem))
  rcases checkoutFileT_cases h with ⟨rfl, rfl⟩ | ⟨o, hg, rfl, rfl, rfl⟩ | ⟨o, hg, rfl, hst, rfl, rfl⟩
  · exact .nil ha hk
  · -- nothing at the path
    have hnone : fs.get (.ws pre) = none := by simpa [getOpt, EntOK] using ha []
    obtain ⟨hp, hkb⟩ := pref_keptP_of_absent hk emp
      (checkoutFileCalls t.isEmp t.strat (.ws pre) false (o.bytes t.ctx) sum)
      (fun c hc p hp => ⟨pre, checkoutFileCalls_writes _ _ _ _ _ _ c hc p hp, hk.absent_before hnone⟩)
    have hfin := checkoutFileCalls_final hemp t.strat (.ws pre) false (o.bytes t.ctx) sum
      (fs := fs) (by simpa using hnone) (by intro h; cases h)
    refine ⟨?_, hp, hkb⟩
    refine absAt_leaf_after ha (fun _ _ => rfl) (by cases t.strat <;> rfl) ?_
      (fun nm r' => hfr' _ _ _ _ (ws_append_ne_self pre nm r'))
    rw [hfin]
    cases t.strat <;> simp [EntOK]
  · -- a link to the very object, copy strategy
    have hlink : fs.get (.ws pre) = some (.link (.obj sum)) := by simpa [getOpt, getPath, EntOK] using ha []
    have hfin := checkoutFileCalls_final hemp .copy (.ws pre) true (o.bytes t.ctx) sum
      (fs := fs) (by simpa using hlink) (fun _ => rfl)
    simp only at hfin
    have habs : AbsAt pre (some (.file (o.bytes t.ctx)))
        (replay emp fs (checkoutFileCalls t.isEmp .copy (.ws pre) true (o.bytes t.ctx) sum)) := by
      refine absAt_leaf_after ha (fun _ _ => rfl) rfl ?_ (fun nm r' => hfr' _ _ _ _ (ws_append_ne_self pre nm r'))
      rw [hfin]; exact ⟨_, rfl⟩
    rcases hk.link_before hlink with h0 | h0
    · -- the link was made by this very command: nothing of `fs0` is at the path
      obtain ⟨hp, hkb⟩ := pref_keptP_of_absent hk emp _
        (fun c hc p hp => ⟨pre, checkoutFileCalls_writes _ _ _ _ _ _ c hc p hp, h0⟩)
      exact ⟨habs, hp, hkb⟩
    · obtain ⟨m0, hm0⟩ := hobj sum o hg
      refine ⟨habs, fun k q e he => ?_, fun q e he => ?_⟩
      · by_cases hq : q = pre
        · subst hq
          obtain rfl : Entry.link (.obj sum) = e := Option.some.inj (h0.symm.trans he)
          rcases checkoutFileCalls_copy_over_link (isEmp := t.isEmp) hemp (.ws q) (o.bytes t.ctx) sum hlink k
            with h1 | h1 | ⟨m, h1⟩
          · exact .inl h1
          · exact .inr ⟨hst, sum, _, m0, rfl, hm0, .inl h1⟩
          · exact .inr ⟨hst, sum, _, m0, rfl, hm0, .inr ⟨m, h1⟩⟩
        · rw [hfr _ _ _ _ (fun h => hq (P.ws.inj h)) k]
          exact hk.toP emp q e he
      · by_cases hq : q = pre
        · subst hq
          obtain rfl : Entry.link (.obj sum) = e := Option.some.inj (h0.symm.trans he)
          exact .inr ⟨hst, sum, _, m0, _, rfl, hm0, hfin⟩
        · rw [hfr' _ _ _ _ (fun h => hq (P.ws.inj h))]
          exact hk q e he

theorem uniqOpt_alookup {es : List (Name × Node κ)} (hu : uniqList es) (nm : Name) :
    uniqOpt (alookup es nm) := by
  cases h : alookup es nm with
  | none => trivial
  | some n => exact uniqNode_of_alookup hu h

/-- every write of a traced checkout is a workspace path at or below its own -/
theorem CheckoutTrace.writes_below {t : TCfg κ} {s : Store κ} {pre : List Name} {cs : List Child}
    {cur : Option (Node κ)} {r : Node κ} {full : Bool} {calls : List (Call κ)}
    (h : CheckoutTrace t s pre cs cur r full calls) : Below pre calls := by
  induction h with
  | @file pre _ _ _ _ _ hF =>
    rcases checkoutFileT_calls hF with rfl | ⟨b, x, rfl⟩
    · exact fun _ hc => nomatch hc
    · exact fun c hc p hp => ⟨[], by simpa using checkoutFileCalls_writes _ _ _ _ _ _ c hc p hp⟩
  | dir _ _ _ ih => exact ih
  | mkdir _ _ _ ih => exact List.forall_mem_cons.2 ⟨fun p hp => ⟨[], by simpa [callWrites, callPaths] using hp⟩, ih⟩
  | nil => exact fun _ hc => nomatch hc
  | cons _ _ ih1 ih2 => exact ih1.up.append ih2

/-- **One traced `checkoutDir` / `checkoutFile`**, at any depth; for the loop over the entries of a
directory the node at the path is the directory with the listing reached so far. -/
theorem CheckoutTrace.step {t : TCfg κ} {emp : κ} (hemp : ∀ c, t.isEmp c = true → c = emp)
    {s : Store κ} {fs0 : FS κ} (hobj : ObjIn t.ctx s fs0) {pre : List Name} {cs : List Child}
    {cur : Option (Node κ)} {r : Node κ} {full : Bool} {calls : List (Call κ)}
    (h : CheckoutTrace t s pre cs cur r full calls) {fs : FS κ} (ha : AbsAt pre cur fs)
    (hk : KeptB t.strat fs0 fs) : StepRes t.strat emp fs0 pre r fs calls := by
  induction h generalizing fs with
  | file _ hF => exact checkoutFileT_step hemp hF hobj ha hk
  | dir _ _ _ ih => exact ih ha hk
  | mkdir _ _ _ ih => exact StepRes.mkdir ha hk fun fs1 hdir hl hk1 => ih (AbsAt.dir hdir hl) hk1
  | nil => exact .nil ha hk
  | cons h1 _ ih1 ih2 =>
    have hl := AbsList.of_dir ha
    have d1 := (ih1 (hl.child _) hk).entry (by simpa [getOpt, getPath, EntOK] using ha []) hl h1.writes_below
    exact d1.append (ih2 d1.abs d1.kept)

/-- entry names stay pairwise distinct -/
theorem CheckoutTrace.uniq {t : TCfg κ} {s : Store κ} {pre : List Name} {cs : List Child}
    {cur : Option (Node κ)} {r : Node κ} {full : Bool} {calls : List (Call κ)}
    (h : CheckoutTrace t s pre cs cur r full calls) (hu : uniqOpt cur) : uniqNode r := by
  induction h with
  | file _ hF =>
    rcases checkoutFileT_cases hF with ⟨rfl, -⟩ | ⟨_, -, -, -, rfl⟩ | ⟨_, -, -, -, -, rfl⟩
    · exact hu
    · split <;> trivial
    · trivial
  | dir _ _ _ ih => exact ih hu
  | mkdir _ _ _ ih => exact ih (by simp [uniqOpt, uniqNode, uniqList])
  | nil => exact hu
  | cons _ _ ih1 ih2 => exact ih2 (uniqList_setEntry hu (ih1 (uniqOpt_alookup hu _)))

end Dud.Sys
