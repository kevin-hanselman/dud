import DudModel.Lemmas.CrashCmd
import DudModel.Props.C03
/-!
# `dud commit` between lock and unlock: segments of artifact commits and stage-file rewrites, in any order

`cmdCommitT` issues all stage-file rewrites after all artifacts, `cmdCommitGoT` after each target.  Both
traces are `goCalls segs` for a list of segments each of which is the trace of one `LocalCache.Commit` or the
rewrite of one stage file.

What is said about the stage files does not depend on the order of such segments (`stageSegs`).  What is
said about the cache and the workspace (`CmdInv`) is kept by every step of the command (`CmdInv.art`,
`CmdInv.stage`, `CmdInv.meta`: the three hypotheses of `goTargets_segs` / `cmdCommitT_segs`).
-/
namespace Dud.Sys
open Dud
variable {κ : Type}

def flatSegs (segs : List (Bool × List (Call κ))) : List (Call κ) := (segs.map (·.2)).flatten

theorem flatSegs_nil : flatSegs ([] : List (Bool × List (Call κ))) = [] := rfl

theorem flatSegs_append (a b : List (Bool × List (Call κ))) :
    flatSegs (a ++ b) = flatSegs a ++ flatSegs b := by
  simp [flatSegs]

theorem flatSegs_arts (arts : List (List (Call κ))) :
    flatSegs (arts.map (fun s => (true, s))) = arts.flatten := by
  simp [flatSegs, Function.comp_def]

theorem flatSegs_metas (f : Bytes → List (Call κ)) (l : List Bytes) :
    flatSegs (l.map (fun sp => (false, f sp))) = (l.map f).flatten := by
  simp [flatSegs, Function.comp_def]

theorem goCalls_eq (segs : List (Bool × List (Call κ))) :
    goCalls segs = [.createExcl .lock] ++ flatSegs segs ++ [.unlink .lock] := rfl

theorem cmdCommitGoSegs_ok_inv {c : CmdCfg κ} {strat : Strat} {targets : List Bytes} {w w' : World κ}
    {segs : List (Bool × List (Call κ))} (h : cmdCommitGoSegs c strat targets w = .ok (w', segs)) :
    goTargets c strat (if targets.isEmpty then allStages w else targets) (fresh w, []) = .ok (w', segs) := by
  unfold cmdCommitGoSegs at h
  simp only at h
  generalize (if targets.isEmpty then allStages w else targets) = ts at h ⊢
  split at h
  · cases h
  · exact h

theorem cmdCommitGoT_segs_inv {c : CmdCfg κ} {strat : Strat} {targets : List Bytes} {w w' : World κ}
    {calls : List (Call κ)} (h : cmdCommitGoT c strat targets w = .ok (w', calls)) :
    ∃ segs, cmdCommitGoSegs c strat targets w = .ok (w', segs) ∧ calls = goCalls segs := by
  unfold cmdCommitGoT at h
  split at h
  · cases h
  rename_i w1 segs hs
  cases h
  exact ⟨segs, hs, rfl⟩

theorem cmdCommitGoT_ok_inv {c : CmdCfg κ} {strat : Strat} {targets : List Bytes} {w w' : World κ}
    {calls : List (Call κ)} (h : cmdCommitGoT c strat targets w = .ok (w', calls)) :
    ∃ segs, goTargets c strat (if targets.isEmpty then allStages w else targets) (fresh w, []) = .ok (w', segs) ∧
      calls = [.createExcl .lock] ++ flatSegs segs ++ [.unlink .lock] :=
  let ⟨segs, hs, hc⟩ := cmdCommitGoT_segs_inv h
  ⟨segs, cmdCommitGoSegs_ok_inv hs, hc⟩

/-- the stage file `sp` is not torn: it holds `old` or the complete encoding of a stage satisfying `good` -/
def StageOK (c : CmdCfg κ) (good : Stage → Prop) (sp : Bytes) (old : Option (Entry κ)) (fs : FS κ) : Prop :=
  fs.get (.stageFile sp) = old ∨
    ∃ stg m, good stg ∧ fs.get (.stageFile sp) = some (.file (c.encStage stg) m)

theorem stageOK_frame {c : CmdCfg κ} {good : Stage → Prop} {sp : Bytes} {old : Option (Entry κ)} (emp : κ)
    {fs : FS κ} (h : StageOK c good sp old fs) {calls : List (Call κ)}
    (hc : ∀ x ∈ calls, P.stageFile sp ∉ callWrites x) : Pref (StageOK c good sp old) emp fs calls := by
  intro k
  unfold StageOK
  rw [replay_get_frame emp _ _ _ (fun x hx => hc x (List.mem_of_mem_take hx))]
  exact h

def NoStage (x : Call κ) : Prop := ∀ sp, P.stageFile sp ∉ callWrites x ∧ P.stageTmp sp ∉ callWrites x

theorem noStage_of_cacheOnly {x : Call κ} (h : CacheOnly x) : NoStage x :=
  fun _ => ⟨cacheOnly_not_writes h rfl, cacheOnly_not_writes h rfl⟩

/-- a segment of the command: calls away from the stage files, or the rewrite of one stage file with a
stage that satisfies `good` -/
def SegOK (c : CmdCfg κ) (good : Bytes → Stage → Prop) (seg : List (Call κ)) : Prop :=
  (∀ x ∈ seg, NoStage x) ∨
    ∃ idx sp, seg = stageWriteCalls c idx sp ∧ ∀ stg, alookup idx sp = some stg → good sp stg

theorem SegOK.mono {c : CmdCfg κ} {good good' : Bytes → Stage → Prop} {seg : List (Call κ)}
    (h : SegOK c good seg) (hm : ∀ sp stg, good sp stg → good' sp stg) : SegOK c good' seg :=
  h.imp id fun ⟨idx, sp, he, hg⟩ => ⟨idx, sp, he, fun stg hs => hm sp stg (hg stg hs)⟩

theorem segOK_lock (c : CmdCfg κ) (good : Bytes → Stage → Prop) :
    SegOK c good [.createExcl .lock] ∧ SegOK c good [.unlink .lock] := by
  constructor <;> refine .inl fun x hx sp => ?_ <;> simp at hx <;> subst hx <;> simp [callWrites, callPaths]

theorem segOK_step {c : CmdCfg κ} (hat : stageAtomic = true) {emp : κ}
    (hemp : ∀ x, c.isEmp x = true → x = emp) {good : Bytes → Stage → Prop} {seg : List (Call κ)}
    (hs : SegOK c good seg) {fs : FS κ} (htf : StageTmpFree fs) :
    StageTmpFree (replay emp fs seg) ∧ ∀ sp old, StageOK c (good sp) sp old fs →
      Pref (StageOK c (good sp) sp old) emp fs seg := by
  rcases hs with hns | ⟨idx, x, rfl, hg⟩
  · refine ⟨fun sp => ?_, fun sp old h0 => stageOK_frame emp h0 (fun y hy => (hns y hy sp).1)⟩
    rw [replay_get_frame emp _ _ _ (fun y hy => (hns y hy sp).2)]
    exact htf sp
  · refine ⟨stageWriteCalls_tmp_free c hat emp idx x htf, fun sp old h0 => ?_⟩
    by_cases hx : x = sp
    · subst hx
      unfold stageWriteCalls
      cases hst : alookup idx x with
      | none => exact Pref.nil h0
      | some stg =>
        simp only [hat]
        intro j
        rcases meta_atomic emp c.isEmp hemp fs (.stageFile x) (.stageTmp x) (by simp) (htf x)
          (c.encStage stg) j with h | ⟨m, h⟩
        · unfold StageOK; rw [h]; exact h0
        · exact .inr ⟨stg, m, hg stg hst, h⟩
    · refine stageOK_frame emp h0 (fun y hy hmem => ?_)
      rcases stageWriteCalls_paths c idx x y hy _ (callWrites_sub _ _ hmem) with h | h
      · injection h with h; exact hx h.symm
      · cases h

/-- **Segments in any order**, from a state without stage temp files: none is left, and at every prefix every
stage file holds what it held before or the complete encoding of a stage that satisfies `good`. -/
theorem stageSegs {c : CmdCfg κ} (hat : stageAtomic = true) {emp : κ}
    (hemp : ∀ x, c.isEmp x = true → x = emp) {good : Bytes → Stage → Prop} :
    ∀ (L : List (List (Call κ))) (fs : FS κ), StageTmpFree fs → (∀ s ∈ L, SegOK c good s) →
      StageTmpFree (replay emp fs L.flatten) ∧ ∀ sp old, StageOK c (good sp) sp old fs →
        Pref (StageOK c (good sp) sp old) emp fs L.flatten
  | [], _, htf, _ => ⟨htf, fun _ _ h0 => Pref.nil h0⟩
  | s :: L, fs, htf, hs => by
    obtain ⟨htf1, hst1⟩ := segOK_step hat hemp (hs s List.mem_cons_self) htf
    obtain ⟨htf2, hst2⟩ := stageSegs hat hemp L _ htf1 (fun t ht => hs t (List.mem_cons_of_mem _ ht))
    simp only [List.flatten_cons, replay_append]
    exact ⟨htf2, fun sp old h0 => (hst1 sp old h0).append (hst2 sp old (hst1 sp old h0).final)⟩

theorem segOK_cmd {c : CmdCfg κ} {good : Bytes → Stage → Prop} {segs : List (Bool × List (Call κ))}
    (hs : ∀ seg ∈ segs, SegOK c good seg.2) :
    ∀ s ∈ [Call.createExcl P.lock] :: (segs.map (·.2) ++ [[Call.unlink P.lock]]), SegOK c good s := by
  intro s hs'
  simp only [List.mem_cons, List.mem_append, List.mem_map, List.not_mem_nil, or_false] at hs'
  rcases hs' with rfl | ⟨seg, hseg, rfl⟩ | rfl
  · exact (segOK_lock c good).1
  · exact hs seg hseg
  · exact (segOK_lock c good).2

theorem flatten_cmd (segs : List (Bool × List (Call κ))) :
    ([Call.createExcl P.lock] :: (segs.map (·.2) ++ [[Call.unlink P.lock]])).flatten = goCalls segs := by
  simp [goCalls]

/-- … between lock and unlock -/
theorem stageSegs_cmd {c : CmdCfg κ} (hat : stageAtomic = true) {emp : κ}
    (hemp : ∀ x, c.isEmp x = true → x = emp) {good : Bytes → Stage → Prop}
    {segs : List (Bool × List (Call κ))} (hs : ∀ seg ∈ segs, SegOK c good seg.2) {fs : FS κ}
    (htf : StageTmpFree fs) :
    StageTmpFree (replay emp fs (goCalls segs)) ∧
      ∀ sp, Pref (StageOK c (good sp) sp (fs.get (.stageFile sp))) emp fs (goCalls segs) := by
  have h := stageSegs hat hemp _ fs htf (segOK_cmd hs)
  rw [flatten_cmd] at h
  exact ⟨h.1, fun sp => h.2 sp _ (.inl rfl)⟩

/-- a stage file that has been rewritten holds a complete encoding from then on -/
theorem stageSegs_written {c : CmdCfg κ} (hat : stageAtomic = true) {emp : κ}
    (hemp : ∀ x, c.isEmp x = true → x = emp) {good : Bytes → Stage → Prop}
    {L L1 L2 : List (List (Call κ))} {idx : Index} {sp : Bytes}
    (hL : L = L1 ++ stageWriteCalls c idx sp :: L2) (hs : ∀ s ∈ L, SegOK c good s)
    {stg : Stage} (hst : alookup idx sp = some stg) (hg : good sp stg) {fs : FS κ} (htf : StageTmpFree fs) :
    ∃ stg' m, good sp stg' ∧
      (replay emp fs L.flatten).get (.stageFile sp) = some (.file (c.encStage stg') m) := by
  subst hL
  have htf1 := (stageSegs hat hemp L1 fs htf (fun s h => hs s (List.mem_append_left _ h))).1
  simp only [List.flatten_append, List.flatten_cons, replay_append]
  generalize replay emp fs L1.flatten = fs1 at htf1
  have hw : (replay emp fs1 (stageWriteCalls c idx sp)).get (.stageFile sp)
      = some (.file (c.encStage stg) 0o600) := by
    simp only [stageWriteCalls, hst, hat]
    exact metaWrite_final emp c.isEmp hemp fs1 _ _ (htf1 sp) _
  rcases ((stageSegs hat hemp L2 _ (stageWriteCalls_tmp_free c hat emp idx sp htf1)
    (fun s h => hs s (List.mem_append_right _ (List.mem_cons_of_mem _ h)))).2 sp
    (some (.file (c.encStage stg) 0o600)) (.inl hw)).final with h | h
  · exact ⟨stg, _, hg, h⟩
  · exact h

theorem stageWriteCalls_noLock (c : CmdCfg κ) (idx : Index) (sp : Bytes) :
    ∀ x ∈ stageWriteCalls c idx sp, P.lock ∉ callWrites x := by
  intro x hx hmem
  rcases stageWriteCalls_paths c idx sp x hx _ (callWrites_sub _ _ hmem) with h | h <;> cases h

theorem segs_phase {c : CmdCfg κ} {good good' : Bytes → Stage → Prop} {segs : List (Bool × List (Call κ))}
    {arts : List (List (Call κ))} {idx' : Index} {l : List Bytes}
    (h : ∀ seg ∈ segs, SegOK c good seg.2) (hm : ∀ sp stg, good sp stg → good' sp stg)
    (ha : ∀ x ∈ arts.flatten, CacheOnly x)
    (hl : ∀ sp ∈ l, ∀ stg, alookup idx' sp = some stg → good' sp stg) :
    ∀ seg ∈ segs ++ arts.map (fun s => (true, s)) ++ l.map (fun sp => (false, stageWriteCalls c idx' sp)),
      SegOK c good' seg.2 := by
  intro seg hseg
  simp only [List.mem_append, List.mem_map] at hseg
  rcases hseg with (h1 | ⟨s, hs, rfl⟩) | ⟨sp, hsp, rfl⟩
  · exact (h seg h1).mono hm
  · exact .inl fun x hx => noStage_of_cacheOnly (ha x (List.mem_flatten.2 ⟨s, hs, hx⟩))
  · exact .inr ⟨idx', sp, rfl, hl sp hsp⟩

/-- the world and the segments issued so far, relative to the state `fsb` right after the lock was taken -/
structure CmdInv (c : CmdCfg κ) (emp : κ) (tracked : List (P × κ)) (fsb : FS κ)
    (p : World κ × List (Bool × List (Call κ))) : Prop where
  allowed : AllowedTrace c.cfg.ctx emp tracked fsb (flatSegs p.2)
  rel : Rel p.1.ws (replay emp fsb (flatSegs p.2))
  noLock : ∀ x ∈ flatSegs p.2, P.lock ∉ callWrites x
  segs : ∀ seg ∈ p.2, SegOK c (fun _ _ => True) seg.2

theorem CmdInv.init {c : CmdCfg κ} {emp : κ} {tracked : List (P × κ)} {fsb : FS κ} {w : World κ}
    (hr : Rel w.ws fsb) : CmdInv c emp tracked fsb (w, []) where
  allowed := trivial
  rel := hr
  noLock := by intro x hx; simp [flatSegs] at hx
  segs := by intro seg hseg; cases hseg

/-- **One more segment**: its calls are allowed in the state reached and leave the lock alone, and the state after
them is related to the workspace. -/
theorem CmdInv.snoc {c : CmdCfg κ} {tracked : List (P × κ)} {emp : κ} {fsb : FS κ} {w w' : World κ}
    {sg : List (Bool × List (Call κ))} {b : Bool} {seg : List (Call κ)} (hi : CmdInv c emp tracked fsb (w, sg))
    (ha : AllowedTrace c.cfg.ctx emp tracked (replay emp fsb (flatSegs sg)) seg)
    (hr : Rel w'.ws (replay emp (replay emp fsb (flatSegs sg)) seg))
    (hl : ∀ x ∈ seg, P.lock ∉ callWrites x) (hs : SegOK c (fun _ _ => True) seg) :
    CmdInv c emp tracked fsb (w', sg ++ [(b, seg)]) := by
  have hf : flatSegs (sg ++ [(b, seg)]) = flatSegs sg ++ seg := by simp [flatSegs]
  refine ⟨?_, ?_, ?_, List.forall_mem_append.2 ⟨hi.segs, List.forall_mem_singleton.2 hs⟩⟩ <;> simp only [hf]
  · exact hi.allowed.append ha
  · rw [replay_append]; exact hr
  · exact fun x hx => (List.mem_append.1 hx).elim (hi.noLock x) (hl x)

section Steps
variable {c : CmdCfg κ} {strat : Strat} (g : Good c.cfg.ctx) {tracked : List (P × κ)}
  (htw : TrackedWs tracked) {emp : κ} (hemp : ∀ x, c.isEmp x = true → x = emp) {fsb : FS κ}
  (hsb : Safe c.cfg.ctx tracked fsb)

include g htw hemp hsb in
theorem CmdInv.art (a a' : Art) (w1 w2 : World κ) (seg : List (Call κ)) (sg : List (Bool × List (Call κ)))
    (_ : StageArt w1.idx a)
    (hi : CmdInv c emp tracked fsb (w1, sg)) (h : commitArtWT c strat a w1 = .ok ((a', w2), seg)) :
    CmdInv c emp tracked fsb (w2, sg ++ [(true, seg)]) := by
  obtain ⟨ha, hr, hc⟩ := commitArtWT_step g htw hemp h (hi.allowed.safe_final g hsb) hi.rel
  exact hi.snoc ha hr (fun x hx => cacheOnly_not_writes (hc x hx) rfl)
    (.inl fun x hx => noStage_of_cacheOnly (hc x hx))

theorem CmdInv.stage (sp : Bytes) (w w' : World κ) (segs : List (List (Call κ))) (w2 : World κ)
    (sg : List (Bool × List (Call κ))) (_ : commitActT c strat sp w = .ok (w', segs)) (_ : w2.idx = w.idx)
    (hws : w'.ws = w2.ws) (hi : CmdInv c emp tracked fsb (w2, sg)) : CmdInv c emp tracked fsb (w', sg) :=
  ⟨hi.allowed, by simpa [hws] using hi.rel, hi.noLock, hi.segs⟩

include htw in
theorem CmdInv.meta (w : World κ) (sp : Bytes) (sg : List (Bool × List (Call κ)))
    (hi : CmdInv c emp tracked fsb (w, sg)) :
    CmdInv c emp tracked fsb (w, sg ++ [(false, stageWriteCalls c w.idx sp)]) :=
  have hm := stageWriteCalls_metaOnly c w.idx sp
  hi.snoc (allowedTrace_of_harmless htw emp _ (fun x hx => harmless_of_metaOnly (hm x hx)) _)
    (hi.rel.frame emp _ (fun x hx => metaOnly_frame (hm x hx)))
    (stageWriteCalls_noLock c w.idx sp) (.inr ⟨_, _, rfl, fun _ _ => trivial⟩)

end Steps

/-- all stage files last -/
theorem cmdCommitT_cmdInv {c : CmdCfg κ} {strat : Strat} (g : Good c.cfg.ctx) {tracked : List (P × κ)}
    (htw : TrackedWs tracked) {emp : κ} (hemp : ∀ x, c.isEmp x = true → x = emp) {fsb : FS κ}
    (hsb : Safe c.cfg.ctx tracked fsb) {targets : List Bytes} {w w' : World κ} {calls : List (Call κ)}
    (hr : Rel w.ws fsb) (h : cmdCommitT c strat targets w = .ok (w', calls)) :
    ∃ segs, calls = [.createExcl .lock] ++ flatSegs segs ++ [.unlink .lock] ∧
      CmdInv c emp tracked fsb (w', segs) := by
  obtain ⟨arts, hpt, rfl⟩ := cmdCommitT_ok_inv h
  exact ⟨_, rfl, cmdCommitT_segs (Q := fun w sg => CmdInv c emp tracked fsb (w, sg))
    (CmdInv.art g htw hemp hsb) CmdInv.stage (CmdInv.meta htw) hpt (CmdInv.init hr)⟩

/-- all stage files last, any configuration and any world: the segments are traces of artifacts, on cache and
workspace paths, followed by the rewrites of the stage files of the committed stages with the final index -/
theorem cmdCommitT_segOK {c : CmdCfg κ} {strat : Strat} {targets : List Bytes} {w w' : World κ}
    {calls : List (Call κ)} (h : cmdCommitT c strat targets w = .ok (w', calls)) :
    ∃ arts : List (List (Call κ)), calls = goCalls (arts.map (fun s => (true, s)) ++
        w'.done.reverse.map (fun sp => (false, stageWriteCalls c w'.idx sp))) ∧
      ∀ seg ∈ arts.map (fun s => (true, s)) ++
        w'.done.reverse.map (fun sp => (false, stageWriteCalls c w'.idx sp)),
        SegOK c (fun sp stg => alookup w'.idx sp = some stg) seg.2 := by
  obtain ⟨arts, hpt, rfl⟩ := cmdCommitT_ok_inv h
  have hq := cmdCommitT_segs (Q := fun _ sg => ∀ seg ∈ sg, seg.1 = true → ∀ x ∈ seg.2, CacheOnly x)
    (fun _ _ _ _ _ _ _ hq h1 => List.forall_mem_append.2 ⟨hq, List.forall_mem_singleton.2
      fun _ => commitArtWT_cacheOnly h1⟩)
    (fun _ _ _ _ _ _ _ _ _ hq => hq)
    (fun _ _ _ hq => List.forall_mem_append.2 ⟨hq, List.forall_mem_singleton.2 fun ht => nomatch ht⟩)
    hpt (by simp)
  refine ⟨arts, rfl, segs_phase (segs := []) (good := fun sp stg => alookup w'.idx sp = some stg) (by simp)
    (fun _ _ h => h) (fun x hx => ?_) (fun _ _ _ h => h)⟩
  obtain ⟨s, hs, hx⟩ := List.mem_flatten.1 hx
  exact hq (true, s) (List.mem_append_left _ (List.mem_map.2 ⟨s, hs, rfl⟩)) rfl x hx

theorem metaOnly_lock : (∀ x ∈ ([.createExcl .lock] : List (Call κ)), MetaOnly x) ∧
    ∀ x ∈ ([.unlink .lock] : List (Call κ)), MetaOnly x := by
  constructor <;> intro x hx p hp <;> simp at hx <;> subst hx <;> simp [callPaths] at hp <;> subst hp <;> rfl

theorem lockCalls_harmless : Harmless (Call.createExcl (κ := κ) .lock) ∧ Harmless (Call.unlink (κ := κ) .lock) :=
  ⟨harmless_of_metaOnly (metaOnly_lock.1 _ (List.mem_singleton_self _)),
    harmless_of_metaOnly (metaOnly_lock.2 _ (List.mem_singleton_self _))⟩

theorem lock_window (emp : κ) (fs : FS κ) (mid : List (Call κ)) (hfs : fs.get .lock = none)
    (hmid : ∀ x ∈ mid, P.lock ∉ callWrites x) :
    ∀ k, (replay emp fs ((Call.createExcl P.lock :: (mid ++ [Call.unlink P.lock])).take k)).get .lock =
      if 0 < k ∧ k < mid.length + 2 then some (.file emp 0o600) else none := by
  intro k
  cases k with
  | zero => simpa [replay] using hfs
  | succ k =>
    have h1 : (apply emp fs (.createExcl .lock)).get .lock = some (.file emp 0o600) :=
      get_createExcl_self hfs
    simp only [List.take_succ_cons, replay_cons]
    by_cases hk : k ≤ mid.length
    · rw [List.take_append_of_le_length hk, replay_get_frame emp _ _ _
        (fun x hx => hmid x (List.mem_of_mem_take hx)), h1]
      have : 0 < k + 1 ∧ k + 1 < mid.length + 2 := by omega
      simp [this]
    · rw [List.take_of_length_le (by simp; omega), replay_append]
      have : ¬ (0 < k + 1 ∧ k + 1 < mid.length + 2) := by omega
      simp only [this, if_false]
      exact get_unlink_self (emp := emp)

/-- … for a command: lock, calls that leave the lock path alone, unlock -/
theorem lock_window_cmd (emp : κ) {fs : FS κ} {mid calls : List (Call κ)}
    (hc : calls = [.createExcl .lock] ++ mid ++ [.unlink .lock]) (hfs : fs.get .lock = none)
    (hmid : ∀ x ∈ mid, P.lock ∉ callWrites x) :
    2 ≤ calls.length ∧ calls.head? = some (.createExcl .lock) ∧ calls.getLast? = some (.unlink .lock) ∧
    ∀ k, (replay emp fs (calls.take k)).get .lock =
      if 0 < k ∧ k < calls.length then some (.file emp 0o600) else none := by
  subst hc
  refine ⟨by simp, by simp, List.getLast?_concat, fun k => ?_⟩
  have hassoc : [Call.createExcl P.lock] ++ mid ++ [Call.unlink P.lock] =
      Call.createExcl P.lock :: (mid ++ [Call.unlink P.lock]) := by simp
  rw [hassoc, lock_window emp _ _ hfs hmid k]
  simp

section Run
variable {c : CmdCfg κ} {emp : κ} {tracked : List (P × κ)} {fs0 : FS κ} {w w' : World κ}
  {segs : List (Bool × List (Call κ))}

theorem lock_safe (g : Good c.cfg.ctx) (htw : TrackedWs tracked) (hs0 : Safe c.cfg.ctx tracked fs0) :
    Safe c.cfg.ctx tracked (replay emp fs0 [.createExcl .lock]) :=
  (allowedTrace_of_harmless htw emp _ (List.forall_mem_singleton.2 lockCalls_harmless.1) fs0).safe_final
    g hs0

theorem lock_rel (hr0 : Rel w.ws fs0) : Rel (fresh w).ws (replay emp fs0 [.createExcl .lock]) :=
  hr0.frame emp _ (fun x hx => metaOnly_frame (metaOnly_lock.1 x hx))

variable (hi : CmdInv c emp tracked (replay emp fs0 [.createExcl .lock]) (w', segs))
include hi

theorem CmdInv.allowed_cmd (htw : TrackedWs tracked) :
    AllowedTrace c.cfg.ctx emp tracked fs0 (goCalls segs) :=
  ((allowedTrace_of_harmless htw emp _ (List.forall_mem_singleton.2 lockCalls_harmless.1) fs0).append
    hi.allowed).append
    (allowedTrace_of_harmless htw emp _ (List.forall_mem_singleton.2 lockCalls_harmless.2) _)

/-- after the last call: regular files of the final logical workspace in place, no temp file left, lock
gone -/
theorem CmdInv.final (hat : stageAtomic = true) (hemp : ∀ x, c.isEmp x = true → x = emp)
    (htf : StageTmpFree fs0) :
    Rel w'.ws (replay emp fs0 (goCalls segs)) ∧ StageTmpFree (replay emp fs0 (goCalls segs)) ∧
      (replay emp fs0 (goCalls segs)).get .lock = none := by
  refine ⟨?_, (stageSegs_cmd hat hemp hi.segs htf).1, ?_⟩
  · have hrel := hi.rel
    rw [← replay_append] at hrel
    rw [goCalls_eq, replay_append]
    exact hrel.frame emp _ (fun x hx => metaOnly_frame (metaOnly_lock.2 x hx))
  · rw [goCalls_eq, replay_append]
    exact get_unlink_self (emp := emp)

end Run

/-- `Pref`, under the name `GInv.stage` is stated with -/
def PrefixAll (Q : FS κ → Prop) (emp : κ) (fs : FS κ) (calls : List (Call κ)) : Prop :=
  ∀ k, Q (replay emp fs (calls.take k))

theorem PrefixAll.append {Q : FS κ → Prop} {emp : κ} {fs : FS κ} {l1 l2 : List (Call κ)}
    (h1 : PrefixAll Q emp fs l1) (h2 : PrefixAll Q emp (replay emp fs l1) l2) :
    PrefixAll Q emp fs (l1 ++ l2) := Pref.append h1 h2

/-- `StageOK` without a condition on the stage (`stageQ_iff_stageOK`) -/
def StageQ (c : CmdCfg κ) (sp : Bytes) (old : Option (Entry κ)) (fs : FS κ) : Prop :=
  fs.get (.stageFile sp) = old ∨ ∃ stg m, fs.get (.stageFile sp) = some (.file (c.encStage stg) m)

theorem stageQ_iff_stageOK {c : CmdCfg κ} {sp : Bytes} {old : Option (Entry κ)} {fs : FS κ} :
    StageQ c sp old fs ↔ StageOK c (fun _ => True) sp old fs :=
  or_congr Iff.rfl ⟨fun ⟨stg, m, h⟩ => ⟨stg, m, trivial, h⟩, fun ⟨stg, m, _, h⟩ => ⟨stg, m, h⟩⟩

/-- `CmdInv` with its consequences for the stage files spelt out (`CmdInv.ginv`): what `cmdCommitGoT_run`
returns -/
structure GInv (c : CmdCfg κ) (emp : κ) (tracked : List (P × κ)) (fsb : FS κ)
    (p : World κ × List (Bool × List (Call κ))) : Prop where
  allowed : AllowedTrace c.cfg.ctx emp tracked fsb (flatSegs p.2)
  rel : Rel p.1.ws (replay emp fsb (flatSegs p.2))
  noLock : ∀ x ∈ flatSegs p.2, P.lock ∉ callWrites x
  tmpFree : StageTmpFree (replay emp fsb (flatSegs p.2))
  stage : ∀ sp, PrefixAll (StageQ c sp (fsb.get (.stageFile sp))) emp fsb (flatSegs p.2)

theorem CmdInv.ginv {c : CmdCfg κ} (hat : stageAtomic = true) {emp : κ}
    (hemp : ∀ x, c.isEmp x = true → x = emp) {tracked : List (P × κ)} {fsb : FS κ}
    {p : World κ × List (Bool × List (Call κ))} (hi : CmdInv c emp tracked fsb p) (htf : StageTmpFree fsb) :
    GInv c emp tracked fsb p := by
  obtain ⟨h1, h2⟩ := stageSegs hat hemp (p.2.map (·.2)) fsb htf (by
    intro s hs; obtain ⟨seg, hseg, rfl⟩ := List.mem_map.1 hs; exact hi.segs seg hseg)
  exact ⟨hi.allowed, hi.rel, hi.noLock, h1, fun sp => (h2 sp _ (.inl rfl)).mono
    fun _ => stageQ_iff_stageOK.2⟩

end Dud.Sys
