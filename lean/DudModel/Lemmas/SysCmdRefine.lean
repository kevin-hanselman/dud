import DudModel.SysCmd
import DudModel.Lemmas.CrashTree
import DudModel.Lemmas.Run
import DudModel.Lemmas.Trav
/-!
# The traced `dud commit` (`SysCmd.lean`) against the logical command

The traced functions carry the call list next to the world.  A traversal on such richer states commutes with
the projection to the world when its three fields do (`visit_lift` of `Lemmas/Trav.lean`: the `…_refines`
theorems at the end of the file), and a property every action preserves holds at the end of a successful
traversal (`visit_keeps` of `Lemmas/Trav.lean`, `perTargetP_keeps`, `goTargets_keeps`).  Each traced function gets
one inversion of a successful run (`commitArtWT_inv` … `cmdCommitT_ok_inv`; those of `cmdCommitGoT` stand next
to `flatSegs` in `CrashCmdGo.lean`).  What the command-level results use is the induction over the steps of a
successful run (`goTargets_segs`, `cmdCommitT_segs`), the counterpart of `cmdCheckoutSegs_induct` for
`dud checkout`.
-/
namespace Dud.Sys
open Dud
variable {κ : Type}

theorem perTargetP_lift {β : Type} {f' : Bytes → World κ × β → Except Err (World κ × β)}
    {f : Bytes → World κ → Except Err (World κ)} (hf : ∀ t p, (f' t p).map (·.1) = f t p.1)
    (ts : List Bytes) : ∀ (p : World κ × β), (perTargetP f' ts p).map (·.1) = perTarget f ts p.1 := by
  induction ts with
  | nil => intro _; rfl
  | cons t r ih =>
    intro p
    simp only [perTargetP, perTarget]
    split
    · rfl
    · rw [← hf t p]
      cases f' t p with
      | error e => rfl
      | ok p1 => exact ih p1

theorem perTargetP_keeps {β : Type} {f : Bytes → World κ × β → Except Err (World κ × β)}
    {Q : World κ × β → Prop} (hf : ∀ t p p', Q p → f t p = .ok p' → Q p') :
    ∀ (ts : List Bytes) (p p' : World κ × β), Q p → perTargetP f ts p = .ok p' → Q p'
  | [], p, p', hq, h => by simp only [perTargetP] at h; cases h; exact hq
  | t :: r, p, p', hq, h => by
    simp only [perTargetP] at h
    split at h
    · cases h
    · split at h
      · cases h
      · rename_i p1 hfo
        exact perTargetP_keeps hf r p1 p' (hf t p p1 hq hfo) h

theorem goTargets_keeps {c : CmdCfg κ} {strat : Strat} {Q : World κ × List (Bool × List (Call κ)) → Prop}
    (ts : List Bytes) : ∀ (p p' : World κ × List (Bool × List (Call κ))),
    (∀ t ∈ ts, ∀ p w' arts, Q p →
      visit (commitTravT c strat) true (p.1.idx.length + 1) (allStages p.1) t (p.1, []) = .ok (w', arts) →
      Q (w', p.2 ++ arts.map (fun s => (true, s)) ++
        (newlyDone p.1.done w'.done).map (fun sp => (false, stageWriteCalls c w'.idx sp)))) →
    Q p → goTargets c strat ts p = .ok p' → Q p' := by
  induction ts with
  | nil => intro p p' _ hq h; simp only [goTargets] at h; cases h; exact hq
  | cons t r ih =>
    intro p p' hstep hq h
    simp only [goTargets] at h
    split at h
    · cases h
    · split at h
      · cases h
      · rename_i w' arts hv
        exact ih _ p' (fun t' ht' => hstep t' (List.mem_cons_of_mem _ ht'))
          (hstep t List.mem_cons_self p w' arts hq hv) h

theorem commitArtWT_inv {c : CmdCfg κ} {strat : Strat} {a a' : Art} {w w' : World κ} {calls : List (Call κ)}
    (h : commitArtWT c strat a w = .ok ((a', w'), calls)) :
    ∃ n d s ws', commitArtT (c.tc strat) a (Path.comps a.path) (getPath w.ws (Path.comps a.path)) w.store
        = .ok ((n, d, s), calls) ∧
      setPath w.ws (Path.comps a.path) n = some ws' ∧ a' = { a with sum := d } ∧
      w' = { w with ws := ws', store := s } := by
  unfold commitArtWT at h
  simp only at h
  split at h
  · cases h
  · rename_i n d s calls1 hT
    split at h
    · cases h
    · rename_i ws' hset
      simp only [Except.ok.injEq, Prod.mk.injEq] at h
      obtain ⟨⟨rfl, rfl⟩, rfl⟩ := h
      exact ⟨n, d, s, ws', hT, hset, rfl, rfl⟩

theorem commitArtsT_induct {c : CmdCfg κ} {strat : Strat} {Q : World κ → List (List (Call κ)) → Prop}
    (as : List Art) : ∀ (w : World κ) (as' : List Art) (w' : World κ) (sg segs : List (List (Call κ))),
    (∀ a ∈ as, ∀ a' w1 w2 seg sg, Q w1 sg → commitArtWT c strat a w1 = .ok ((a', w2), seg) →
      Q w2 (sg ++ [seg])) →
    Q w sg → commitArtsT c strat as w = .ok ((as', w'), segs) → Q w' (sg ++ segs) := by
  induction as with
  | nil =>
    intro w as' w' sg segs _ hq h
    simp only [commitArtsT, Except.ok.injEq, Prod.mk.injEq] at h
    obtain ⟨⟨-, rfl⟩, rfl⟩ := h
    simpa using hq
  | cons a r ih =>
    intro w as' w' sg segs hart hq h
    simp only [commitArtsT] at h
    split at h
    · cases h
    · rename_i a1 w1 calls1 h1
      split at h
      · cases h
      · rename_i r' w2 segs2 h2
        simp only [Except.ok.injEq, Prod.mk.injEq] at h
        obtain ⟨⟨-, rfl⟩, rfl⟩ := h
        have := ih w1 r' w2 (sg ++ [calls1]) segs2 (fun b hb => hart b (List.mem_cons_of_mem _ hb))
          (hart a List.mem_cons_self a1 w w1 calls1 sg hq h1) h2
        simpa using this

theorem commitActT_inv {c : CmdCfg κ} {strat : Strat} {sp : Bytes} {w w' : World κ}
    {segs : List (List (Call κ))} (h : commitActT c strat sp w = .ok (w', segs)) :
    ∃ stg plain' w1 segs1 outs' w2 segs2, w.stage sp = .ok stg ∧
      commitArtsT c strat (sortArts ((stg.inputs.filter
        (fun a => (findOwner c.cfg.walkAccumulates w.idx a.path).isNone)).map
        (fun a => { a with skip := true }))) w = .ok ((plain', w1), segs1) ∧
      commitArtsT c strat (sortArts stg.outputs) w1 = .ok ((outs', w2), segs2) ∧
      segs = segs1 ++ segs2 ∧ w'.ws = w2.ws := by
  unfold commitActT at h
  split at h
  · cases h
  · rename_i stg hst
    simp only at h
    split at h
    · cases h
    · rename_i plain' w1 segs1 h1
      split at h
      · cases h
      · rename_i outs' w2 segs2 h2
        simp only [Except.ok.injEq, Prod.mk.injEq] at h
        obtain ⟨rfl, rfl⟩ := h
        exact ⟨stg, plain', w1, segs1, outs', w2, segs2, hst, h1, h2, rfl, rfl⟩

theorem commitTravT_act_inv {c : CmdCfg κ} {strat : Strat} {sp : Bytes}
    {p p' : World κ × List (List (Call κ))} (h : (commitTravT c strat).act sp p = .ok p') :
    ∃ w' segs, commitActT c strat sp p.1 = .ok (w', segs) ∧ p' = (w', p.2 ++ segs) := by
  simp only [commitTravT] at h
  split at h
  · cases h
  · rename_i w' segs hT
    cases h
    exact ⟨w', segs, hT, rfl⟩

theorem cmdCommitT_ok_inv {c : CmdCfg κ} {strat : Strat} {targets : List Bytes} {w w' : World κ}
    {calls : List (Call κ)} (h : cmdCommitT c strat targets w = .ok (w', calls)) :
    ∃ arts, perTargetP (fun t (p : World κ × List (List (Call κ))) =>
          visit (commitTravT c strat) true (p.1.idx.length + 1) (allStages p.1) t p)
        (if targets.isEmpty then allStages w else targets) (fresh w, []) = .ok (w', arts) ∧
      calls = goCalls (arts.map (fun s => (true, s)) ++
        w'.done.reverse.map (fun sp => (false, stageWriteCalls c w'.idx sp))) := by
  unfold cmdCommitT at h
  split at h
  · cases h
  rename_i w1 t hs
  cases h
  unfold cmdCommitSegs at hs
  simp only at hs
  generalize (if targets.isEmpty then allStages w else targets) = ts at hs ⊢
  split at hs
  · cases hs
  split at hs
  · cases hs
  rename_i w2 arts hv
  cases hs
  exact ⟨arts, hv, by simp [CmdTrace.calls, goCalls, Function.comp_def]⟩

theorem commitArtsT_calls {c : CmdCfg κ} {strat : Strat} {as : List Art} {R : Art → Call κ → Prop}
    (hart : ∀ a ∈ as, ∀ w r calls, commitArtWT c strat a w = .ok (r, calls) → ∀ x ∈ calls, R a x)
    {w : World κ} {res : List Art × World κ} {segs : List (List (Call κ))}
    (h : commitArtsT c strat as w = .ok (res, segs)) : ∀ x ∈ segs.flatten, ∃ a ∈ as, R a x := by
  have := commitArtsT_induct (Q := fun _ sg => ∀ x ∈ sg.flatten, ∃ a ∈ as, R a x) as w res.1 res.2 [] segs
    (fun a ha a' w1 w2 seg sg hq h1 x hx => ?_) (by simp) h
  · simpa using this
  · simp only [List.flatten_append, List.flatten_cons, List.flatten_nil, List.append_nil,
      List.mem_append] at hx
    exact hx.elim (hq x) fun hx => ⟨a, ha, hart a ha w1 _ seg h1 x hx⟩

/-! ## induction over a successful `dud commit`

Between lock and unlock the command is a sequence of three kinds of step, in either order of the stage-file
writes: one `LocalCache.Commit` (`commitArtWT`, which changes workspace and cache and issues one segment), the
end of a stage (`commitActT` records the checksums in the index and marks the stage done: no call), the rewrite
of one stage file with the index as it is then (one segment, the world stays).  A property of (world,
segments so far) that the three keep holds at the end: `goTargets_segs` for Go's order (after
`cmdCommitGoT_ok_inv`), `cmdCommitT_segs` for all stage files last (after `cmdCommitT_ok_inv`). -/

/-- what `commitActT` hands to `LocalCache.Commit`: an output of a stage of the index, or an input with `skip`
forced -/
def StageArt (idx : Index) (a : Art) : Prop :=
  ∃ sp stg, alookup idx sp = some stg ∧ (a ∈ stg.outputs ∨ ∃ b ∈ stg.inputs, a = { b with skip := true })

section Segs
-- in `hstage`, `w2` is the world after the artifacts of the stage (the index still that of `w`) and `w'` what
-- `commitActT` returns: the workspace of `w2`, the index updated, the stage marked done
variable {c : CmdCfg κ} {strat : Strat} {Q : World κ → List (Bool × List (Call κ)) → Prop}
  (hart : ∀ a a' w1 w2 seg sg, StageArt w1.idx a → Q w1 sg →
    commitArtWT c strat a w1 = .ok ((a', w2), seg) → Q w2 (sg ++ [(true, seg)]))
  (hstage : ∀ sp w w' segs w2 sg, commitActT c strat sp w = .ok (w', segs) → w2.idx = w.idx →
    w'.ws = w2.ws → Q w2 sg → Q w' sg)
  (hmeta : ∀ w sp sg, Q w sg → Q w (sg ++ [(false, stageWriteCalls c w.idx sp)]))

include hart in
theorem commitArtsT_segs {as as' : List Art} {w w' : World κ} {segs : List (List (Call κ))}
    {sg : List (Bool × List (Call κ))}
    (has : ∀ a ∈ as, StageArt w.idx a)
    (hq : Q w sg) (h : commitArtsT c strat as w = .ok ((as', w'), segs)) :
    Q w' (sg ++ segs.map (fun s => (true, s))) ∧ w'.idx = w.idx := by
  have := commitArtsT_induct
    (Q := fun w1 l => Q w1 (sg ++ l.map (fun s => (true, s))) ∧ w1.idx = w.idx)
    as w as' w' [] segs (fun a ha a' w1 w2 seg l hq h1 => ?_) ⟨by simpa using hq, rfl⟩ h
  · simpa using this
  · obtain ⟨n, d, s, ws', -, -, -, rfl⟩ := commitArtWT_inv h1
    refine ⟨?_, hq.2⟩
    simpa using hart a a' w1 _ seg _ (hq.2 ▸ has a ha) hq.1 h1

include hart hstage in
theorem commitActT_segs {sp : Bytes} {w w' : World κ} {segs : List (List (Call κ))}
    {sg : List (Bool × List (Call κ))} (hq : Q w sg) (h : commitActT c strat sp w = .ok (w', segs)) :
    Q w' (sg ++ segs.map (fun s => (true, s))) := by
  obtain ⟨stg, plain', w1, segs1, outs', w2, segs2, hst, h1, h2, rfl, hws⟩ := commitActT_inv h
  have hl := World.stage_eq_ok.1 hst
  obtain ⟨q1, i1⟩ := commitArtsT_segs hart (fun a ha => by
    obtain ⟨b, hb, rfl⟩ := List.mem_map.1 (mem_of_mem_sortArts ha)
    exact ⟨sp, stg, hl, .inr ⟨b, (List.mem_filter.1 hb).1, rfl⟩⟩) hq h1
  obtain ⟨q2, i2⟩ := commitArtsT_segs hart
    (fun a ha => ⟨sp, stg, i1 ▸ hl, .inl (mem_of_mem_sortArts ha)⟩) q1 h2
  exact hstage sp w w' _ w2 _ h (i2.trans i1) hws (by simpa using q2)

include hart hstage in
theorem visit_commitTravT_segs {r : Bool} {fuel : Nat} {avail : List Bytes} {t : Bytes}
    {p p' : World κ × List (List (Call κ))} (sg : List (Bool × List (Call κ)))
    (hq : Q p.1 (sg ++ p.2.map (fun s => (true, s))))
    (h : visit (commitTravT c strat) r fuel avail t p = .ok p') :
    Q p'.1 (sg ++ p'.2.map (fun s => (true, s))) :=
  visit_keeps (commitTravT c strat) r (fun s => Q s.1 (sg ++ s.2.map (fun s => (true, s))))
    (fun sp s s' hs ha => by
      obtain ⟨w', segs, hT, rfl⟩ := commitTravT_act_inv ha
      simpa using commitActT_segs hart hstage hs hT)
    fuel avail t p p' hq h

include hmeta in
theorem stageWrites_segs (l : List Bytes) {w : World κ} : ∀ {sg : List (Bool × List (Call κ))}, Q w sg →
    Q w (sg ++ l.map (fun sp => (false, stageWriteCalls c w.idx sp))) := by
  induction l with
  | nil => intro sg hq; simpa using hq
  | cons sp l ih => intro sg hq; simpa using ih (hmeta w sp sg hq)

include hart hstage hmeta in
theorem goTargets_segs {ts : List Bytes} {p p' : World κ × List (Bool × List (Call κ))} (hq : Q p.1 p.2)
    (h : goTargets c strat ts p = .ok p') : Q p'.1 p'.2 :=
  goTargets_keeps (Q := fun p => Q p.1 p.2) ts p p' (fun t _ p w' arts hq hv => by
    have := stageWrites_segs hmeta (newlyDone p.1.done w'.done)
      (visit_commitTravT_segs hart hstage (p := (p.1, [])) p.2 (by simpa using hq) hv)
    simpa using this) hq h

include hart hstage hmeta in
theorem cmdCommitT_segs {ts : List Bytes} {w w' : World κ} {arts : List (List (Call κ))}
    (hpt : perTargetP (fun t (p : World κ × List (List (Call κ))) =>
      visit (commitTravT c strat) true (p.1.idx.length + 1) (allStages p.1) t p) ts (fresh w, []) = .ok (w', arts))
    (h0 : Q (fresh w) []) :
    Q w' (arts.map (fun s => (true, s)) ++
      w'.done.reverse.map (fun sp => (false, stageWriteCalls c w'.idx sp))) := by
  refine stageWrites_segs hmeta _ ?_
  have := perTargetP_keeps (Q := fun p => Q p.1 ([] ++ p.2.map (fun s => (true, s))))
    (fun t q q' hq hv => visit_commitTravT_segs hart hstage [] hq hv) _ (fresh w, []) _ (by simpa using h0) hpt
  simpa using this

end Segs

theorem commitArtWT_refines (c : CmdCfg κ) (strat : Strat) (a : Art) (w : World κ) :
    (commitArtWT c strat a w).map (·.1) = commitArtW c.cfg strat a w := by
  unfold commitArtWT commitArtW; dsimp only
  rw [← show _ = commitArt c.cfg.ctx strat a _ w.store from
    commitArtT_refines (c.tc strat) a (Path.comps a.path) (getPath w.ws (Path.comps a.path)) w.store]
  cases commitArtT (c.tc strat) a (Path.comps a.path) (getPath w.ws (Path.comps a.path)) w.store with
  | error e => rfl
  | ok v => dsimp only [Except.map]; cases setPath w.ws (Path.comps a.path) v.1.1 <;> rfl

theorem commitArtsT_refines (c : CmdCfg κ) (strat : Strat) (as : List Art) : ∀ (w : World κ),
    (commitArtsT c strat as w).map (·.1) = commitArts c.cfg strat as w := by
  induction as with
  | nil => intro w; rfl
  | cons a r ih =>
    intro w
    simp only [commitArtsT, commitArts]
    rw [← commitArtWT_refines c strat a w]
    cases commitArtWT c strat a w with
    | error e => rfl
    | ok v =>
      dsimp only [Except.map]
      rw [← ih v.1.2]
      cases commitArtsT c strat r v.1.2 <;> rfl

theorem commitActT_refines (c : CmdCfg κ) (strat : Strat) (sp : Bytes) (w : World κ) :
    (commitActT c strat sp w).map (·.1) = commitAct c.cfg strat sp w := by
  unfold commitActT commitAct
  cases w.stage sp with
  | error e => rfl
  | ok stg =>
    dsimp only
    rw [← commitArtsT_refines c strat _ w]
    cases commitArtsT c strat _ w with
    | error e => rfl
    | ok v =>
      dsimp only [Except.map]
      rw [← commitArtsT_refines c strat _ v.1.2]
      cases commitArtsT c strat (sortArts stg.outputs) v.1.2 <;> rfl

theorem commitTravT_act_refines (c : CmdCfg κ) (strat : Strat) (sp : Bytes)
    (p : World κ × List (List (Call κ))) :
    ((commitTravT c strat).act sp p).map (·.1) = (commitTrav c.cfg strat).act sp p.1 := by
  simp only [commitTravT, commitTrav]
  rw [← commitActT_refines c strat sp p.1]
  cases commitActT c strat sp p.1 <;> rfl

theorem visit_commitTravT_refines (c : CmdCfg κ) (strat : Strat) (r : Bool) (fuel : Nat)
    (avail : List Bytes) (sp : Bytes) (p : World κ × List (List (Call κ))) :
    (visit (commitTravT c strat) r fuel avail sp p).map (·.1) =
      visit (commitTrav c.cfg strat) r fuel avail sp p.1 :=
  visit_lift (·.1) (commitTravT c strat) (commitTrav c.cfg strat) (fun _ _ => rfl) (fun _ _ => rfl)
    (commitTravT_act_refines c strat) r fuel avail sp p

theorem goTargets_refines (c : CmdCfg κ) (strat : Strat) (ts : List Bytes) :
    ∀ (p : World κ × List (Bool × List (Call κ))),
      (goTargets c strat ts p).map (·.1) =
        perTarget (fun t w => visit (commitTrav c.cfg strat) true (w.idx.length + 1) (allStages w) t w) ts p.1 := by
  induction ts with
  | nil => intro _; rfl
  | cons t r ih =>
    intro p
    simp only [goTargets, perTarget]
    split
    · rfl
    · rw [← visit_commitTravT_refines c strat true (p.1.idx.length + 1) (allStages p.1) t (p.1, [])]
      cases visit (commitTravT c strat) true (p.1.idx.length + 1) (allStages p.1) t (p.1, []) with
      | error e => rfl
      | ok q => exact ih _

end Dud.Sys
