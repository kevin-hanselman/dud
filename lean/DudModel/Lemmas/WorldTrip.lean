import DudModel.Spec
import DudModel.Lemmas.Tree
import DudModel.Lemmas.Run
import DudModel.Lemmas.Shape
import DudModel.Lemmas.CommitOk
/-!
# Paths that do not overlap, and what `commitArts` does to a world

* path algebra of `getPath` / `setPath` for paths that do not overlap (`Apart`), and when `setPath`
  succeeds (`Writable`);
* `commitArt` on arbitrary nodes keeps the cache consistent and growing (`Step`; from
  `Lemmas/CommitOk.lean`);
* `commitArts` over artifacts with pairwise apart paths (`ApartArts`): what it leaves alone
  (`commitArts_world`) and one artifact at a time (`commitArts_each`: what a successful run did;
  `commitArts_apart`: that it succeeds).

Everything lives in the namespace `Dud.WT`, so that no name can clash with the other lemma files.
-/
namespace Dud.WT

variable {κ : Type}

/-- neither path is a prefix of the other (in particular they are different) -/
def Apart (p q : List Name) : Prop := ¬ p <+: q ∧ ¬ q <+: p

theorem Apart.symm {p q : List Name} (h : Apart p q) : Apart q p := ⟨h.2, h.1⟩

theorem Apart.irrefl (p : List Name) : ¬ Apart p p := fun h => h.1 (List.prefix_refl p)

theorem Apart.ne {p q : List Name} (h : Apart p q) : p ≠ q := fun e => Apart.irrefl q (e ▸ h)

/-- the two paths part ways at some component -/
theorem apart_iff_diverge {p q : List Name} :
    Apart p q ↔ ∃ (pre : List Name) (x y : Name) (p' q' : List Name),
      x ≠ y ∧ p = pre ++ x :: p' ∧ q = pre ++ y :: q' := by
  constructor
  · intro h
    induction p generalizing q with
    | nil => exact absurd (List.nil_prefix) h.1
    | cons x p' ih =>
      cases q with
      | nil => exact absurd (List.nil_prefix) h.2
      | cons y q' =>
        by_cases hxy : x = y
        · subst hxy
          have h' : Apart p' q' := by
            refine ⟨fun hp => h.1 ?_, fun hq => h.2 ?_⟩
            · exact List.cons_prefix_cons.2 ⟨rfl, hp⟩
            · exact List.cons_prefix_cons.2 ⟨rfl, hq⟩
          obtain ⟨pre, a, b, p2, q2, hab, rfl, rfl⟩ := ih h'
          exact ⟨x :: pre, a, b, p2, q2, hab, rfl, rfl⟩
        · exact ⟨[], x, y, p', q', hxy, rfl, rfl⟩
  · rintro ⟨pre, x, y, p', q', hxy, rfl, rfl⟩
    constructor
    · intro h
      rw [List.prefix_append_right_inj, List.cons_prefix_cons] at h
      exact hxy h.1
    · intro h
      rw [List.prefix_append_right_inj, List.cons_prefix_cons] at h
      exact hxy h.1.symm

theorem Apart.of_prefix_right {p q q' : List Name} (h : Apart p q) (hq : q <+: q') : Apart p q' := by
  obtain ⟨pre, x, y, p2, q2, hxy, rfl, rfl⟩ := apart_iff_diverge.1 h
  obtain ⟨t, rfl⟩ := hq
  exact apart_iff_diverge.2 ⟨pre, x, y, p2, q2 ++ t, hxy, rfl, by simp⟩

theorem getPath_setPath_apart {p q : List Name} {ws ws' v : Node κ} (h : Apart p q)
    (hs : setPath ws p v = some ws') : getPath ws' q = getPath ws q := by
  obtain ⟨pre, x, y, p', q', hxy, rfl, rfl⟩ := apart_iff_diverge.1 h
  exact getPath_setPath_diverge pre x y p' q' ws ws' v hxy hs

/-- `setPath` at `p` succeeds (whatever is written): no proper prefix of `p` leads to something
that is not a directory -/
def Writable (ws : Node κ) (p : List Name) : Prop := ∀ v : Node κ, ∃ ws', setPath ws p v = some ws'

/-- in an empty workspace every path can be written (`MkdirAll`) -/
theorem writable_empty : ∀ (p : List Name), Writable (.dir [] : Node κ) p
  | [], v => ⟨v, rfl⟩
  | c :: r, v => by
    obtain ⟨n, hn⟩ := writable_empty r v
    refine ⟨.dir (setEntry [] c n), ?_⟩
    simp only [setPath, alookup, Option.getD_none]
    rw [hn]

theorem writable_of_parent : ∀ (pre : List Name) (x : Name) (ws : Node κ) (es : List (Name × Node κ)),
    getPath ws pre = some (.dir es) → Writable ws (pre ++ [x])
  | [], x, ws, es, h, v => by
    simp only [getPath, Option.some.injEq] at h
    subst h
    exact ⟨.dir (setEntry es x v), by simp only [List.nil_append, setPath]⟩
  | c :: pre, x, .dir es0, es, h, v => by
    rw [getPath] at h
    split at h
    · rename_i m hm
      obtain ⟨n, hn⟩ := writable_of_parent pre x m es h v
      refine ⟨.dir (setEntry es0 c n), ?_⟩
      simp only [List.cons_append, setPath, hm, Option.getD_some]
      rw [hn]
    · cases h
  | _ :: _, _, .file _, _, h, _ => by simp [getPath] at h
  | _ :: _, _, .link _, _, h, _ => by simp [getPath] at h
  | _ :: _, _, .other, _, h, _ => by simp [getPath] at h

theorem writable_of_getPath : ∀ (p : List Name) (ws n : Node κ), getPath ws p = some n → Writable ws p
  | [], _, _, _, v => ⟨v, rfl⟩
  | c :: r, .dir es, n, h, v => by
    rw [getPath] at h
    split at h
    · rename_i m hm
      obtain ⟨n', hn'⟩ := writable_of_getPath r m n h v
      refine ⟨.dir (setEntry es c n'), ?_⟩
      simp only [setPath, hm, Option.getD_some]
      rw [hn']
    · cases h
  | _ :: _, .file _, _, h, _ => by simp [getPath] at h
  | _ :: _, .link _, _, h, _ => by simp [getPath] at h
  | _ :: _, .other, _, h, _ => by simp [getPath] at h

theorem writable_setPath_diverge : ∀ (pre : List Name) (x y : Name) (p' q' : List Name)
    (ws ws' v : Node κ), x ≠ y → setPath ws (pre ++ x :: p') v = some ws' →
    Writable ws (pre ++ y :: q') → Writable ws' (pre ++ y :: q')
  | [], x, y, p', q', .dir es, ws', v, hne, h, hw, u => by
    simp only [List.nil_append] at h hw ⊢
    rw [setPath] at h
    split at h
    · rename_i n hn
      injection h with h
      subst h
      obtain ⟨w1, hw1⟩ := hw u
      rw [setPath] at hw1
      split at hw1
      · rename_i m hm
        refine ⟨.dir (setEntry (setEntry es x n) y m), ?_⟩
        rw [setPath, alookup_setEntry_ne es n hne, hm]
      · cases hw1
    · cases h
  | c :: pre, x, y, p', q', .dir es, ws', v, hne, h, hw, u => by
    simp only [List.cons_append] at h hw ⊢
    rw [setPath] at h
    split at h
    · rename_i n hn
      injection h with h
      subst h
      have hw' : Writable ((alookup es c).getD (.dir [])) (pre ++ y :: q') := by
        intro u'
        obtain ⟨w1, hw1⟩ := hw u'
        rw [setPath] at hw1
        split at hw1
        · rename_i m hm; exact ⟨m, hm⟩
        · cases hw1
      obtain ⟨m, hm⟩ := writable_setPath_diverge pre x y p' q' _ n v hne hn hw' u
      refine ⟨.dir (setEntry (setEntry es c n) c m), ?_⟩
      rw [setPath, alookup_setEntry_self]
      simp only [Option.getD_some]
      rw [hm]
    · cases h
  | [], _, _, _, _, .file _, _, _, _, h, _, _ => by simp [setPath] at h
  | [], _, _, _, _, .link _, _, _, _, h, _, _ => by simp [setPath] at h
  | [], _, _, _, _, .other, _, _, _, h, _, _ => by simp [setPath] at h
  | _ :: _, _, _, _, _, .file _, _, _, _, h, _, _ => by simp [setPath] at h
  | _ :: _, _, _, _, _, .link _, _, _, _, h, _, _ => by simp [setPath] at h
  | _ :: _, _, _, _, _, .other, _, _, _, h, _, _ => by simp [setPath] at h

theorem writable_setPath_apart {p q : List Name} {ws ws' v : Node κ} (h : Apart p q)
    (hs : setPath ws p v = some ws') (hw : Writable ws q) : Writable ws' q := by
  obtain ⟨pre, x, y, p', q', hxy, rfl, rfl⟩ := apart_iff_diverge.1 h
  exact writable_setPath_diverge pre x y p' q' ws ws' v hxy hs hw

/-- one step of cache evolution: if the cache was consistent, it still is and has only grown -/
def Step (ctx : Ctx κ) (s s' : Store κ) : Prop :=
  Consistent ctx s → Consistent ctx s' ∧ Store.le ctx s s'

theorem Step.refl (ctx : Ctx κ) (s : Store κ) : Step ctx s s := fun h => ⟨h, Store.le_refl ctx s⟩

theorem Step.trans {ctx : Ctx κ} {s1 s2 s3 : Store κ} (h1 : Step ctx s1 s2) (h2 : Step ctx s2 s3) :
    Step ctx s1 s3 := fun h =>
  ⟨(h2 (h1 h).1).1, Store.le_trans (h1 h).2 (h2 (h1 h).1).2⟩

theorem commitNode_step {ctx : Ctx κ} (g : Good ctx) (strat : Strat) :
    ∀ (n : Node κ) (c : Child) (s : Store κ) {n' c' s'},
      commitNode ctx strat n c s = .ok (n', c', s') → Step ctx s s'
  | n, c, s, _, _, _, h => _root_.Dud.commitNode_step g strat n c s h

theorem commitArt_step {ctx : Ctx κ} (g : Good ctx) (strat : Strat) (a : Art) (n : Option (Node κ))
    (s : Store κ) {n' d s'} (h : commitArt ctx strat a n s = .ok (n', d, s')) : Step ctx s s' :=
  _root_.Dud.commitArt_step g strat a n s h

theorem commitArtW_skip (cfg : Cfg κ) (strat : Strat) (a a' : Art) (w w' : World κ)
    (hskip : a.skip = true) (hfile : a.isDir = false) (h : commitArtW cfg strat a w = .ok (a', w')) :
    w' = w := by
  obtain ⟨n, d, s, ws', hc, hs, _, rfl⟩ := commitArtW_inv h
  rw [commitArt_file _ _ hfile, hskip] at hc
  obtain ⟨hn, rfl⟩ := commitFile_skip hc
  rw [setPath_getPath_same _ _ _ hn] at hs
  cases hs
  rfl

/-- committing artifacts writes workspace and cache, nothing else; what is found at a path `q` stays
if each artifact is a skip-cache file or lies apart from `q` (no hypothesis on the context) -/
theorem commitArts_world {cfg : Cfg κ} {strat : Strat} : ∀ {as as' : List Art} {w w' : World κ},
    commitArts cfg strat as w = .ok (as', w') →
      w' = { w with ws := w'.ws, store := w'.store } ∧
      ∀ q, (∀ b, b ∈ as → (b.skip = true ∧ b.isDir = false) ∨ Apart (Path.comps b.path) q) →
        getPath w'.ws q = getPath w.ws q
  | [], _, _, _, h => by cases h; exact ⟨rfl, fun _ _ => rfl⟩
  | a :: r, _, w, _, h => by
    obtain ⟨a1, w1, r2, h1, h2, -⟩ := commitArts_cons_ok h
    obtain ⟨e2, f2⟩ := commitArts_world h2
    obtain ⟨n, d, s, ws', -, hs, -, rfl⟩ := commitArtW_inv h1
    refine ⟨e2, fun q hall => ?_⟩
    rw [f2 q (fun b hb => hall b (List.mem_cons_of_mem _ hb))]
    rcases hall a List.mem_cons_self with ⟨hsk, hf⟩ | hd
    · rw [commitArtW_skip cfg strat a a1 w _ hsk hf h1]
    · exact getPath_setPath_apart hd hs

/-- skip-cache files only: nothing happens to the world, so each artifact is committed in `w` itself -/
theorem commitArts_skip_files {cfg : Cfg κ} {strat : Strat} : ∀ {as as' : List Art} {w w' : World κ},
    (∀ b, b ∈ as → b.skip = true ∧ b.isDir = false) → commitArts cfg strat as w = .ok (as', w') →
      w' = w ∧ (∀ a', a' ∈ as' → ∃ a, a ∈ as ∧ commitArtW cfg strat a w = .ok (a', w)) ∧
        ∀ a, a ∈ as → ∃ a', a' ∈ as' ∧ commitArtW cfg strat a w = .ok (a', w)
  | [], _, _, _, _, h => by
    cases h
    exact ⟨rfl, fun _ h => (nomatch h), fun _ h => (nomatch h)⟩
  | a :: r, _, w, _, hall, h => by
    obtain ⟨a1, w1, r2, h1, h2, rfl⟩ := commitArts_cons_ok h
    cases commitArtW_skip cfg strat a a1 w w1 (hall a List.mem_cons_self).1 (hall a List.mem_cons_self).2 h1
    obtain ⟨rfl, hr, hr'⟩ := commitArts_skip_files (fun b hb => hall b (List.mem_cons_of_mem _ hb)) h2
    refine ⟨rfl, fun a' ha' => ?_, fun b hb => ?_⟩
    · rcases List.mem_cons.1 ha' with rfl | ha'
      · exact ⟨a, List.mem_cons_self, h1⟩
      · exact (hr a' ha').imp fun b hb => ⟨List.mem_cons_of_mem _ hb.1, hb.2⟩
    · rcases List.mem_cons.1 hb with rfl | hb
      · exact ⟨a1, List.mem_cons_self, h1⟩
      · exact (hr' b hb).imp fun b' hb' => ⟨List.mem_cons_of_mem _ hb'.1, hb'.2⟩

theorem commitArts_step {cfg : Cfg κ} (g : Good cfg.ctx) {strat : Strat} :
    ∀ {as as' : List Art} {w w' : World κ},
      commitArts cfg strat as w = .ok (as', w') → Step cfg.ctx w.store w'.store
  | [], _, _, _, h => by cases h; exact .refl _ _
  | a :: r, _, w, _, h => by
    obtain ⟨a1, w1, r2, h1, h2, -⟩ := commitArts_cons_ok h
    obtain ⟨n, d, s, ws', hc, -, -, rfl⟩ := commitArtW_inv h1
    exact (commitArt_step g strat a _ _ hc).trans (commitArts_step g h2)

/-- the two together, with index and memo spelt out -/
theorem commitArts_elsewhere {cfg : Cfg κ} (g : Good cfg.ctx) (strat : Strat) (as : List Art)
    {as' : List Art} {w w' : World κ} (h : commitArts cfg strat as w = .ok (as', w')) :
    Step cfg.ctx w.store w'.store ∧ w'.idx = w.idx ∧ w'.done = w.done ∧
      ∀ q, (∀ b, b ∈ as → (b.skip = true ∧ b.isDir = false) ∨ Apart (Path.comps b.path) q) →
        getPath w'.ws q = getPath w.ws q :=
  have hf := commitArts_world h
  ⟨commitArts_step g h, by rw [hf.1], by rw [hf.1], hf.2⟩

/-- no two artifacts of the list have overlapping paths -/
def ApartArts (as : List Art) : Prop :=
  as.Pairwise (fun a b => Apart (Path.comps a.path) (Path.comps b.path))

/-- **One artifact at a time.** In a successful commit of artifacts with pairwise apart paths, each
artifact `a` is committed in a world `v` that still shows at its path what the starting world `w`
showed, over a consistent cache that has only grown since; what its own commit establishes
(`Post a a' v'`) and later commits elsewhere over a growing cache keep (`mono`) holds at the end. -/
theorem commitArts_each {cfg : Cfg κ} (g : Good cfg.ctx) {strat : Strat} {w : World κ}
    (Post : Art → Art → World κ → Prop)
    (mono : ∀ a a' u u', Post a a' u → getPath u'.ws (Path.comps a.path) = getPath u.ws (Path.comps a.path) →
      Store.le cfg.ctx u.store u'.store → Post a a' u') :
    ∀ {as as' : List Art} {u w' : World κ}, ApartArts as → Consistent cfg.ctx u.store →
      Store.le cfg.ctx w.store u.store →
      (∀ a, a ∈ as → getPath u.ws (Path.comps a.path) = getPath w.ws (Path.comps a.path)) →
      commitArts cfg strat as u = .ok (as', w') →
      (∀ a, a ∈ as → ∀ v a' v', Consistent cfg.ctx v.store → Store.le cfg.ctx w.store v.store →
        getPath v.ws (Path.comps a.path) = getPath w.ws (Path.comps a.path) →
        commitArtW cfg strat a v = .ok (a', v') → Post a a' v') →
      (∀ a', a' ∈ as' → ∃ a, a ∈ as ∧ Post a a' w') ∧ ∀ a, a ∈ as → ∃ a', a' ∈ as' ∧ Post a a' w'
  | [], _, _, _, _, _, _, _, h, _ => by
    cases h
    exact ⟨fun _ h => (nomatch h), fun _ h => (nomatch h)⟩
  | a :: r, _, u, w', hap, hc, hle, hsame, h, one => by
    obtain ⟨a1, u1, r2, h1, h2, rfl⟩ := commitArts_cons_ok h
    have hap' := List.pairwise_cons.1 hap
    obtain ⟨n, d, s, ws', hca, hsp, -, rfl⟩ := commitArtW_inv h1
    obtain ⟨c1, l1⟩ := commitArt_step g strat a _ _ hca hc
    have hd : Post a a1 w' :=
      mono _ _ _ _ (one a List.mem_cons_self u _ _ hc hle (hsame a List.mem_cons_self) h1)
        ((commitArts_world h2).2 _ fun b hb => .inr (hap'.1 b hb).symm) (commitArts_step g h2 c1).2
    obtain ⟨ih1, ih2⟩ := commitArts_each g Post mono hap'.2 c1 (Store.le_trans hle l1)
      (fun b hb => (getPath_setPath_apart (hap'.1 b hb) hsp).trans (hsame b (List.mem_cons_of_mem _ hb)))
      h2 (fun b hb => one b (List.mem_cons_of_mem _ hb))
    refine ⟨fun a' ha' => ?_, fun b hb => ?_⟩
    · rcases List.mem_cons.1 ha' with rfl | ha'
      · exact ⟨a, List.mem_cons_self, hd⟩
      · exact (ih1 a' ha').imp fun b hb => ⟨List.mem_cons_of_mem _ hb.1, hb.2⟩
    · rcases List.mem_cons.1 hb with rfl | hb
      · exact ⟨a1, List.mem_cons_self, hd⟩
      · exact (ih2 b hb).imp fun b' hb' => ⟨List.mem_cons_of_mem _ hb'.1, hb'.2⟩

/-- **The other direction: `commitArts` succeeds**, one artifact at a time, on artifacts with pairwise
apart paths (the induction behind `Re.commitArts_postP` and `Retry.commitArts_resume`).  `g` maps an
artifact of the list to the artifact that is committed, `out` to the artifact recorded afterwards;
`Pre a s t` is what is known of the node `t` at the path of `a` with the cache `s` before its commit,
`Post a s t` after it; `Le` relates the cache before and after commits.  The per-artifact fact `one`
is the only thing a caller proves. -/
theorem commitArts_apart (cfg : Cfg κ) (strat : Strat) (g out : Art → Art)
    (Le : Store κ → Store κ → Prop) (Pre Post : Art → Store κ → Node κ → Prop)
    (le_refl : ∀ s, Le s s) (le_trans : ∀ {s1 s2 s3}, Le s1 s2 → Le s2 s3 → Le s1 s3)
    (pre_mono : ∀ {a s s1 t}, Pre a s t → Le s s1 → Pre a s1 t)
    (post_mono : ∀ {a s s1 t}, Post a s t → Le s s1 → Post a s1 t) (l : List Art) :
    (∀ a, a ∈ l → ∀ s t, Consistent cfg.ctx s → Pre a s t →
      (g a).path = a.path ∧ ∃ t' d s', commitArt cfg.ctx strat (g a) (some t) s = .ok (t', d, s') ∧
        { g a with sum := d } = out a ∧ Consistent cfg.ctx s' ∧ Le s s' ∧ Post a s' t') →
    ∀ (u : World κ), ApartArts l → Consistent cfg.ctx u.store →
      (∀ a, a ∈ l → ∃ t, getPath u.ws (Path.comps a.path) = some t ∧ Pre a u.store t) →
      ∃ u2, commitArts cfg strat (l.map g) u = .ok (l.map out, u2) ∧
        Consistent cfg.ctx u2.store ∧ Le u.store u2.store ∧ u2.idx = u.idx ∧ u2.done = u.done ∧
        (∀ a, a ∈ l → ∃ t', getPath u2.ws (Path.comps a.path) = some t' ∧ Post a u2.store t') ∧
        (∀ q, (∀ a, a ∈ l → Apart (Path.comps a.path) q) → getPath u2.ws q = getPath u.ws q) := by
  induction l with
  | nil =>
    intro _ u _ hc _
    exact ⟨u, rfl, hc, le_refl _, rfl, rfl, by simp, fun _ _ => rfl⟩
  | cons a r ih =>
    intro one u hap hc hall
    have hap' := List.pairwise_cons.1 hap
    obtain ⟨t, gt, hpre⟩ := hall a List.mem_cons_self
    obtain ⟨gp, t', d, s', hca, hout, hc', hst, hpost⟩ := one a List.mem_cons_self _ t hc hpre
    obtain ⟨ws', hsp⟩ := writable_of_getPath _ _ _ gt t'
    have hw : commitArtW cfg strat (g a) u = .ok (out a, { u with ws := ws', store := s' }) := by
      rw [← hout]
      simp only [commitArtW, gp, gt, hca, hsp]
    obtain ⟨u2, h2, c2, st2, i2, d2, f2, fr2⟩ := ih (fun b hb => one b (List.mem_cons_of_mem _ hb))
      { u with ws := ws', store := s' } hap'.2 hc' (fun b hb => by
        obtain ⟨tb, gtb, hb'⟩ := hall b (List.mem_cons_of_mem _ hb)
        exact ⟨tb, (getPath_setPath_apart (hap'.1 b hb) hsp).trans gtb, pre_mono hb' hst⟩)
    refine ⟨u2, ?_, c2, le_trans hst st2, i2, d2, ?_, ?_⟩
    · rw [List.map_cons, commitArts, hw]
      simp only
      rw [h2]
      rfl
    · intro b hb
      rcases List.mem_cons.1 hb with rfl | hb
      · exact ⟨t', (fr2 _ (fun c hc'' => (hap'.1 c hc'').symm)).trans
          (getPath_setPath_self _ _ _ _ hsp), post_mono hpost st2⟩
      · exact f2 b hb
    · intro q hq
      rw [fr2 q (fun b hb => hq b (List.mem_cons_of_mem _ hb))]
      exact getPath_setPath_apart (hq a List.mem_cons_self) hsp

theorem ApartArts.paths_ne : ∀ {as : List Art}, ApartArts as →
    as.Pairwise (fun x y => x.path ≠ y.path)
  | [], _ => List.Pairwise.nil
  | a :: r, h => by
    have h' := List.pairwise_cons.1 h
    refine List.pairwise_cons.2 ⟨fun b hb e => ?_, ApartArts.paths_ne h'.2⟩
    have := h'.1 b hb
    rw [e] at this
    exact Apart.irrefl _ this

theorem pairwise_sortArts {R : Art → Art → Prop} (hsym : ∀ a b, R a b → R b a) (l : List Art)
    (h : l.Pairwise R) : (sortArts l).Pairwise R :=
  sortArts_eq ▸ pairwise_sortBy hsym l h

theorem ApartArts.sortArts {as : List Art} (h : ApartArts as) : ApartArts (sortArts as) :=
  pairwise_sortArts (fun _ _ h => h.symm) as h

theorem ApartArts.of_paths : ∀ {as as' : List Art}, ApartArts as →
    as'.map (·.path) = as.map (·.path) → ApartArts as'
  | [], [], _, _ => List.Pairwise.nil
  | [], _ :: _, _, hp => by simp at hp
  | _ :: _, [], _, hp => by simp at hp
  | a :: r, a' :: r', h, hp => by
    simp only [List.map_cons, List.cons.injEq] at hp
    have h' := List.pairwise_cons.1 h
    refine List.pairwise_cons.2 ⟨fun b' hb' => ?_, ApartArts.of_paths h'.2 hp.2⟩
    have hm : b'.path ∈ r.map (·.path) := by
      rw [← hp.2]; exact List.mem_map.2 ⟨b', hb', rfl⟩
    obtain ⟨b, hb, hbp⟩ := List.mem_map.1 hm
    have := h'.1 b hb
    rw [hp.1, ← hbp]
    exact this

theorem mem_keys_of_alookup {α β : Type} [BEq α] [LawfulBEq α] {l : List (α × β)} {a : α} {b : β}
    (h : alookup l a = some b) : a ∈ l.map (·.1) := List.mem_map.2 ⟨(a, b), alookup_mem h, rfl⟩

theorem alookup_isSome_of_mem_keys {idx : Index} {sp : Bytes} (h : sp ∈ idx.map (·.1)) :
    ∃ s, alookup idx sp = some s := by
  induction idx with
  | nil => simp at h
  | cons e r ih =>
    obtain ⟨k, v⟩ := e
    by_cases hk : k = sp
    · subst hk; exact ⟨v, by simp [alookup]⟩
    · have hk' : (k == sp) = false := by simpa using hk
      simp only [List.map_cons, List.mem_cons] at h
      rcases h with h | h
      · exact absurd h.symm hk
      · obtain ⟨s, hs⟩ := ih h
        exact ⟨s, by simp [alookup, hk', hs]⟩

/-- the step lemmas of the traversal invariants split on whether a stage is the one just acted on -/
theorem contains_cons_false {l : List Bytes} {sp x : Bytes} (h : (sp :: l).contains x = false) :
    x ≠ sp ∧ l.contains x = false := by
  rw [List.contains_cons, Bool.or_eq_false_iff] at h
  exact ⟨by simpa using h.1, h.2⟩

theorem contains_cons_true {l : List Bytes} {sp x : Bytes} (h : (sp :: l).contains x = true) :
    x = sp ∨ (x ≠ sp ∧ l.contains x = true) := by
  by_cases hxs : x = sp
  · exact .inl hxs
  · rw [List.contains_cons] at h
    have : (x == sp) = false := by simpa using hxs
    exact .inr ⟨hxs, by simpa [this] using h⟩

/-- on concrete paths and artifact lists apartness is decided by evaluation -/
instance (p q : List Name) : Decidable (Apart p q) := inferInstanceAs (Decidable (_ ∧ _))

instance (as : List Art) : Decidable (ApartArts as) := inferInstanceAs (Decidable (List.Pairwise _ as))

end Dud.WT
