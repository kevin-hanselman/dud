import DudModel.Props.C16
import DudModel.Lemmas.WorldTripRe
/-!
# Committing a PARTLY committed tree (artifact level of the retry after a failed `dud commit`)

After a failed `dud commit` with the link strategy some regular files of an output have already been
moved into the cache and replaced by links to their objects, the others have not; no checksum has been
recorded for them (or, if the stage file was already rewritten, the FINAL checksums have).
`AheadNode ctx s t t'` says that `t'` is such a version of the plain tree `t`; then the logical content
`deref ctx s t'` is `t` (`AheadNode.deref_eq`), and that equation is all the retry needs.

`commitArt_ahead`: **committing a node with logical content `t` records exactly the checksum `treeDigest` a
commit of `t` records**, for either strategy and every recorded checksum of that kind (none, or the final one);
the cache stays consistent, grows by objects of `t` only, holds `t` afterwards, and the node left has the
logical content `t`.  This is `retry_after_fault_accepts_link` (`Props/C04.lean`) for whole trees: a re-commit
in the sense of `Lemmas/Recommit.lean` (by `Re.commitArt_post`, `Lemmas/WorldTripRe.lean`), the old manifests it reads being readable
(`Re.RecommitOK`) because the recorded checksum is none or the final one.

`commitEntries_ahead_post` is the same statement for the entries of one directory, the old manifest recording for
each entry no checksum or that of the very entry (`CanonList`); `commitArt_ahead` does not go through it.
-/
namespace Dud
variable {κ : Type}

mutual
/-- `t'` is the tree `t` with some regular files replaced by the link to their object in `s` -/
def AheadNode (ctx : Ctx κ) (s : Store κ) : Node κ → Node κ → Prop
  | .file x, t' => t' = .file x ∨
      (t' = .link (.obj (ctx.H x)) ∧ ∃ o, s.get (ctx.H x) = some o ∧ o.bytes ctx = x)
  | .dir es, t' => match t' with
    | .dir es' => AheadList ctx s es es'
    | _ => False
  | .link l, t' => t' = .link l
  | .other, t' => t' = .other
def AheadList (ctx : Ctx κ) (s : Store κ) : List (Name × Node κ) → List (Name × Node κ) → Prop
  | [], es' => es' = []
  | (nm, n) :: r, es' => match es' with
    | (nm', n') :: r' => nm' = nm ∧ AheadNode ctx s n n' ∧ AheadList ctx s r r'
    | [] => False
end

mutual
theorem AheadNode.refl (ctx : Ctx κ) (s : Store κ) : ∀ (t : Node κ), AheadNode ctx s t t
  | .file _ => by simp [AheadNode]
  | .dir es => by simp only [AheadNode]; exact AheadList.refl ctx s es
  | .link _ => by simp [AheadNode]
  | .other => by simp [AheadNode]
theorem AheadList.refl (ctx : Ctx κ) (s : Store κ) : ∀ (es : List (Name × Node κ)), AheadList ctx s es es
  | [] => by simp [AheadList]
  | (nm, n) :: r => by
    simp only [AheadList]
    exact ⟨trivial, AheadNode.refl ctx s n, AheadList.refl ctx s r⟩
end

theorem AheadNode.dir {ctx : Ctx κ} {s : Store κ} {es : List (Name × Node κ)} {t' : Node κ}
    (h : AheadNode ctx s (.dir es) t') : ∃ es', t' = .dir es' ∧ AheadList ctx s es es' := by
  cases t' <;> simp only [AheadNode] at h
  exact ⟨_, rfl, h⟩

mutual
theorem AheadNode.deref_eq {ctx : Ctx κ} {s : Store κ} : ∀ {t t' : Node κ}, AheadNode ctx s t t' →
    t.plain = true → deref ctx s t' = t
  | .file x, t', h, _ => by
    rcases h with rfl | ⟨rfl, hb⟩
    · rfl
    · exact deref_holds hb
  | .dir es, _, h, hp => by
    obtain ⟨es', rfl, h⟩ := h.dir
    simp only [deref, Node.dir.injEq]
    exact AheadList.deref_eq h (by simpa [Node.plain] using hp)
  | .link _, _, _, hp => by simp [Node.plain] at hp
  | .other, _, _, hp => by simp [Node.plain] at hp
theorem AheadList.deref_eq {ctx : Ctx κ} {s : Store κ} : ∀ {es es' : List (Name × Node κ)},
    AheadList ctx s es es' → plainList es = true → derefList ctx s es' = es
  | [], es', h, _ => by
    simp only [AheadList] at h
    subst h
    simp [derefList]
  | (nm, n) :: r, es', h, hp => by
    cases es' with
    | nil => simp [AheadList] at h
    | cons e' r' =>
      obtain ⟨nm', n'⟩ := e'
      simp only [AheadList] at h
      obtain ⟨rfl, hn, hr⟩ := h
      simp only [derefList]
      rw [AheadNode.deref_eq hn (plainList_cons hp).1, AheadList.deref_eq hr (plainList_cons hp).2]
end

/-- **Retry of one artifact.**  `n` is the plain, sorted tree the workspace held at the artifact's path
before the failed commit, `t'` what it holds now: its logical content in the cache `s` is `n` (some files
already moved into the cache and linked; nothing of a `skip-cache` file); a directory artifact records no
checksum or the final one.  Then `LocalCache.Commit` succeeds, with either strategy, and records the checksum
a commit of the untouched tree records; the cache stays consistent, grows by objects of the tracked tree only
and (unless `skip-cache`) holds it; the node left has the logical content `n`.  `Re.commitArt_post` at a node
whose logical content is `n`. -/
theorem commitArt_ahead {ctx : Ctx κ} (g : Good ctx) (a : Art) (n t' : Node κ)
    (hk : n.isDir = a.isDir) (hp : n.plain = true) (hs : n.sorted = true) (hn : NamesOK ctx n)
    (hsum : a.isDir = true → a.sum = "" ∨ a.sum = treeDigest ctx a.path (trackedOf a n))
    (s : Store κ) (hc : Consistent ctx s) (hd : deref ctx s t' = n)
    (hskt : a.isDir = false → a.skip = true → t' = n) (strat : Strat) :
    ∃ s', commitArt ctx strat a (some t') s =
        .ok (artAfter ctx strat a t', treeDigest ctx a.path (trackedOf a n), s') ∧
      Consistent ctx s' ∧ Store.le ctx s s' ∧ deref ctx s' (artAfter ctx strat a t') = n ∧
      (a.isDir = true ∨ a.skip = false → HoldsNode ctx s' newChoice a.path (trackedOf a n)) ∧
      (a.isDir = false → a.skip = true → s' = s) ∧
      ∀ d, s'.has d = true → s.has d = true ∨ d ∈ allDigests ctx a.path (trackedOf a n) := by
  have hiD : t'.isDir = n.isDir := by rw [← hd, Re.deref_isDir]
  have hold : Re.RecommitOK ctx s (trackedOf a t') a.sum := by
    cases hdir : a.isDir with
    | false =>
      exact Re.RecommitOK.of_not_dir ctx s a.sum (by rw [Re.trackedOf_isDir, hiD, hk, hdir])
    | true =>
      rcases hsum hdir with h0 | h1
      · rw [h0]
        exact Re.RecommitOK.empty ctx s _
      · rw [h1]
        exact Re.RecommitOK.of_treeDigest g s _ _ a.path (Re.sorted_trackedOf a hs)
          (Re.namesOK_trackedOf a hn) (by rw [Re.trackedOf_isDir, Re.trackedOf_isDir, hiD])
  have h := Re.commitArt_post g a t' s (hiD.trans hk) (by rw [hd]; exact hp)
    (fun x hx => hn x (by rw [← hd, Re.allNames_deref]; exact hx))
    (fun h1 h2 => .inl (by rw [hskt h2 h1]; exact hp)) hold hc strat
  rw [hd] at h
  exact h

theorem AheadNode.isDir {ctx : Ctx κ} {s : Store κ} : ∀ {t t' : Node κ}, AheadNode ctx s t t' →
    t'.isDir = t.isDir
  | .file x, t', h => by
    simp only [AheadNode] at h
    rcases h with rfl | ⟨rfl, _⟩ <;> rfl
  | .dir es, _, h => by obtain ⟨es', rfl, -⟩ := h.dir; rfl
  | .link _, _, h => by simp only [AheadNode] at h; subst h; rfl
  | .other, _, h => by simp only [AheadNode] at h; subst h; rfl

/-- every child recovered from `old` for an entry of `es` carries no checksum or the checksum of that very
entry -/
def CanonList (ctx : Ctx κ) (es : List (Name × Node κ)) (old : List Child) : Prop :=
  ∀ e ∈ es, ∀ k, findChild old e.1 = some k → k.sum = "" ∨ k.sum = treeDigest ctx e.1 e.2

theorem canonList_nil (ctx : Ctx κ) (es : List (Name × Node κ)) : CanonList ctx es [] := by
  intro e _ k hk
  simp [findChild] at hk

theorem CanonList.tail {ctx : Ctx κ} {e : Name × Node κ} {r : List (Name × Node κ)} {old : List Child}
    (h : CanonList ctx (e :: r) old) : CanonList ctx r old :=
  fun x hx => h x (List.mem_cons_of_mem _ hx)

theorem canonList_childrenOf (ctx : Ctx κ) (es : List (Name × Node κ)) (hs : sortedList es = true) :
    CanonList ctx es (childrenOf ctx es) := by
  intro e he k hk
  have := findChild_childrenAs ctx newChoice es hs e he
  rw [childrenAs_new] at this
  rw [this] at hk
  cases hk
  right
  exact digestAs_new ctx e.1 e.2

/-- such an old manifest is readable wherever a commit of the partly committed entries reuses it:
a recorded checksum is none, or that of the very entry, whose manifest, if the cache holds anything
under that checksum, reads back -/
theorem readableList_of_canon {ctx : Ctx κ} (g : Good ctx) {s s' : Store κ} (hc : Consistent ctx s')
    {old : List Child} : ∀ {es es' : List (Name × Node κ)}, AheadList ctx s es es' →
      CanonList ctx es old → sortedList es = true → NamesOKList ctx es →
      Re.ReadableList ctx s' es' old
  | [], es', h, _, _, _ => by
    simp only [AheadList] at h
    subst h
    simp [Re.ReadableList]
  | (nm, n) :: r, es', h, hcan, hs, hn => by
    cases es' with
    | nil => simp [AheadList] at h
    | cons e' r' =>
      obtain ⟨nm', n'⟩ := e'
      simp only [AheadList] at h
      obtain ⟨rfl, han, har⟩ := h
      simp only [Re.ReadableList]
      refine ⟨fun k hk _ => ?_,
        readableList_of_canon g hc har hcan.tail (sortedList_cons hs).2 (namesOK_tail hn)⟩
      rcases hcan (nm', n) List.mem_cons_self k hk with h0 | h1
      · rw [h0]
        exact Re.readableNode_empty ctx s' n'
      · rw [h1, ← digestAs_new]
        exact Re.readableNode_of_digestAs g hc n' n newChoice nm' (sortedList_cons hs).1
          (namesOK_node hn) han.isDir.symm

def AEntriesPost (ctx : Ctx κ) (es : List (Name × Node κ)) : Prop :=
  ∀ (es' : List (Name × Node κ)) (old : List Child) (s : Store κ) (strat : Strat),
    CanonList ctx es old → Consistent ctx s → AheadList ctx s es es' →
    ∃ es'' s', commitEntries ctx strat false es' old s = .ok (es'', childrenOf ctx es, s') ∧
      Consistent ctx s' ∧ Store.le ctx s s' ∧ HoldsList ctx s' newChoice es ∧
      (∀ d, s'.has d = true → s.has d = true ∨ d ∈ allDigestsList ctx es) ∧
      derefList ctx s' es'' = es

theorem commitEntries_ahead_post {ctx : Ctx κ} (g : Good ctx) : ∀ (es : List (Name × Node κ)),
    plainList es = true → sortedList es = true → NamesOKList ctx es → AEntriesPost ctx es
  | es, hp, hs, hn => by
    intro es' old s strat hcanon hc ha
    have hd := ha.deref_eq hp
    have hn' : NamesOKList ctx es' :=
      fun x hx => hn x (by rw [← hd, Re.allNamesList_derefList]; exact hx)
    have h := Re.recommitEntriesL_full g es' hn' old s strat (by rw [hd]; exact hp)
      (fun s' _ hc' => readableList_of_canon g hc' ha hcanon hs hn) hc
    rw [hd] at h
    obtain ⟨s', h1, h2, h3, h4, h5, _, h7⟩ := h
    exact ⟨_, s', h1, h2, h3, h4, h7, h5⟩

end Dud
