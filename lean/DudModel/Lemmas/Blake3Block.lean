import DudModel.Lemmas.Blake3Incr
/-!
# Lemmas: the block-buffering incremental hasher simulates the tree-layer hasher

Core-only.

* `chunkTail_snoc`: how the one-shot blockwise processing of a chunk changes when one byte is
  appended — exactly the step of the incremental `ChunkState`.
* `ChunkRel B ctr c bytes`: the chunk state `c` is what one gets by absorbing `bytes`; then its two
  outputs are the one-shot `chunkCVOf` / `chunkRootOf` of `bytes`.
* `update_fold`, `bwrite_fold`: both piecewise loops are byte-wise folds on well-formed states.
* `Sim`: the simulation relation between `BState` and `State` (same counter, same stack, chunk state
  related to the open chunk's bytes); preserved by every byte, and `bsum = sum` under it.
-/
namespace Dud.Blake3Incr
open Dud.Blake3Spec

variable {CV Digest : Type}

/-- Appending one byte to a chunk: if the last block was full it is compressed (without CHUNK_END)
and the byte starts a new block; otherwise the byte joins the last block. -/
theorem chunkTail_snoc (B : BlockParams CV Digest) (ctr : Nat) (bs : Bytes) (b : UInt8) :
    chunkTail B ctr (bs ++ [b]) =
      if (chunkTail B ctr bs).last.length = 64 then
        ⟨B.compressBlock (chunkTail B ctr bs).cv (chunkTail B ctr bs).last ctr
            (chunkTail B ctr bs).start, false, [b]⟩
      else ⟨(chunkTail B ctr bs).cv, (chunkTail B ctr bs).start, (chunkTail B ctr bs).last ++ [b]⟩ := by
  obtain ⟨k, hk⟩ := exists_pieces (m := 64) (by decide) bs.length
  rw [chunkTail_eq_chainCV B ctr bs k hk]
  simp only [List.length_drop]
  split
  · rename_i h
    rw [chunkTail_eq_chainCV B ctr _ (k + 1)
      (by simp only [List.length_append, List.length_singleton]; omega), chainCV,
      chainCV_append B ctr bs [b] k (by omega), blockAt, List.drop_append_of_le_length (by omega),
      List.take_append_of_le_length (by simp only [List.length_drop]; omega),
      List.take_of_length_le (by simp only [List.length_drop]; omega)]
    rw [List.drop_append_of_le_length (l₁ := bs) (by omega),
      List.drop_of_length_le (i := 64 * (k + 1)) (by omega), List.nil_append]
    rfl
  · rw [chunkTail_eq_chainCV B ctr _ k (by simp only [List.length_append, List.length_singleton]; omega),
      chainCV_append B ctr bs [b] k (by omega), List.drop_append_of_le_length (by omega)]

theorem chunkTail_nil (B : BlockParams CV Digest) (ctr : Nat) :
    chunkTail B ctr [] = ⟨B.iv, true, []⟩ := rfl

/-- Byte-wise semantics of `ChunkState.update`. -/
def cpushByte (B : BlockParams CV Digest) (ctr : Nat) (c : ChunkState CV) (b : UInt8) :
    ChunkState CV :=
  let c1 := c.flushIfFull B ctr
  { c1 with buf := c1.buf ++ [b] }

def CWF (c : ChunkState CV) : Prop := c.buf.length ≤ 64

theorem update_loop (B : BlockParams CV Digest) (ctr : Nat) :
    Loop (ChunkState.updateF B ctr) (ChunkState.flushIfFull B ctr) (fun c => 64 - c.buf.length)
      (fun c xs => { c with buf := c.buf ++ xs }) (fun c b => { c with buf := c.buf ++ [b] }) CWF where
  zero _ _ := rfl
  succ _ _ _ := rfl
  norm_eq c h := if_neg (by omega)
  norm_ok c h := by
    unfold CWF ChunkState.flushIfFull at *
    split
    · exact ⟨Nat.zero_le _, Nat.zero_lt_succ _⟩
    · omega
  add_ok c b h hr := by
    simp only [CWF, List.length_append, List.length_singleton] at *; omega
  absorb_eq c xs hc hl := by
    clear hc hl
    induction xs generalizing c with
    | nil => simp
    | cons x xs ih => rw [List.foldl_cons, ← ih]; simp

theorem update_fold (B : BlockParams CV Digest) (ctr : Nat) :
    ByteFold (ChunkState.update B ctr) (cpushByte B ctr) CWF :=
  (update_loop B ctr).byteFold

theorem flushIfFull_len (B : BlockParams CV Digest) (ctr : Nat) (c : ChunkState CV) :
    (c.flushIfFull B ctr).len = c.len := by
  by_cases h1 : c.buf.length = 64
  · simp only [ChunkState.flushIfFull, h1, if_true, ChunkState.len, List.length_nil]; omega
  · simp only [ChunkState.flushIfFull, h1, if_false]

theorem cpushByte_len (B : BlockParams CV Digest) (ctr : Nat) (c : ChunkState CV) (b : UInt8) :
    (cpushByte B ctr c b).len = c.len + 1 := by
  have := flushIfFull_len B ctr c
  simp only [ChunkState.len] at this
  simp only [cpushByte, ChunkState.len, List.length_append, List.length_singleton]; omega

/-- `ChunkRel B ctr c bytes`: `c` is the chunk state after absorbing `bytes`. -/
def ChunkRel (B : BlockParams CV Digest) (ctr : Nat) (c : ChunkState CV) (bytes : Bytes) : Prop :=
  chunkTail B ctr bytes = ⟨c.cv, c.blocks == 0, c.buf⟩ ∧ c.len = bytes.length ∧ CWF c

theorem chunkRel_init (B : BlockParams CV Digest) (ctr : Nat) :
    ChunkRel B ctr (ChunkState.init B) [] := by
  refine ⟨?_, ?_, ?_⟩
  · rw [chunkTail_nil]; simp [ChunkState.init]
  · simp [ChunkState.init, ChunkState.len]
  · simp [CWF, ChunkState.init]

theorem chunkRel_pushByte (B : BlockParams CV Digest) (ctr : Nat) {c : ChunkState CV}
    {bytes : Bytes} (h : ChunkRel B ctr c bytes) (b : UInt8) :
    ChunkRel B ctr (cpushByte B ctr c b) (bytes ++ [b]) := by
  obtain ⟨ht, hlen, hbuf⟩ := h
  refine ⟨?_, ?_, ?_⟩
  · rw [chunkTail_snoc, ht]
    by_cases h64 : c.buf.length = 64
    · simp [cpushByte, ChunkState.flushIfFull, h64]
    · simp [cpushByte, ChunkState.flushIfFull, h64]
  · rw [cpushByte_len, hlen]; simp
  · exact (update_fold B ctr).ok_push hbuf b

theorem chunkRel_outCV (B : BlockParams CV Digest) (ctr : Nat) {c : ChunkState CV} {bytes : Bytes}
    (h : ChunkRel B ctr c bytes) : c.outCV B ctr = chunkCVOf B bytes ctr := by
  simp only [ChunkState.outCV, chunkCVOf, h.1]

theorem chunkRel_outRoot (B : BlockParams CV Digest) (ctr : Nat) {c : ChunkState CV}
    {bytes : Bytes} (h : ChunkRel B ctr c bytes) : c.outRoot B ctr = chunkRootOf B bytes ctr := by
  simp only [ChunkState.outRoot, chunkRootOf, h.1]

theorem chunkRel_foldl (B : BlockParams CV Digest) (ctr : Nat) (xs : Bytes) {c : ChunkState CV}
    {bytes : Bytes} (h : ChunkRel B ctr c bytes) :
    ChunkRel B ctr (xs.foldl (cpushByte B ctr) c) (bytes ++ xs) := by
  induction xs generalizing c bytes with
  | nil => simpa using h
  | cons x xs ih =>
    have := ih (chunkRel_pushByte B ctr h x)
    simpa [List.append_assoc] using this

def bpushByte (B : BlockParams CV Digest) (s : BState CV) (b : UInt8) : BState CV :=
  let s1 := bcloseIfFull B s
  { s1 with chunk := cpushByte B s1.n s1.chunk b }

/-- Well-formed block-layer states (every state reachable from `breset`). -/
def BWF (s : BState CV) : Prop := s.chunk.buf.length ≤ 64 ∧ s.chunk.len ≤ 1024

theorem ChunkState.init_len (B : BlockParams CV Digest) : (ChunkState.init B).len = 0 := by
  simp [ChunkState.init, ChunkState.len]

theorem bwrite_loop (B : BlockParams CV Digest) :
    Loop (bwriteF B) (bcloseIfFull B) (fun s => 1024 - s.chunk.len)
      (fun s xs => { s with chunk := s.chunk.update B s.n xs })
      (fun s b => { s with chunk := cpushByte B s.n s.chunk b }) BWF where
  zero _ _ := rfl
  succ _ _ _ := rfl
  norm_eq s h := if_neg (by omega)
  norm_ok s h := by
    unfold BWF bcloseIfFull at *
    split
    · rw [ChunkState.init_len]; exact ⟨⟨Nat.zero_le _, Nat.zero_le _⟩, Nat.zero_lt_succ _⟩
    · omega
  add_ok s b h hr := by
    refine ⟨⟨(update_fold B s.n).ok_push h.1 b, ?_⟩, ?_⟩
    · show (cpushByte B s.n s.chunk b).len ≤ 1024
      rw [cpushByte_len]; omega
    · show 1024 - (cpushByte B s.n s.chunk b).len = _
      rw [cpushByte_len]; omega
  absorb_eq s xs hs hl := by
    rw [(update_fold B s.n).eq_foldl hs.1]
    clear hs hl
    induction xs generalizing s with
    | nil => rfl
    | cons x xs ih => rw [List.foldl_cons, List.foldl_cons, ← ih]

theorem bwrite_fold (B : BlockParams CV Digest) : ByteFold (bwrite B) (bpushByte B) BWF :=
  (bwrite_loop B).byteFold

theorem breset_wf (B : BlockParams CV Digest) (s : BState CV) : BWF (breset B s) := by
  simp [BWF, breset, ChunkState.init_len]; simp [ChunkState.init]

/-- The block-layer state `sb` and the tree-layer state `s` (over `B.toParams`) correspond. -/
def Sim (B : BlockParams CV Digest) (sb : BState CV) (s : State CV) : Prop :=
  sb.n = s.n ∧ sb.stack = s.stack ∧ ChunkRel B s.n sb.chunk s.cur

theorem sim_reset (B : BlockParams CV Digest) (sb : BState CV) (s : State CV) :
    Sim B (breset B sb) (reset s) :=
  ⟨rfl, rfl, chunkRel_init B 0⟩

theorem sim_close (B : BlockParams CV Digest) {sb : BState CV} {s : State CV} (h : Sim B sb s) :
    Sim B (bcloseIfFull B sb) (closeIfFull B.toParams s) := by
  obtain ⟨hn, hst, hrel⟩ := h
  unfold bcloseIfFull closeIfFull
  rw [hrel.2.1]
  split
  · exact ⟨congrArg (· + 1) hn, by rw [hn, hst, chunkRel_outCV B s.n hrel]; rfl, chunkRel_init B _⟩
  · exact ⟨hn, hst, hrel⟩

theorem sim_pushByte (B : BlockParams CV Digest) {sb : BState CV} {s : State CV}
    (h : Sim B sb s) (b : UInt8) : Sim B (bpushByte B sb b) (pushByte B.toParams s b) := by
  obtain ⟨hn, hst, hrel⟩ := sim_close B h
  unfold Sim bpushByte pushByte
  refine ⟨hn, hst, ?_⟩
  dsimp only
  rw [hn]
  exact chunkRel_pushByte B _ hrel b

/-- A lazy block-layer output and a lazy tree-layer node that compress to the same values. -/
def OutRel (B : BlockParams CV Digest) (o : BOut CV) (nd : Node CV) : Prop :=
  o.cv B = nd.cv B.toParams ∧ o.root B = nd.root B.toParams

theorem sim_sum (B : BlockParams CV Digest) {sb : BState CV} {s : State CV} (h : Sim B sb s) :
    bsum B sb = sum B.toParams s := by
  obtain ⟨hn, hst, hrel⟩ := h
  have h0 : OutRel B (BOut.chunk sb.chunk sb.n) (Node.chunk s.cur s.n) := by
    refine ⟨?_, ?_⟩
    · show sb.chunk.outCV B sb.n = chunkCVOf B s.cur s.n
      rw [hn]; exact chunkRel_outCV B s.n hrel
    · show sb.chunk.outRoot B sb.n = chunkRootOf B s.cur s.n
      rw [hn]; exact chunkRel_outRoot B s.n hrel
  unfold bsum sum
  rw [hst]
  refine And.right (?_ : OutRel B _ _)
  exact List.foldl_rel h0 fun cv _ _ _ h => ⟨congrArg (B.parentCV cv) h.1, congrArg (B.parentRoot cv) h.1⟩

end Dud.Blake3Incr
