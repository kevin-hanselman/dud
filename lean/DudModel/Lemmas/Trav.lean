import DudModel.TravSpec
import DudModel.Lemmas.MapE
/-!
# Lemmas about the generic traversal `visit`

The central statement is `visit_run`: a successful logged traversal from `(st, l)` to
`(st', l')` appends a duplicate-free list `d` of stages to the log such that every stage in `d`
was available, not done before, reachable from the root, done afterwards (and nothing else
changed its done-ness), and — in a recursive traversal — preceded in `d` by each of its owners
unless that owner was already done at the start (`Trace`); and it keeps whatever the actions keep.
The ghost log serves the statements about order only: the invariant principles
(`visit_preserves_on`, `perTarget_preserves`) and the progress principle (`visit_progress`,
`perTarget_progress`: the traversal succeeds where the owner relation has no cycle and the actions
succeed) speak of the plain traversal.
`CI.visit_sim` (for a whole command `runTargets_sim`) is a simulation principle for two traversals, with a
backward invariant.
`visit_succ` and `visitAll_cons` unfold one level in `Except.bind` form; `visit_succ_inv`,
`visit_succ_of` and `visit_done_of` are the two directions of that level for a plain traversal, and
nothing else in this file unfolds `visit`.
The last section is the command level: `perTarget` is a `visitAll` over the targets, and the six
commands are one function `runTargets` behind a guard (`cmd*_ok_iff`).
-/
namespace Dud

variable {σ : Type}

theorem Before.mem_left {l : List Bytes} {x y : Bytes} (h : Before l x y) : x ∈ l := by
  obtain ⟨l1, l2, l3, rfl⟩ := h; simp

theorem Before.mem_right {l : List Bytes} {x y : Bytes} (h : Before l x y) : y ∈ l := by
  obtain ⟨l1, l2, l3, rfl⟩ := h; simp

theorem Before.append_left {l : List Bytes} {x y : Bytes} (p : List Bytes) (h : Before l x y) :
    Before (p ++ l) x y := by
  obtain ⟨l1, l2, l3, rfl⟩ := h
  exact ⟨p ++ l1, l2, l3, by simp⟩

theorem Before.append_right {l : List Bytes} {x y : Bytes} (q : List Bytes) (h : Before l x y) :
    Before (l ++ q) x y := by
  obtain ⟨l1, l2, l3, rfl⟩ := h
  exact ⟨l1, l2, l3 ++ q, by simp⟩

theorem Before.of_mem_append {p q : List Bytes} {x y : Bytes} (hx : x ∈ p) (hy : y ∈ q) :
    Before (p ++ q) x y := by
  obtain ⟨p1, p2, rfl⟩ := List.append_of_mem hx
  obtain ⟨q1, q2, rfl⟩ := List.append_of_mem hy
  exact ⟨p1, p2 ++ q1, q2, by simp⟩

theorem split_unique {α : Type} {b : α} {p q p' q' : List α} (hn : (p ++ b :: q).Nodup)
    (h : p ++ b :: q = p' ++ b :: q') : p = p' ∧ q = q' := by
  induction p generalizing p' with
  | nil =>
    cases p' with
    | nil => exact ⟨rfl, (List.cons.inj h).2⟩
    | cons c p' =>
      obtain ⟨rfl, rfl⟩ := List.cons.inj h
      exact absurd (List.mem_append_right p' List.mem_cons_self) (List.nodup_cons.1 hn).1
  | cons a p ih =>
    cases p' with
    | nil =>
      obtain ⟨rfl, rfl⟩ := List.cons.inj h
      exact absurd (List.mem_append_right p List.mem_cons_self) (List.nodup_cons.1 hn).1
    | cons c p' =>
      obtain ⟨rfl, h'⟩ := List.cons.inj h
      obtain ⟨rfl, rfl⟩ := ih (List.nodup_cons.1 hn).2 h'
      exact ⟨rfl, rfl⟩

theorem Before.trans {l : List Bytes} (hn : l.Nodup) {x y z : Bytes}
    (h1 : Before l x y) (h2 : Before l y z) : Before l x z := by
  obtain ⟨l1, l2, l3, rfl⟩ := h1
  obtain ⟨m1, m2, m3, h⟩ := h2
  have h' : (l1 ++ x :: l2) ++ y :: l3 = m1 ++ y :: (m2 ++ z :: m3) := by simpa using h
  obtain ⟨rfl, rfl⟩ := split_unique (by simpa using hn) h'
  exact ⟨l1, l2 ++ y :: m2, m3, by simp⟩

theorem Before.irrefl {l : List Bytes} (hn : l.Nodup) {x : Bytes} (h : Before l x x) : False := by
  obtain ⟨l1, l2, l3, rfl⟩ := h
  exact (List.nodup_append.1 hn).2.2 x (List.mem_append_right _ List.mem_cons_self) x
    List.mem_cons_self rfl

theorem reach_before {own : Bytes → List Bytes} {l : List Bytes} (hn : l.Nodup)
    (htop : ∀ x, x ∈ l → ∀ o, o ∈ own x → Before l o x) {a b : Bytes} (h : Reach own a b)
    (ha : a ∈ l) : b = a ∨ Before l b a := by
  induction h with
  | refl a => exact .inl rfl
  | step hb _ ih =>
    have hba := htop _ ha _ hb
    rcases ih hba.mem_left with rfl | h
    · exact .inr hba
    · exact .inr (Before.trans hn h hba)

theorem Reach.trans {own : Bytes → List Bytes} {a b c : Bytes} (h1 : Reach own a b)
    (h2 : Reach own b c) : Reach own a c := by
  induction h1 with
  | refl => exact h2
  | step hb _ ih => exact .step hb (ih h2)

theorem reach_congr_own {own own' : Bytes → List Bytes} (he : ∀ sp x, x ∈ own sp → x ∈ own' sp)
    {a b : Bytes} (h : Reach own a b) : Reach own' a b := by
  induction h with
  | refl => exact .refl _
  | step hb _ ih => exact .step (he _ _ hb) ih

/-- `Trav.Lawful` restricted to states satisfying an invariant the action preserves; the owner LIST
may depend on the state as long as its set of elements does not (commit re-sorts the inputs) -/
structure Trav.LawfulOn (T : Trav σ) (own : Bytes → List Bytes) (Inv : σ → Prop) : Prop where
  owners_eq : ∀ st sp os, Inv st → T.owners st sp = .ok os → ∀ x, x ∈ os ↔ x ∈ own sp
  act_done : ∀ sp st st', Inv st → T.act sp st = .ok st' →
    ∀ x, T.isDone st' x = (x == sp || T.isDone st x)
  act_inv : ∀ sp st st', Inv st → T.act sp st = .ok st' → Inv st'

theorem Trav.Lawful.lawfulOn {T : Trav σ} {own} (h : T.Lawful own) : T.LawfulOn own (fun _ => True) :=
  ⟨fun st sp os _ ho x => by rw [h.owners_eq st sp os ho], fun sp st st' _ => h.act_done sp st st',
    fun _ _ _ _ _ => trivial⟩

theorem lawfulOn_congr_own {T : Trav σ} {own own' : Bytes → List Bytes} {Inv : σ → Prop}
    (h : T.LawfulOn own Inv) (he : ∀ sp x, x ∈ own sp ↔ x ∈ own' sp) : T.LawfulOn own' Inv :=
  ⟨fun st sp os hi ho x => (h.owners_eq st sp os hi ho x).trans (he sp x), h.act_done, h.act_inv⟩

theorem visitAll_cons (f : Bytes → σ → Except Err σ) (o : Bytes) (os : List Bytes) (st : σ) :
    visitAll f (o :: os) st = (f o st).bind (visitAll f os) := by
  rw [visitAll]
  cases f o st <;> rfl

theorem visit_succ (T : Trav σ) (r : Bool) (fuel : Nat) (avail : List Bytes) (sp : Bytes) (st : σ) :
    visit T r (fuel+1) avail sp st =
      if T.isDone st sp then .ok st
      else if !avail.contains sp then .error .cycle
      else (T.owners st sp).bind fun os =>
        (if r then visitAll (visit T r fuel (avail.filter (· != sp))) os st else .ok st).bind
          (T.act sp) := by
  rw [visit]
  cases T.owners st sp with
  | error e => rfl
  | ok os =>
    refine congrArg (fun z => ite _ _ (ite _ _ z)) ?_
    dsimp only  -- the `let up` of `visit` has to be a variable before its `match` can be split
    show _ = (if r = true then visitAll (visit T r fuel (avail.filter (· != sp))) os st
      else Except.ok st).bind (T.act sp)
    generalize (if r = true then visitAll (visit T r fuel (avail.filter (· != sp))) os st
      else Except.ok st) = up
    cases up <;> rfl

theorem visitAll_cons_inv {f : Bytes → σ → Except Err σ} {o : Bytes} {os : List Bytes} {a a' : σ}
    (h : visitAll f (o :: os) a = .ok a') : ∃ am, f o a = .ok am ∧ visitAll f os am = .ok a' :=
  bind_eq_ok ((visitAll_cons f o os a).symm.trans h)

theorem visit_done_of {T : Trav σ} {r : Bool} {fuel : Nat} {avail : List Bytes} {sp : Bytes} {st : σ}
    (hd : T.isDone st sp = true) : visit T r (fuel+1) avail sp st = .ok st := by
  rw [visit_succ, if_pos hd]

theorem visit_succ_of {T : Trav σ} {r : Bool} {fuel : Nat} {avail : List Bytes} {sp : Bytes}
    {st st1 st' : σ} {os : List Bytes} (hd : T.isDone st sp = false) (hav : avail.contains sp = true)
    (hos : T.owners st sp = .ok os)
    (h1 : (if r then visitAll (visit T r fuel (avail.filter (· != sp))) os st else .ok st) = .ok st1)
    (ha : T.act sp st1 = .ok st') : visit T r (fuel+1) avail sp st = .ok st' := by
  rw [visit_succ, hd, if_neg Bool.false_ne_true, hav, Bool.not_true, if_neg Bool.false_ne_true, hos]
  show Except.bind (if r = true then _ else _) (T.act sp) = _
  rw [h1]
  exact ha

theorem visit_succ_inv {T : Trav σ} {r : Bool} {fuel : Nat} {avail : List Bytes} {sp : Bytes}
    {st st' : σ} (h : visit T r (fuel+1) avail sp st = .ok st') :
    (T.isDone st sp = true ∧ st' = st) ∨
    (T.isDone st sp = false ∧ avail.contains sp = true ∧ ∃ os st1, T.owners st sp = .ok os ∧
      (if r then visitAll (visit T r fuel (avail.filter (· != sp))) os st else .ok st) = .ok st1 ∧
      T.act sp st1 = .ok st') := by
  rw [visit_succ] at h
  by_cases hd : T.isDone st sp = true
  · rw [if_pos hd] at h
    exact .inl ⟨hd, (Except.ok.inj h).symm⟩
  rw [if_neg hd] at h
  cases hav : avail.contains sp with
  | false => rw [hav, Bool.not_false, if_pos rfl] at h; cases h
  | true =>
  rw [hav, Bool.not_true, if_neg Bool.false_ne_true] at h
  obtain ⟨os, hos, h⟩ := bind_eq_ok h
  obtain ⟨st1, hup, hact⟩ := bind_eq_ok h
  exact .inr ⟨Bool.eq_false_iff.2 hd, rfl, os, st1, hos, hup, hact⟩

theorem visitAll_keeps (P : σ → Prop) {f : Bytes → σ → Except Err σ}
    (hf : ∀ o st st', P st → f o st = .ok st' → P st') :
    ∀ (os : List Bytes) (st st' : σ), P st → visitAll f os st = .ok st' → P st' := by
  intro os
  induction os with
  | nil => intro st st' hp h; cases h; exact hp
  | cons o os ih =>
    intro st st' hp h
    obtain ⟨s1, h1, h2⟩ := visitAll_cons_inv h
    exact ih s1 st' (hf o st s1 hp h1) h2

/-- an invariant of the stage action is an invariant of the whole traversal (no law of the traversal
is needed; `visit_preserves` lets the action assume more) -/
theorem visit_keeps (T : Trav σ) (r : Bool) (P : σ → Prop)
    (hact : ∀ sp st st', P st → T.act sp st = .ok st' → P st') :
    ∀ (fuel : Nat) (avail : List Bytes) (sp : Bytes) (st st' : σ),
      P st → visit T r fuel avail sp st = .ok st' → P st' := by
  intro fuel
  induction fuel with
  | zero => intro _ _ _ _ _ h; cases h
  | succ fuel ih =>
    intro avail sp st st' hp h
    rcases visit_succ_inv h with ⟨_, rfl⟩ | ⟨_, _, os, s1, _, h1, ha⟩
    · exact hp
    · refine hact sp s1 st' ?_ ha
      cases r with
      | false => cases h1; exact hp
      | true => exact visitAll_keeps P (fun o a b => ih _ o a b) os st s1 hp h1

theorem visit_root_done (T : Trav σ) (r : Bool)
    (hact : ∀ sp a b, T.act sp a = .ok b → T.isDone b sp = true) (fuel : Nat) :
    ∀ (avail : List Bytes) (sp : Bytes) (a b : σ),
      visit T r fuel avail sp a = .ok b → T.isDone b sp = true := by
  cases fuel with
  | zero => intro _ _ _ _ h; cases h
  | succ fuel =>
    intro avail sp a b h
    rcases visit_succ_inv h with ⟨hd, rfl⟩ | ⟨_, _, os, a1, _, _, ha⟩
    · exact hd
    · exact hact sp a1 b ha

/-- if `A` holds before a step whenever it holds after it, then `A` holds at the start of a traversal
whenever it holds at its end: `visitAll_keeps` (below: `visit_keeps`) for the invariant
"`A` here implies `A` at the start" -/
theorem visitAll_anti (A : σ → Prop) {f : Bytes → σ → Except Err σ}
    (hf : ∀ o a b, f o a = .ok b → A b → A a) (os : List Bytes) (a b : σ)
    (h : visitAll f os a = .ok b) : A b → A a :=
  visitAll_keeps (fun x => A x → A a) (fun o x y hx hxy hy => hx (hf o x y hxy hy)) os a b id h

theorem CI.visit_anti (T : Trav σ) (r : Bool) (A : σ → Prop)
    (hanti : ∀ sp a b, T.act sp a = .ok b → A b → A a) (fuel : Nat) (avail : List Bytes) (sp : Bytes)
    (a b : σ) (h : visit T r fuel avail sp a = .ok b) : A b → A a :=
  visit_keeps T r (fun x => A x → A a) (fun sp x y hx hxy hy => hx (hanti sp x y hxy hy))
    fuel avail sp a b id h

theorem visitAll_sim {τ : Type} (R : σ → τ → Prop) (A : σ → Prop) {f1 : Bytes → σ → Except Err σ}
    {f2 : Bytes → τ → Except Err τ} (hfa : ∀ o a b, f1 o a = .ok b → A b → A a)
    (hf : ∀ o a a' b, f1 o a = .ok a' → A a' → R a b → ∃ b', f2 o b = .ok b' ∧ R a' b')
    (os : List Bytes) : ∀ (a a' : σ) (b : τ), visitAll f1 os a = .ok a' → A a' → R a b →
      ∃ b', visitAll f2 os b = .ok b' ∧ R a' b' := by
  induction os with
  | nil =>
    intro a a' b h _ hr
    simp only [visitAll, Except.ok.injEq] at h
    exact ⟨b, rfl, h ▸ hr⟩
  | cons o os ih =>
    intro a a' b h ha' hr
    obtain ⟨am, h1, h2⟩ := visitAll_cons_inv h
    have ham := visitAll_anti A hfa os am a' h2 ha'
    obtain ⟨bm, g1, hrm⟩ := hf o a am b h1 ham hr
    obtain ⟨b', g2, hr'⟩ := ih am a' bm h2 ha' hrm
    exact ⟨b', by simp only [visitAll, g1, g2], hr'⟩

/-- **Simulation.**  If related states agree on done-ness and owners, and every successful action
of `T1` — that leads to a state satisfying the backward invariant `A` — is matched by a successful
action of `T2`, then a successful traversal with `T1` ending in `A` is matched by a successful
traversal with `T2` (same stages, same order). -/
theorem CI.visit_sim {τ : Type} (T1 : Trav σ) (T2 : Trav τ) (r : Bool) (R : σ → τ → Prop) (A : σ → Prop)
    (hdone : ∀ a b sp, R a b → T2.isDone b sp = T1.isDone a sp)
    (hown : ∀ a b sp, R a b → T2.owners b sp = T1.owners a sp)
    (hanti : ∀ sp a a', T1.act sp a = .ok a' → A a' → A a)
    (hact : ∀ sp a a' b, R a b → T1.act sp a = .ok a' → A a' → ∃ b', T2.act sp b = .ok b' ∧ R a' b')
    (fuel : Nat) : ∀ (avail : List Bytes) (sp : Bytes) (a a' : σ) (b : τ),
      visit T1 r fuel avail sp a = .ok a' → A a' → R a b →
      ∃ b', visit T2 r fuel avail sp b = .ok b' ∧ R a' b' := by
  induction fuel with
  | zero => intro _ _ _ _ _ h; cases h
  | succ fuel ih =>
    intro avail sp a a' b h ha' hr
    rcases visit_succ_inv h with ⟨hd, he⟩ | ⟨hd, hav, os, a1, hos, h1, hact1⟩
    · subst he
      exact ⟨b, visit_done_of (by rw [hdone _ b sp hr]; exact hd), hr⟩
    · have ha1 := hanti sp a1 a' hact1 ha'
      have hd2 : T2.isDone b sp = false := by rw [hdone a b sp hr]; exact hd
      have hos2 : T2.owners b sp = .ok os := by rw [hown a b sp hr]; exact hos
      cases r with
      | false =>
        simp only [Bool.false_eq_true, if_false, Except.ok.injEq] at h1
        subst h1
        obtain ⟨b', hb', hr'⟩ := hact sp a a' b hr hact1 ha'
        exact ⟨b', visit_succ_of hd2 hav hos2 (by simp) hb', hr'⟩
      | true =>
        simp only [if_true] at h1
        obtain ⟨b1, g1, hr1⟩ := visitAll_sim R A
          (fun o x y hv hy => CI.visit_anti T1 true A hanti fuel _ o x y hv hy)
          (fun o x x' y hv hx' hxy => ih _ o x x' y hv hx' hxy)
          os a a1 b h1 ha1 hr
        obtain ⟨b', hb', hr'⟩ := hact sp a1 a' b1 hr1 hact1 ha'
        exact ⟨b', visit_succ_of hd2 hav hos2 (by simp only [if_true]; exact g1) hb', hr'⟩

theorem logged_act_inv {T : Trav σ} {sp : Bytes} {p p' : σ × List Bytes}
    (h : T.logged.act sp p = .ok p') : ∃ s, T.act sp p.1 = .ok s ∧ p' = (s, p.2 ++ [sp]) := by
  simp only [Trav.logged] at h
  cases hact : T.act sp p.1 with
  | error e => rw [hact] at h; cases h
  | ok s => rw [hact] at h; cases h; exact ⟨s, rfl, rfl⟩

theorem map_bind {α α' β β' : Type} {k : α → α'} {m : β → β'} {x : Except Err α}
    {y : Except Err α'} {f : α → Except Err β} {g : α' → Except Err β'} (hx : x.map k = y)
    (hf : ∀ a, x = .ok a → (f a).map m = g (k a)) : (x.bind f).map m = y.bind g := by
  subst hx
  cases x with
  | error e => rfl
  | ok a => exact hf a rfl

theorem visitAll_lift_on {σ' : Type} (π : σ' → σ) (I : σ' → Prop) {f' : Bytes → σ' → Except Err σ'}
    {f : Bytes → σ → Except Err σ} (hI : ∀ o s s', I s → f' o s = .ok s' → I s')
    (hf : ∀ o s, I s → (f' o s).map π = f o (π s)) :
    ∀ (os : List Bytes) (s : σ'), I s → (visitAll f' os s).map π = visitAll f os (π s) := by
  intro os
  induction os with
  | nil => intro s _; rfl
  | cons o os ih =>
    intro s hs
    rw [visitAll_cons, visitAll_cons]
    exact map_bind (hf o s hs) fun s' h' => ih s' (hI o s s' hs h')

/-- a traversal commutes with a map `π` of the states when its three fields do, on the states that
satisfy an invariant `I` of the action: the run from `π s` is the image of the run from `s`, value
or error -/
theorem visit_lift_on {σ' : Type} (π : σ' → σ) (T' : Trav σ') (T : Trav σ) (I : σ' → Prop)
    (hI : ∀ sp s s', I s → T'.act sp s = .ok s' → I s')
    (hd : ∀ s sp, I s → T'.isDone s sp = T.isDone (π s) sp)
    (ho : ∀ s sp, I s → T'.owners s sp = T.owners (π s) sp)
    (ha : ∀ sp s, I s → (T'.act sp s).map π = T.act sp (π s)) (r : Bool) :
    ∀ (fuel : Nat) (avail : List Bytes) (sp : Bytes) (s : σ'), I s →
      (visit T' r fuel avail sp s).map π = visit T r fuel avail sp (π s) := by
  intro fuel
  induction fuel with
  | zero => intro _ _ _ _; rfl
  | succ fuel ih =>
    intro avail sp s hs
    rw [visit_succ, visit_succ, hd s sp hs, ho s sp hs]
    by_cases hdn : T.isDone (π s) sp = true
    · rw [if_pos hdn, if_pos hdn]; rfl
    rw [if_neg hdn, if_neg hdn]
    by_cases hav : (!avail.contains sp) = true
    · rw [if_pos hav, if_pos hav]; rfl
    rw [if_neg hav, if_neg hav]
    refine map_bind (k := id) (by cases T.owners (π s) sp <;> rfl) fun os _ => ?_
    cases r with
    | false => exact map_bind (k := π) rfl fun s' h' => Except.ok.inj h' ▸ ha sp s hs
    | true =>
      exact map_bind (k := π) (visitAll_lift_on π I (visit_keeps T' true I hI fuel _) (ih _) os s hs)
        fun s' h' => ha sp s' (visitAll_keeps I (visit_keeps T' true I hI fuel _) os s s' hs h')

/-- a traversal on richer states commutes with the projection when its three fields do -/
theorem visit_lift {σ' : Type} (π : σ' → σ) (T' : Trav σ') (T : Trav σ)
    (hd : ∀ s sp, T'.isDone s sp = T.isDone (π s) sp) (ho : ∀ s sp, T'.owners s sp = T.owners (π s) sp)
    (ha : ∀ sp s, (T'.act sp s).map π = T.act sp (π s)) (r : Bool) (fuel : Nat) (avail : List Bytes)
    (sp : Bytes) (s : σ') : (visit T' r fuel avail sp s).map π = visit T r fuel avail sp (π s) :=
  visit_lift_on π T' T (fun _ => True) (fun _ _ _ _ _ => trivial) (fun s sp _ => hd s sp)
    (fun s sp _ => ho s sp) (fun sp s _ => ha sp s) r fuel avail sp s trivial

theorem visitAll_erase {f : Bytes → σ × List Bytes → Except Err (σ × List Bytes)}
    {g : Bytes → σ → Except Err σ} (hfg : ∀ o st l, (f o (st, l)).map (·.1) = g o st) :
    ∀ os st l, (visitAll f os (st, l)).map (·.1) = visitAll g os st :=
  fun os st l => visitAll_lift_on (·.1) (fun _ => True) (fun _ _ _ _ _ => trivial)
    (fun o s _ => hfg o s.1 s.2) os (st, l) trivial

theorem visit_erase (T : Trav σ) (r : Bool) (fuel : Nat) (avail : List Bytes) (sp : Bytes) (st : σ)
    (l : List Bytes) : (visit T.logged r fuel avail sp (st, l)).map (·.1) = visit T r fuel avail sp st :=
  visit_lift (·.1) T.logged T (fun _ _ => rfl) (fun _ _ => rfl)
    (fun sp p => by simp only [Trav.logged]; cases T.act sp p.1 <;> rfl) r fuel avail sp (st, l)

theorem visit_logged_succ_inv {T : Trav σ} {r : Bool} {fuel : Nat} {avail : List Bytes} {sp : Bytes}
    {p p' : σ × List Bytes} (h : visit T.logged r (fuel+1) avail sp p = .ok p') :
    (T.isDone p.1 sp = true ∧ p' = p) ∨
    (T.isDone p.1 sp = false ∧ sp ∈ avail ∧ ∃ os p1, T.owners p.1 sp = .ok os ∧
      (if r then visitAll (visit T.logged r fuel (avail.filter (· != sp))) os p = .ok p1 else p1 = p) ∧
      T.logged.act sp p1 = .ok p') := by
  rcases visit_succ_inv h with h | ⟨hd, hav, os, p1, hos, hup, hact⟩
  · exact .inl h
  · refine .inr ⟨hd, List.contains_iff_mem.1 hav, os, p1, hos, ?_, hact⟩
    cases r with
    | true => exact hup
    | false => exact (Except.ok.inj hup).symm

/-- what a successful logged traversal from `p` to `p'` did: it appended `d` to the log; the clauses
are those of the head of this file, in that order (`A x`: `x` was available, `P x`: `x` is upstream
of the root) -/
def Trace (T : Trav σ) (own : Bytes → List Bytes) (Inv : σ → Prop) (r : Bool) (A : Bytes → Prop)
    (P : Bytes → Prop) (p p' : σ × List Bytes) : Prop :=
  ∃ d, p'.2 = p.2 ++ d ∧ Inv p'.1 ∧ d.Nodup ∧
    (∀ x, x ∈ d → A x ∧ T.isDone p.1 x = false ∧ P x) ∧
    (∀ x, T.isDone p'.1 x = (T.isDone p.1 x || d.contains x)) ∧
    (r = true → ∀ x, x ∈ d → ∀ o, o ∈ own x → T.isDone p.1 o = true ∨ Before d o x)

variable {T : Trav σ} {own : Bytes → List Bytes} {Inv : σ → Prop} {r : Bool}

theorem Trace.refl {A : Bytes → Prop} {P : Bytes → Prop} {p : σ × List Bytes} (h : Inv p.1) :
    Trace T own Inv r A P p p :=
  ⟨[], by simp, h, by simp, by simp, by simp, by simp⟩

theorem Trace.mono {A A' : Bytes → Prop} {P P' : Bytes → Prop} {p p' : σ × List Bytes}
    (ha : ∀ x, A x → A' x) (hP : ∀ x, P x → P' x)
    (h : Trace T own Inv r A P p p') : Trace T own Inv r A' P' p p' := by
  obtain ⟨d, h1, h2, h3, h4, h5, h6⟩ := h
  exact ⟨d, h1, h2, h3, fun x hx => ⟨ha _ (h4 x hx).1, (h4 x hx).2.1, hP _ (h4 x hx).2.2⟩, h5, h6⟩

theorem Trace.trans {A : Bytes → Prop} {P : Bytes → Prop} {p p1 p2 : σ × List Bytes}
    (h : Trace T own Inv r A P p p1) (h' : Trace T own Inv r A P p1 p2) :
    Trace T own Inv r A P p p2 := by
  obtain ⟨d, h1, _, h3, h4, h5, h6⟩ := h
  obtain ⟨e, g1, g2, g3, g4, g5, g6⟩ := h'
  have hnew : ∀ x, x ∈ e → T.isDone p.1 x = false ∧ x ∉ d := by
    intro x hx
    have := Bool.or_eq_false_iff.1 ((h5 x).symm.trans (g4 x hx).2.1)
    exact ⟨this.1, fun hm => Bool.false_ne_true (this.2.symm.trans (List.contains_iff_mem.2 hm))⟩
  refine ⟨d ++ e, by rw [g1, h1, List.append_assoc], g2, ?_, ?_, ?_, ?_⟩
  · rw [List.nodup_append]
    exact ⟨h3, g3, fun a ha b hb hab => (hnew b hb).2 (hab ▸ ha)⟩
  · intro x hx
    rcases List.mem_append.1 hx with hx | hx
    · exact h4 x hx
    · exact ⟨(g4 x hx).1, (hnew x hx).1, (g4 x hx).2.2⟩
  · intro x
    rw [g5, h5, List.contains_append, Bool.or_assoc]
  · intro hr x hx o ho
    rcases List.mem_append.1 hx with hx | hx
    · rcases h6 hr x hx o ho with h | h
      · exact .inl h
      · exact .inr (h.append_right e)
    · rcases g6 hr x hx o ho with h | h
      · rw [h5, Bool.or_eq_true] at h
        rcases h with h | h
        · exact .inl h
        · exact .inr (Before.of_mem_append (List.contains_iff_mem.1 h) hx)
      · exact .inr (h.append_left d)

theorem Trace.done_mono {A : Bytes → Prop} {P : Bytes → Prop} {p p' : σ × List Bytes}
    (h : Trace T own Inv r A P p p') {x : Bytes} (hx : T.isDone p.1 x = true) :
    T.isDone p'.1 x = true := by
  obtain ⟨d, _, _, _, _, h5, _⟩ := h
  rw [h5, hx]; rfl

theorem Trace.inv {A : Bytes → Prop} {P : Bytes → Prop} {p p' : σ × List Bytes}
    (h : Trace T own Inv r A P p p') : Inv p'.1 := by
  obtain ⟨d, _, h2, _⟩ := h
  exact h2

theorem Trace.not_done {A : Bytes → Prop} {P : Bytes → Prop} {p p' : σ × List Bytes}
    (h : Trace T own Inv r A P p p') {x : Bytes} (hx : T.isDone p.1 x = false) (hA : ¬ A x) :
    T.isDone p'.1 x = false := by
  obtain ⟨d, _, _, _, h4, h5, _⟩ := h
  rw [h5, hx, Bool.false_or]
  exact Bool.eq_false_iff.2 fun hc => hA (h4 x (List.contains_iff_mem.1 hc)).1

theorem Trace.of_fresh {A : Bytes → Prop} {P : Bytes → Prop} {st st' : σ} {l' : List Bytes}
    (h : Trace T own Inv r A P (st, []) (st', l')) (h0 : ∀ x, T.isDone st x = false) :
    Inv st' ∧ l'.Nodup ∧ (∀ x, x ∈ l' → A x ∧ P x) ∧ (∀ x, T.isDone st' x = l'.contains x) ∧
      (r = true → ∀ x, x ∈ l' → ∀ o, o ∈ own x → Before l' o x) := by
  obtain ⟨d, h1, h2, h3, h4, h5, h6⟩ := h
  cases (h1.trans (List.nil_append d) : l' = d)
  refine ⟨h2, h3, fun x hx => ⟨(h4 x hx).1, (h4 x hx).2.2⟩, fun x => ?_, fun hr x hx o ho => ?_⟩
  · rw [h5, h0, Bool.false_or]
  · exact (h6 hr x hx o ho).resolve_left fun h => Bool.noConfusion ((h0 o).symm.trans h)

theorem Trace.act (hT : T.LawfulOn own Inv) {A : Bytes → Prop} {P : Bytes → Prop} {sp : Bytes}
    {p p' : σ × List Bytes} (hi : Inv p.1) (hnd : T.isDone p.1 sp = false) (ha : A sp)
    (hP : P sp) (hown : r = true → ∀ o, o ∈ own sp → T.isDone p.1 o = true)
    (h : T.logged.act sp p = .ok p') :
    Trace T own Inv r A P p p' ∧ T.isDone p'.1 sp = true := by
  obtain ⟨s, hact, rfl⟩ := logged_act_inv h
  have hd := hT.act_done sp p.1 s hi hact
  refine ⟨⟨[sp], rfl, hT.act_inv sp p.1 s hi hact, by simp, ?_, ?_, ?_⟩, ?_⟩
  · intro x hx
    cases List.mem_singleton.1 hx
    exact ⟨ha, hnd, hP⟩
  · intro x
    rw [hd x, List.contains_cons, List.contains_nil, Bool.or_false, Bool.or_comm]
  · intro hr x hx o ho
    cases List.mem_singleton.1 hx
    exact .inl (hown hr o ho)
  · rw [hd sp, beq_self_eq_true, Bool.true_or]

theorem visitAll_run {f : Bytes → σ × List Bytes → Except Err (σ × List Bytes)} {A : Bytes → Prop}
    {Q : σ × List Bytes → Prop} :
    ∀ (os : List Bytes),
      (∀ o, o ∈ os → ∀ p p', Inv p.1 → f o p = .ok p' →
        (Trace T own Inv r A (Reach own o) p p' ∧ T.isDone p'.1 o = true) ∧ (Q p → Q p')) →
      ∀ (p p' : σ × List Bytes), Inv p.1 → visitAll f os p = .ok p' →
        (Trace T own Inv r A (fun x => ∃ o, o ∈ os ∧ Reach own o x) p p' ∧
          ∀ o, o ∈ os → T.isDone p'.1 o = true) ∧ (Q p → Q p') := by
  intro os
  induction os with
  | nil =>
    intro _ p p' hi h
    cases h
    exact ⟨⟨Trace.refl hi, fun _ h => nomatch h⟩, id⟩
  | cons o os ih =>
    intro hf p p' hi h
    rw [visitAll_cons] at h
    obtain ⟨p1, hfo, h⟩ := bind_eq_ok h
    obtain ⟨⟨t1, d1⟩, q1⟩ := hf o List.mem_cons_self p p1 hi hfo
    obtain ⟨⟨t2, d2⟩, q2⟩ := ih (fun o' ho' => hf o' (List.mem_cons_of_mem _ ho')) p1 p' t1.inv h
    refine ⟨⟨Trace.trans (t1.mono (fun _ h => h) fun x hx => ⟨o, List.mem_cons_self, hx⟩)
      (t2.mono (fun _ h => h) fun x ⟨o', ho', hx⟩ => ⟨o', List.mem_cons_of_mem _ ho', hx⟩), ?_⟩,
      fun hq => q2 (q1 hq)⟩
    intro o' ho'
    rcases List.mem_cons.1 ho' with rfl | ho'
    · exact t2.done_mono d1
    · exact d2 o' ho'

theorem visitAll_trace {f : Bytes → σ × List Bytes → Except Err (σ × List Bytes)} {A : Bytes → Prop}
    (hf : ∀ o p p', Inv p.1 → f o p = .ok p' →
      Trace T own Inv r A (Reach own o) p p' ∧ T.isDone p'.1 o = true) :
    ∀ (os : List Bytes) (p p' : σ × List Bytes), Inv p.1 → visitAll f os p = .ok p' →
      Trace T own Inv r A (fun x => ∃ o, o ∈ os ∧ Reach own o x) p p' ∧
      ∀ o, o ∈ os → T.isDone p'.1 o = true :=
  fun os p p' hi h =>
    (visitAll_run (Q := fun _ => True) os (fun o _ p p' hi h => ⟨hf o p p' hi h, id⟩) p p' hi h).1

/-- the actions of the traversal keep the property `Q` of the state — where an action may assume the
invariant, that the stage is not done, that (recursive traversal) all its owners are done, and that
the stage satisfies `R` (e.g. "upstream of the root") -/
def Trav.ActKeeps (T : Trav σ) (own : Bytes → List Bytes) (Inv : σ → Prop) (r : Bool)
    (R : Bytes → Prop) (Q : σ → Prop) : Prop :=
  ∀ sp st st', R sp → Inv st → Q st → T.isDone st sp = false →
    (r = true → ∀ o, o ∈ own sp → T.isDone st o = true) → T.act sp st = .ok st' → Q st'

/-- **Main invariant.** A successful logged traversal is a `Trace`, its root ends up done, and it
keeps every property `Q` of the state that the actions keep on the stages satisfying `R`, a predicate
true of the root and inherited by owners. -/
theorem visit_run (hT : T.LawfulOn own Inv) {Q : σ → Prop} {R : Bytes → Prop}
    (hR : ∀ a o, R a → o ∈ own a → R o) (hQ : T.ActKeeps own Inv r R Q) :
    ∀ (fuel : Nat) (avail : List Bytes) (sp : Bytes) (p p' : σ × List Bytes), R sp → Inv p.1 →
      visit T.logged r fuel avail sp p = .ok p' →
      (Trace T own Inv r (· ∈ avail) (Reach own sp) p p' ∧ T.isDone p'.1 sp = true) ∧
        (Q p.1 → Q p'.1) := by
  intro fuel
  induction fuel with
  | zero => intro _ _ _ _ _ _ h; cases h
  | succ fuel ih =>
    intro avail sp p p' hr0 hi h
    rcases visit_logged_succ_inv h with ⟨hd, rfl⟩ | ⟨hnd, hav, os, p1, hos, hup, hact⟩
    · exact ⟨⟨Trace.refl hi, hd⟩, id⟩
    have hown := hT.owners_eq p.1 sp os hi hos
    obtain ⟨s, hs, hp'⟩ := logged_act_inv hact
    by_cases hr : r = true
    · rw [if_pos hr] at hup
      obtain ⟨⟨t1, d1⟩, q1⟩ := visitAll_run (Q := fun p => Q p.1) os
        (fun o ho q q' hq hv => ih (avail.filter (· != sp)) o q q'
          (hR sp o hr0 ((hown o).1 ho)) hq hv)
        p p1 hi hup
      have hnd1 := t1.not_done hnd (by simp)
      have hod : r = true → ∀ o, o ∈ own sp → T.isDone p1.1 o = true :=
        fun _ o ho => d1 o ((hown o).2 ho)
      obtain ⟨t2, d2⟩ := Trace.act (A := (· ∈ avail)) (P := Reach own sp) hT t1.inv hnd1 hav
        (Reach.refl sp) hod hact
      exact ⟨⟨Trace.trans (t1.mono (fun x hx => (List.mem_filter.1 hx).1)
        fun x ⟨o, ho, hx⟩ => Reach.step ((hown o).1 ho) hx) t2, d2⟩,
        fun hq => hp' ▸ hQ sp p1.1 s hr0 t1.inv (q1 hq) hnd1 hod hs⟩
    · rw [if_neg hr] at hup
      subst hup
      exact ⟨Trace.act hT hi hnd hav (Reach.refl sp) (fun h => absurd h hr) hact,
        fun hq => hp' ▸ hQ sp p1.1 s hr0 hi hq hnd (fun h => absurd h hr) hs⟩

theorem visit_trace (hT : T.LawfulOn own Inv) : ∀ (fuel : Nat) (avail : List Bytes) (sp : Bytes)
    (p p' : σ × List Bytes), Inv p.1 → visit T.logged r fuel avail sp p = .ok p' →
      Trace T own Inv r (· ∈ avail) (Reach own sp) p p' ∧ T.isDone p'.1 sp = true :=
  fun fuel avail sp p p' hi h =>
    (visit_run (Q := fun _ => True) (R := fun _ => True) hT (fun _ _ _ _ => trivial)
      (fun _ _ _ _ _ _ _ _ _ => trivial) fuel avail sp p p' trivial hi h).1

theorem ok_of_map_fst {α β : Type} {x : Except Err (α × β)} {a : α} (h : x.map (·.1) = .ok a) :
    ∃ b, x = .ok (a, b) := by
  cases x with
  | error e => cases h
  | ok p =>
    obtain ⟨a', b⟩ := p
    simp only [Except.map, Except.ok.injEq] at h
    exact ⟨b, by rw [h]⟩

theorem visit_ok_logged {fuel : Nat} {avail : List Bytes} {sp : Bytes} {st st' : σ}
    (h : visit T r fuel avail sp st = .ok st') (l : List Bytes) :
    ∃ l', visit T.logged r fuel avail sp (st, l) = .ok (st', l') :=
  ok_of_map_fst ((visit_erase T r fuel avail sp st l).trans h)

theorem visitAll_ok_logged {fuel : Nat} {avail : List Bytes} {os : List Bytes} {st st' : σ}
    (h : visitAll (visit T r fuel avail) os st = .ok st') (l : List Bytes) :
    ∃ l', visitAll (visit T.logged r fuel avail) os (st, l) = .ok (st', l') :=
  ok_of_map_fst ((visitAll_erase (fun o st l => visit_erase T r fuel avail o st l) os st l).trans h)

/-- **Invariant principle**: the `Q` part of `visit_run`, for a plain traversal -/
theorem visit_preserves_on (hT : T.LawfulOn own Inv) {Q : σ → Prop} {R : Bytes → Prop}
    (hR : ∀ a o, R a → o ∈ own a → R o) (hQ : T.ActKeeps own Inv r R Q)
    (fuel : Nat) (avail : List Bytes) (sp : Bytes) (st st' : σ) (hr : R sp) (hi : Inv st) (hq : Q st)
    (h : visit T r fuel avail sp st = .ok st') : Q st' :=
  let ⟨l', hl⟩ := visit_ok_logged h []
  (visit_run hT hR hQ fuel avail sp (st, []) (st', l') hr hi hl).2 hq

theorem visit_preserves (hT : T.LawfulOn own Inv) {Q : σ → Prop}
    (hQ : ∀ sp st st', Inv st → Q st → T.isDone st sp = false →
      (r = true → ∀ o, o ∈ own sp → T.isDone st o = true) → T.act sp st = .ok st' → Q st')
    (fuel : Nat) (avail : List Bytes) (sp : Bytes) (st st' : σ) (hi : Inv st) (hq : Q st)
    (h : visit T r fuel avail sp st = .ok st') : Q st' :=
  visit_preserves_on (R := fun _ => True) hT (fun _ _ _ _ => trivial)
    (fun sp st st' _ => hQ sp st st') fuel avail sp st st' trivial hi hq h

theorem visit_ok (hT : T.LawfulOn own Inv) {fuel : Nat} {avail : List Bytes} {sp : Bytes} {st st' : σ}
    (hi : Inv st) (h : visit T r fuel avail sp st = .ok st') :
    Inv st' ∧ T.isDone st' sp = true ∧ ∀ x, T.isDone st x = true → T.isDone st' x = true := by
  obtain ⟨l', hl⟩ := visit_ok_logged h []
  obtain ⟨t, d⟩ := visit_trace hT fuel avail sp (st, []) (st', l') hi hl
  exact ⟨t.inv, d, fun x hx => t.done_mono hx⟩

theorem visitAll_ok (hT : T.LawfulOn own Inv) {fuel : Nat} {avail : List Bytes} {os : List Bytes}
    {st st' : σ} (hi : Inv st) (h : visitAll (visit T r fuel avail) os st = .ok st') :
    Inv st' ∧ ∀ o, o ∈ os → T.isDone st' o = true := by
  obtain ⟨l', hl⟩ := visitAll_ok_logged h []
  obtain ⟨t, d⟩ := visitAll_trace (fun o q q' hq hv => visit_trace hT fuel avail o q q' hq hv)
    os (st, []) (st', l') hi hl
  exact ⟨t.inv, d⟩

/-- the position in a duplicate-free log is a rank: `Before` means a smaller position -/
theorem idxOf_lt_of_before {l : List Bytes} (hn : l.Nodup) {o x : Bytes} (h : Before l o x) :
    l.idxOf o < l.idxOf x := by
  obtain ⟨l1, l2, l3, rfl⟩ := h
  have hx : x ∉ l1 ++ o :: l2 := fun hx =>
    (List.nodup_append.1 hn).2.2 x hx x List.mem_cons_self rfl
  have ho : o ∈ l1 ++ o :: l2 := by simp
  rw [List.idxOf_append (l₁ := l1 ++ o :: l2), if_pos ho,
    List.idxOf_append (l₁ := l1 ++ o :: l2), if_neg hx, List.idxOf_cons_self, Nat.zero_add]
  exact List.idxOf_lt_length_of_mem ho

/-- **Progress.** On a set `S` of stages closed under owners, with a rank decreasing along owners
(no cycle), the recursive traversal succeeds as soon as the owners can be computed and the action
succeeds whenever it is invoked (stage not done, all its owners done); `Q` is an invariant of these
actions. The fuel is adequate as in `visit_fuel_irrelevant`; every stage of `S` ranked at most the
root is in `avail` (none of them is in progress). -/
theorem visit_progress (hT : T.LawfulOn own Inv) {Q : σ → Prop} {S : Bytes → Prop} {rank : Bytes → Nat}
    (hrank : ∀ x, S x → ∀ o, o ∈ own x → S o ∧ rank o < rank x)
    (hown : ∀ st sp, Inv st → S sp → ∃ os, T.owners st sp = .ok os)
    (hact : ∀ st sp, Inv st → Q st → S sp → T.isDone st sp = false →
      (∀ o, o ∈ own sp → T.isDone st o = true) → ∃ st', T.act sp st = .ok st' ∧ Q st') :
    ∀ (fuel : Nat) (avail : List Bytes) (sp : Bytes) (st : σ), Inv st → Q st → S sp →
      avail.length < fuel → (∀ x, S x → rank x ≤ rank sp → x ∈ avail) →
      ∃ st', visit T true fuel avail sp st = .ok st' ∧ Q st' := by
  intro fuel
  induction fuel with
  | zero => intro _ _ _ _ _ _ hf; exact absurd hf (Nat.not_lt_zero _)
  | succ fuel ih =>
    intro avail sp st hi hq hs hf hav
    by_cases hd : T.isDone st sp = true
    · exact ⟨st, visit_done_of hd, hq⟩
    have hnd : T.isDone st sp = false := Bool.eq_false_iff.2 hd
    have hmem : sp ∈ avail := hav sp hs (Nat.le_refl _)
    have hlt : (avail.filter (· != sp)).length < fuel := Nat.lt_of_lt_of_le
      (List.length_filter_lt_length_iff_exists.2 ⟨sp, hmem, by simp⟩) (Nat.le_of_lt_succ hf)
    obtain ⟨os, hos⟩ := hown st sp hi hs
    have hsub := hT.owners_eq st sp os hi hos
    -- the owners one after the other, each by the induction hypothesis
    have key : ∀ (l : List Bytes) (st1 : σ), (∀ o, o ∈ l → o ∈ own sp) → Inv st1 → Q st1 →
        ∃ st2, visitAll (visit T true fuel (avail.filter (· != sp))) l st1 = .ok st2 ∧ Q st2 := by
      intro l
      induction l with
      | nil => intro st1 _ _ hq1; exact ⟨st1, rfl, hq1⟩
      | cons o l ihl =>
        intro st1 hl hi1 hq1
        have ho := hrank sp hs o (hl o List.mem_cons_self)
        obtain ⟨st2, hv, hq2⟩ := ih (avail.filter (· != sp)) o st1 hi1 hq1 ho.1 hlt
          (fun x hx hrx => List.mem_filter.2 ⟨hav x hx (Nat.le_trans hrx (Nat.le_of_lt ho.2)),
            bne_iff_ne.2 fun e => Nat.lt_irrefl _ (Nat.lt_of_le_of_lt (e ▸ hrx) ho.2)⟩)
        obtain ⟨st3, hv3, hq3⟩ := ihl st2 (fun o' ho' => hl o' (List.mem_cons_of_mem _ ho'))
          (visit_ok hT hi1 hv).1 hq2
        exact ⟨st3, by rw [visitAll_cons, hv]; exact hv3, hq3⟩
    obtain ⟨st1, hv1, hq1⟩ := key os st (fun o ho => (hsub o).1 ho) hi hq
    obtain ⟨hi1, hd1⟩ := visitAll_ok hT hi hv1
    -- the owners were visited with `sp` taken out of `avail`, so `sp` is still not done
    obtain ⟨l', hl⟩ := visitAll_ok_logged hv1 []
    have hnd1 := (visitAll_trace (fun o q q' hq hv => visit_trace hT fuel _ o q q' hq hv)
      os (st, []) (st1, l') hi hl).1.not_done hnd (by simp)
    obtain ⟨st', ha, hq'⟩ := hact st1 sp hi1 hq1 hs hnd1 (fun o ho => hd1 o ((hsub o).2 ho))
    exact ⟨st', visit_succ_of hnd (List.contains_iff_mem.2 hmem) hos hv1 ha, hq'⟩

theorem visitAll_congr_on {f g : Bytes → σ → Except Err σ} {Inv : σ → Prop}
    (hfg : ∀ o st, Inv st → f o st = g o st) (hg : ∀ o st st', Inv st → g o st = .ok st' → Inv st') :
    ∀ (os : List Bytes) (st : σ), Inv st → visitAll f os st = visitAll g os st := by
  intro os
  induction os with
  | nil => intro _ _; rfl
  | cons o os ih =>
    intro st hi
    rw [visitAll_cons, visitAll_cons, hfg o st hi]
    exact bind_congr_ok fun st1 hgo => ih st1 (hg o st st1 hi hgo)

/-- the guard "all owners are done" never fires in a recursive traversal -/
theorem visit_guarded_eq (hT : T.LawfulOn own Inv) : ∀ (fuel : Nat) (avail : List Bytes) (sp : Bytes)
    (st : σ), Inv st →
      visit (T.guarded (ownersDone T own)) true fuel avail sp st = visit T true fuel avail sp st := by
  intro fuel
  induction fuel with
  | zero => intro _ _ _ _; rfl
  | succ fuel ih =>
    intro avail sp st hi
    rw [visit_succ, visit_succ]
    refine congrArg (fun z => ite _ _ (ite _ _ z)) (bind_congr_ok fun os hos => ?_)
    rw [if_pos rfl, if_pos rfl, visitAll_congr_on (Inv := Inv)
      (fun o s hs => ih (avail.filter (· != sp)) o s hs)
      (fun o s s' hs h => (visit_ok hT hs h).1) os st hi]
    refine bind_congr_ok fun st1 hv => if_pos ?_
    rw [ownersDone, List.all_eq_true]
    exact fun o ho => (visitAll_ok hT hi hv).2 o ((hT.owners_eq st sp os hi hos o).2 ho)

theorem Trav.LawfulOn.logged (hT : T.LawfulOn own Inv) :
    T.logged.LawfulOn own (fun p => Inv p.1) where
  owners_eq := fun p sp os hi h => hT.owners_eq p.1 sp os hi h
  act_done := fun sp p _ hi h => by
    obtain ⟨s, hs, rfl⟩ := logged_act_inv h
    exact hT.act_done sp p.1 s hi hs
  act_inv := fun sp p _ hi h => by
    obtain ⟨s, hs, rfl⟩ := logged_act_inv h
    exact hT.act_inv sp p.1 s hi hs

/-- with more fuel than available stages the result does not depend on the fuel: the
`.error .cycle` of the fuel-0 case is unreachable -/
theorem visit_fuel_irrelevant (T : Trav σ) (r : Bool) : ∀ (fuel fuel' : Nat) (avail : List Bytes)
    (sp : Bytes) (st : σ), avail.length < fuel → avail.length < fuel' →
      visit T r fuel avail sp st = visit T r fuel' avail sp st := by
  intro fuel
  induction fuel with
  | zero => intro _ _ _ _ h; exact absurd h (Nat.not_lt_zero _)
  | succ fuel ih =>
    intro fuel' avail sp st h h'
    cases fuel' with
    | zero => exact absurd h' (Nat.not_lt_zero _)
    | succ fuel' =>
    rw [visit_succ, visit_succ]
    by_cases hav : avail.contains sp = true
    · -- `avail` loses `sp` and gets shorter, so the induction hypothesis applies to every owner
      have hlt : (avail.filter (· != sp)).length < avail.length :=
        List.length_filter_lt_length_iff_exists.2 ⟨sp, List.contains_iff_mem.1 hav, by simp⟩
      rw [show visit T r fuel (avail.filter (· != sp)) = visit T r fuel' (avail.filter (· != sp)) from
        funext fun o => funext fun s =>
          ih fuel' _ o s (Nat.lt_of_lt_of_le hlt (Nat.le_of_lt_succ h))
            (Nat.lt_of_lt_of_le hlt (Nat.le_of_lt_succ h'))]
    · rw [Bool.not_eq_true] at hav
      rw [hav]; rfl

theorem no_cycle_in_log {own : Bytes → List Bytes} {l : List Bytes} (hn : l.Nodup)
    (htop : ∀ x, x ∈ l → ∀ o, o ∈ own x → Before l o x) {x y : Bytes} (hx : x ∈ l)
    (hxy : y ∈ own x) (hyx : Reach own y x) : False := by
  have hb := htop x hx y hxy
  rcases reach_before hn htop hyx hb.mem_left with rfl | h
  · exact Before.irrefl hn hb
  · exact Before.irrefl hn (Before.trans hn hb h)

theorem reach_mem_log {own : Bytes → List Bytes} {l : List Bytes} (hn : l.Nodup)
    (htop : ∀ x, x ∈ l → ∀ o, o ∈ own x → Before l o x) {a b : Bytes} (h : Reach own a b)
    (ha : a ∈ l) : b ∈ l := by
  rcases reach_before hn htop h ha with rfl | h
  · exact ha
  · exact h.mem_left

/-! ## command level: one traversal per target, shared memo, fresh recursion stack -/

section Cmd
variable {κ : Type}

/-- `perTarget` on states carrying the ghost log -/
def perTargetLogged (f : Bytes → World κ × List Bytes → Except Err (World κ × List Bytes)) :
    List Bytes → World κ × List Bytes → Except Err (World κ × List Bytes)
  | [], p => .ok p
  | t :: r, p =>
    if (alookup p.1.idx t).isNone then .error .unknownStage else
    match f t p with
    | .error e => .error e
    | .ok p' => perTargetLogged f r p'

theorem perTarget_eq_visitAll (f : Bytes → World κ → Except Err (World κ)) : ∀ (ts : List Bytes) (w : World κ),
    perTarget f ts w =
      visitAll (fun t w => if (alookup w.idx t).isNone then .error .unknownStage else f t w) ts w := by
  intro ts
  induction ts with
  | nil => intro _; rfl
  | cons t r ih =>
    intro w
    simp only [perTarget, visitAll]
    split
    · rfl
    · cases f t w with
      | error e => rfl
      | ok w' => exact ih w'

theorem perTarget_keeps (P : World κ → Prop) {f : Bytes → World κ → Except Err (World κ)}
    (hf : ∀ t w w', P w → f t w = .ok w' → P w') (ts : List Bytes) (w w' : World κ) (hp : P w)
    (h : perTarget f ts w = .ok w') : P w' := by
  rw [perTarget_eq_visitAll] at h
  refine visitAll_keeps P (fun t a b ha hv => ?_) ts w w' hp h
  split at hv
  · cases hv
  · exact hf t a b ha hv

theorem perTarget_cons_inv {f : Bytes → World κ → Except Err (World κ)} {t : Bytes} {ts : List Bytes}
    {w w' : World κ} (h : perTarget f (t :: ts) w = .ok w') :
    (alookup w.idx t).isNone = false ∧ ∃ w1, f t w = .ok w1 ∧ perTarget f ts w1 = .ok w' := by
  rw [perTarget] at h
  split at h
  · cases h
  rename_i hn
  split at h
  · cases h
  rename_i w1 h1
  exact ⟨Bool.eq_false_iff.2 hn, w1, h1, h⟩

theorem perTargetLogged_eq_visitAll (f : Bytes → World κ × List Bytes → Except Err (World κ × List Bytes)) :
    ∀ (ts : List Bytes) (p : World κ × List Bytes),
    perTargetLogged f ts p =
      visitAll (fun t p => if (alookup p.1.idx t).isNone then .error .unknownStage else f t p) ts p := by
  intro ts
  induction ts with
  | nil => intro _; rfl
  | cons t r ih =>
    intro p
    simp only [perTargetLogged, visitAll]
    split
    · rfl
    · cases f t p with
      | error e => rfl
      | ok p' => exact ih p'

theorem perTargetLogged_erase {fL : Bytes → World κ × List Bytes → Except Err (World κ × List Bytes)}
    {f : Bytes → World κ → Except Err (World κ)} (h : ∀ t w l, (fL t (w, l)).map (·.1) = f t w)
    (ts : List Bytes) (w : World κ) (l : List Bytes) :
    (perTargetLogged fL ts (w, l)).map (·.1) = perTarget f ts w := by
  rw [perTargetLogged_eq_visitAll, perTarget_eq_visitAll]
  refine visitAll_erase (fun t w l => ?_) ts w l
  simp only
  split
  · rfl
  · exact h t w l

variable {T : Trav (World κ)} {own : Bytes → List Bytes} {Inv : World κ → Prop} {r : Bool}

/-- a successful command has a logged twin -/
theorem cmd_logged (T : Trav (World κ)) (r : Bool) (F : World κ → Nat) (A : World κ → List Bytes)
    (ts : List Bytes) (w w' : World κ)
    (h : perTarget (fun t w => visit T r (F w) (A w) t w) ts w = .ok w') :
    ∃ l', perTargetLogged (fun t p => visit T.logged r (F p.1) (A p.1) t p) ts (w, []) = .ok (w', l') :=
  ok_of_map_fst ((perTargetLogged_erase
    (fL := fun t p => visit T.logged r (F p.1) (A p.1) t p)
    (f := fun t w => visit T r (F w) (A w) t w)
    (fun t w l => visit_erase T r (F w) (A w) t w l) ts w []).trans h)

/-- the whole command is one `Trace`, the targets playing the role of the owner list, and keeps what
the actions keep; `R` = "upstream of some target" -/
theorem perTarget_run (hT : T.LawfulOn own Inv) (F : World κ → Nat) (A : World κ → List Bytes)
    (ts : List Bytes) {Q : World κ → Prop}
    (hQ : T.ActKeeps own Inv r (fun x => ∃ t, t ∈ ts ∧ Reach own t x) Q)
    (p p' : World κ × List Bytes) (hi : Inv p.1)
    (h : perTargetLogged (fun t p => visit T.logged r (F p.1) (A p.1) t p) ts p = .ok p') :
    (Trace T own Inv r (fun _ => True) (fun x => ∃ t, t ∈ ts ∧ Reach own t x) p p' ∧
      ∀ t, t ∈ ts → T.isDone p'.1 t = true) ∧ (Q p.1 → Q p'.1) := by
  rw [perTargetLogged_eq_visitAll] at h
  refine visitAll_run (Q := fun p => Q p.1) ts (fun o ho q q' hq hv => ?_) p p' hi h
  split at hv
  · cases hv
  · obtain ⟨⟨t, d⟩, hq'⟩ := visit_run (R := fun x => ∃ t, t ∈ ts ∧ Reach own t x) hT
      (fun a o' ⟨t, ht, hr⟩ ho' => ⟨t, ht, hr.trans (.step ho' (.refl _))⟩)
      hQ _ _ o q q' ⟨o, ho, .refl _⟩ hq hv
    exact ⟨⟨t.mono (fun _ _ => trivial) (fun _ h => h), d⟩, hq'⟩

/-- **Invariant principle** for a command: what the stage actions keep — called, as they are, on a
stage upstream of a target that is not done, in a state satisfying the traversal's invariant, with
all owners done when the traversal is recursive — the command keeps -/
theorem perTarget_preserves (hT : T.LawfulOn own Inv) (F : World κ → Nat) (A : World κ → List Bytes)
    (ts : List Bytes) {Q : World κ → Prop}
    (hQ : T.ActKeeps own Inv r (fun x => ∃ t, t ∈ ts ∧ Reach own t x) Q)
    (w w' : World κ) (hi : Inv w) (hq : Q w)
    (h : perTarget (fun t w => visit T r (F w) (A w) t w) ts w = .ok w') : Q w' :=
  let ⟨l', hl⟩ := cmd_logged T r F A ts w w' h
  (perTarget_run hT F A ts hQ (w, []) (w', l') hi hl).2 hq

theorem perTarget_progress (hT : T.LawfulOn own Inv) {Q : World κ → Prop} {S : Bytes → Prop}
    {rank : Bytes → Nat}
    (hrank : ∀ x, S x → ∀ o, o ∈ own x → S o ∧ rank o < rank x)
    (hown : ∀ st sp, Inv st → S sp → ∃ os, T.owners st sp = .ok os)
    (hact : ∀ st sp, Inv st → Q st → S sp → T.isDone st sp = false →
      (∀ o, o ∈ own sp → T.isDone st o = true) → ∃ st', T.act sp st = .ok st' ∧ Q st')
    (F : World κ → Nat) (A : World κ → List Bytes)
    (hFA : ∀ w, Inv w → (A w).length < F w ∧
      ∀ x, S x → x ∈ A w ∧ (alookup w.idx x).isNone = false) (ts : List Bytes) :
    ∀ (w : World κ), (∀ t, t ∈ ts → S t) → Inv w → Q w →
      ∃ w', perTarget (fun t w => visit T true (F w) (A w) t w) ts w = .ok w' ∧ Inv w' ∧ Q w' := by
  induction ts with
  | nil => exact fun w _ hi hq => ⟨w, rfl, hi, hq⟩
  | cons t ts ih =>
    intro w hts hi hq
    have hS := hts t List.mem_cons_self
    obtain ⟨w1, hv, hq1⟩ := visit_progress hT hrank hown hact (F w) (A w) t w hi hq hS
      (hFA w hi).1 (fun x hx _ => ((hFA w hi).2 x hx).1)
    obtain ⟨w2, hp, hi2, hq2⟩ := ih w1 (fun t' ht' => hts t' (List.mem_cons_of_mem _ ht'))
      (visit_ok hT hi hv).1 hq1
    refine ⟨w2, ?_, hi2, hq2⟩
    rw [perTarget, ((hFA w hi).2 t hS).2, if_neg Bool.false_ne_true, hv]
    exact hp

/-! ## the six commands

Each of `dud commit / checkout / status / run / push / fetch` is `runTargets` of its traversal,
behind a guard that refuses an empty project (`commit`: only when no target is given either; `fetch`
has no guard). -/

/-- one traversal per target (all stages if none is given), from the fresh world -/
def runTargets (T : Trav (World κ)) (r : Bool) (targets : List Bytes) (w : World κ) : Except Err (World κ) :=
  perTarget (fun t w => visit T r (w.idx.length + 1) (allStages w) t w)
    (if targets.isEmpty then allStages w else targets) (fresh w)

/-- what every stage action keeps, the command keeps -/
theorem runTargets_keeps {T : Trav (World κ)} {r : Bool} {targets : List Bytes} {w w' : World κ}
    (P : World κ → Prop) (hact : ∀ sp a b, P a → T.act sp a = .ok b → P b) (h0 : P (fresh w))
    (h : runTargets T r targets w = .ok w') : P w' :=
  perTarget_keeps P (fun t a b ha hv => visit_keeps T r P hact _ _ t a b ha hv) _ _ _ h0 h

/-- **Simulation, for a command.**  Related worlds have the same index; then a successful command
with `T1` that ends in `A` is matched, from a related world, by the command with `T2` -/
theorem runTargets_sim {T1 T2 : Trav (World κ)} (R : World κ → World κ → Prop) (A : World κ → Prop)
    (hidx : ∀ a b, R a b → b.idx = a.idx)
    (hdone : ∀ a b sp, R a b → T2.isDone b sp = T1.isDone a sp)
    (hown : ∀ a b sp, R a b → T2.owners b sp = T1.owners a sp)
    (hanti : ∀ sp a a', T1.act sp a = .ok a' → A a' → A a)
    (hact : ∀ sp a a' b, R a b → T1.act sp a = .ok a' → A a' → ∃ b', T2.act sp b = .ok b' ∧ R a' b')
    {r : Bool} {targets : List Bytes} {w w' v : World κ}
    (h : runTargets T1 r targets w = .ok w') (ha' : A w') (hr : R (fresh w) (fresh v)) :
    ∃ v', runTargets T2 r targets v = .ok v' ∧ R w' v' := by
  unfold runTargets at h ⊢
  rw [perTarget_eq_visitAll] at h ⊢
  have hst : ∀ a b, R a b → allStages b = allStages a := fun a b hab => by
    rw [allStages, hidx a b hab, allStages]
  rw [show allStages v = allStages w from hst (fresh w) (fresh v) hr]
  refine visitAll_sim R A (fun t x y hv hy => ?_) (fun t x x' y hv hx' hxy => ?_) _ _ w' _ h ha' hr
  · split at hv
    · cases hv
    · exact CI.visit_anti T1 r A hanti _ _ t x y hv hy
  · rw [hst x y hxy, hidx x y hxy]
    split at hv
    · cases hv
    · rename_i hn
      rw [if_neg hn]
      exact CI.visit_sim T1 T2 r R A hdone hown hanti hact _ _ t x x' y hv hx' hxy

theorem alookup_isNone_keys {α β γ : Type} [BEq α] {l : List (α × β)} {l' : List (α × γ)}
    (h : l.map (·.1) = l'.map (·.1)) (a : α) : (alookup l a).isNone = (alookup l' a).isNone := by
  induction l generalizing l' with
  | nil => cases l' with
    | nil => rfl
    | cons _ _ => cases h
  | cons e r ih => cases l' with
    | nil => cases h
    | cons e' r' =>
      obtain ⟨hk, hr⟩ := List.cons.inj h
      simp only [alookup, show e'.1 = e.1 from hk.symm]
      cases e.1 == a
      · exact ih hr
      · rfl

/-- a command commutes with a map `π` of the worlds that keeps the stage paths when the three fields
of its traversal do (`visit_lift_on`): the run from `w2`, which starts where `π` puts the start of
`w`, is the image of the run from `w` -/
theorem runTargets_map (π : World κ → World κ) {T' T : Trav (World κ)} (I : World κ → Prop)
    (hI : ∀ sp s s', I s → T'.act sp s = .ok s' → I s')
    (hk : ∀ s, I s → allStages (π s) = allStages s)
    (hd : ∀ s sp, I s → T'.isDone s sp = T.isDone (π s) sp)
    (ho : ∀ s sp, I s → T'.owners s sp = T.owners (π s) sp)
    (ha : ∀ sp s, I s → (T'.act sp s).map π = T.act sp (π s)) (r : Bool) (targets : List Bytes)
    {w w2 : World κ} (hw : I (fresh w)) (h2 : fresh w2 = π (fresh w)) :
    (runTargets T' r targets w).map π = runTargets T r targets w2 := by
  have hw2 : allStages w2 = allStages w := (congrArg allStages h2).trans (hk _ hw)
  unfold runTargets
  rw [perTarget_eq_visitAll, perTarget_eq_visitAll, hw2, h2]
  refine visitAll_lift_on π I (fun t s s' hs h => ?_) (fun t s hs => ?_) _ _ hw
  · split at h
    · cases h
    · exact visit_keeps T' r I hI _ _ t s s' hs h
  · have hlen : (π s).idx.length = s.idx.length := by
      simpa [allStages] using congrArg List.length (hk s hs)
    rw [alookup_isNone_keys (hk s hs) t, hk s hs, hlen]
    split
    · rfl
    · exact visit_lift_on π T' T I hI hd ho ha r _ _ t s hs

theorem guard_ok_iff {α : Type} {c : Bool} {e : Err} {x : Except Err α} {a : α} :
    (if c then .error e else x) = .ok a ↔ c = false ∧ x = .ok a := by
  cases c
  · simp
  · simp

theorem cmdCommit_ok_iff {cfg : Cfg κ} {strat : Strat} {targets : List Bytes} {w w' : World κ} :
    cmdCommit cfg strat targets w = .ok w' ↔
      (if targets.isEmpty then allStages w else targets).isEmpty = false ∧
        runTargets (commitTrav cfg strat) true targets w = .ok w' :=
  guard_ok_iff

theorem cmdCheckout_ok_iff {cfg : Cfg κ} {strat : Strat} {single : Bool} {targets : List Bytes} {w w' : World κ} :
    cmdCheckout cfg strat single targets w = .ok w' ↔
      w.idx.isEmpty = false ∧
        runTargets (checkoutTrav cfg strat) (targets.isEmpty || !single) targets w = .ok w' :=
  guard_ok_iff

theorem cmdStatus_ok_iff [DecidableEq κ] {cfg : Cfg κ} {targets : List Bytes} {w w' : World κ} :
    cmdStatus cfg targets w = .ok w' ↔
      w.idx.isEmpty = false ∧ runTargets (statusTrav cfg) true targets w = .ok w' :=
  guard_ok_iff

theorem cmdRun_ok_iff [DecidableEq κ] {cfg : Cfg κ} {exec : Exec κ} {single : Bool} {targets : List Bytes}
    {w w' : World κ} :
    cmdRun cfg exec single targets w = .ok w' ↔
      w.idx.isEmpty = false ∧ runTargets (runTrav cfg exec (!single)) (!single) targets w = .ok w' :=
  guard_ok_iff

theorem cmdPush_ok_iff {cfg : Cfg κ} {single : Bool} {targets : List Bytes} {w w' : World κ} :
    cmdPush cfg single targets w = .ok w' ↔
      w.idx.isEmpty = false ∧
        runTargets (simpleTrav cfg (pushAct cfg)) (targets.isEmpty || !single) targets w = .ok w' :=
  guard_ok_iff

theorem cmdFetch_ok_iff {cfg : Cfg κ} {single : Bool} {targets : List Bytes} {w w' : World κ} :
    cmdFetch cfg single targets w = .ok w' ↔
      runTargets (simpleTrav cfg (fetchAct cfg)) (targets.isEmpty || !single) targets w = .ok w' :=
  Iff.rfl

end Cmd

end Dud
