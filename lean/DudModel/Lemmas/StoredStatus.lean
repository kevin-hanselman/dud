import DudModel.Lemmas.Tree
import DudModel.Lemmas.Stored
import DudModel.Lemmas.Status
/-!
# `UpToDate` ⇔ "the logical workspace tree equals the stored tree" (C05 (b), (c))

Both directions by induction on the fuel against `stored`, with `SameTree` as the equality.
`upToDate_sameTree` (sound) asks only that the workspace listing is `sorted`, nothing of hash or
codec; `sameTree_upToDate` (complete) needs a `Consistent` cache, so that a link whose object has the
stored bytes is the link to the recorded checksum, and `ManifestsNodup`.
-/
namespace Dud

variable {κ : Type}

theorem fileOK_sameTree {ctx : Ctx κ} {s : Store κ} {fuel : Nat} {c : Child} {n t : Node κ}
    (hc : c.isDir = false) (hu : FileOK ctx s c.sum n) (ht : stored ctx s fuel c = some t) :
    SameTree (deref ctx s n) t := by
  obtain ⟨_, o, ho, hn⟩ := hu
  obtain ⟨_, o', ho', rfl⟩ := stored_file hc ht
  rw [ho] at ho'; cases ho'
  rcases hn with rfl | rfl
  · simp [deref, SameTree]
  · simp [deref, ho, SameTree]

/-- **sound**: an up-to-date node, read through its links, IS the stored tree (as a finite map) -/
theorem upToDate_sameTree (ctx : Ctx κ) (s : Store κ) :
    ∀ (fuel : Nat) (c : Child) (n t : Node κ), UpToDate ctx s fuel c.isDir c.sum n →
      stored ctx s fuel c = some t → n.sorted = true → SameTree (deref ctx s n) t := by
  intro fuel
  induction fuel with
  | zero =>
    intro c n t hu ht _
    cases hc : c.isDir with
    | true => rw [hc] at hu; exact (UpToDate_dir_zero hu).elim
    | false => rw [hc, UpToDate_file] at hu; exact fileOK_sameTree hc hu ht
  | succ fuel ih =>
    intro c n t hu ht hs
    cases hc : c.isDir with
    | false => rw [hc, UpToDate_file] at hu; exact fileOK_sameTree hc hu ht
    | true =>
      rw [hc] at hu
      obtain ⟨es, cs, rfl, _, hm, hall, hun⟩ := UpToDate_dir_succ.1 hu
      obtain ⟨_, cs', ts, hm', hts, rfl⟩ := stored_dir hc ht
      rw [hm] at hm'; cases hm'
      have hs' : sortedList es = true := by simpa [Node.sorted] using hs
      simp only [deref, SameTree, Node.dir.injEq, exists_eq_left']
      refine ⟨SameList_iff.2 ?_, ?_⟩
      · intro e' he'
        obtain ⟨e, he, rfl⟩ := (mem_derefList_iff ctx s).1 he'
        have halk := alookup_of_sortedList es hs' e he
        obtain ⟨k, hfk⟩ := Option.isSome_iff_exists.mp (hun e he)
        have hk : k ∈ cs := List.mem_of_find?_eq_some hfk
        have hkn := findChild_name hfk
        obtain ⟨nk, hnk, huk⟩ := hall k hk
        rw [hkn, halk] at hnk
        cases hnk
        obtain ⟨tk, htk, _⟩ := (storedChildren_mem cs ts hts).2 k hk
        refine ⟨tk, ?_, ih k e.2 tk huk htk (sortedList_mem hs' he)⟩
        rw [storedChildren_alookup e.1 cs ts hts, hfk]; exact htk
      · intro e' he'
        obtain ⟨k, hk, hkn⟩ := (storedChildren_mem cs ts hts).1 e' he'
        obtain ⟨nk, hnk, _⟩ := hall k hk
        rw [alookup_derefList, ← hkn, hnk]; rfl

theorem sameTree_fileOK {ctx : Ctx κ} {s : Store κ} (hcons : Consistent ctx s) {fuel : Nat}
    {c : Child} {n t : Node κ} (hc : c.isDir = false) (hst : SameTree (deref ctx s n) t)
    (ht : stored ctx s fuel c = some t) : FileOK ctx s c.sum n := by
  obtain ⟨hh, o, ho, rfl⟩ := stored_file hc ht
  refine ⟨hh, o, ho, ?_⟩
  cases n with
  | file b =>
    simp only [deref, SameTree, Node.file.injEq] at hst
    exact Or.inl (by rw [hst])
  | link l =>
    cases l with
    | obj d =>
      simp only [deref] at hst
      cases hd : s.get d with
      | none => rw [hd] at hst; simp [SameTree] at hst
      | some o' =>
        rw [hd] at hst
        simp only [SameTree, Node.file.injEq] at hst
        have h1 := hcons d o' hd
        have h2 := hcons c.sum o ho
        simp only [Obj.digest] at h1 h2
        rw [← hst, h2] at h1
        exact Or.inr (by rw [h1])
    | foreign b => simp [deref, SameTree] at hst
  | other => simp [deref, SameTree] at hst
  | dir es => simp [deref, SameTree] at hst

/-- **complete**: if the workspace, read through its links, equals the stored tree, it is up to
date (the cache is consistent, manifests list every name once) -/
theorem sameTree_upToDate (ctx : Ctx κ) (s : Store κ) (hcons : Consistent ctx s)
    (hnd : ManifestsNodup ctx s) :
    ∀ (fuel : Nat) (c : Child) (n t : Node κ), SameTree (deref ctx s n) t →
      stored ctx s fuel c = some t → UpToDate ctx s fuel c.isDir c.sum n := by
  intro fuel
  induction fuel with
  | zero =>
    intro c n t hst ht
    cases hc : c.isDir with
    | true => simp [stored, hc] at ht
    | false => rw [UpToDate_file]; exact sameTree_fileOK hcons hc hst ht
  | succ fuel ih =>
    intro c n t hst ht
    cases hc : c.isDir with
    | false => rw [UpToDate_file]; exact sameTree_fileOK hcons hc hst ht
    | true =>
      obtain ⟨hin, cs, ts, hread, hts, rfl⟩ := stored_dir hc ht
      cases n with
      | file b => simp [deref, SameTree] at hst
      | other => simp [deref, SameTree] at hst
      | link l =>
        cases l with
        | foreign b => simp [deref, SameTree] at hst
        | obj d =>
          simp only [deref] at hst
          cases hd : s.get d with
          | none => rw [hd] at hst; simp [SameTree] at hst
          | some o' => rw [hd] at hst; simp [SameTree] at hst
      | dir es =>
        simp only [deref, SameTree, Node.dir.injEq, exists_eq_left'] at hst
        obtain ⟨hsl, hrev⟩ := hst
        refine UpToDate_dir_succ.2 ⟨es, cs, rfl, hin, hread, ?_, ?_⟩
        · intro k hk
          obtain ⟨tk, htk, hmem⟩ := (storedChildren_mem cs ts hts).2 k hk
          have h1 := hrev (k.name, tk) hmem
          rw [alookup_derefList] at h1
          cases hnk : alookup es k.name with
          | none => rw [hnk] at h1; cases h1
          | some nk =>
            have hmem' := mem_derefList ctx s es (k.name, nk) (alookup_mem hnk)
            obtain ⟨t', ht', hst'⟩ := SameList_iff.1 hsl _ hmem'
            rw [storedChildren_alookup k.name cs ts hts,
              findChild_of_nodup (hnd _ _ hread) k hk] at ht'
            exact ⟨nk, hnk, ih k nk t' hst' ht'⟩
        · intro e he
          have hmem' := mem_derefList ctx s es e he
          obtain ⟨t', ht', _⟩ := SameList_iff.1 hsl _ hmem'
          rw [storedChildren_alookup e.1 cs ts hts] at ht'
          cases hf : findChild cs e.1 with
          | none => rw [hf] at ht'; cases ht'
          | some k => rfl

end Dud
