import DudModel.Lemmas.CommitOk
/-!
# Commit of a tree that may contain links into the cache, on top of any recorded checksum

`recommitNodeL_post` / `recommitEntriesL_full` (`L`: the tree may contain links): `commitNode` on a
tree whose links all resolve (`(deref ctx s t).plain`), started from any recorded checksum whose old
manifests are readable (`RecommitOK`), records `treeDigest` of the logical content `deref ctx s t`,
keeps the logical content, the new cache holds that content, adds nothing to a cache that held it,
and its new keys are digests of that content (`recommitEntriesL_post`, with `LEntriesPostR`, is the
entries statement without the last two clauses and without the form of the listing left).
Instances: a fresh commit of a plain tree (`Props/C01.lean`, `RecommitOK.empty`), a plain tree over
a compatible manifest (`Props/C16.lean`), a partly committed tree (`Lemmas/RetryArt.lean`), the
all-links workspace (`Lemmas/Idem.lean`).  `RecommitOK` holds without a recorded checksum
(`RecommitOK.empty`) and, in every cache, for the checksum of any older version of the tree
(`RecommitOK.of_digestAs`); from `CompatNode` it follows in `Lemmas/Compat.lean`.  Apart from `allDigests`
everything here is in the namespace `Dud.Re` (re-commit), the plain facts about `deref` at the top
included.
-/
namespace Dud

variable {κ : Type}

mutual
/-- the digests of all objects a commit of the tree writes -/
def allDigests (ctx : Ctx κ) : Bytes → Node κ → List Digest
  | _, .file x => [ctx.H x]
  | nm, .dir es => treeDigest ctx nm (.dir es) :: allDigestsList ctx es
  | _, .link _ => []
  | _, .other => []
def allDigestsList (ctx : Ctx κ) : List (Name × Node κ) → List Digest
  | [] => []
  | (nm, n) :: r => allDigests ctx nm n ++ allDigestsList ctx r
end

end Dud

namespace Dud.Re

variable {κ : Type}

theorem deref_isDir (ctx : Ctx κ) (s : Store κ) : ∀ (n : Node κ), (deref ctx s n).isDir = n.isDir
  | .file _ => rfl
  | .dir _ => by simp [deref, Node.isDir]
  | .link (.obj d) => by
    simp only [deref]
    cases s.get d <;> rfl
  | .link (.foreign _) => rfl
  | .other => rfl

theorem headName_derefList (ctx : Ctx κ) (s : Store κ) : ∀ (es : List (Name × Node κ)),
    headName (derefList ctx s es) = headName es
  | [] => rfl
  | (_, _) :: _ => by simp [derefList, headName]

mutual
theorem sorted_deref (ctx : Ctx κ) (s : Store κ) : ∀ (n : Node κ), n.sorted = true →
    (deref ctx s n).sorted = true
  | .file _, _ => by simp [deref, Node.sorted]
  | .dir es, h => by
    simp only [deref, Node.sorted] at h ⊢
    exact sortedList_derefList ctx s es h
  | .link (.obj d), _ => by
    simp only [deref]
    cases s.get d <;> simp [Node.sorted]
  | .link (.foreign _), _ => by simp [deref, Node.sorted]
  | .other, _ => by simp [deref, Node.sorted]
theorem sortedList_derefList (ctx : Ctx κ) (s : Store κ) : ∀ (es : List (Name × Node κ)),
    sortedList es = true → sortedList (derefList ctx s es) = true
  | [], _ => by simp [derefList, sortedList]
  | (nm, n) :: r, h => by
    simp only [sortedList, Bool.and_eq_true] at h
    simp only [derefList, sortedList, Bool.and_eq_true, headName_derefList]
    exact ⟨⟨sorted_deref ctx s n h.1.1, sortedList_derefList ctx s r h.1.2⟩, h.2⟩
end

mutual
theorem allNames_deref (ctx : Ctx κ) (s : Store κ) : ∀ (n : Node κ),
    allNames (deref ctx s n) = allNames n
  | .file _ => rfl
  | .dir es => by
    simp only [deref, allNames]
    exact allNamesList_derefList ctx s es
  | .link (.obj d) => by
    simp only [deref]
    cases s.get d <;> rfl
  | .link (.foreign _) => rfl
  | .other => rfl
theorem allNamesList_derefList (ctx : Ctx κ) (s : Store κ) : ∀ (es : List (Name × Node κ)),
    allNamesList (derefList ctx s es) = allNamesList es
  | [] => rfl
  | (nm, n) :: r => by
    simp only [derefList, allNamesList]
    rw [allNames_deref ctx s n, allNamesList_derefList ctx s r]
end

theorem namesOK_deref {ctx : Ctx κ} (s : Store κ) {n : Node κ} (h : NamesOK ctx n) :
    NamesOK ctx (deref ctx s n) := fun x hx => h x (by rwa [allNames_deref] at hx)

mutual
theorem depth_deref (ctx : Ctx κ) (s : Store κ) : ∀ (n : Node κ), depth (deref ctx s n) = depth n
  | .file _ => rfl
  | .dir es => by
    simp only [deref, depth]
    rw [depthList_derefList ctx s es]
  | .link (.obj d) => by
    simp only [deref]
    cases s.get d <;> rfl
  | .link (.foreign _) => rfl
  | .other => rfl
theorem depthList_derefList (ctx : Ctx κ) (s : Store κ) : ∀ (es : List (Name × Node κ)),
    depthList (derefList ctx s es) = depthList es
  | [] => rfl
  | (nm, n) :: r => by
    simp only [derefList, depthList]
    rw [depth_deref ctx s n, depthList_derefList ctx s r]
end

mutual
/-- the old manifests that a commit of the tree, started from the recorded checksum `sum`, reads in
the cache `s` (the manifest of `sum` if it is in the cache; below it, the manifest recorded for an
entry whose kind still agrees) are readable (`oldManifest` succeeds).  Unlike `CompatNode` the
checksum need not be in the cache: then the commit starts from an empty manifest. -/
def ReadableNode (ctx : Ctx κ) (s : Store κ) : Node κ → Digest → Prop
  | .dir es, sum => ∃ old, oldManifest ctx s sum = .ok old ∧ ReadableList ctx s es old
  | .file _, _ => True
  | .link _, _ => True
  | .other, _ => True
def ReadableList (ctx : Ctx κ) (s : Store κ) : List (Name × Node κ) → List Child → Prop
  | [], _ => True
  | (nm, n) :: r, old =>
    (∀ k, findChild old nm = some k → k.isDir = n.isDir → ReadableNode ctx s n k.sum) ∧
      ReadableList ctx s r old
end

/-- **what a re-commit needs of the old state**: in every consistent cache extending `s` (the cache
grows while the entries are committed, and an object that appears under a recorded checksum is read
as the old manifest) the old manifests the commit reads are readable -/
def RecommitOK (ctx : Ctx κ) (s : Store κ) (t : Node κ) (sum : Digest) : Prop :=
  ∀ s', Store.le ctx s s' → Consistent ctx s' → ReadableNode ctx s' t sum

def RecommitOKList (ctx : Ctx κ) (s : Store κ) (es : List (Name × Node κ)) (old : List Child) : Prop :=
  ∀ s', Store.le ctx s s' → Consistent ctx s' → ReadableList ctx s' es old

theorem readableList_nil (ctx : Ctx κ) (s : Store κ) : ∀ (es : List (Name × Node κ)),
    ReadableList ctx s es []
  | [] => by simp [ReadableList]
  | (nm, n) :: r => by
    simp only [ReadableList]
    exact ⟨fun k hk _ => by simp [findChild] at hk, readableList_nil ctx s r⟩

theorem readableNode_empty (ctx : Ctx κ) (s : Store κ) (t : Node κ) : ReadableNode ctx s t "" := by
  cases t with
  | dir es =>
    simp only [ReadableNode]
    exact ⟨[], oldManifest_empty ctx s, readableList_nil ctx s es⟩
  | file _ => simp [ReadableNode]
  | link _ => simp [ReadableNode]
  | other => simp [ReadableNode]

/-- a fresh artifact (no recorded checksum) -/
theorem RecommitOK.empty (ctx : Ctx κ) (s : Store κ) (t : Node κ) : RecommitOK ctx s t "" :=
  fun s' _ _ => readableNode_empty ctx s' t

/-- a recorded checksum that is the hash of no bytes at all (a mangled stage file) is never in a
consistent cache: the commit starts from an empty manifest -/
theorem RecommitOK.of_never {ctx : Ctx κ} {s : Store κ} (t : Node κ) {sum : Digest}
    (h : ∀ b, ctx.H b ≠ sum) : RecommitOK ctx s t sum := by
  intro s' _ hc
  cases t with
  | dir es =>
    simp only [ReadableNode]
    refine ⟨[], ?_, readableList_nil ctx s' es⟩
    rcases oldManifest_cases ctx s' sum with h0 | ⟨_, hhas, _⟩
    · exact h0
    · obtain ⟨o, hg⟩ := Store.has_eq_true.1 hhas
      exact absurd (hc sum o hg) (h _)
  | file _ => simp [ReadableNode]
  | link _ => simp [ReadableNode]
  | other => simp [ReadableNode]

theorem RecommitOK.mono {ctx : Ctx κ} {s s1 : Store κ} {t : Node κ} {sum : Digest}
    (hle : Store.le ctx s s1) (h : RecommitOK ctx s t sum) : RecommitOK ctx s1 t sum :=
  fun s' hle' hc => h s' (Store.le_trans hle hle') hc

theorem RecommitOKList.mono {ctx : Ctx κ} {s s1 : Store κ} {es : List (Name × Node κ)}
    {old : List Child} (hle : Store.le ctx s s1) (h : RecommitOKList ctx s es old) :
    RecommitOKList ctx s1 es old :=
  fun s' hle' hc => h s' (Store.le_trans hle hle') hc

/-- for a file, a link, … there is no old manifest to read -/
theorem RecommitOK.of_not_dir (ctx : Ctx κ) (s : Store κ) {t : Node κ} (sum : Digest)
    (h : t.isDir = false) : RecommitOK ctx s t sum := by
  intro s' _ _
  cases t with
  | dir _ => simp [Node.isDir] at h
  | file _ => simp [ReadableNode]
  | link _ => simp [ReadableNode]
  | other => simp [ReadableNode]

/-- from the directory to its entries: the old manifest read now is the one read later -/
theorem RecommitOK.entries {ctx : Ctx κ} (g : Good ctx) {s : Store κ} {es : List (Name × Node κ)}
    {sum : Digest} (hc : Consistent ctx s) (h : RecommitOK ctx s (.dir es) sum) :
    ∃ old, oldManifest ctx s sum = .ok old ∧ RecommitOKList ctx s es old := by
  have h0 := h s (Store.le_refl _ _) hc
  simp only [ReadableNode] at h0
  obtain ⟨old, hold, _⟩ := h0
  refine ⟨old, hold, ?_⟩
  intro s' hle hc'
  have h1 := h s' hle hc'
  simp only [ReadableNode] at h1
  obtain ⟨old', hold', hl'⟩ := h1
  rcases oldManifest_cases ctx s sum with h0 | ⟨_, hp, _⟩
  · rw [h0] at hold
    cases hold
    exact readableList_nil ctx s' es
  · rw [oldManifest_le g hle (fun _ => hp), hold] at hold'
    cases hold'
    exact hl'

theorem readableList_filter {ctx : Ctx κ} {s : Store κ} (p : Name × Node κ → Bool) :
    ∀ (es : List (Name × Node κ)) (old : List Child), ReadableList ctx s es old →
      ReadableList ctx s (es.filter p) old
  | [], _, _ => by simp [ReadableList]
  | (nm, n) :: r, old, h => by
    simp only [ReadableList] at h
    simp only [List.filter_cons]
    split
    · simp only [ReadableList]
      exact ⟨h.1, readableList_filter p r old h.2⟩
    · exact readableList_filter p r old h.2

/-- in a consistent cache, whatever sits under the checksum of a (sorted, well-named) directory is
its manifest, and reads back as its children -/
theorem oldManifest_digestAs {ctx : Ctx κ} (g : Good ctx) {s : Store κ} (hc : Consistent ctx s)
    (ch : Choice) (nm : Bytes) {es : List (Name × Node κ)} (hs : sortedList es = true)
    (hn : NamesOKList ctx es) :
    oldManifest ctx s (digestAs ctx ch nm (.dir es)) = .ok [] ∨
      oldManifest ctx s (digestAs ctx ch nm (.dir es)) = .ok (childrenAs ctx ch es) := by
  rcases oldManifest_cases ctx s (digestAs ctx ch nm (.dir es)) with h | ⟨_, hhas, h⟩
  · exact .inl h
  · obtain ⟨o, hg⟩ := Store.has_eq_true.1 hhas
    exact .inr (h.trans (readManifest_dir g hs hn (hc.holds g hg)))

mutual
theorem readableNode_of_digestAs {ctx : Ctx κ} (g : Good ctx) {s : Store κ} (hc : Consistent ctx s) :
    ∀ (t2 t1 : Node κ) (ch : Choice) (nm : Bytes), t1.sorted = true → NamesOK ctx t1 →
      t1.isDir = t2.isDir → ReadableNode ctx s t2 (digestAs ctx ch nm t1)
  | .dir es2, .dir es1, ch, nm, hs, hn, _ => by
    have hs' : sortedList es1 = true := by simpa [Node.sorted] using hs
    have hn' : NamesOKList ctx es1 := namesOK_dir hn
    simp only [ReadableNode]
    rcases oldManifest_digestAs g hc ch nm hs' hn' with h | h
    · exact ⟨[], h, readableList_nil ctx s es2⟩
    · exact ⟨childrenAs ctx ch es1, h, readableList_of_digestAs g hc es2 es1 ch hs' hn'⟩
  | .dir _, .file _, _, _, _, _, hd => by simp [Node.isDir] at hd
  | .dir _, .link _, _, _, _, _, hd => by simp [Node.isDir] at hd
  | .dir _, .other, _, _, _, _, hd => by simp [Node.isDir] at hd
  | .file _, _, _, _, _, _, _ => by simp [ReadableNode]
  | .link _, _, _, _, _, _, _ => by simp [ReadableNode]
  | .other, _, _, _, _, _, _ => by simp [ReadableNode]
theorem readableList_of_digestAs {ctx : Ctx κ} (g : Good ctx) {s : Store κ} (hc : Consistent ctx s) :
    ∀ (es2 es1 : List (Name × Node κ)) (ch : Choice), sortedList es1 = true →
      NamesOKList ctx es1 → ReadableList ctx s es2 (childrenAs ctx ch es1)
  | [], _, _, _, _ => by simp [ReadableList]
  | (nm, n2) :: r2, es1, ch, hs, hn => by
    simp only [ReadableList]
    refine ⟨?_, readableList_of_digestAs g hc r2 es1 ch hs hn⟩
    intro k hk hkind
    obtain ⟨e, he, rfl⟩ := findChild_childrenAs_mem hk
    exact readableNode_of_digestAs g hc n2 e.2 (subChoice ch e.1) e.1 (Dud.sortedList_mem hs he)
      (namesOKList_mem hn he) hkind
end

/-- **The recorded checksum is the checksum of some older version `t1` of the tree** (sorted,
acceptable names, the same top-level kind; manifests of any schemas `ch`; entries may have been
added, removed, modified, changed between file and directory since): `RecommitOK` holds in EVERY
cache — whether the manifests of `t1` are in the cache, in part, or not at all.  (In a consistent
cache, whatever appears under such a checksum is that manifest.) -/
theorem RecommitOK.of_digestAs {ctx : Ctx κ} (g : Good ctx) (s : Store κ) (t t1 : Node κ)
    (ch : Choice) (nm : Bytes) (hs1 : t1.sorted = true) (hn1 : NamesOK ctx t1)
    (hd : t1.isDir = t.isDir) : RecommitOK ctx s t (digestAs ctx ch nm t1) :=
  fun _ _ hc => readableNode_of_digestAs g hc t t1 ch nm hs1 hn1 hd

/-- in particular when the cache holds that older version -/
theorem RecommitOK.of_holds {ctx : Ctx κ} (g : Good ctx) {s : Store κ} (t t1 : Node κ) (ch : Choice)
    (nm : Bytes) (hs1 : t1.sorted = true) (hn1 : NamesOK ctx t1) (_ : HoldsNode ctx s ch nm t1)
    (hd : t1.isDir = t.isDir) : RecommitOK ctx s t (digestAs ctx ch nm t1) :=
  RecommitOK.of_digestAs g s t t1 ch nm hs1 hn1 hd

/-- `RecommitOK.of_digestAs` for a checksum recorded by the current dud (`treeDigest`) -/
theorem RecommitOK.of_treeDigest {ctx : Ctx κ} (g : Good ctx) (s : Store κ) (t t1 : Node κ)
    (nm : Bytes) (hs1 : t1.sorted = true) (hn1 : NamesOK ctx t1) (hd : t1.isDir = t.isDir) :
    RecommitOK ctx s t (treeDigest ctx nm t1) := by
  rw [← digestAs_new]
  exact RecommitOK.of_digestAs g s t t1 newChoice nm hs1 hn1 hd

/-- Post-condition of `commitNode` for a tree whose links resolve in `s`, with a child artifact
recording any checksum for which `RecommitOK` holds: the workspace is left as `wsAfter`, the recorded
checksum is `treeDigest` of the logical content `deref ctx s t`, the new cache holds that content, adds
nothing (up to bytes) if the old one held it, and its new keys are digests of that content. -/
def RecommitNodePost (ctx : Ctx κ) (t : Node κ) : Prop :=
  ∀ (c : Child) (s : Store κ) (strat : Strat), c.isDir = t.isDir → (deref ctx s t).plain = true →
    RecommitOK ctx s t c.sum → Consistent ctx s →
    ∃ s', commitNode ctx strat t c s =
        .ok (wsAfter ctx strat t, ⟨c.name, treeDigest ctx c.name (deref ctx s t), c.isDir⟩, s') ∧
      Consistent ctx s' ∧ Store.le ctx s s' ∧ HoldsNode ctx s' newChoice c.name (deref ctx s t) ∧
      deref ctx s' (wsAfter ctx strat t) = deref ctx s t ∧
      (HoldsNode ctx s newChoice c.name (deref ctx s t) → Store.le ctx s' s) ∧
      (∀ d, s'.has d = true → s.has d = true ∨ d ∈ allDigests ctx c.name (deref ctx s t))

def RecommitEntriesPost (ctx : Ctx κ) (es : List (Name × Node κ)) : Prop :=
  ∀ (old : List Child) (s : Store κ) (strat : Strat), plainList (derefList ctx s es) = true →
    RecommitOKList ctx s es old → Consistent ctx s →
    ∃ s', commitEntries ctx strat false es old s =
        .ok (wsAfterList ctx strat es, childrenOf ctx (derefList ctx s es), s') ∧
      Consistent ctx s' ∧ Store.le ctx s s' ∧ HoldsList ctx s' newChoice (derefList ctx s es) ∧
      derefList ctx s' (wsAfterList ctx strat es) = derefList ctx s es ∧
      (HoldsList ctx s newChoice (derefList ctx s es) → Store.le ctx s' s) ∧
      (∀ d, s'.has d = true → s.has d = true ∨ d ∈ allDigestsList ctx (derefList ctx s es))

def LEntriesPostR (ctx : Ctx κ) (es : List (Name × Node κ)) : Prop :=
  ∀ (old : List Child) (s : Store κ) (strat : Strat), plainList (derefList ctx s es) = true →
    RecommitOKList ctx s es old → Consistent ctx s →
    ∃ es' s', commitEntries ctx strat false es old s =
        .ok (es', childrenOf ctx (derefList ctx s es), s') ∧
      Consistent ctx s' ∧ Store.le ctx s s' ∧ HoldsList ctx s' newChoice (derefList ctx s es) ∧
      derefList ctx s' es' = derefList ctx s es

theorem recommit_file_post {ctx : Ctx κ} (g : Good ctx) (x : κ) : RecommitNodePost ctx (.file x) := by
  intro c s strat hcd _ _ hc
  have hcd' : c.isDir = false := hcd
  refine ⟨s.put (ctx.H x) (.blob x), ?_, hc.put (.blob x), Store.le_put g hc (.blob x), ?_, ?_, ?_, ?_⟩
  · simp [commitNode_leaf ctx strat (n := .file x) rfl, commitFile_file, hcd', treeDigest, deref, Store.put]
  · simp only [deref, HoldsNode]
    exact ⟨.blob x, Store.get_put_self _ _ _, rfl⟩
  · cases strat <;> simp [wsAfter, linked, deref, Store.get_put_self, Obj.bytes]
  · intro h
    simp only [deref, HoldsNode] at h
    obtain ⟨o, ho, hb⟩ := h
    exact Store.put_le_of_present (Store.le_refl _ _) ho hb
  · intro d hd
    rcases (Store.has_put _ _ _ _).1 hd with rfl | hd
    · exact Or.inr (by simp [deref, allDigests])
    · exact Or.inl hd

/-- a link that resolves to an object of the cache is committed already: the object's checksum is
recorded (whatever the child recorded before) -/
theorem recommit_link_post {ctx : Ctx κ} (l : Link) : RecommitNodePost ctx (.link l) := by
  intro c s strat hcd hp _ hc
  have hcd' : c.isDir = false := hcd
  rw [wsAfter_link]
  cases l with
  | foreign b => simp [deref, Node.plain] at hp
  | obj d =>
    cases hg : s.get d with
    | none => simp [deref, hg, Node.plain] at hp
    | some o =>
      have hdig : ctx.H (o.bytes ctx) = d := hc d o hg
      have hder : deref ctx s (.link (.obj d)) = .file (o.bytes ctx) := by simp [deref, hg]
      have hhas : s.has d = true := Store.has_of_get hg
      refine ⟨s, ?_, hc, Store.le_refl _ _, ?_, rfl, fun _ => Store.le_refl _ _, fun d hd => .inl hd⟩
      · rw [hder]
        simp only [commitNode_leaf ctx strat (n := .link (.obj d)) rfl, hcd', Bool.false_eq_true, if_false,
          commitFile_link_obj, treeDigest, hdig, hhas, Bool.not_false, Bool.and_self, if_true]
        by_cases hq : (hasSum c.sum && s.has c.sum && d == c.sum) = true
        · have hds : c.sum = d := (beq_iff_eq.1 (Bool.and_eq_true_iff.1 hq).2).symm
          simp [hds]
        · simp [hq]
      · rw [hder]
        simp only [HoldsNode]
        exact ⟨o, by rw [hdig]; exact hg, rfl⟩

theorem recommit_nil_post (ctx : Ctx κ) : RecommitEntriesPost ctx [] := by
  intro old s strat _ _ hc
  exact ⟨s, by simp [commitEntries_nil, childrenOf, derefList, wsAfterList_nil], hc, Store.le_refl _ _,
    by simp [HoldsList, derefList], by simp [derefList, wsAfterList_nil],
    fun _ => Store.le_refl _ _, fun d hd => .inl hd⟩

theorem recommit_cons_post {ctx : Ctx κ} {nm : Name} {n : Node κ}
    {r : List (Name × Node κ)} (hnm : ctx.nameOK nm = true)
    (hn : RecommitNodePost ctx n) (hr : RecommitEntriesPost ctx r) : RecommitEntriesPost ctx ((nm, n) :: r) := by
  intro old s strat hp hok hc
  simp only [derefList, plainList, Bool.and_eq_true] at hp
  obtain ⟨hpn, hpr⟩ := hp
  have hceq := commitEntries_cons ctx strat false nm n r old s
  simp only [Bool.false_and, Bool.false_eq_true, if_false, hnm, Bool.not_true] at hceq
  generalize hcdef : pickChild old nm n.isDir = c at hceq
  have hcn : c.name = nm := hcdef ▸ pickChild_name old nm n.isDir
  have hcd : c.isDir = n.isDir := hcdef ▸ pickChild_isDir old nm n.isDir
  have hcc : RecommitOK ctx s n c.sum := by
    rcases pickChild_cases old nm n.isDir with h | ⟨k, hf, hkd, h⟩
    · rw [← hcdef, h]; exact RecommitOK.empty ctx s n
    · intro s' hle hc'
      have := hok s' hle hc'
      simp only [ReadableList] at this
      rw [← hcdef, h]
      exact this.1 k hf hkd
  obtain ⟨s1, hcommit, hc1, hle1, hh1, hd1, hback1, hkeys1⟩ := hn c s strat hcd hpn hcc hc
  rw [hcn] at hh1 hback1 hkeys1
  have hr1 : derefList ctx s1 r = derefList ctx s r := derefList_le ctx hle1 r hpr
  have hok1 : RecommitOKList ctx s1 r old := by
    intro s' hle hc'
    have := hok s' (Store.le_trans hle1 hle) hc'
    simp only [ReadableList] at this
    exact this.2
  obtain ⟨s2, hcr, hc2, hle2, hh2, hd2, hback2, hkeys2⟩ :=
    hr old s1 strat (by rw [hr1]; exact hpr) hok1 hc1
  rw [hr1] at hcr hh2 hd2 hback2 hkeys2
  refine ⟨s2, ?_, hc2, Store.le_trans hle1 hle2, ?_, ?_, ?_, ?_⟩
  · rw [hceq]
    simp [hcommit, hcr, childrenOf, derefList, hcn, hcd, deref_isDir, wsAfterList_cons]
  · simp only [derefList, HoldsList]
    exact ⟨HoldsNode.mono hle2 _ _ nm hh1, hh2⟩
  · simp [wsAfterList_cons, derefList, deref_eq_le ctx hle2 hd1 hpn, hd2]
  · intro h
    simp only [derefList, HoldsList] at h
    exact Store.le_trans (hback2 (HoldsList.mono hle1 _ _ h.2)) (hback1 h.1)
  · intro d hd
    simp only [derefList, allDigestsList, List.mem_append]
    rcases hkeys2 d hd with hd | hd
    · rcases hkeys1 d hd with hd | hd
      · exact Or.inl hd
      · exact Or.inr (Or.inl hd)
    · exact Or.inr (Or.inr hd)

theorem recommit_dir_post {ctx : Ctx κ} (g : Good ctx) {es : List (Name × Node κ)}
    (he : RecommitEntriesPost ctx es) : RecommitNodePost ctx (.dir es) := by
  intro c s strat hcd hp hok hc
  have hcd' : c.isDir = true := hcd
  have hp' : plainList (derefList ctx s es) = true := by simpa [deref, Node.plain] using hp
  obtain ⟨old, hold, hokl⟩ := hok.entries g hc
  obtain ⟨s2, hce, hc2, hle2, hh2, hd2, hback2, hkeys2⟩ := he old s strat hp' hokl hc
  let m : Obj κ := .man .new c.name (sortChildren (childrenOf ctx (derefList ctx s es)))
  have hlep : Store.le ctx s2 (s2.put (m.digest ctx) m) := Store.le_put g hc2 m
  rw [wsAfter_dir]
  refine ⟨s2.put (m.digest ctx) m, ?_, hc2.put m, Store.le_trans hle2 hlep, ?_, ?_, ?_, ?_⟩
  · simp [commitNode_dir, hcd', hold, hce, treeDigest, deref, m]
  · simp only [deref, HoldsNode, digestAs_new, childrenAs_new]
    refine ⟨⟨m, ?_, rfl⟩, HoldsList.mono hlep _ _ hh2⟩
    simp only [treeDigest]
    exact Store.get_put_self _ _ _
  · simp [deref, (derefList_le ctx hlep _ (hd2 ▸ hp')).trans hd2]
  · intro h
    simp only [deref, HoldsNode, digestAs_new, childrenAs_new] at h
    obtain ⟨⟨o, ho, hb⟩, hl⟩ := h
    simp only [treeDigest] at ho
    exact Store.put_le_of_present (hback2 hl) ho hb
  · intro d hd
    simp only [deref, allDigests, List.mem_cons]
    rcases (Store.has_put _ _ _ _).1 hd with rfl | hd
    · exact Or.inr (Or.inl (by simp [treeDigest, m]))
    · rcases hkeys2 d hd with hd | hd
      · exact Or.inl hd
      · exact Or.inr (Or.inr hd)

mutual
theorem recommitNodeL_post {ctx : Ctx κ} (g : Good ctx) : ∀ (t : Node κ),
    NamesOK ctx t → RecommitNodePost ctx t
  | .file x, _ => recommit_file_post g x
  | .dir es, hn => recommit_dir_post g (recommitEntriesL_full g es (namesOK_dir hn))
  | .link l, _ => recommit_link_post l
  | .other, _ => by
    intro c s strat _ hp
    simp [deref, Node.plain] at hp
theorem recommitEntriesL_full {ctx : Ctx κ} (g : Good ctx) : ∀ (es : List (Name × Node κ)),
    NamesOKList ctx es → RecommitEntriesPost ctx es
  | [], _ => recommit_nil_post ctx
  | (_, n) :: r, hn =>
    recommit_cons_post (namesOK_head hn).1 (recommitNodeL_post g n (namesOK_node hn))
      (recommitEntriesL_full g r (namesOK_tail hn))
end

theorem recommitEntriesL_post {ctx : Ctx κ} (g : Good ctx) : ∀ (es : List (Name × Node κ)),
    NamesOKList ctx es → LEntriesPostR ctx es
  | es, hn => fun old s strat hp hok hc =>
    have ⟨s', h, hc', hle, hh, hd, _⟩ := recommitEntriesL_full g es hn old s strat hp hok hc
    ⟨_, s', h, hc', hle, hh, hd⟩

end Dud.Re
