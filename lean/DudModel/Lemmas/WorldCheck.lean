import DudModel.Lemmas.WorldCheckout
/-!
# The hypotheses of the world-level theorems, decided on a concrete world

`ArtPre` and `PipelineOK` quantify over entry names and over the look-ups of the index; on a concrete
tree and a concrete index they are finite conjunctions.  `artPreb` and `PipelineAll` state them over
the lists themselves, so that an example proves them by `decide`; `stage_forall` does the same for any
other hypothesis of the form "for every stage looked up in the index".  The one clause of `NamesOK`
that is not a finite fact (the decoder returns the entries of a manifest as stored) is a property of
the context, `reload = id` in every context of the examples.
-/
namespace Dud

open WT

variable {κ : Type}

theorem stage_forall {idx : Index} {P : Bytes → Stage → Prop} (h : ∀ e ∈ idx, P e.1 e.2)
    {Sc : Bytes → Prop} (sp : Bytes) (stg : Stage) (_ : Sc sp) : alookup idx sp = some stg → P sp stg :=
  lookup_forall h sp stg

def artPreb (ctx : Ctx κ) (fuel : Nat) (a : Art) (n : Node κ) : Bool :=
  n.isDir == a.isDir && n.plain && n.sorted && namesOKb ctx n &&
    (!a.isDir || a.sum == "" && !a.skip) && decide (depth (trackedOf a n) ≤ fuel)

theorem ArtPre.of_check {ctx : Ctx κ} (hre : ∀ sch c, ctx.reload sch c = c) {fuel : Nat} {a : Art}
    {n : Node κ} (h : artPreb ctx fuel a n = true) : ArtPre ctx fuel a n := by
  simp only [artPreb, Bool.and_eq_true, Bool.or_eq_true, Bool.not_eq_eq_eq_not, Bool.not_true,
    beq_iff_eq, decide_eq_true_eq] at h
  obtain ⟨⟨⟨⟨⟨h1, h2⟩, h3⟩, h4⟩, h5⟩, h6⟩ := h
  exact ⟨h1, h2, h3, .of_check hre h4, fun hd => h5.resolve_left (by simp [hd]), h6⟩

/-- the clauses `PipelineOK` and `PipelineOKRe` share, for all stages and read over the entries of the
index; `Pre` is what is asked of an output and the node at its path -/
def PipelineAll (cfg : Cfg κ) (Pre : Art → Node κ → Prop) (w : World κ) : Prop :=
  (w.idx.map (·.1)).Nodup ∧ ∀ e ∈ w.idx, ApartArts e.2.outputs ∧
    (∀ a ∈ e.2.outputs, (getPath w.ws (Path.comps a.path)).isSome = true ∧ Pre a (origAt w.ws a)) ∧
    (∀ b ∈ e.2.inputs, (findOwner cfg.walkAccumulates w.idx b.path).isNone = true → b.isDir = false ∨
      ∀ e' ∈ w.idx, ∀ a ∈ e'.2.outputs, Apart (Path.comps b.path) (Path.comps a.path)) ∧
    ∀ e' ∈ w.idx, e.1 ≠ e'.1 → ∀ a ∈ e.2.outputs, ∀ b ∈ e'.2.outputs,
      Apart (Path.comps a.path) (Path.comps b.path)

instance (cfg : Cfg κ) (Pre : Art → Node κ → Prop) [∀ a n, Decidable (Pre a n)] (w : World κ) :
    Decidable (PipelineAll cfg Pre w) := inferInstanceAs (Decidable (_ ∧ _))

theorem PipelineAll.imp {cfg : Cfg κ} {Pre Pre' : Art → Node κ → Prop} {w : World κ}
    (h : PipelineAll cfg Pre w) (hp : ∀ e ∈ w.idx, ∀ a ∈ e.2.outputs, Pre a (origAt w.ws a) →
      Pre' a (origAt w.ws a)) : PipelineAll cfg Pre' w :=
  ⟨h.1, fun e he => let ⟨h1, h2, h3⟩ := h.2 e he
    ⟨h1, fun a ha => ⟨(h2 a ha).1, hp e he a ha (h2 a ha).2⟩, h3⟩⟩

/-- the look-up form of the clauses, as the two structures state them -/
theorem PipelineAll.lookups {cfg : Cfg κ} {Pre : Art → Node κ → Prop} {w : World κ}
    (h : PipelineAll cfg Pre w) :
    (w.idx.map (·.1)).Nodup ∧
    (∀ sp stg, alookup w.idx sp = some stg → ApartArts stg.outputs) ∧
    (∀ sp1 sp2 stg1 stg2, sp1 ≠ sp2 → alookup w.idx sp1 = some stg1 → alookup w.idx sp2 = some stg2 →
      ∀ a, a ∈ stg1.outputs → ∀ b, b ∈ stg2.outputs →
        Apart (Path.comps a.path) (Path.comps b.path)) ∧
    (∀ sp stg, alookup w.idx sp = some stg → ∀ a, a ∈ stg.outputs →
      ∃ n, getPath w.ws (Path.comps a.path) = some n ∧ Pre a n) ∧
    (∀ sp stg, alookup w.idx sp = some stg → ∀ sp' stg', alookup w.idx sp' = some stg' →
      ∀ a, a ∈ stg'.outputs → PlainInputsApart cfg w.idx stg (Path.comps a.path)) := by
  refine ⟨h.1, fun sp stg hs => (h.2 _ (alookup_mem hs)).1, fun sp1 sp2 stg1 stg2 hne h1 h2 a ha b hb =>
    (h.2 _ (alookup_mem h1)).2.2.2 _ (alookup_mem h2) hne a ha b hb, fun sp stg hs a ha => ?_,
    fun sp stg hs sp' stg' hs' a ha b hb hn =>
      ((h.2 _ (alookup_mem hs)).2.2.1 b hb hn).imp_right fun hap => hap _ (alookup_mem hs') a ha⟩
  obtain ⟨hsome, hpre⟩ := (h.2 _ (alookup_mem hs)).2.1 a ha
  obtain ⟨n, hn⟩ := Option.isSome_iff_exists.1 hsome
  exact ⟨n, hn, origAt_of_getPath hn ▸ hpre⟩

theorem PipelineOK.of_check {cfg : Cfg κ} (hre : ∀ sch c, cfg.ctx.reload sch c = c) {w : World κ}
    (h : PipelineAll cfg (artPreb cfg.ctx cfg.fuel · · = true) w) (Sc : Bytes → Prop) :
    PipelineOK cfg Sc w :=
  have ⟨h1, h2, h3, h4, h5⟩ := (h.imp fun _ _ _ _ => ArtPre.of_check hre).lookups
  ⟨h1, fun sp stg _ => h2 sp stg, fun sp1 sp2 s1 s2 _ _ => h3 sp1 sp2 s1 s2,
    fun sp stg _ => h4 sp stg, fun sp stg _ hs sp' stg' _ => h5 sp stg hs sp' stg'⟩

/-- every stage of the index is in the scope of a command without targets -/
theorem inScope_all (cfg : Cfg κ) {w : World κ} {sp : Bytes} (h : sp ∈ allStages w) :
    InScope cfg w [] sp := ⟨sp, h, .refl _⟩

end Dud
