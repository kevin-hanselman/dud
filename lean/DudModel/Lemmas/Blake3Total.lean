import DudModel.Blake3Total
import DudModel.Lemmas.Blake3Eval
/-!
# Lemmas: the total executable BLAKE3 (`Blake3T`) computes the list specification

Core-only.  The executable code reads the `ByteArray` by index; `slice b off len` is the sub-list it
reads.  Message words, root bytes, the block loop of a chunk, `leftLenFrom` and the hex rendering
`Blake3.toHex` are shown to compute, on slices, what the specification computes on lists;
`numChunks` and `chunkBytes` name the chunks into which `Blake3T.hash` cuts the array.  The chunk
output and the subtree recursion follow in `Props/C14total.lean`.
-/
namespace Dud.Blake3Total
open Dud Dud.Blake3Spec

theorem size_eq_length (b : ByteArray) : b.size = b.data.toList.length := by
  rw [← ByteArray.size_data, Array.length_toList]

theorem get!_eq_getD (b : ByteArray) (i : Nat) : b.get! i = b.data.toList.getD i 0 := by
  cases b with
  | mk d =>
    show d[i]! = d.toList.getD i 0
    rw [List.getD_eq_getElem?_getD, Array.getElem?_toList, getElem!_def]
    cases d[i]? <;> rfl

theorem toList_loop_eq (b : ByteArray) (i : Nat) (r : List UInt8) :
    ByteArray.toList.loop b i r = r.reverse ++ b.data.toList.drop i := by
  fun_induction ByteArray.toList.loop b i r with
  | case1 i r h ih =>
    rw [ih]
    have hi : i < b.data.toList.length := by rw [← size_eq_length]; exact h
    rw [List.drop_eq_getElem_cons hi, get!_eq_getD, List.getD_eq_getElem?_getD,
      List.getElem?_eq_getElem hi]
    simp
  | case2 i r h =>
    have : b.data.toList.length ≤ i := by rw [← size_eq_length]; omega
    simp [List.drop_eq_nil_of_le this]

theorem toList_eq (b : ByteArray) : b.toList = b.data.toList := by
  unfold ByteArray.toList
  rw [toList_loop_eq]; simp

/-- The bytes `[off, off+len)` of the array (fewer if the array ends before). -/
def slice (b : ByteArray) (off len : Nat) : Bytes := (b.data.toList.drop off).take len

theorem slice_length (b : ByteArray) (off len : Nat) :
    (slice b off len).length = min len (b.size - off) := by
  unfold slice
  rw [List.length_take, List.length_drop, size_eq_length]

theorem slice_length_of_le (b : ByteArray) {off len : Nat} (h : off + len ≤ b.size) :
    (slice b off len).length = len := by
  rw [slice_length]; omega

theorem slice_drop (b : ByteArray) (off len k : Nat) :
    (slice b off len).drop k = slice b (off + k) (len - k) := by
  unfold slice
  rw [List.drop_take, List.drop_drop]

theorem slice_take (b : ByteArray) (off len k : Nat) :
    (slice b off len).take k = slice b off (min k len) := by
  unfold slice
  rw [List.take_take]

theorem slice_getD (b : ByteArray) (off len i : Nat) :
    (slice b off len).getD i 0 = if i < len then b.get! (off + i) else 0 := by
  unfold slice
  rw [List.getD_eq_getElem?_getD, List.getElem?_take, get!_eq_getD, List.getD_eq_getElem?_getD]
  split
  · rw [List.getElem?_drop]
  · rfl

/-- No side condition: reads beyond the array yield 0 on both sides. -/
theorem wordsOfBlock_eq (b : ByteArray) (off len : Nat) :
    Blake3.wordsOfBlock b off len = wordsOfBytes (slice b off len) := by
  unfold Blake3.wordsOfBlock wordsOfBytes
  simp only [slice_getD]
  have h0 : (0 : UInt8).toUInt32 = 0 := rfl
  simp only [apply_ite UInt8.toUInt32, h0]

theorem rootBytes_toList (o : Blake3.Output) :
    o.rootBytes.data.toList
      = bytesOfWords (Blake3.compress o.cv o.block 0 o.blockLen (o.flags ||| Blake3.ROOT)) := by
  unfold Blake3.Output.rootBytes bytesOfWords
  -- both sides unrolled: the eight steps of the `for` and `List.range 8`
  simp [Std.Legacy.Range.forIn_eq_forIn_range', Std.Legacy.Range.size, List.range', List.range_succ]

theorem bytesOfWords_length (w : Array UInt32) : (bytesOfWords w).length = 32 := by
  unfold bytesOfWords
  simp [List.range_succ]

/-- The executable block loop continues the spec's chain of block compressions: `k` more full blocks
from block `i` on. -/
theorem chunkLoop_chainCV (b : ByteArray) (off len ctr : Nat) :
    ∀ (k i : Nat), 64 * (i + k) ≤ len →
      Blake3T.chunkLoop b off ctr.toUInt64 k i (chainCV realBlockParams ctr (slice b off len) i)
        = chainCV realBlockParams ctr (slice b off len) (i + k) := by
  intro k
  induction k with
  | zero => intro i _; rfl
  | succ k ih =>
    intro i hik
    have e : blockAt (slice b off len) i = slice b (off + 64 * i) 64 := by
      rw [blockAt, slice_drop, slice_take, show min 64 (len - 64 * i) = 64 by omega]
    have := ih (i + 1) (by omega)
    rw [chainCV, e, Nat.add_assoc, Nat.add_comm 1 k] at this
    rw [← this]
    simp only [Blake3T.chunkLoop, realBlockParams, wordsOfBlock_eq, startFlag, beq_iff_eq]

theorem chunkTail_slice (b : ByteArray) (off len ctr : Nat) (h : off + len ≤ b.size) (k : Nat)
    (hk : Pieces 64 k len) :
    chunkTail realBlockParams ctr (slice b off len)
      = ⟨Blake3T.chunkLoop b off ctr.toUInt64 k 0 Blake3.IV, k == 0,
          slice b (off + 64 * k) (len - 64 * k)⟩ := by
  have hc := chunkLoop_chainCV b off len ctr k 0 (by omega)
  rw [Nat.zero_add] at hc
  rw [chunkTail_eq_chainCV _ ctr _ k (by rw [slice_length_of_le b h]; exact hk), slice_drop, ← hc]
  rfl

theorem leftLenFrom_eq_spec (fuel p n : Nat) :
    Blake3T.leftLenFrom fuel p n = Blake3Spec.leftLenFrom fuel p n := by
  induction fuel generalizing p with
  | zero => rfl
  | succ fuel ih => simp only [Blake3T.leftLenFrom, Blake3Spec.leftLenFrom, ih]

/-- Number of chunks of an input of `size` bytes, as `Blake3T.hash` computes it. -/
def numChunks (size : Nat) : Nat := if size = 0 then 1 else (size + 1023) / 1024

/-- `numChunks n - 1` full chunks and a non-empty rest, or one chunk of at most 1024 bytes. -/
theorem numChunks_spec (n : Nat) :
    ∃ k, numChunks n = k + 1 ∧ Pieces 1024 k n := by
  refine ⟨numChunks n - 1, ?_⟩
  unfold numChunks
  split <;> omega

/-- Chunk number `c` of the array: the bytes `[1024 c, 1024 c + min 1024 (size - 1024 c))`. -/
def chunkBytes (b : ByteArray) (c : Nat) : Bytes := slice b (1024 * c) (min 1024 (b.size - 1024 * c))

theorem chunkBytes_eq_chunkAt (b : ByteArray) (c : Nat) : chunkBytes b c = chunkAt b.data.toList c := by
  rw [chunkAt, List.take_eq_take_min, List.length_drop, ← size_eq_length]; rfl

/-- `ByteArray.foldlM`'s loop is `Array.foldlM`'s on the underlying array (the two are written alike). -/
theorem foldlM_loop_eq {β : Type} (f : β → UInt8 → Id β) (b : ByteArray) (stop : Nat) (h : stop ≤ b.size) :
    ∀ (i j : Nat) (acc : β),
      ByteArray.foldlM.loop f b stop h i j acc = Array.foldlM.loop f b.data stop h i j acc := by
  intro i
  induction i with
  | zero => intro j acc; unfold ByteArray.foldlM.loop Array.foldlM.loop; rfl
  | succ i ih => intro j acc; unfold ByteArray.foldlM.loop Array.foldlM.loop; simp only [ih]; rfl

theorem foldl_eq_data {β : Type} (f : β → UInt8 → β) (init : β) (b : ByteArray) :
    b.foldl f init = b.data.toList.foldl f init := by
  rw [Array.foldl_toList]
  unfold ByteArray.foldl ByteArray.foldlM Array.foldl Array.foldlM
  simp only [Nat.le_refl, dite_true, foldlM_loop_eq]
  rfl

theorem foldl_hex (l : Bytes) (s : String) :
    (l.foldl (fun s x => s.push (Blake3.hexDigit (x >>> 4)) |>.push (Blake3.hexDigit (x &&& 15))) s).toList
      = s.toList ++ l.flatMap fun (x : UInt8) => [hexDigitL (x >>> 4), hexDigitL (x &&& 15)] := by
  induction l generalizing s with
  | nil => simp
  | cons x xs ih =>
    rw [List.foldl_cons, ih, String.toList_push, String.toList_push, List.flatMap_cons]
    simp only [List.append_assoc]
    rfl

theorem toHex_eq_spec (b : ByteArray) : Blake3.toHex b = Blake3Spec.toHex b.data.toList := by
  unfold Blake3.toHex Blake3Spec.toHex
  rw [foldl_eq_data, ← String.ofList_toList (s := List.foldl _ _ _), foldl_hex]
  simp

end Dud.Blake3Total
