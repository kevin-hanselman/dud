import DudModel.Lemmas.OrderStore
import DudModel.Lemmas.MapE
import DudModel.Lemmas.CommitOk
/-!
# Commit of the entries of a directory does not depend on the processing order (helpers for C13)

* `commitHead`, `commitEntries_cons_head`: `commitEntries` as a fold of one step per entry;
* `closedNode` / `closedList`: the reads of a commit are *stable* — they cannot be changed by
  what a sibling entry puts into the cache;
* `commitNode_frame`: under that hypothesis the result of committing one entry is the same in
  every larger cache, and the objects it adds are the same block `Δ`; proved together with
* `commitEntries_eq_mapE`: the loop is a map (`mapE`) over the entries, each committed on the
  *initial* cache, followed by putting the blocks on.  The frame property of the loop
  (`commitEntries_frame`), order independence (`commitEntries_perm`) and "fails iff some entry
  fails on the initial cache" (`commitEntries_ok_iff`) follow; the last two are `mapE_perm` and
  `mapE_ok_iff`, the lemmas the status loops use too;
* `commitNode_treePerm`, `commitArt_treePerm`: listings reordered at every depth (`TreePerm`), for a
  node and for a top-level artifact;
* `closedNode_of_links`: the reads are stable when no workspace link into the cache dangles and the
  recorded checksums that will be consulted are present; instances `closedNode_fresh` (first commit)
  and `closedNode_of_storeClosed` (a cache closed under the references of its manifests,
  `StoreClosed`, decidable by `storeClosedB`).
-/
namespace Dud
variable {κ : Type}

def commitHead (ctx : Ctx κ) (strat : Strat) (skipDirs : Bool) (old : List Child)
    (e : Name × Node κ) (s : Store κ) : Except Err ((Name × Node κ) × List Child × Store κ) :=
  if skipDirs && e.2.isDir then .ok (e, [], s)
  else if !ctx.nameOK e.1 then .error .invalid
  else match commitNode ctx strat e.2 (pickChild old e.1 e.2.isDir) s with
    | .error err => .error err
    | .ok (n', c', s1) => .ok ((e.1, n'), [c'], s1)

def consE (e' : Name × Node κ) (c1 : List Child) :
    Except Err (List (Name × Node κ) × List Child × Store κ) →
      Except Err (List (Name × Node κ) × List Child × Store κ)
  | .error e => .error e
  | .ok (r', cs, s') => .ok (e' :: r', c1 ++ cs, s')

theorem commitEntries_cons_head (ctx : Ctx κ) (strat : Strat) (skipDirs : Bool) (e : Name × Node κ)
    (r : List (Name × Node κ)) (old : List Child) (s : Store κ) :
    commitEntries ctx strat skipDirs (e :: r) old s =
      match commitHead ctx strat skipDirs old e s with
      | .error err => .error err
      | .ok (e', c1, s1) => consE e' c1 (commitEntries ctx strat skipDirs r old s1) := by
  obtain ⟨nm, n⟩ := e
  simp only [commitEntries_cons, commitHead]
  split
  · rfl
  · split
    · rfl
    · cases commitNode ctx strat n (pickChild old nm n.isDir) s with
      | error e => rfl
      | ok v => rfl

mutual
/-- The reads `commitNode` makes for this node and child record cannot be changed by new objects:
a link into the cache resolves (its object is present), and a recorded directory checksum is either
unusable (shorter than three characters) or present, recursively through the old manifests that
will be consulted.  Decidable by evaluation. -/
def closedNode (ctx : Ctx κ) (s : Store κ) : Node κ → Child → Bool
  | .dir es, c => !c.isDir ||
      ((!hasSum c.sum || s.has c.sum) &&
        match oldManifest ctx s c.sum with
        | .error _ => true
        | .ok old => closedList ctx s false es old)
  | .link (.obj d), c => c.isDir || s.has d
  | .link (.foreign _), _ => true
  | .file _, _ => true
  | .other, _ => true
/-- `closedNode` for every entry `commitEntries` does not skip -/
def closedList (ctx : Ctx κ) (s : Store κ) (skipDirs : Bool) :
    List (Name × Node κ) → List Child → Bool
  | [], _ => true
  | (nm, n) :: r, old =>
    ((skipDirs && n.isDir) || closedNode ctx s n (pickChild old nm n.isDir)) &&
      closedList ctx s skipDirs r old
end

theorem closedNode_dir {ctx : Ctx κ} {s : Store κ} {es : List (Name × Node κ)} {c : Child} :
    closedNode ctx s (.dir es) c = true ↔
      (c.isDir = true → (hasSum c.sum = true → s.has c.sum = true) ∧
        ∀ old, oldManifest ctx s c.sum = .ok old → closedList ctx s false es old = true) := by
  simp only [closedNode]
  cases c.isDir <;> cases hasSum c.sum <;> cases oldManifest ctx s c.sum <;> simp

theorem closedList_cons {ctx : Ctx κ} {s : Store κ} {sk : Bool} {nm : Name} {n : Node κ}
    {r : List (Name × Node κ)} {old : List Child} :
    closedList ctx s sk ((nm, n) :: r) old = true ↔
      ((sk && n.isDir) = true ∨ closedNode ctx s n (pickChild old nm n.isDir) = true) ∧
        closedList ctx s sk r old = true := by
  simp only [closedList, Bool.and_eq_true, Bool.or_eq_true]

theorem closedList_iff {ctx : Ctx κ} {s : Store κ} {sk : Bool} {old : List Child} :
    ∀ {es : List (Name × Node κ)}, closedList ctx s sk es old = true ↔
      ∀ e ∈ es, (sk && e.2.isDir) = true ∨
        closedNode ctx s e.2 (pickChild old e.1 e.2.isDir) = true
  | [] => by simp [closedList]
  | (nm, n) :: r => by
    rw [closedList_cons, closedList_iff (es := r)]
    simp only [List.mem_cons, forall_eq_or_imp]

/-- `rt` is `rs` moved from store `s` to store `t`: the same error, or the same result with the
same block of new objects on top of `t`. -/
def Shift3 {α β : Type} (ctx : Ctx κ) (s t : Store κ)
    (rs rt : Except Err (α × β × Store κ)) : Prop :=
  (∀ e, rs = .error e → rt = .error e) ∧
  (∀ a b s1, rs = .ok (a, b, s1) → ∃ Δ, s1 = Δ ++ s ∧ DeltaOK ctx Δ ∧ rt = .ok (a, b, Δ ++ t))

theorem Shift3.error {α β : Type} {ctx : Ctx κ} {s t : Store κ} (e : Err) :
    Shift3 (α := α) (β := β) ctx s t (.error e) (.error e) :=
  ⟨fun _ h => h, fun _ _ _ h => by cases h⟩

theorem Shift3.ok {α β : Type} {ctx : Ctx κ} {s t : Store κ} (a : α) (b : β) {Δ : Store κ}
    (hΔ : DeltaOK ctx Δ) : Shift3 ctx s t (.ok (a, b, Δ ++ s)) (.ok (a, b, Δ ++ t)) := by
  refine ⟨fun _ h => (by cases h), fun a' b' s1 h => ?_⟩
  cases h
  exact ⟨Δ, rfl, hΔ, rfl⟩

theorem Shift3.ok_nil {α β : Type} {ctx : Ctx κ} {s t : Store κ} (a : α) (b : β) :
    Shift3 ctx s t (.ok (a, b, s)) (.ok (a, b, t)) :=
  Shift3.ok (Δ := []) a b (DeltaOK.nil ctx)

@[elab_as_elim]
theorem Shift3.cases {α β : Type} {ctx : Ctx κ} {s t : Store κ}
    {motive : Except Err (α × β × Store κ) → Except Err (α × β × Store κ) → Prop}
    {rs rt : Except Err (α × β × Store κ)} (h : Shift3 ctx s t rs rt)
    (err : ∀ e, motive (.error e) (.error e))
    (ok : ∀ a b Δ, DeltaOK ctx Δ → motive (.ok (a, b, Δ ++ s)) (.ok (a, b, Δ ++ t))) :
    motive rs rt := by
  cases rs with
  | error e => rw [h.1 e rfl]; exact err e
  | ok v =>
    obtain ⟨a, b, s1⟩ := v
    obtain ⟨Δ, rfl, hΔ, hrt⟩ := h.2 _ _ _ rfl
    rw [hrt]
    exact ok a b Δ hΔ

theorem commitFile_frame {ctx : Ctx κ} (strat : Strat) (skip : Bool) (n : Option (Node κ))
    (sum : Digest) {s t : Store κ} (hle : Store.le ctx s t)
    (hcl : ∀ d, n = some (.link (.obj d)) → s.has d = true) :
    Shift3 ctx s t (commitFile ctx strat skip n sum s) (commitFile ctx strat skip n sum t) := by
  cases n with
  | none => exact Shift3.error _
  | some nd =>
    cases nd with
    | file c =>
      rw [commitFile_file, commitFile_file]
      cases skip with
      | true => exact Shift3.ok_nil _ _
      | false => exact Shift3.ok (Δ := [(ctx.H c, .blob c)]) _ _ (DeltaOK.cons (.blob c) (DeltaOK.nil ctx))
    | dir es => rw [commitFile_dir, commitFile_dir]; exact Shift3.error _
    | other => rw [commitFile_other, commitFile_other]; exact Shift3.error _
    | link l =>
      cases l with
      | foreign b => rw [commitFile_link_foreign, commitFile_link_foreign]; exact Shift3.error _
      | obj d =>
        rw [commitFile_link_obj, commitFile_link_obj]
        have hd : s.has d = true := hcl d rfl
        have hd' : t.has d = true := Store.has_le hle hd
        -- the link resolves in `s`, so a recorded checksum equal to its target is present there too
        have hc : (hasSum sum && t.has sum && d == sum) = (hasSum sum && s.has sum && d == sum) := by
          cases hds : d == sum
          · simp
          · rw [← eq_of_beq hds, hd, hd']
        rw [hc, hd, hd']
        split
        · exact Shift3.ok_nil _ _
        · cases skip
          · exact Shift3.ok_nil _ _
          · exact Shift3.error _

theorem commitNode_leaf_frame {ctx : Ctx κ} (strat : Strat) (n : Node κ) (hn : n.isDir = false)
    (c : Child) {s t : Store κ} (hle : Store.le ctx s t)
    (hcl : closedNode ctx s n c = true) :
    Shift3 ctx s t (commitNode ctx strat n c s) (commitNode ctx strat n c t) := by
  rw [commitNode_leaf ctx strat hn, commitNode_leaf ctx strat hn]
  cases hd : c.isDir with
  | true => exact Shift3.error _
  | false =>
    simp only [Bool.false_eq_true, if_false]
    have hf := commitFile_frame (ctx := ctx) strat false (some n) c.sum hle (by
      intro d hnd
      cases hnd
      simpa [closedNode, hd] using hcl)
    exact hf.cases (fun _ => Shift3.error _) fun _ _ _ hΔ => Shift3.ok _ _ hΔ

theorem commitHead_shift {ctx : Ctx κ} (strat : Strat) (sk : Bool) (old : List Child)
    (e : Name × Node κ) {s t : Store κ}
    (h : (sk && e.2.isDir) = true ∨
      Shift3 ctx s t (commitNode ctx strat e.2 (pickChild old e.1 e.2.isDir) s)
        (commitNode ctx strat e.2 (pickChild old e.1 e.2.isDir) t)) :
    Shift3 ctx s t (commitHead ctx strat sk old e s) (commitHead ctx strat sk old e t) := by
  unfold commitHead
  by_cases hsk : (sk && e.2.isDir) = true
  · simp only [hsk, if_true]
    exact Shift3.ok_nil _ _
  · simp only [hsk]
    rcases h with h | h
    · exact absurd h hsk
    · by_cases hnm : (!ctx.nameOK e.1) = true
      · simp only [hnm, if_true]
        exact Shift3.error _
      · simp only [hnm]
        exact h.cases (fun _ => Shift3.error _) fun _ _ _ hΔ => Shift3.ok _ _ hΔ

/-- the bindings `s1` has on top of `s`, as a function of `s1`, so that `commitEntries_eq_mapE` can be
an equation -/
def blockOf (s s1 : Store κ) : Store κ := s1.take (s1.length - s.length)

theorem blockOf_append (Δ s : Store κ) : blockOf s (Δ ++ s) = Δ := by
  simp [blockOf]

/-- what the entries, each committed on `s`, put on top of `s`, last entry first -/
def blocks (s : Store κ) (rs : List ((Name × Node κ) × List Child × Store κ)) : Store κ :=
  ((rs.map fun r => blockOf s r.2.2).reverse).flatten

/-- the outcome of the loop on `t`, from the outcomes of its entries on `s` -/
def regroup (s t : Store κ) (rs : List ((Name × Node κ) × List Child × Store κ)) :
    List (Name × Node κ) × List Child × Store κ :=
  (rs.map (·.1), (rs.map (·.2.1)).flatten, blocks s rs ++ t)

/-- what the loop puts on the cache sits under its own digests, as for every successful commit -/
theorem blocks_ok {ctx : Ctx κ} {strat : Strat} {sk : Bool} {old : List Child}
    {es : List (Name × Node κ)} {s : Store κ} {rs : List ((Name × Node κ) × List Child × Store κ)}
    (hm : mapE (fun e => commitHead ctx strat sk old e s) es = .ok rs)
    (h : commitEntries ctx strat sk es old s =
      (mapE (fun e => commitHead ctx strat sk old e s) es).map (regroup s s)) :
    DeltaOK ctx (blocks s rs) := by
  rw [hm] at h
  obtain ⟨_, _, Δ, hΔ, hok⟩ := (commit_shape ctx strat).2 _ _ _ _ _ _ _ h
  rwa [List.append_cancel_right hΔ]

mutual
/-- **Frame property of `commitNode`.**  With stable reads, committing a node gives the same
outcome in every larger consistent cache `t`: the same error, or the same workspace node, the
same child record, and the same block `Δ` of new objects. -/
theorem commitNode_frame {ctx : Ctx κ} (g : Good ctx) (strat : Strat) :
    ∀ (n : Node κ) (c : Child) (s t : Store κ), Consistent ctx s → Consistent ctx t →
      Store.le ctx s t → closedNode ctx s n c = true →
      Shift3 ctx s t (commitNode ctx strat n c s) (commitNode ctx strat n c t)
  | .dir es, c, s, t, hs, ht, hle, hcl => by
    simp only [commitNode_dir]
    cases hd : c.isDir with
    | false => exact Shift3.error _
    | true =>
      simp only [if_true]
      obtain ⟨h1, h2⟩ := closedNode_dir.1 hcl hd
      rw [oldManifest_le g hle h1]
      cases ho : oldManifest ctx s c.sum with
      | error e => exact Shift3.error _
      | ok old =>
        simp only
        have ih := commitEntries_eq_mapE g strat es old false s hs (h2 old ho)
        rw [ih s hs (Store.le_refl ctx s), ih t ht hle]
        cases hm : mapE (fun e => commitHead ctx strat false old e s) es with
        | error e => exact Shift3.error _
        | ok rs =>
          exact Shift3.ok (Δ := (_, Obj.man .new c.name (sortChildren _)) :: blocks s rs) _ _
            (DeltaOK.cons _ (blocks_ok hm (ih s hs (Store.le_refl ctx s))))
  | .file x, c, s, t, _, _, hle, hcl => commitNode_leaf_frame strat (.file x) rfl c hle hcl
  | .link l, c, s, t, _, _, hle, hcl => commitNode_leaf_frame strat (.link l) rfl c hle hcl
  | .other, c, s, t, _, _, hle, hcl => commitNode_leaf_frame strat .other rfl c hle hcl
/-- **`commitEntries` is a map over the entries, each committed on the initial cache.**  With
stable reads at `s`, the loop on any consistent cache `t` above `s` returns what the entries return
one by one on `s`, and puts their blocks of new objects (content-addressed bindings) on `t`. -/
theorem commitEntries_eq_mapE {ctx : Ctx κ} (g : Good ctx) (strat : Strat) :
    ∀ (es : List (Name × Node κ)) (old : List Child) (sk : Bool) (s : Store κ),
      Consistent ctx s → closedList ctx s sk es old = true →
      ∀ t, Consistent ctx t → Store.le ctx s t →
        commitEntries ctx strat sk es old t =
          (mapE (fun e => commitHead ctx strat sk old e s) es).map (regroup s t)
  | [], old, sk, s, _, _ => fun t _ _ => by
    simp [commitEntries_nil, mapE, regroup, blocks, Except.map]
  | (nm, n) :: r, old, sk, s, hs, hcl => fun t ht hle => by
    obtain ⟨hc1, hc2⟩ := closedList_cons.1 hcl
    rw [commitEntries_cons_head, mapE]
    refine (commitHead_shift strat sk old (nm, n)
      (hc1.imp id (commitNode_frame g strat n _ s t hs ht hle))).cases (fun _ => rfl)
      fun e' c1 Δ hΔ => ?_
    simp only [Except.bind]
    rw [commitEntries_eq_mapE g strat r old sk s hs hc2 (Δ ++ t) (ht.append hΔ)
      (Store.le_trans hle (Store.le_append g hΔ ht))]
    cases mapE (fun e => commitHead ctx strat sk old e s) r with
    | error _ => rfl
    | ok rs => simp [consE, Except.map, regroup, blocks, blockOf_append]
end

theorem commitEntries_frame {ctx : Ctx κ} (g : Good ctx) (strat : Strat) :
    ∀ (es : List (Name × Node κ)) (old : List Child) (sk : Bool) (s t : Store κ),
      Consistent ctx s → Consistent ctx t → Store.le ctx s t →
      closedList ctx s sk es old = true →
      Shift3 ctx s t (commitEntries ctx strat sk es old s) (commitEntries ctx strat sk es old t) := by
  intro es old sk s t hs ht hle hcl
  have h := commitEntries_eq_mapE g strat es old sk s hs hcl
  rw [h s hs (Store.le_refl ctx s), h t ht hle]
  cases hm : mapE (fun e => commitHead ctx strat sk old e s) es with
  | error e => exact Shift3.error _
  | ok rs => exact Shift3.ok _ _ (blocks_ok hm (h s hs (Store.le_refl ctx s)))

theorem closedList_perm {ctx : Ctx κ} {s : Store κ} {sk : Bool} {old : List Child}
    {es es' : List (Name × Node κ)} (hp : es.Perm es') :
    closedList ctx s sk es old = true ↔ closedList ctx s sk es' old = true := by
  rw [closedList_iff, closedList_iff]
  exact ⟨fun h e he => h e (hp.mem_iff.2 he), fun h e he => h e (hp.mem_iff.1 he)⟩

/-- the two commits of a listing have the same outcome: both fail, or both succeed with the same
workspace entries and child records up to order, and the same cache -/
def CommitEq (ctx : Ctx κ)
    (x y : Except Err (List (Name × Node κ) × List Child × Store κ)) : Prop :=
  match x, y with
  | .error _, .error _ => True
  | .ok (o1, cs1, s1), .ok (o2, cs2, s2) => o1.Perm o2 ∧ cs1.Perm cs2 ∧ Store.eqv ctx s1 s2
  | _, _ => False

/-- `CommitEq` as an instance of `ExRel`, the form the lemmas use -/
abbrev PermEq (ctx : Ctx κ) :
    (x y : Except Err (List (Name × Node κ) × List Child × Store κ)) → Prop :=
  ExRel fun a b => a.1.Perm b.1 ∧ a.2.1.Perm b.2.1 ∧ Store.eqv ctx a.2.2 b.2.2

theorem CommitEq.iff_permEq {ctx : Ctx κ}
    {x y : Except Err (List (Name × Node κ) × List Child × Store κ)} :
    CommitEq ctx x y ↔ PermEq ctx x y := by
  cases x <;> cases y <;> exact Iff.rfl

theorem CommitEq.ok_left {ctx : Ctx κ}
    {x y : Except Err (List (Name × Node κ) × List Child × Store κ)} (h : CommitEq ctx x y)
    {o1 : List (Name × Node κ)} {cs1 : List Child} {s1 : Store κ} (hx : x = .ok (o1, cs1, s1)) :
    ∃ o2 cs2 s2, y = .ok (o2, cs2, s2) ∧ o1.Perm o2 ∧ cs1.Perm cs2 ∧ Store.eqv ctx s1 s2 :=
  let ⟨(o2, cs2, s2), hy, hr⟩ := ExRel.ok_left (CommitEq.iff_permEq.1 h) hx
  ⟨o2, cs2, s2, hy, hr⟩

theorem CommitEq.error_left {ctx : Ctx κ}
    {x y : Except Err (List (Name × Node κ) × List Child × Store κ)} (h : CommitEq ctx x y)
    {e : Err} (hx : x = .error e) : ∃ e', y = .error e' :=
  ExRel.error_left (CommitEq.iff_permEq.1 h) hx

theorem CommitEq.symm {ctx : Ctx κ}
    {x y : Except Err (List (Name × Node κ) × List Child × Store κ)} (h : CommitEq ctx x y) :
    CommitEq ctx y x :=
  CommitEq.iff_permEq.2
    ((CommitEq.iff_permEq.1 h).symm fun _ _ h => ⟨h.1.symm, h.2.1.symm, h.2.2.symm⟩)

/-- **Order independence of `commitEntries`.** -/
theorem commitEntries_perm {ctx : Ctx κ} (g : Good ctx) (strat : Strat) (sk : Bool)
    {es es' : List (Name × Node κ)} (hp : es.Perm es') (old : List Child) {s : Store κ}
    (hs : Consistent ctx s) (hcl : closedList ctx s sk es old = true) :
    CommitEq ctx (commitEntries ctx strat sk es old s) (commitEntries ctx strat sk es' old s) := by
  have h1 := commitEntries_eq_mapE g strat es old sk s hs hcl s hs (Store.le_refl ctx s)
  rw [h1, commitEntries_eq_mapE g strat es' old sk s hs ((closedList_perm hp).1 hcl) s hs
    (Store.le_refl ctx s)]
  refine CommitEq.iff_permEq.2 ((mapE_perm _ hp).and_eq.map fun rs rs' ⟨h, hrs, _⟩ =>
    ⟨h.map _, (h.map _).flatten, ?_⟩)
  -- the blocks are the same up to order, and blocks of content-addressed bindings commute
  exact Store.eqv_flatten_perm g
    ((List.reverse_perm _).trans ((h.map _).trans (List.reverse_perm _).symm))
    (blocks_ok hrs h1).of_flatten s

/-- success is decided entry by entry on the initial cache -/
theorem commitEntries_ok_iff {ctx : Ctx κ} (g : Good ctx) (strat : Strat) (sk : Bool)
    (es : List (Name × Node κ)) (old : List Child) {s : Store κ}
    (hs : Consistent ctx s) (hcl : closedList ctx s sk es old = true) :
    (∃ v, commitEntries ctx strat sk es old s = .ok v) ↔
      ∀ e ∈ es, ∃ v, commitHead ctx strat sk old e s = .ok v := by
  rw [commitEntries_eq_mapE g strat es old sk s hs hcl s hs (Store.le_refl ctx s),
    Except.map_ok_iff]
  exact mapE_ok_iff _ es

/-- the listing keeps its names in place; there is one child record per entry not skipped, under
the entry's name -/
theorem commitEntries_names {ctx : Ctx κ} {strat : Strat} {sk : Bool} {old : List Child}
    {es : List (Name × Node κ)} {o : List (Name × Node κ)} {cs : List Child} {s s' : Store κ}
    (h : commitEntries ctx strat sk es old s = .ok (o, cs, s')) :
    o.map (·.1) = es.map (·.1) ∧
      cs.map (·.name) = (es.filter (fun e => !(sk && e.2.isDir))).map (·.1) := by
  obtain ⟨rfl, h2, _⟩ := (commit_shape ctx strat).2 _ _ _ _ _ _ _ h
  exact ⟨by simp [wsAfterSk], h2⟩

theorem commitEntries_children_nodup {ctx : Ctx κ} {strat : Strat} {sk : Bool} {old : List Child}
    {es o : List (Name × Node κ)} {cs : List Child} {s s' : Store κ}
    (hnd : (es.map (·.1)).Nodup) (h : commitEntries ctx strat sk es old s = .ok (o, cs, s')) :
    (cs.map (·.name)).Nodup := by
  rw [(commitEntries_names h).2]
  exact List.Nodup.sublist (List.filter_sublist.map _) hnd

mutual
/-- `n'` is `n` with the listing of every directory (at every depth) reordered -/
def TreePerm : Node κ → Node κ → Prop
  | .dir es, n' => ∃ mid es', n' = .dir es' ∧ EntriesRel es mid ∧ mid.Perm es'
  | .file c, n' => n' = .file c
  | .link l, n' => n' = .link l
  | .other, n' => n' = .other
/-- entry by entry: the same names in the same order, `TreePerm`-related nodes -/
def EntriesRel : List (Name × Node κ) → List (Name × Node κ) → Prop
  | [], l' => l' = []
  | (nm, n) :: r, l' => ∃ n' r', l' = (nm, n') :: r' ∧ TreePerm n n' ∧ EntriesRel r r'
end

mutual
theorem TreePerm.refl : ∀ (n : Node κ), TreePerm n n
  | .dir es => by
    simp only [TreePerm]
    exact ⟨es, es, rfl, EntriesRel.refl es, List.Perm.refl _⟩
  | .file _ => by simp only [TreePerm]
  | .link _ => by simp only [TreePerm]
  | .other => by simp only [TreePerm]
theorem EntriesRel.refl : ∀ (es : List (Name × Node κ)), EntriesRel es es
  | [] => by simp only [EntriesRel]
  | (nm, n) :: r => by
    simp only [EntriesRel]
    exact ⟨n, r, rfl, TreePerm.refl n, EntriesRel.refl r⟩
end

theorem TreePerm.of_perm {es es' : List (Name × Node κ)} (h : es.Perm es') :
    TreePerm (.dir es) (.dir es') := by
  simp only [TreePerm]
  exact ⟨es, es', rfl, EntriesRel.refl es, h⟩

theorem TreePerm.dir {es mid es' : List (Name × Node κ)} (h1 : EntriesRel es mid)
    (h2 : mid.Perm es') : TreePerm (.dir es) (.dir es') := by
  simp only [TreePerm]
  exact ⟨mid, es', rfl, h1, h2⟩

theorem TreePerm.eq_of_leaf {n n' : Node κ} (hn : n.isDir = false) (h : TreePerm n n') :
    n' = n := by
  cases n with
  | dir es => cases hn
  | _ => simpa only [TreePerm] using h

theorem TreePerm.isDir_eq {n n' : Node κ} (h : TreePerm n n') : n'.isDir = n.isDir := by
  cases n with
  | dir es =>
    simp only [TreePerm] at h
    obtain ⟨_, _, rfl, _, _⟩ := h
    rfl
  | _ => rw [h.eq_of_leaf rfl]

theorem EntriesRel.cons_inv {nm : Name} {n : Node κ} {r l' : List (Name × Node κ)}
    (h : EntriesRel ((nm, n) :: r) l') :
    ∃ n' r', l' = (nm, n') :: r' ∧ TreePerm n n' ∧ EntriesRel r r' := by
  simpa only [EntriesRel] using h

theorem EntriesRel.cons {nm : Name} {n n' : Node κ} {r r' : List (Name × Node κ)}
    (h1 : TreePerm n n') (h2 : EntriesRel r r') : EntriesRel ((nm, n) :: r) ((nm, n') :: r') := by
  simp only [EntriesRel]
  exact ⟨n', r', rfl, h1, h2⟩

theorem EntriesRel.names : ∀ {es mid : List (Name × Node κ)}, EntriesRel es mid →
    mid.map (·.1) = es.map (·.1)
  | [], mid, h => by
    simp only [EntriesRel] at h
    rw [h]
  | (nm, n) :: r, mid, h => by
    obtain ⟨n', r', rfl, _, hr⟩ := h.cons_inv
    simp only [List.map_cons, EntriesRel.names hr]

mutual
/-- entry names pairwise distinct in every directory of the tree (what a listing always is) -/
def Node.nodupNames : Node κ → Bool
  | .dir es => decide ((es.map (·.1)).Nodup) && nodupNamesList es
  | .file _ => true
  | .link _ => true
  | .other => true
def nodupNamesList : List (Name × Node κ) → Bool
  | [] => true
  | (_, n) :: r => n.nodupNames && nodupNamesList r
end

theorem Node.nodupNames_dir {es : List (Name × Node κ)} :
    (Node.dir es).nodupNames = true ↔ (es.map (·.1)).Nodup ∧ nodupNamesList es = true := by
  simp only [Node.nodupNames, Bool.and_eq_true, decide_eq_true_eq]

theorem nodupNamesList_cons {nm : Name} {n : Node κ} {r : List (Name × Node κ)} :
    nodupNamesList ((nm, n) :: r) = true ↔ n.nodupNames = true ∧ nodupNamesList r = true := by
  simp only [nodupNamesList, Bool.and_eq_true]

mutual
/-- stable reads stay stable in every larger cache, and for the tree with its listings reordered -/
theorem closedNode_congr {ctx : Ctx κ} (g : Good ctx) {s t : Store κ} (hle : Store.le ctx s t) :
    ∀ (n n' : Node κ) (c : Child), TreePerm n n' → closedNode ctx s n c = true →
      closedNode ctx t n' c = true
  | .dir es, n', c, hp, h => by
    simp only [TreePerm] at hp
    obtain ⟨mid, es', rfl, hrel, hperm⟩ := hp
    rw [closedNode_dir] at h ⊢
    intro hd
    obtain ⟨h1, h2⟩ := h hd
    refine ⟨fun hh => Store.has_le hle (h1 hh), fun old ho => ?_⟩
    rw [oldManifest_le g hle h1] at ho
    exact (closedList_perm hperm).1 (closedList_congr g hle es mid old false hrel (h2 old ho))
  | .link (.obj d), n', c, hp, h => by
    rw [hp.eq_of_leaf rfl]
    simp only [closedNode, Bool.or_eq_true] at h ⊢
    exact h.imp id (Store.has_le hle)
  | .link (.foreign _), n', _, hp, _ => by rw [hp.eq_of_leaf rfl]; simp [closedNode]
  | .file _, n', _, hp, _ => by rw [hp.eq_of_leaf rfl]; simp [closedNode]
  | .other, n', _, hp, _ => by rw [hp.eq_of_leaf rfl]; simp [closedNode]
theorem closedList_congr {ctx : Ctx κ} (g : Good ctx) {s t : Store κ} (hle : Store.le ctx s t) :
    ∀ (es mid : List (Name × Node κ)) (old : List Child) (sk : Bool), EntriesRel es mid →
      closedList ctx s sk es old = true → closedList ctx t sk mid old = true
  | [], mid, old, sk, hr, h => by
    simp only [EntriesRel] at hr
    rw [hr]; exact h
  | (nm, n) :: r, mid, old, sk, hr, h => by
    obtain ⟨n', r', rfl, hn, hr'⟩ := hr.cons_inv
    rw [closedList_cons] at h ⊢
    rw [hn.isDir_eq]
    exact ⟨h.1.imp id (closedNode_congr g hle n n' _ hn), closedList_congr g hle r r' old sk hr' h.2⟩
end

/-- what `commitNode` and `commitArt` do with the result of `commitEntries`: write the manifest
(under path `p`) and report its digest (as `F` of it) -/
def finishWith {γ : Type} (ctx : Ctx κ) (p : Bytes) (F : Digest → γ) :
    Except Err (List (Name × Node κ) × List Child × Store κ) → Except Err (Node κ × γ × Store κ)
  | .error e => .error e
  | .ok (es', cs, s') =>
    .ok (.dir es', F ((Obj.man .new p (sortChildren cs) : Obj κ).digest ctx),
      s'.put ((Obj.man .new p (sortChildren cs) : Obj κ).digest ctx) (.man .new p (sortChildren cs)))

theorem commitNode_dir_eq (ctx : Ctx κ) (strat : Strat) (es : List (Name × Node κ)) (c : Child)
    (s : Store κ) :
    commitNode ctx strat (.dir es) c s =
      if c.isDir then
        match oldManifest ctx s c.sum with
        | .error e => .error e
        | .ok old =>
          finishWith ctx c.name (fun d => { c with sum := d }) (commitEntries ctx strat false es old s)
      else .error .notRegular := rfl

/-- the manifest a directory commit reports is in the cache it returns -/
theorem commitNode_dir_has_sum {ctx : Ctx κ} {strat : Strat} {es : List (Name × Node κ)}
    {n' : Node κ} {c c' : Child} {s s' : Store κ}
    (h : commitNode ctx strat (.dir es) c s = .ok (n', c', s')) : s'.has c'.sum = true := by
  rw [commitNode_dir_eq] at h
  split at h
  · split at h
    · cases h
    · next old _ =>
      cases hr : commitEntries ctx strat false es old s with
      | error e => rw [hr] at h; cases h
      | ok v =>
        rw [hr] at h
        cases h
        exact Store.has_of_get (alookup_cons_self ..)
  · cases h

/-- both fail, or both succeed with `TreePerm`-related workspace nodes, the *same* second component
(child record or checksum) and the same cache -/
abbrev OutEq {γ : Type} (ctx : Ctx κ) :
    Except Err (Node κ × γ × Store κ) → Except Err (Node κ × γ × Store κ) → Prop :=
  ExRel fun a b => TreePerm a.1 b.1 ∧ a.2.1 = b.2.1 ∧ Store.eqv ctx a.2.2 b.2.2

/-- both fail, or both succeed with `TreePerm`-related workspace nodes, the *same* child record
(in particular the same checksum) and the same cache -/
def NodeEq (ctx : Ctx κ) (x y : Except Err (Node κ × Child × Store κ)) : Prop :=
  match x, y with
  | .error _, .error _ => True
  | .ok (n1, c1, s1), .ok (n2, c2, s2) => TreePerm n1 n2 ∧ c1 = c2 ∧ Store.eqv ctx s1 s2
  | _, _ => False

theorem NodeEq.iff_outEq {ctx : Ctx κ} {x y : Except Err (Node κ × Child × Store κ)} :
    NodeEq ctx x y ↔ OutEq ctx x y := by
  cases x <;> cases y <;> exact Iff.rfl

/-- both fail, or both succeed with entry-wise related listings, the same child records in the
same order, and the same cache -/
abbrev EntriesEq (ctx : Ctx κ) :
    (x y : Except Err (List (Name × Node κ) × List Child × Store κ)) → Prop :=
  ExRel fun a b => EntriesRel a.1 b.1 ∧ a.2.1 = b.2.1 ∧ Store.eqv ctx a.2.2 b.2.2

/-- both fail, or both succeed with listings that differ only in order (at every level), child
records that agree up to order, and the same cache -/
abbrev EntriesPermEq (ctx : Ctx κ) :
    (x y : Except Err (List (Name × Node κ) × List Child × Store κ)) → Prop :=
  ExRel fun a b =>
    (∃ om, EntriesRel a.1 om ∧ om.Perm b.1) ∧ a.2.1.Perm b.2.1 ∧ Store.eqv ctx a.2.2 b.2.2

theorem EntriesPermEq.of_rel {ctx : Ctx κ}
    {x y z : Except Err (List (Name × Node κ) × List Child × Store κ)} (h1 : EntriesEq ctx x y)
    (h2 : CommitEq ctx y z) : EntriesPermEq ctx x z :=
  h1.trans (CommitEq.iff_permEq.1 h2) fun _ b _ h1 h2 =>
    ⟨⟨b.1, h1.1, h2.1⟩, h1.2.1 ▸ h2.2.1, h1.2.2.trans h2.2.2⟩

/-- the manifest only depends on the child records up to order -/
theorem finishWith_treePerm {γ : Type} {ctx : Ctx κ} (p : Bytes) (F : Digest → γ)
    {x z : Except Err (List (Name × Node κ) × List Child × Store κ)}
    (h : EntriesPermEq ctx x z)
    (hnd : ∀ o cs s', x = .ok (o, cs, s') → (cs.map (·.name)).Nodup) :
    OutEq ctx (finishWith ctx p F x) (finishWith ctx p F z) :=
  h.and_eq.cases (fun _ _ => trivial) fun (o, cs, s1) (o', cs', s2) ⟨⟨⟨om, hr, hp⟩, hpc, he⟩, hx, _⟩ => by
    have hsc : sortChildren cs = sortChildren cs' := sortChildren_perm hpc (hnd _ _ _ hx)
    simp only [finishWith, hsc]
    exact ⟨TreePerm.dir hr hp, rfl, Store.eqv_put_congr he _ _⟩

theorem OutEq.of_shift {γ : Type} {ctx : Ctx κ} {s t : Store κ}
    {x y : Except Err (Node κ × γ × Store κ)} (h : Shift3 ctx s t x y)
    (he : Store.eqv ctx s t) : OutEq ctx x y :=
  h.cases (fun _ => trivial) fun _ _ Δ _ => ⟨TreePerm.refl _, rfl, Store.eqv_append_congr Δ he⟩

/-- `ExRel.ok_left` with the equal middle components identified -/
theorem OutEq.ok_left {γ : Type} {ctx : Ctx κ} {x y : Except Err (Node κ × γ × Store κ)}
    (h : OutEq ctx x y) {n1 : Node κ} {c1 : γ} {s1 : Store κ} (hx : x = .ok (n1, c1, s1)) :
    ∃ n2 s2, y = .ok (n2, c1, s2) ∧ TreePerm n1 n2 ∧ Store.eqv ctx s1 s2 := by
  obtain ⟨⟨n2, c2, s2⟩, hy, hp, hc, he⟩ := ExRel.ok_left h hx
  cases hc
  exact ⟨n2, s2, hy, hp, he⟩

theorem NodeEq.ok_left {ctx : Ctx κ} {x y : Except Err (Node κ × Child × Store κ)}
    (h : NodeEq ctx x y) {n1 : Node κ} {c1 : Child} {s1 : Store κ} (hx : x = .ok (n1, c1, s1)) :
    ∃ n2 s2, y = .ok (n2, c1, s2) ∧ TreePerm n1 n2 ∧ Store.eqv ctx s1 s2 :=
  (NodeEq.iff_outEq.1 h).ok_left hx

theorem NodeEq.error_left {ctx : Ctx κ} {x y : Except Err (Node κ × Child × Store κ)}
    (h : NodeEq ctx x y) {e : Err} (hx : x = .error e) : ∃ e', y = .error e' :=
  (NodeEq.iff_outEq.1 h).error_left hx

theorem NodeEq.ok_right {ctx : Ctx κ} {x y : Except Err (Node κ × Child × Store κ)}
    (h : NodeEq ctx x y) {n2 : Node κ} {c2 : Child} {s2 : Store κ} (hy : y = .ok (n2, c2, s2)) :
    ∃ n1 s1, x = .ok (n1, c2, s1) ∧ TreePerm n1 n2 ∧ Store.eqv ctx s1 s2 := by
  obtain ⟨⟨n1, c1, s1⟩, hx, hp, hc, he⟩ := (NodeEq.iff_outEq.1 h).ok_right hy
  cases hc
  exact ⟨n1, s1, hx, hp, he⟩

theorem EntriesEq.consE {ctx : Ctx κ} {nm : Name} {n n' : Node κ} (c1 : List Child)
    {x y : Except Err (List (Name × Node κ) × List Child × Store κ)} (hn : TreePerm n n')
    (h : EntriesEq ctx x y) : EntriesEq ctx (consE (nm, n) c1 x) (consE (nm, n') c1 y) :=
  h.cases (fun _ _ => trivial) fun _ _ h => ⟨EntriesRel.cons hn h.1, congrArg (c1 ++ ·) h.2.1, h.2.2⟩

mutual
/-- **Order independence of `commitNode` at every level.**  Committing two trees that differ only
in the order of the listings (at any depth) gives the same outcome: the same error status, the
same child record — so the same checksum —, the same cache, and workspace trees that again differ
only in the order of the listings. -/
theorem commitNode_treePerm {ctx : Ctx κ} (g : Good ctx) (strat : Strat) :
    ∀ (n n' : Node κ) (c : Child) (s t : Store κ), TreePerm n n' → n.nodupNames = true →
      Consistent ctx s → Consistent ctx t → Store.eqv ctx s t → closedNode ctx s n c = true →
      NodeEq ctx (commitNode ctx strat n c s) (commitNode ctx strat n' c t)
  | .dir es, n', c, s, t, hp, hnd, hs, ht, he, hcl => by
    simp only [TreePerm] at hp
    obtain ⟨mid, es', rfl, hrel, hperm⟩ := hp
    rw [commitNode_dir_eq, commitNode_dir_eq]
    refine NodeEq.iff_outEq.2 ?_
    by_cases hd : c.isDir = true
    · rw [if_pos hd, if_pos hd]
      obtain ⟨_, h2⟩ := closedNode_dir.1 hcl hd
      rw [← he.oldManifest g c.sum]
      cases ho : oldManifest ctx s c.sum with
      | error e => trivial
      | ok old =>
        simp only
        obtain ⟨hnd1, hnd2⟩ := Node.nodupNames_dir.1 hnd
        have hclm := closedList_congr g he.le es mid old false hrel (h2 old ho)
        exact (finishWith_treePerm _ _
          (EntriesPermEq.of_rel
            (commitEntries_rel g strat es mid old false s t hrel hnd2 hs ht he (h2 old ho))
            (commitEntries_perm g strat false hperm old ht hclm))
          fun _ _ _ hA => commitEntries_children_nodup hnd1 hA)
    · rw [if_neg hd, if_neg hd]
      trivial
  | .file x, n', c, s, t, hp, _, hs, ht, he, hcl => by
    rw [hp.eq_of_leaf rfl]
    exact NodeEq.iff_outEq.2 (OutEq.of_shift (commitNode_frame g strat _ c s t hs ht he.le hcl) he)
  | .link l, n', c, s, t, hp, _, hs, ht, he, hcl => by
    rw [hp.eq_of_leaf rfl]
    exact NodeEq.iff_outEq.2 (OutEq.of_shift (commitNode_frame g strat _ c s t hs ht he.le hcl) he)
  | .other, n', c, s, t, hp, _, hs, ht, he, hcl => by
    rw [hp.eq_of_leaf rfl]
    exact NodeEq.iff_outEq.2 (OutEq.of_shift (commitNode_frame g strat _ c s t hs ht he.le hcl) he)
theorem commitEntries_rel {ctx : Ctx κ} (g : Good ctx) (strat : Strat) :
    ∀ (es mid : List (Name × Node κ)) (old : List Child) (sk : Bool) (s t : Store κ),
      EntriesRel es mid → nodupNamesList es = true → Consistent ctx s → Consistent ctx t →
      Store.eqv ctx s t → closedList ctx s sk es old = true →
      EntriesEq ctx (commitEntries ctx strat sk es old s) (commitEntries ctx strat sk mid old t)
  | [], mid, old, sk, s, t, hrel, _, _, _, he, _ => by
    simp only [EntriesRel] at hrel
    rw [hrel]
    simp only [commitEntries_nil]
    exact ⟨by simp only [EntriesRel], rfl, he⟩
  | (nm, n) :: r, mid, old, sk, s, t, hrel, hnd, hs, ht, he, hcl => by
    obtain ⟨n', r', rfl, hn, hr'⟩ := hrel.cons_inv
    obtain ⟨hnd1, hnd2⟩ := nodupNamesList_cons.1 hnd
    obtain ⟨hc1, hc2⟩ := closedList_cons.1 hcl
    rw [commitEntries_cons_head, commitEntries_cons_head]
    unfold commitHead
    simp only [hn.isDir_eq]
    by_cases hsk : (sk && n.isDir) = true
    · rw [if_pos hsk, if_pos hsk]
      exact EntriesEq.consE [] hn (commitEntries_rel g strat r r' old sk s t hr' hnd2 hs ht he hc2)
    · rw [if_neg hsk, if_neg hsk]
      rcases hc1 with hc1 | hc1
      · exact absurd hc1 hsk
      · by_cases hnm : (!ctx.nameOK nm) = true
        · rw [if_pos hnm, if_pos hnm]
          trivial
        · rw [if_neg hnm, if_neg hnm]
          have ihn := commitNode_treePerm g strat n n' (pickChild old nm n.isDir) s t hn hnd1 hs ht
            he hc1
          refine (NodeEq.iff_outEq.1 ihn).and_eq.cases (fun _ _ => trivial) ?_
          intro ⟨n1, c1, s1⟩ ⟨n2, c2, t1⟩ ⟨⟨hn12, hc, he1⟩, hA, hB⟩
          cases hc
          obtain ⟨hs1, hle1⟩ := commitNode_step g strat _ _ _ hA hs
          exact EntriesEq.consE [c1] hn12
            (commitEntries_rel g strat r r' old sk s1 t1 hr' hnd2 hs1
              (commitNode_step g strat _ _ _ hB ht).1 he1 (closedList_congr g hle1 r r old sk (.refl r) hc2))
end

theorem commitEntries_treePerm {ctx : Ctx κ} (g : Good ctx) (strat : Strat) (sk : Bool)
    {es mid es' : List (Name × Node κ)} (hrel : EntriesRel es mid) (hperm : mid.Perm es')
    (hnd : nodupNamesList es = true) (old : List Child) {s t : Store κ}
    (hs : Consistent ctx s) (ht : Consistent ctx t) (he : Store.eqv ctx s t)
    (hcl : closedList ctx s sk es old = true) :
    EntriesPermEq ctx (commitEntries ctx strat sk es old s) (commitEntries ctx strat sk es' old t) :=
  EntriesPermEq.of_rel (commitEntries_rel g strat es mid old sk s t hrel hnd hs ht he hcl)
    (commitEntries_perm g strat sk hperm old ht
      (closedList_congr g he.le es mid old sk hrel hcl))

/-- stable reads for a top-level artifact (`commitArt`) -/
def closedArt (ctx : Ctx κ) (s : Store κ) (a : Art) (n : Node κ) : Bool :=
  if a.isDir then
    match n with
    | .dir es =>
      (!hasSum a.sum || s.has a.sum) &&
        match oldManifest ctx s a.sum with
        | .error _ => true
        | .ok old => closedList ctx s a.noRec es old
    | _ => true
  else
    match n with
    | .link (.obj d) => s.has d
    | _ => true

theorem commitArt_dir_eq (ctx : Ctx κ) (strat : Strat) (a : Art) (ha : a.isDir = true)
    (es : List (Name × Node κ)) (s : Store κ) :
    commitArt ctx strat a (some (.dir es)) s =
      match oldManifest ctx s a.sum with
      | .error e => .error e
      | .ok old => finishWith ctx a.path id (commitEntries ctx strat a.noRec es old s) :=
  commitArt_dir ctx strat ha es s

/-- **Order independence of `LocalCache.Commit`** (`commitArt`): two workspace trees that differ
only in the order of the listings (at any depth) give the same error status, the same checksum, the
same cache, and workspace trees that again differ only in the order of the listings. -/
theorem commitArt_treePerm {ctx : Ctx κ} (g : Good ctx) (strat : Strat) (a : Art)
    {n n' : Node κ} (hp : TreePerm n n') (hnd : n.nodupNames = true) {s t : Store κ}
    (hs : Consistent ctx s) (ht : Consistent ctx t) (he : Store.eqv ctx s t)
    (hcl : closedArt ctx s a n = true) :
    OutEq ctx (commitArt ctx strat a (some n) s) (commitArt ctx strat a (some n') t) := by
  cases ha : a.isDir with
  | true =>
    cases n with
    | dir es =>
      simp only [TreePerm] at hp
      obtain ⟨mid, es', rfl, hrel, hperm⟩ := hp
      rw [commitArt_dir_eq ctx strat a ha, commitArt_dir_eq ctx strat a ha]
      simp only [closedArt, ha, if_true, Bool.and_eq_true] at hcl
      rw [← he.oldManifest g a.sum]
      cases ho : oldManifest ctx s a.sum with
      | error e => trivial
      | ok old =>
        rw [ho] at hcl
        obtain ⟨hnd1, hnd2⟩ := Node.nodupNames_dir.1 hnd
        exact finishWith_treePerm _ _
          (commitEntries_treePerm g strat a.noRec hrel hperm hnd2 old hs ht he hcl.2)
          fun _ _ _ hA => commitEntries_children_nodup hnd1 hA
    | _ =>
      rw [hp.eq_of_leaf rfl]
      simp only [commitArt, ha, if_true]
      trivial
  | false =>
    simp only [commitArt_file ctx strat ha]
    cases n with
    | dir es =>
      simp only [TreePerm] at hp
      obtain ⟨mid, es', rfl, _, _⟩ := hp
      rw [commitFile_dir, commitFile_dir]
      trivial
    | link l =>
      rw [hp.eq_of_leaf rfl]
      refine OutEq.of_shift (commitFile_frame strat a.skip _ a.sum he.le (fun d hd => ?_)) he
      cases hd
      simpa [closedArt, ha] using hcl
    | _ =>
      rw [hp.eq_of_leaf rfl]
      exact OutEq.of_shift (commitFile_frame strat a.skip _ a.sum he.le (fun d hd => by cases hd)) he

mutual
/-- every link into the cache resolves -/
def Node.linksResolve (s : Store κ) : Node κ → Bool
  | .dir es => linksResolveList s es
  | .link (.obj d) => s.has d
  | .link (.foreign _) => true
  | .file _ => true
  | .other => true
def linksResolveList (s : Store κ) : List (Name × Node κ) → Bool
  | [] => true
  | (_, n) :: r => n.linksResolve s && linksResolveList s r
end

theorem pickChild_mem_or_fresh (old : List Child) (nm : Name) (b : Bool) :
    pickChild old nm b ∈ old ∨ pickChild old nm b = ⟨nm, "", b⟩ := by
  rcases pickChild_cases old nm b with h | ⟨k, hk, _, h⟩
  · exact .inr h
  · exact .inl (h ▸ List.mem_of_find?_eq_some hk)

mutual
/-- The reads are stable when no workspace link into the cache dangles and every child record that
will be consulted satisfies `Q`: a property under which a usable recorded checksum is present, which
passes to the entries of the old manifest, and which fresh records have. -/
theorem closedNode_of_links {ctx : Ctx κ} {s : Store κ} {Q : Child → Prop}
    (hQ : ∀ c, Q c → (c.isDir = true → hasSum c.sum = true → s.has c.sum = true) ∧
      ∀ old, oldManifest ctx s c.sum = .ok old → ∀ k ∈ old, Q k)
    (hfresh : ∀ nm b, Q ⟨nm, "", b⟩) :
    ∀ (n : Node κ) (c : Child), n.linksResolve s = true → Q c → closedNode ctx s n c = true
  | .dir es, c, hl, hc => by
    rw [closedNode_dir]
    exact fun hd => ⟨(hQ c hc).1 hd, fun old ho => closedList_of_links hQ hfresh es old false
      (by simpa [Node.linksResolve] using hl) ((hQ c hc).2 old ho)⟩
  | .link (.obj d), c, hl, _ => by
    simp only [closedNode, Bool.or_eq_true]
    exact Or.inr (by simpa [Node.linksResolve] using hl)
  | .link (.foreign _), _, _, _ => by simp [closedNode]
  | .file _, _, _, _ => by simp [closedNode]
  | .other, _, _, _ => by simp [closedNode]
theorem closedList_of_links {ctx : Ctx κ} {s : Store κ} {Q : Child → Prop}
    (hQ : ∀ c, Q c → (c.isDir = true → hasSum c.sum = true → s.has c.sum = true) ∧
      ∀ old, oldManifest ctx s c.sum = .ok old → ∀ k ∈ old, Q k)
    (hfresh : ∀ nm b, Q ⟨nm, "", b⟩) :
    ∀ (es : List (Name × Node κ)) (old : List Child) (sk : Bool),
      linksResolveList s es = true → (∀ k ∈ old, Q k) → closedList ctx s sk es old = true
  | [], _, _, _, _ => by simp [closedList]
  | (nm, n) :: r, old, sk, hl, hold => by
    simp only [linksResolveList, Bool.and_eq_true] at hl
    rw [closedList_cons]
    refine ⟨Or.inr (closedNode_of_links hQ hfresh n _ hl.1 ?_),
      closedList_of_links hQ hfresh r old sk hl.2 hold⟩
    rcases pickChild_mem_or_fresh old nm n.isDir with h | h
    · exact hold _ h
    · rw [h]; exact hfresh _ _
end

/-- a record without checksum has no old manifest to consult -/
theorem emptySum_stable (ctx : Ctx κ) (s : Store κ) (c : Child) (hc : c.sum = "") :
    (c.isDir = true → hasSum c.sum = true → s.has c.sum = true) ∧
      ∀ old, oldManifest ctx s c.sum = .ok old → ∀ k ∈ old, k.sum = "" := by
  rw [hc, hasSum_empty, oldManifest_empty]
  exact ⟨fun _ hh => (nomatch hh), fun old ho k hk => by cases ho; cases hk⟩

/-- for a first commit (no recorded checksum) the reads are stable as soon as no link into the
cache dangles -/
theorem closedNode_fresh (ctx : Ctx κ) (s : Store κ) :
    ∀ (n : Node κ) (nm : Name) (b : Bool), n.linksResolve s = true →
      closedNode ctx s n ⟨nm, "", b⟩ = true :=
  fun n _ _ h => closedNode_of_links (emptySum_stable ctx s) (fun _ _ => rfl) n _ h rfl

theorem closedList_fresh (ctx : Ctx κ) (s : Store κ) :
    ∀ (es : List (Name × Node κ)) (sk : Bool), linksResolveList s es = true →
      closedList ctx s sk es [] = true :=
  fun es sk h =>
    closedList_of_links (emptySum_stable ctx s) (fun _ _ => rfl) es [] sk h (fun _ hk => nomatch hk)

/-- every sub-directory checksum recorded in a readable manifest of the cache is itself in the
cache (no partial fetch, no garbage collection of referenced manifests) -/
def StoreClosed (ctx : Ctx κ) (s : Store κ) : Prop :=
  ∀ d cs, readManifest ctx s d = .ok cs →
    ∀ k ∈ cs, k.isDir = true → hasSum k.sum = true → s.has k.sum = true

theorem StoreClosed.stable {ctx : Ctx κ} {s : Store κ} (hsc : StoreClosed ctx s) (c : Child)
    (hc : c.isDir = true → hasSum c.sum = true → s.has c.sum = true) :
    (c.isDir = true → hasSum c.sum = true → s.has c.sum = true) ∧
      ∀ old, oldManifest ctx s c.sum = .ok old →
        ∀ k ∈ old, k.isDir = true → hasSum k.sum = true → s.has k.sum = true := by
  refine ⟨hc, fun old ho => ?_⟩
  unfold oldManifest at ho
  split at ho
  · exact hsc _ _ ho
  · cases ho
    exact fun k hk => nomatch hk

/-- with a reference-closed cache the reads of a commit are stable as soon as no workspace link
into the cache dangles and the recorded checksum of the artifact (if usable) is present -/
theorem closedNode_of_storeClosed {ctx : Ctx κ} {s : Store κ} (hsc : StoreClosed ctx s) :
    ∀ (n : Node κ) (c : Child), n.linksResolve s = true →
      (c.isDir = true → hasSum c.sum = true → s.has c.sum = true) →
      closedNode ctx s n c = true :=
  closedNode_of_links hsc.stable fun _ _ _ hh => by rw [hasSum_empty] at hh; cases hh

theorem closedList_of_storeClosed {ctx : Ctx κ} {s : Store κ} (hsc : StoreClosed ctx s) :
    ∀ (es : List (Name × Node κ)) (old : List Child) (sk : Bool),
      linksResolveList s es = true →
      (∀ k ∈ old, k.isDir = true → hasSum k.sum = true → s.has k.sum = true) →
      closedList ctx s sk es old = true :=
  closedList_of_links hsc.stable fun _ _ _ hh => by rw [hasSum_empty] at hh; cases hh

/-- decidable check for `StoreClosed` -/
def storeClosedB (ctx : Ctx κ) (s : Store κ) : Bool :=
  s.all fun p =>
    match manifestChildren ctx p.2 with
    | none => true
    | some cs => cs.all fun k => !k.isDir || !hasSum k.sum || s.has k.sum

theorem storeClosed_of_check {ctx : Ctx κ} {s : Store κ} (h : storeClosedB ctx s = true) :
    StoreClosed ctx s := by
  intro d cs hr k hk hkd hks
  obtain ⟨o, hg, hcs⟩ := readManifest_ok_inv hr
  have hm := List.all_eq_true.1 h (d, o) (alookup_mem hg)
  simp only [hcs, List.all_eq_true] at hm
  simpa [hkd, hks] using hm k hk

end Dud
