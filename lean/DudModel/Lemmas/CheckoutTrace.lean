import DudModel.Lemmas.Crash
import DudModel.Lemmas.CheckoutEq
/-!
# The traced checkout of one artifact (`checkoutNodeT`, `Sys.lean`)

Erasing the trace gives the logical `checkoutNode` (`…_refines`).  What a successful traced checkout issues
is a `CheckoutTrace` (`checkoutNodeT_trace`): a relation with one rule per way the trace is put together, so
that every fact about the calls is one induction on it — which paths they name (`CheckoutTrace.confined`,
`Props/C18.lean`), where they write, what they do to the file system and to the entry names
(`CheckoutTrace.writes_below`, `.step`, `.uniq`, `Lemmas/CrashCheckoutStep.lean`).  `CommitTrace` of
`Lemmas/CrashTree.lean` is the same for commit.
-/
namespace Dud.Sys
open Dud
variable {κ : Type}

theorem checkoutFileT_refines (t : TCfg κ) (w : P) (cur : Option (Node κ)) (sum : Digest) (s : Store κ) :
    (checkoutFileT t w cur sum s).map (·.1) = checkoutFile t.ctx t.strat cur sum s := by
  unfold checkoutFileT
  cases checkoutFile t.ctx t.strat cur sum s with
  | error e => rfl
  | ok r => dsimp only; split <;> (try split) <;> rfl

theorem checkoutChildrenT_refines
    (f : List Name → Option (Node κ) → Child → Except Err (Node κ × List (Call κ)))
    (g : Option (Node κ) → Child → Except Err (Node κ))
    (hfg : ∀ pre cur c, (f pre cur c).map (·.1) = g cur c) (pre : List Name) :
    ∀ (cs : List Child) (es : List (Name × Node κ)),
      (checkoutChildrenT f pre es cs).map (·.1) = checkoutChildren g es cs := by
  intro cs
  induction cs with
  | nil => intro es; rfl
  | cons c cs ih =>
    intro es
    simp only [checkoutChildrenT, checkoutChildren_cons]
    rw [← hfg (pre ++ [c.name]) (alookup es c.name) c]
    cases f (pre ++ [c.name]) (alookup es c.name) c with
    | error e => rfl
    | ok v =>
      obtain ⟨n, calls1⟩ := v
      dsimp only [Except.map]
      rw [← ih (setEntry es c.name n)]
      cases checkoutChildrenT f pre (setEntry es c.name n) cs with
      | error e => rfl
      | ok v => obtain ⟨es', calls2⟩ := v; rfl

theorem checkoutNodeT_refines (t : TCfg κ) (s : Store κ) :
    ∀ (fuel : Nat) (pre : List Name) (cur : Option (Node κ)) (c : Child),
      (checkoutNodeT t s fuel pre cur c).map (·.1) = checkoutNode t.ctx t.strat s fuel cur c := by
  intro fuel
  induction fuel with
  | zero => intro _ _ _; rfl
  | succ fuel ih =>
    intro pre cur c
    have ihc := fun es cs => checkoutChildrenT_refines (checkoutNodeT t s fuel)
      (checkoutNode t.ctx t.strat s fuel) ih pre cs es
    unfold checkoutNodeT checkoutNode
    split
    · split
      · rfl
      · split
        · rfl
        · cases cur with
          | none =>
            dsimp only
            cases readManifest t.ctx s c.sum with
            | error e => rfl
            | ok cs =>
              dsimp only
              rw [← ihc [] cs]
              cases checkoutChildrenT (checkoutNodeT t s fuel) pre [] cs with
              | error e => rfl
              | ok v => obtain ⟨es', calls⟩ := v; rfl
          | some x =>
            cases x with
            | dir es =>
              dsimp only
              cases readManifest t.ctx s c.sum with
              | error e => rfl
              | ok cs =>
                dsimp only
                rw [← ihc es cs]
                cases checkoutChildrenT (checkoutNodeT t s fuel) pre es cs with
                | error e => rfl
                | ok v => obtain ⟨es', calls⟩ := v; rfl
            | _ => rfl
    · exact checkoutFileT_refines t (.ws pre) cur c.sum s

theorem checkoutFileCalls_paths (isEmp : κ → Bool) (strat : Strat) (w : P) (b : Bool) (c : κ) (d : Digest) :
    ∀ call ∈ checkoutFileCalls isEmp strat w b c d, ∀ p ∈ callPaths call, p = w ∨ p = .obj d := by
  intro call hc
  rcases checkoutFileCalls_mem _ _ _ _ _ _ call hc with rfl | rfl | rfl | rfl | rfl <;> simp [callPaths]

theorem checkoutFileCalls_writes (isEmp : κ → Bool) (strat : Strat) (w : P) (b : Bool) (c : κ) (d : Digest) :
    ∀ call ∈ checkoutFileCalls isEmp strat w b c d, ∀ p ∈ callWrites call, p = w := by
  intro call hc
  rcases checkoutFileCalls_mem _ _ _ _ _ _ call hc with rfl | rfl | rfl | rfl | rfl <;>
    simp [callWrites, callPaths]

theorem checkoutFileT_calls {t : TCfg κ} {w : P} {cur : Option (Node κ)} {sum : Digest} {s : Store κ}
    {r : Node κ} {calls : List (Call κ)} (h : checkoutFileT t w cur sum s = .ok (r, calls)) :
    calls = [] ∨ ∃ b x, calls = checkoutFileCalls t.isEmp t.strat w b x sum := by
  unfold checkoutFileT at h
  split at h
  · cases h
  split at h
  · cases h
    exact .inl rfl
  split at h
  · cases h
    exact .inl rfl
  · cases h
    exact .inr ⟨_, _, rfl⟩

theorem checkoutChildrenT_cons_ok
    {f : List Name → Option (Node κ) → Child → Except Err (Node κ × List (Call κ))} {pre : List Name}
    {es es' : List (Name × Node κ)} {c : Child} {cs : List Child} {calls : List (Call κ)}
    (h : checkoutChildrenT f pre es (c :: cs) = .ok (es', calls)) :
    ∃ n calls1 calls2, f (pre ++ [c.name]) (alookup es c.name) c = .ok (n, calls1) ∧
      checkoutChildrenT f pre (setEntry es c.name n) cs = .ok (es', calls2) ∧ calls = calls1 ++ calls2 := by
  unfold checkoutChildrenT at h
  split at h
  · cases h
  · rename_i n calls1 hT
    split at h
    · cases h
    · rename_i es2 calls2 hT2
      simp only [Except.ok.injEq, Prod.mk.injEq] at h
      exact ⟨n, calls1, calls2, hT, h.1 ▸ hT2, h.2.symm⟩

theorem checkoutNodeT_inv {t : TCfg κ} {s : Store κ} {fuel : Nat} {pre : List Name}
    {cur : Option (Node κ)} {c : Child} {r : Node κ} {calls : List (Call κ)}
    (h : checkoutNodeT t s (fuel + 1) pre cur c = .ok (r, calls)) :
    (c.isDir = true ∧ ∃ cs es es' calls1, readManifest t.ctx s c.sum = .ok cs ∧
      checkoutChildrenT (checkoutNodeT t s fuel) pre es cs = .ok (es', calls1) ∧ r = .dir es' ∧
      ((cur = some (.dir es) ∧ calls = calls1) ∨
       (cur = none ∧ es = [] ∧ calls = .mkdir (.ws pre) :: calls1))) ∨
    (c.isDir = false ∧ checkoutFileT t (.ws pre) cur c.sum s = .ok (r, calls)) := by
  simp only [checkoutNodeT] at h
  split at h
  · rename_i hd
    refine .inl ⟨hd, ?_⟩
    split at h
    · cases h
    split at h
    · cases h
    split at h
    · rename_i es
      split at h
      · cases h
      rename_i cs hm
      split at h
      · cases h
      rename_i es' calls1 hT
      simp only [Except.ok.injEq, Prod.mk.injEq] at h
      exact ⟨cs, es, es', calls1, hm, hT, h.1.symm, .inl ⟨rfl, h.2.symm⟩⟩
    · split at h
      · cases h
      rename_i cs hm
      split at h
      · cases h
      rename_i es' calls1 hT
      simp only [Except.ok.injEq, Prod.mk.injEq] at h
      exact ⟨cs, [], es', calls1, hm, hT, h.1.symm, .inr ⟨rfl, rfl, h.2.symm⟩⟩
    · cases h
  · rename_i hd
    exact .inr ⟨by simpa using hd, h⟩

theorem checkoutNodeT_dir_ok {t : TCfg κ} {s : Store κ} {fuel : Nat} {pre : List Name}
    {cur : Option (Node κ)} {c : Child} (hd : c.isDir = true) (h1 : hasSum c.sum = true)
    (h2 : s.has c.sum = true) {cs : List Child} (hm : readManifest t.ctx s c.sum = .ok cs)
    {es es' : List (Name × Node κ)} {calls head : List (Call κ)}
    (hch : checkoutChildrenT (checkoutNodeT t s fuel) pre es cs = .ok (es', calls))
    (hcur : (cur = some (.dir es) ∧ head = []) ∨ (cur = none ∧ es = [] ∧ head = [.mkdir (.ws pre)])) :
    checkoutNodeT t s (fuel + 1) pre cur c = .ok (.dir es', head ++ calls) := by
  rcases hcur with ⟨rfl, rfl⟩ | ⟨rfl, rfl, rfl⟩
  · simp [checkoutNodeT, hd, h1, h2, hm, hch]
  · simp [checkoutNodeT, hd, h1, h2, hm, hch]

theorem checkoutNodeT_file {t : TCfg κ} {s : Store κ} {fuel : Nat} {pre : List Name}
    {cur : Option (Node κ)} {c : Child} (hd : c.isDir = false) :
    checkoutNodeT t s (fuel + 1) pre cur c = checkoutFileT t (.ws pre) cur c.sum s := by
  simp [checkoutNodeT, hd]

/-- **What a successful traced checkout issues.**  `CheckoutTrace t s pre cs cur r full calls`: with
`full = true`, checking out the one manifest entry `cs = [c]` at `pre`, where the workspace holds `cur`,
issues `calls` and leaves `r`; with `full = false` it is the loop over the entries `cs` of the manifest of
the directory at `pre`, from the listing `es` (`cur = some (.dir es)`) to `es'` (`r = .dir es'`). -/
inductive CheckoutTrace (t : TCfg κ) (s : Store κ) :
    List Name → List Child → Option (Node κ) → Node κ → Bool → List (Call κ) → Prop
  | file {pre c cur r calls} : c.isDir = false →
      checkoutFileT t (.ws pre) cur c.sum s = .ok (r, calls) → CheckoutTrace t s pre [c] cur r true calls
  | dir {pre c cs es es' calls} : c.isDir = true → readManifest t.ctx s c.sum = .ok cs →
      CheckoutTrace t s pre cs (some (.dir es)) (.dir es') false calls →
      CheckoutTrace t s pre [c] (some (.dir es)) (.dir es') true calls
  | mkdir {pre c cs es' calls} : c.isDir = true → readManifest t.ctx s c.sum = .ok cs →
      CheckoutTrace t s pre cs (some (.dir [])) (.dir es') false calls →
      CheckoutTrace t s pre [c] none (.dir es') true (.mkdir (.ws pre) :: calls)
  | nil {pre es} : CheckoutTrace t s pre [] (some (.dir es)) (.dir es) false []
  | cons {pre c cs es n es' calls1 calls2} :
      CheckoutTrace t s (pre ++ [c.name]) [c] (alookup es c.name) n true calls1 →
      CheckoutTrace t s pre cs (some (.dir (setEntry es c.name n))) (.dir es') false calls2 →
      CheckoutTrace t s pre (c :: cs) (some (.dir es)) (.dir es') false (calls1 ++ calls2)

theorem checkoutNodeT_trace {t : TCfg κ} {s : Store κ} : ∀ (fuel : Nat) {pre : List Name}
    {cur : Option (Node κ)} {c : Child} {r : Node κ} {calls : List (Call κ)},
    checkoutNodeT t s fuel pre cur c = .ok (r, calls) → CheckoutTrace t s pre [c] cur r true calls := by
  intro fuel
  induction fuel with
  | zero => intro _ _ _ _ _ h; cases h
  | succ fuel ih =>
    intro pre cur c r calls h
    have children : ∀ (cs : List Child) (es es' : List (Name × Node κ)) (calls : List (Call κ)),
        checkoutChildrenT (checkoutNodeT t s fuel) pre es cs = .ok (es', calls) →
        CheckoutTrace t s pre cs (some (.dir es)) (.dir es') false calls := by
      intro cs
      induction cs with
      | nil => intro es es' calls h; cases h; exact .nil
      | cons c cs ihc =>
        intro es es' calls h
        obtain ⟨n, calls1, calls2, hT, hT2, rfl⟩ := checkoutChildrenT_cons_ok h
        exact .cons (ih hT) (ihc _ _ _ hT2)
    rcases checkoutNodeT_inv h with ⟨hd, cs, es, es', calls1, hm, hT, rfl, hc⟩ | ⟨hd, hF⟩
    · rcases hc with ⟨rfl, rfl⟩ | ⟨rfl, rfl, rfl⟩
      · exact .dir hd hm (children _ _ _ _ hT)
      · exact .mkdir hd hm (children _ _ _ _ hT)
    · exact .file hd hF

#print axioms checkoutFileT_refines
#print axioms checkoutChildrenT_refines
#print axioms checkoutNodeT_refines
#print axioms checkoutNodeT_trace

end Dud.Sys
