import DudModel.Lemmas.Store
/-!
# The checkout functions, one arm at a time

The equations of `checkoutFile`, `checkoutChildren` and `checkoutNode` by form of input
(`checkoutFile_upToDate`, `_link`, `_copy`; `checkoutChildren_nil`, `_cons`; `checkoutNode_zero`,
`_file`, `_dir`) and their inversions (`checkoutFile_ok`, `checkoutChildren_cons_inv`,
`checkoutNode_ok`): what every proof about a checkout rests on in place of the function bodies.
-/
namespace Dud

variable {κ : Type}

theorem quick_cm {s : Store κ} {sum : Digest} {cur : Option (Node κ)} :
    (quick s sum cur).cm = true ↔
      cur = some (.link (.obj sum)) ∧ hasSum sum = true ∧ s.has sum = true := by
  unfold quick
  dsimp only
  split
  · simp only [Bool.and_eq_true, beq_iff_eq, Option.some.injEq, Node.link.injEq, Link.obj.injEq]
    exact and_comm
  · rename_i hne
    exact ⟨fun h => (nomatch h), fun ⟨e, _⟩ => (hne sum e).elim⟩

theorem upToDateCopy_some {ctx : Ctx κ} {sum : Digest} {n : Node κ}
    (h : upToDateCopy ctx (some n) sum = true) : ∃ c, n = .file c ∧ ctx.H c = sum := by
  unfold upToDateCopy at h
  split at h
  · rename_i c heq
    simp only [Option.some.injEq] at heq; subst heq
    exact ⟨c, rfl, by simpa using h⟩
  · cases h

theorem upToDateCopy_none (ctx : Ctx κ) (sum : Digest) : upToDateCopy ctx none sum = false := rfl

section
variable {ctx : Ctx κ} {strat : Strat} {cur : Option (Node κ)} {sum : Digest} {s : Store κ}

theorem checkoutFile_upToDate {n : Node κ} (hs : hasSum sum = true) (hhas : s.has sum = true)
    (hup : upToDateCopy ctx (some n) sum = true) : checkoutFile ctx strat (some n) sum s = .ok n := by
  obtain ⟨o, ho⟩ := Store.has_eq_true.1 hhas
  simp [checkoutFile, quick, hs, hhas, ho, hup]

theorem checkoutFile_link (hs : hasSum sum = true) (hhas : s.has sum = true)
    (hcur : cur = none ∨ cur = some (.link (.obj sum))) :
    checkoutFile ctx .link cur sum s = .ok (.link (.obj sum)) := by
  obtain ⟨o, ho⟩ := Store.has_eq_true.1 hhas
  rcases hcur with rfl | rfl <;> simp [checkoutFile, quick, upToDateCopy, hs, hhas, ho]

theorem checkoutFile_copy {o : Obj κ} (hs : hasSum sum = true) (ho : s.get sum = some o)
    (hcur : cur = none ∨ cur = some (.link (.obj sum))) :
    checkoutFile ctx .copy cur sum s =
      if ctx.H (o.bytes ctx) == sum then .ok (.file (o.bytes ctx)) else .error .sumMismatch := by
  rcases hcur with rfl | rfl <;> simp [checkoutFile, quick, upToDateCopy, hs, Store.has_of_get ho, ho]

theorem checkoutFile_ok {n' : Node κ} (h : checkoutFile ctx strat cur sum s = .ok n') :
    hasSum sum = true ∧ s.has sum = true ∧ ∃ o, s.get sum = some o ∧
      ((∃ c, cur = some (.file c) ∧ ctx.H c = sum ∧ n' = .file c) ∨
       (upToDateCopy ctx cur sum = false ∧ (cur = none ∨ cur = some (.link (.obj sum))) ∧
         ((strat = .link ∧ n' = .link (.obj sum)) ∨
          (strat = .copy ∧ n' = .file (o.bytes ctx) ∧ ctx.H (o.bytes ctx) = sum)))) := by
  unfold checkoutFile at h
  dsimp only at h
  split at h; · cases h
  split at h; · cases h
  rename_i hin
  split at h; · cases h
  rename_i o ho
  have hin : hasSum sum = true ∧ s.has sum = true := by simpa [quick] using hin
  refine ⟨hin.1, hin.2, o, ho, ?_⟩
  split at h
  · rename_i hup
    cases cur with
    | none => cases hup
    | some n =>
      obtain ⟨c, rfl, hH⟩ := upToDateCopy_some hup
      exact .inl ⟨c, rfl, hH, (Except.ok.inj h).symm⟩
  · rename_i hup
    refine .inr ⟨by simpa using hup, ?_⟩
    cases strat with
    | link =>
      dsimp only at h
      split at h
      · rename_i hq
        obtain ⟨rfl, -⟩ := quick_cm.1 hq
        exact ⟨.inr rfl, .inl ⟨rfl, (Except.ok.inj h).symm⟩⟩
      · split at h
        · cases h
        · exact ⟨.inl rfl, .inl ⟨rfl, (Except.ok.inj h).symm⟩⟩
    | copy =>
      dsimp only at h
      split at h
      · cases h
      · rename_i hnone
        split at h
        · rename_i hH
          refine ⟨?_, .inr ⟨rfl, (Except.ok.inj h).symm, by simpa using hH⟩⟩
          split at hnone
          · rename_i hq; exact .inr (quick_cm.1 hq).1
          · exact .inl hnone
        · cases h

end

theorem checkoutChildren_nil {f : Option (Node κ) → Child → Except Err (Node κ)}
    (es : List (Name × Node κ)) : checkoutChildren f es [] = .ok es := rfl

theorem checkoutChildren_cons (f : Option (Node κ) → Child → Except Err (Node κ))
    (es : List (Name × Node κ)) (c : Child) (cs : List Child) :
    checkoutChildren f es (c :: cs) =
      match f (alookup es c.name) c with
      | .error e => .error e
      | .ok n => checkoutChildren f (setEntry es c.name n) cs := rfl

theorem checkoutChildren_cons_inv {f : Option (Node κ) → Child → Except Err (Node κ)}
    {c : Child} {cs : List Child} {es es' : List (Name × Node κ)}
    (h : checkoutChildren f es (c :: cs) = .ok es') :
    ∃ n, f (alookup es c.name) c = .ok n ∧ checkoutChildren f (setEntry es c.name n) cs = .ok es' := by
  rw [checkoutChildren_cons] at h
  split at h
  · cases h
  · rename_i n hn; exact ⟨n, hn, h⟩

theorem checkoutNode_zero (ctx : Ctx κ) (strat : Strat) (s : Store κ) (cur : Option (Node κ)) (c : Child) :
    checkoutNode ctx strat s 0 cur c = .error .other := rfl

theorem checkoutNode_file {ctx : Ctx κ} {strat : Strat} {s : Store κ} {fuel : Nat}
    {cur : Option (Node κ)} {c : Child} (hd : c.isDir = false) :
    checkoutNode ctx strat s (fuel+1) cur c = checkoutFile ctx strat cur c.sum s := by
  simp only [checkoutNode]
  simp only [hd, Bool.false_eq_true, if_false]

theorem checkoutNode_dir {ctx : Ctx κ} {strat : Strat} {s : Store κ} {fuel : Nat}
    {cur : Option (Node κ)} {c : Child} {es : List (Name × Node κ)} {cs : List Child}
    (hd : c.isDir = true) (hs : hasSum c.sum = true) (hhas : s.has c.sum = true)
    (hm : readManifest ctx s c.sum = .ok cs) (hcur : cur = some (.dir es) ∨ (cur = none ∧ es = [])) :
    checkoutNode ctx strat s (fuel+1) cur c =
      match checkoutChildren (checkoutNode ctx strat s fuel) es cs with
      | .error e => .error e
      | .ok es' => .ok (.dir es') := by
  rcases hcur with rfl | ⟨rfl, rfl⟩ <;> simp only [checkoutNode] <;>
    simp only [hd, hs, hhas, hm, if_true, Bool.not_true, Bool.false_eq_true, if_false] <;> rfl

theorem checkoutNode_ok {ctx : Ctx κ} {strat : Strat} {s : Store κ} {fuel : Nat}
    {cur : Option (Node κ)} {c : Child} {n' : Node κ}
    (h : checkoutNode ctx strat s (fuel + 1) cur c = .ok n') :
    (c.isDir = false ∧ checkoutFile ctx strat cur c.sum s = .ok n') ∨
    (c.isDir = true ∧ hasSum c.sum = true ∧ s.has c.sum = true ∧ ∃ es cs es',
      (cur = some (.dir es) ∨ (cur = none ∧ es = [])) ∧ readManifest ctx s c.sum = .ok cs ∧
      checkoutChildren (checkoutNode ctx strat s fuel) es cs = .ok es' ∧ n' = .dir es') := by
  cases hd : c.isDir with
  | false => exact .inl ⟨rfl, checkoutNode_file hd ▸ h⟩
  | true =>
    simp only [checkoutNode] at h
    simp only [hd, if_true] at h
    split at h
    · cases h
    rename_i h1
    split at h
    · cases h
    rename_i h2
    refine .inr ⟨rfl, by simpa using h1, by simpa using h2, ?_⟩
    split at h
    · rename_i es
      split at h
      · cases h
      rename_i cs hcs
      split at h
      · cases h
      rename_i es' hes
      exact ⟨es, cs, es', .inl rfl, hcs, hes, (Except.ok.inj h).symm⟩
    · split at h
      · cases h
      rename_i cs hcs
      split at h
      · cases h
      rename_i es' hes
      exact ⟨[], cs, es', .inr ⟨rfl, rfl⟩, hcs, hes, (Except.ok.inj h).symm⟩
    · cases h

theorem checkoutNode_dir_ok {ctx : Ctx κ} {strat : Strat} {s : Store κ} {fuel : Nat}
    {es es' : List (Name × Node κ)} {c : Child} {cs : List Child}
    (hm : readManifest ctx s c.sum = .ok cs) (hc : c.isDir = true)
    (h : checkoutNode ctx strat s (fuel + 1) (some (.dir es)) c = .ok (.dir es')) :
    checkoutChildren (checkoutNode ctx strat s fuel) es cs = .ok es' := by
  rcases checkoutNode_ok h with ⟨hc', -⟩ | ⟨-, -, -, _, _, _, hcur, hm', hes, he⟩
  · cases hc.symm.trans hc'
  · rcases hcur with hcur | ⟨hcur, -⟩
    · cases hcur
      cases he
      cases hm.symm.trans hm'
      exact hes
    · cases hcur

end Dud
