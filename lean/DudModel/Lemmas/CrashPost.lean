import DudModel.Lemmas.CrashTree
/-!
# Post-conditions of one traced `LocalCache.Commit` (for the command-level argument of C03)

What the next artifact of the command needs to know about the file system after the complete trace
of one artifact, each by induction on `CommitTrace`: the cache temp names are free again (`….ctmp_free`);
every regular file of the tree left in the workspace was a regular file of the tree before, at the same
path with the same bytes, no call of the trace writes that path, and entry names stay duplicate-free
(`….kept`); the trace mentions neither the lock nor stage files nor the index (`commitArtT_cacheOnly`).
-/
namespace Dud.Sys
open Dud
variable {κ : Type}

/-- `copyIntoCache` renames its temp file away -/
theorem copyIntoCache_ctmp_self (emp : κ) (isEmp : κ → Bool) (n : Nat) (c : κ) (d : Digest) (fs : FS κ) :
    (replay emp fs (copyIntoCache isEmp n c d)).get (.ctmp n) = none := by
  cases he : isEmp c <;> simp [copyIntoCache, he, replay, get_apply]

theorem copyIntoCache_ctmp_free (emp : κ) (isEmp : κ → Bool) (n : Nat) (c : κ) (d : Digest) {lo : Nat}
    {fs : FS κ} (h : CtmpFree lo fs) : CtmpFree lo (replay emp fs (copyIntoCache isEmp n c d)) := by
  intro k hk
  by_cases hkn : k = n
  · subst hkn; exact copyIntoCache_ctmp_self emp isEmp k c d fs
  · rw [replay_get_of_foot (copyIntoCache_foot isEmp n c d) (by simp only [InFoot]; omega)]
    exact h k hk

theorem commitFileCalls_ctmp_free (emp : κ) (isEmp : κ → Bool) (strat : Strat) (canRename : Bool)
    (q : List Name) (n : Nat) (c : κ) (d : Digest) {lo : Nat} {fs : FS κ} (h : CtmpFree lo fs) :
    CtmpFree lo (replay emp fs (commitFileCalls isEmp strat canRename (.ws q) n c d)) := by
  -- `copyIntoCache` keeps the temp names free; the calls around it write the file's path and its object
  intro k hk
  have h1 := copyIntoCache_ctmp_free emp isEmp n c d h k hk
  cases strat <;> cases canRename <;>
    simp [commitFileCalls, replay_append, replay_cons, replay_nil, get_apply, h1, h k hk]

theorem CommitTrace.ctmp_free {t : TCfg κ} (emp : κ) {pre : List Name} {nd nd' : Node κ} {full : Bool}
    {n n' : Nat} {calls : List (Call κ)} (h : CommitTrace t pre nd nd' full n n' calls) {lo : Nat}
    {fs : FS κ} (hfr : CtmpFree lo fs) : CtmpFree lo (replay emp fs calls) := by
  induction h generalizing fs with
  | file => exact commitFileCalls_ctmp_free emp _ _ _ _ _ _ _ hfr
  | pass | nil => exact hfr
  | dir _ ih => rw [replay_append]; exact copyIntoCache_ctmp_free emp _ _ _ _ (ih hfr)
  | cons _ _ ih1 ih2 => rw [replay_append]; exact ih2 (ih1 hfr)

theorem commitNodeT_ctmp_free (t : TCfg κ) (emp : κ) : ∀ (nd : Node κ) (pre : List Name) (c : Child)
    (s : Store κ) (n : Nat) (res : Node κ × Child × Store κ) (calls : List (Call κ)) (n' : Nat),
    commitNodeT t pre nd c s n = .ok (res, calls, n') →
    ∀ (lo : Nat) (fs : FS κ), CtmpFree lo fs → CtmpFree lo (replay emp fs calls)
  | nd, _, _, _, _, _, _, _, h, _, _, hfr => (commitNodeT_trace t nd h).ctmp_free emp hfr

/-- **after the complete trace of one artifact the temp names `1, 2, …` are free again** -/
theorem commitArtT_ctmp_free {t : TCfg κ} (emp : κ) {a : Art} {pre : List Name} {nd : Option (Node κ)}
    {s : Store κ} {res : Node κ × Digest × Store κ} {calls : List (Call κ)}
    (h : commitArtT t a pre nd s = .ok (res, calls)) {fs : FS κ} (hfr : CtmpFree 1 fs) :
    CtmpFree 1 (replay emp fs calls) := by
  obtain ⟨nd0, calls1, n', rfl, rfl, hct⟩ := commitArtT_trace h
  rw [replay_append]
  exact hct.ctmp_free emp (headCalls_ctmp_free emp hfr)

theorem not_written_by_copyIntoCache (isEmp : κ → Bool) (n : Nat) (c : κ) (d : Digest) (q : List Name) :
    ∀ call ∈ copyIntoCache isEmp n c d, P.ws q ∉ callWrites call :=
  not_written_of_foot (copyIntoCache_foot isEmp n c d) (by simp [InFoot])

theorem trackedList_is_ws {pre : List Name} {es : List (Name × Node κ)} {p : P × κ}
    (hp : p ∈ trackedList pre es) : ∃ q, p.1 = .ws q :=
  trackedOf_ws pre (.dir es) p hp

/-- replacing the nodes of a listing keeps its names distinct -/
theorem ne_of_map_fst_eq {r r' : List (Name × Node κ)} (hnames : r'.map (·.1) = r.map (·.1)) {nm : Name}
    (hne : ∀ e ∈ r, e.1 ≠ nm) : ∀ e ∈ r', e.1 ≠ nm := by
  intro e he
  have : e.1 ∈ r.map (·.1) := hnames ▸ List.mem_map_of_mem he
  obtain ⟨e', he', heq⟩ := List.mem_map.1 this
  exact heq ▸ hne e' he'

/-- a listing keeps its entry names -/
theorem CommitTrace.names {t : TCfg κ} {pre : List Name} {nd nd' : Node κ} {full : Bool} {n n' : Nat}
    {calls : List (Call κ)} (h : CommitTrace t pre nd nd' full n n' calls) :
    ∀ es es', nd = .dir es → nd' = .dir es' → es'.map (·.1) = es.map (·.1) := by
  induction h with
  | file => exact fun _ _ h => nomatch h
  | pass => exact fun _ _ h1 h2 => by cases h1.symm.trans h2; rfl
  | nil => exact fun _ _ h1 h2 => by cases h1; cases h2; rfl
  | dir _ ih => exact ih
  | cons _ _ _ ih2 => exact fun _ _ h1 h2 => by cases h1; cases h2; exact congrArg (_ :: ·) (ih2 _ _ rfl rfl)

/-- **Kept files.** Every regular file of the tree left in the workspace was a regular file of the tree
before (same path, same bytes), no call of the trace writes its path; names stay duplicate-free. -/
theorem CommitTrace.kept {t : TCfg κ} {pre : List Name} {nd nd' : Node κ} {full : Bool} {n n' : Nat}
    {calls : List (Call κ)} (h : CommitTrace t pre nd nd' full n n' calls) (hu : uniqNode nd) :
    (∀ p ∈ trackedOf pre nd', p ∈ trackedOf pre nd ∧ ∀ call ∈ calls, p.1 ∉ callWrites call) ∧
      uniqNode nd' := by
  induction h with
  | @file pre x n =>
    -- the file stays only under the strategy `copy`, and then only the cache is written
    cases hst : t.strat with
    | link => exact ⟨fun _ hp => (nomatch hp), trivial⟩
    | copy =>
      refine ⟨fun p hp => ?_, trivial⟩
      cases List.mem_singleton.1 hp
      exact ⟨hp, not_written_by_copyIntoCache _ _ _ _ pre⟩
  | pass => exact ⟨fun p hp => ⟨hp, fun _ hc => nomatch hc⟩, hu⟩
  | nil => exact ⟨fun _ hp => (nomatch hp), trivial⟩
  | dir _ ih =>
    obtain ⟨hk, hu'⟩ := ih hu
    refine ⟨fun p hp => ⟨(hk p hp).1, fun call hcall => ?_⟩, hu'⟩
    rcases List.mem_append.1 hcall with hc | hc
    · exact (hk p hp).2 call hc
    · obtain ⟨q, hq⟩ := trackedList_is_ws hp
      exact hq ▸ not_written_by_copyIntoCache _ _ _ _ q call hc
  | cons h1 h2 ih1 ih2 =>
    obtain ⟨hun, hne, hur⟩ := hu
    obtain ⟨hk1, hu1⟩ := ih1 hun
    obtain ⟨hk2, hu2⟩ := ih2 hur
    refine ⟨fun p hp => ?_, hu1, ne_of_map_fst_eq (h2.names _ _ rfl rfl) hne, hu2⟩
    -- a file kept below one entry is outside the footprint of the other entries
    rcases List.mem_append.1 hp with hp | hp
    · obtain ⟨hin, hnw⟩ := hk1 p hp
      refine ⟨List.mem_append_left _ hin, fun call hcall => ?_⟩
      rcases List.mem_append.1 hcall with hc | hc
      · exact hnw call hc
      · exact not_written_of_foot h2.foot.2 (not_inFoot_rest hne hin _ _) call hc
    · obtain ⟨hin, hnw⟩ := hk2 p hp
      refine ⟨List.mem_append_right _ hin, fun call hcall => ?_⟩
      rcases List.mem_append.1 hcall with hc | hc
      · exact not_written_of_foot h1.foot.2 (not_inFoot_sibling hne hin _ _) call hc
      · exact hnw call hc

theorem commitNodeT_kept (t : TCfg κ) : ∀ (nd : Node κ) (pre : List Name) (c : Child) (s : Store κ)
    (n : Nat) (res : Node κ × Child × Store κ) (calls : List (Call κ)) (n' : Nat),
    uniqNode nd → commitNodeT t pre nd c s n = .ok (res, calls, n') →
      (∀ p ∈ trackedOf pre res.1, p ∈ trackedOf pre nd ∧ ∀ call ∈ calls, p.1 ∉ callWrites call) ∧
        uniqNode res.1
  | nd, _, _, _, _, _, _, _, hu, h => (commitNodeT_trace t nd h).kept hu

theorem commitArtT_kept {t : TCfg κ} {a : Art} {pre : List Name} {nd : Option (Node κ)} {s : Store κ}
    {res : Node κ × Digest × Store κ} {calls : List (Call κ)}
    (hu : uniqOpt nd) (h : commitArtT t a pre nd s = .ok (res, calls)) :
    (∀ p ∈ trackedOf pre res.1, p ∈ trackedOpt pre nd ∧ ∀ call ∈ calls, p.1 ∉ callWrites call) ∧
      uniqNode res.1 := by
  obtain ⟨nd0, calls1, n', rfl, rfl, hct⟩ := commitArtT_trace h
  obtain ⟨hk, hu'⟩ := hct.kept hu
  refine ⟨fun p hp => ⟨(hk p hp).1, fun call hcall => ?_⟩, hu'⟩
  rcases List.mem_append.1 hcall with hc | hc
  · obtain ⟨q, hq⟩ := trackedOf_ws _ _ _ hp
    exact hq ▸ not_written_by_headCalls q call hc
  · exact (hk p hp).2 call hc

/-- lock, stage files, index and their temp files -/
def P.isMeta : P → Bool
  | .lock => true
  | .stageFile _ => true
  | .stageTmp _ => true
  | .index => true
  | .indexTmp => true
  | _ => false

/-- a call that mentions no metadata path -/
def CacheOnly (c : Call κ) : Prop := ∀ p ∈ callPaths c, p.isMeta = false

theorem not_meta_of_inFoot {ws : List P} {lo hi : Nat} {p : P} (h : InFoot ws lo hi p) :
    p.isMeta = false := by
  cases p <;> simp [InFoot] at h <;> rfl

/-- the trace of one artifact mentions neither the lock nor a stage file nor the index -/
theorem commitArtT_cacheOnly {t : TCfg κ} {a : Art} {pre : List Name} {nd : Option (Node κ)} {s : Store κ}
    {res : Node κ × Digest × Store κ} {calls : List (Call κ)}
    (h : commitArtT t a pre nd s = .ok (res, calls)) : ∀ c ∈ calls, CacheOnly c := by
  obtain ⟨nd0, calls1, n', rfl, rfl, hct⟩ := commitArtT_trace h
  intro c hc p hp
  rcases List.mem_append.1 hc with hc | hc
  · rcases headCalls_paths c hc p hp with rfl | rfl | rfl
    · rfl
    · rfl
    · rfl
  · exact not_meta_of_inFoot (hct.foot.2 c hc p hp)

/-- the workspace paths an artifact trace writes are those of the regular files of the tree -/
theorem commitArtT_ws_writes {t : TCfg κ} {a : Art} {pre : List Name} {nd : Option (Node κ)} {s : Store κ}
    {res : Node κ × Digest × Store κ} {calls : List (Call κ)}
    (h : commitArtT t a pre nd s = .ok (res, calls)) {q : List Name}
    (hq : P.ws q ∉ paths (trackedOpt pre nd)) : ∀ c ∈ calls, P.ws q ∉ callWrites c := by
  obtain ⟨nd0, calls1, n', rfl, rfl, hct⟩ := commitArtT_trace h
  intro c hc hmem
  rcases List.mem_append.1 hc with hc | hc
  · exact not_written_by_headCalls q c hc hmem
  · exact hq (hct.foot.2 c hc _ (callWrites_sub _ _ hmem))

end Dud.Sys
