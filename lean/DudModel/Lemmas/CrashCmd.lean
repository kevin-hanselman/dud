import DudModel.Lemmas.CrashPost
import DudModel.Lemmas.SysCmdRefine
import DudModel.Lemmas.WorldTrip
/-!
# Crash safety of the whole `dud commit`: the world-level argument (C03, command level)

`fsOfWorld` reads a world as a file system.  `Rel ws fs` is what one `LocalCache.Commit` needs of the state
it starts in and re-establishes for the workspace it leaves (`commitArtWT_step`); the invariant of the command
(`CmdInv`, `Lemmas/CrashCmdGo.lean`) carries it, with "every call allowed", from segment to segment, and `TInv`
is its form for the artifacts alone (`cmd_traversal_inv`).  The stage-file rewrites touch metadata paths only,
so they are harmless for the cache discipline and keep `Rel`.
-/
namespace Dud.Sys
open Dud
variable {κ : Type}

theorem getPath_setPath_above : ∀ (q : List Name) (y : Name) (r : List Name) (ws ws' v : Node κ),
    setPath ws (q ++ y :: r) v = some ws' → ∃ es, getPath ws' q = some (.dir es) := by
  intro q
  induction q with
  | nil =>
    intro y r ws ws' v h
    obtain ⟨es, k, -, -, rfl⟩ := setPath_cons_inv h
    exact ⟨_, rfl⟩
  | cons c q ih =>
    intro y r ws ws' v h
    obtain ⟨es, k, -, hk, rfl⟩ := setPath_cons_inv h
    simp only [getPath, alookup_setEntry_self]
    exact ih y r _ k v hk

theorem getPath_setPath_file {p q : List Name} {ws ws' v : Node κ} {x : κ}
    (hs : setPath ws p v = some ws') (hg : getPath ws' q = some (.file x)) :
    (∃ r, q = p ++ r ∧ getPath v r = some (.file x)) ∨
    (¬ p <+: q ∧ getPath ws q = some (.file x)) := by
  by_cases hpq : p <+: q
  · left
    obtain ⟨r, rfl⟩ := hpq
    refine ⟨r, rfl, ?_⟩
    rw [getPath_append, getPath_setPath_self p ws ws' v hs] at hg
    exact hg
  · right
    refine ⟨hpq, ?_⟩
    by_cases hqp : q <+: p
    · exfalso
      obtain ⟨r, rfl⟩ := hqp
      cases r with
      | nil => exact hpq (by simp)
      | cons y r =>
        obtain ⟨es, hes⟩ := getPath_setPath_above q y r ws ws' v hs
        rw [hes] at hg; cases hg
    · rw [WT.getPath_setPath_apart ⟨hpq, hqp⟩ hs] at hg
      exact hg

/-- the stage files of the index -/
def fsOfIdx (enc : Stage → κ) (idx : Index) : FS κ :=
  idx.map (fun e => (P.stageFile e.1, Entry.file (enc e.2) 0o644))

/-- workspace tree, cache objects with their shard directories, cache root, stage files; neither a lock
nor temp files -/
def fsOfWorld (c : CmdCfg κ) (w : World κ) : FS κ :=
  fsOf c.cfg.ctx [] w.ws w.store ++ fsOfIdx c.encStage w.idx

theorem fsOfIdx_keys (enc : Stage → κ) (idx : Index) :
    ∀ e ∈ fsOfIdx enc idx, ∃ sp, e.1 = .stageFile sp := by
  intro e he
  simp only [fsOfIdx, List.mem_map] at he
  obtain ⟨x, -, rfl⟩ := he
  exact ⟨_, rfl⟩

theorem fsOfWorld_get (c : CmdCfg κ) (w : World κ) {p : P} (hp : ∀ sp, p ≠ .stageFile sp) :
    (fsOfWorld c w).get p = (fsOf c.cfg.ctx [] w.ws w.store).get p := by
  simp only [fsOfWorld, FS.get, alookup_append]
  have : alookup (fsOfIdx c.encStage w.idx) p = none := by
    apply alookup_none_of_keys
    intro e he heq
    obtain ⟨sp, hsp⟩ := fsOfIdx_keys _ _ e he
    exact hp sp (heq ▸ hsp)
  rw [this]
  cases alookup (fsOf c.cfg.ctx [] w.ws w.store) p <;> rfl

theorem fsOfWorld_get_lock (c : CmdCfg κ) (w : World κ) : (fsOfWorld c w).get .lock = none := by
  rw [fsOfWorld_get c w (by simp)]
  exact fsOf_get_none _ _ _ _ (by simp) (by simp) (by simp) (by simp)

theorem fsOfWorld_get_stageTmp (c : CmdCfg κ) (w : World κ) (sp : Bytes) :
    (fsOfWorld c w).get (.stageTmp sp) = none := by
  rw [fsOfWorld_get c w (by simp)]
  exact fsOf_get_none _ _ _ _ (by simp) (by simp) (by simp) (by simp)

theorem fsOfWorld_get_ctmp (c : CmdCfg κ) (w : World κ) (k : Nat) :
    (fsOfWorld c w).get (.ctmp k) = none := by
  rw [fsOfWorld_get c w (by simp)]
  exact fsOf_get_ctmp _ _ _ _ k

theorem alookup_fsOfIdx (enc : Stage → κ) : ∀ (idx : Index) (sp : Bytes),
    alookup (fsOfIdx enc idx) (.stageFile sp) = (alookup idx sp).map (fun stg => Entry.file (enc stg) 0o644)
  | [], _ => rfl
  | (k, v) :: r, sp => by
    simp only [fsOfIdx, List.map_cons, alookup, beq_iff_eq, P.stageFile.injEq]
    split
    · rfl
    · exact alookup_fsOfIdx enc r sp

/-- the stage file of `sp` holds the encoding of the stage the index holds (the FIRST entry with that
path, as everywhere in the model), and does not exist for a path outside the index -/
theorem fsOfWorld_get_stageFile (c : CmdCfg κ) (w : World κ) (sp : Bytes) :
    (fsOfWorld c w).get (.stageFile sp) =
      (alookup w.idx sp).map (fun stg => Entry.file (c.encStage stg) 0o644) := by
  simp only [fsOfWorld, FS.get, alookup_append]
  have : alookup (fsOf c.cfg.ctx [] w.ws w.store) (.stageFile sp) = none :=
    fsOf_get_none _ _ _ _ (by simp) (by simp) (by simp) (by simp)
  rw [this]
  exact alookup_fsOfIdx c.encStage w.idx sp

theorem fsOfWorld_safe (c : CmdCfg κ) (w : World κ) (hu : uniqNode w.ws)
    (hc : Consistent c.cfg.ctx w.store) : Safe c.cfg.ctx (trackedOf [] w.ws) (fsOfWorld c w) := by
  have hs := fsOf_safe c.cfg.ctx [] w.ws w.store hu hc
  refine ⟨fun p hp => ?_, fun d e he => ?_⟩
  · obtain ⟨q, hq⟩ := trackedOf_ws _ _ _ hp
    refine Or.inl ⟨0o644, ?_⟩
    rw [fsOfWorld_get c w (by rw [hq]; simp)]
    exact fsOf_get_tracked c.cfg.ctx [] w.ws w.store hu p hp
  · rw [fsOfWorld_get c w (by simp)] at he
    exact hs.2 d e he

/-- what the next `LocalCache.Commit` needs: every regular file of the logical workspace is in place,
the cache temp names are free, entry names are duplicate-free -/
structure Rel (ws : Node κ) (fs : FS κ) : Prop where
  files : ∀ q x, getPath ws q = some (.file x) → ∃ m, fs.get (.ws q) = some (.file x m)
  free : CtmpFree 1 fs
  uniq : uniqNode ws

theorem Rel.init (c : CmdCfg κ) (w : World κ) (hu : uniqNode w.ws) : Rel w.ws (fsOfWorld c w) where
  files := by
    intro q x hg
    have ht := tracked_of_getPath q w.ws [] x hg
    refine ⟨0o644, ?_⟩
    rw [fsOfWorld_get c w (by simp)]
    exact fsOf_get_tracked c.cfg.ctx [] w.ws w.store hu _ ht
  free := fun k _ => fsOfWorld_get_ctmp c w k
  uniq := hu

theorem Rel.frame {ws : Node κ} {fs : FS κ} (h : Rel ws fs) (emp : κ) (calls : List (Call κ))
    (hc : ∀ c ∈ calls, ∀ p ∈ callWrites c, (∀ q, p ≠ .ws q) ∧ ∀ k, p ≠ .ctmp k) :
    Rel ws (replay emp fs calls) where
  files := by
    intro q x hg
    obtain ⟨m, hm⟩ := h.files q x hg
    refine ⟨m, ?_⟩
    rw [replay_get_frame]
    · exact hm
    · exact fun c hcm hmem => (hc c hcm _ hmem).1 q rfl
  free := by
    intro k hk
    rw [replay_get_frame]
    · exact h.free k hk
    · exact fun c hcm hmem => (hc c hcm _ hmem).2 k rfl
  uniq := h.uniq

theorem paths_trackedOpt_prefix {pre : List Name} {nd : Option (Node κ)} {q : List Name}
    (h : P.ws q ∈ paths (trackedOpt pre nd)) : pre <+: q := by
  simp only [paths, List.mem_map] at h
  obtain ⟨p, hp, heq⟩ := h
  cases nd with
  | none => simp [trackedOpt] at hp
  | some n =>
    obtain ⟨names, hn, -⟩ := trackedOf_names n pre p hp
    rw [hn] at heq
    injection heq with heq
    exact ⟨names, heq⟩

/-- what a run of artifact commits from `fsb` keeps, for the world and the segments reached: every call
allowed and on cache or workspace paths only, the state afterwards related to the logical workspace -/
structure TInv (c : CmdCfg κ) (emp : κ) (tracked : List (P × κ)) (fsb : FS κ)
    (p : World κ × List (List (Call κ))) : Prop where
  allowed : AllowedTrace c.cfg.ctx emp tracked fsb p.2.flatten
  rel : Rel p.1.ws (replay emp fsb p.2.flatten)
  cacheOnly : ∀ x ∈ p.2.flatten, CacheOnly x

/-- one more artifact trace: allowed in the state reached, on cache and workspace paths, `Rel` after it -/
theorem TInv.snoc {c : CmdCfg κ} {emp : κ} {tracked : List (P × κ)} {fsb : FS κ} {w w' : World κ}
    {sg : List (List (Call κ))} {calls : List (Call κ)} (h : TInv c emp tracked fsb (w, sg))
    (ha : AllowedTrace c.cfg.ctx emp tracked (replay emp fsb sg.flatten) calls)
    (hr : Rel w'.ws (replay emp (replay emp fsb sg.flatten) calls)) (hc : ∀ x ∈ calls, CacheOnly x) :
    TInv c emp tracked fsb (w', sg ++ [calls]) := by
  have hf : (sg ++ [calls]).flatten = sg.flatten ++ calls := by simp
  refine ⟨?_, ?_, ?_⟩ <;> simp only [hf]
  · exact h.allowed.append ha
  · rw [replay_append]; exact hr
  · exact fun x hx => (List.mem_append.1 hx).elim (h.cacheOnly x) (hc x)

/-- **One `LocalCache.Commit` inside the command**: from a safe state related to the logical workspace,
every call is allowed, the state after the complete trace is related to the new logical workspace, and
no metadata path is mentioned. -/
theorem commitArtWT_step {c : CmdCfg κ} {strat : Strat} (g : Good c.cfg.ctx) {tracked : List (P × κ)}
    (htw : TrackedWs tracked) {emp : κ} (hemp : ∀ x, c.isEmp x = true → x = emp)
    {a a' : Art} {w w' : World κ} {calls : List (Call κ)}
    (h : commitArtWT c strat a w = .ok ((a', w'), calls))
    {fs : FS κ} (hs : Safe c.cfg.ctx tracked fs) (hr : Rel w.ws fs) :
    AllowedTrace c.cfg.ctx emp tracked fs calls ∧ Rel w'.ws (replay emp fs calls) ∧
      ∀ x ∈ calls, CacheOnly x := by
  obtain ⟨n, d, s, ws', hT, hset, -, rfl⟩ := commitArtWT_inv h
  have huo : uniqOpt (getPath w.ws (Path.comps a.path)) := uniqOpt_getPath _ _ hr.uniq
  have hin : ∀ p ∈ trackedOpt (Path.comps a.path) (getPath w.ws (Path.comps a.path)),
      ∃ m, fs.get p.1 = some (.file p.2 m) := fun p hp =>
    let ⟨q, hq, hg⟩ := getPath_of_trackedOpt hr.uniq _ p hp
    hq ▸ hr.files q _ hg
  obtain ⟨hkept, hun⟩ := commitArtT_kept huo hT
  refine ⟨commitArtT_allowed (t := c.tc strat) g htw hemp huo hT hs hin hr.free,
    ⟨fun q x hg => ?_, commitArtT_ctmp_free emp hT hr.free, uniqNode_setPath _ _ _ _ hr.uniq hun hset⟩,
    commitArtT_cacheOnly hT⟩
  rcases getPath_setPath_file hset hg with ⟨r, rfl, hgr⟩ | ⟨hnp, hgq⟩
  · obtain ⟨hold, hnw⟩ := hkept _ (tracked_of_getPath r n (Path.comps a.path) x hgr)
    obtain ⟨m, hm⟩ := hin _ hold
    exact ⟨m, by rw [replay_get_frame _ _ _ _ hnw]; exact hm⟩
  · obtain ⟨m, hm⟩ := hr.files q x hgq
    refine ⟨m, ?_⟩
    rw [replay_get_frame _ _ _ _
      (commitArtT_ws_writes hT (fun hmem => hnp (paths_trackedOpt_prefix hmem)))]
    exact hm

/-- the invariant holds after the artifact phase of the whole command -/
theorem cmd_traversal_inv {c : CmdCfg κ} {strat : Strat} (g : Good c.cfg.ctx) {tracked : List (P × κ)}
    (htw : TrackedWs tracked) {emp : κ} (hemp : ∀ x, c.isEmp x = true → x = emp)
    {fsb : FS κ} (hsb : Safe c.cfg.ctx tracked fsb) (ts : List Bytes)
    (p p' : World κ × List (List (Call κ))) (hi : TInv c emp tracked fsb p)
    (h : perTargetP (fun t (p : World κ × List (List (Call κ))) =>
          visit (commitTravT c strat) true (p.1.idx.length + 1) (allStages p.1) t p) ts p = .ok p') :
    TInv c emp tracked fsb p' :=
  perTargetP_keeps (Q := TInv c emp tracked fsb)
    (fun t q q' hq hv => by
      have := visit_commitTravT_segs (Q := fun w (sg : List (Bool × List (Call κ))) => TInv c emp tracked fsb (w, sg.map Prod.snd))
        (fun _ _ _ _ _ _ _ hq h1 => by
          obtain ⟨ha, hr, hc⟩ := commitArtWT_step g htw hemp h1 (hq.allowed.safe_final g hsb) hq.rel
          simpa using hq.snoc ha hr hc)
        (fun _ _ _ _ _ _ _ _ hws hq => ⟨hq.allowed, hws ▸ hq.rel, hq.cacheOnly⟩) []
        (by simpa [Function.comp_def] using hq) hv
      simpa [Function.comp_def] using this)
    ts p p' hi h

/-- a call on lock, stage-file or index paths only (the counterpart of `CacheOnly`) -/
def MetaOnly (c : Call κ) : Prop := ∀ p ∈ callPaths c, p.isMeta = true

theorem harmless_of_metaOnly {c : Call κ} (h : MetaOnly c) : Harmless c := by
  intro p hp
  have hm := h p (callWrites_sub c p hp)
  constructor
  · cases p <;> simp [P.isMeta] at hm <;> rfl
  · intro q hq; subst hq; simp [P.isMeta] at hm

theorem metaOnly_frame {c : Call κ} (h : MetaOnly c) :
    ∀ p ∈ callWrites c, (∀ q, p ≠ .ws q) ∧ ∀ k, p ≠ .ctmp k := by
  intro p hp
  have hm := h p (callWrites_sub c p hp)
  constructor
  · intro q hq; subst hq; simp [P.isMeta] at hm
  · intro k hk; subst hk; simp [P.isMeta] at hm

theorem metaWriteCalls_paths (atomic : Bool) (p tmp : P) (isEmp : κ → Bool) (x : κ) :
    ∀ c ∈ metaWriteCalls atomic p tmp isEmp x, ∀ q ∈ callPaths c, q = p ∨ q = tmp := by
  intro c hc q hq
  unfold metaWriteCalls at hc
  cases atomic <;> cases he : isEmp x <;> simp [he] at hc
  · rcases hc with rfl | rfl | rfl <;> simp [callPaths] at hq <;> simp [hq]
  · subst hc; simp [callPaths] at hq; simp [hq]
  · rcases hc with rfl | rfl | rfl | rfl <;> simp [callPaths] at hq <;> grind
  · rcases hc with rfl | rfl <;> simp [callPaths] at hq <;> grind

theorem stageWriteCalls_paths (c : CmdCfg κ) (idx : Index) (sp : Bytes) :
    ∀ x ∈ stageWriteCalls c idx sp, ∀ q ∈ callPaths x, q = .stageFile sp ∨ q = .stageTmp sp := by
  intro x hx q hq
  unfold stageWriteCalls at hx
  cases h : alookup idx sp with
  | none => simp [h] at hx
  | some stg =>
    simp only [h] at hx
    exact metaWriteCalls_paths _ _ _ _ _ x hx q hq

theorem stageWriteCalls_metaOnly (c : CmdCfg κ) (idx : Index) (sp : Bytes) :
    ∀ x ∈ stageWriteCalls c idx sp, MetaOnly x := by
  intro x hx q hq
  rcases stageWriteCalls_paths c idx sp x hx q hq with rfl | rfl <;> rfl

theorem metaPhase_metaOnly (c : CmdCfg κ) (idx : Index) (l : List Bytes) :
    ∀ x ∈ (l.map (stageWriteCalls c idx)).flatten, MetaOnly x := by
  intro x hx
  simp only [List.mem_flatten, List.mem_map] at hx
  obtain ⟨seg, ⟨sp, -, rfl⟩, hxs⟩ := hx
  exact stageWriteCalls_metaOnly c idx sp x hxs

theorem cacheOnly_not_writes {c : Call κ} (h : CacheOnly c) {p : P} (hp : p.isMeta = true) :
    p ∉ callWrites c := by
  intro hmem
  have := h p (callWrites_sub c p hmem)
  rw [hp] at this; cases this

theorem commitArtWT_cacheOnly {c : CmdCfg κ} {strat : Strat} {a : Art} {w : World κ}
    {r : Art × World κ} {calls : List (Call κ)} (h : commitArtWT c strat a w = .ok (r, calls)) :
    ∀ x ∈ calls, CacheOnly x := by
  obtain ⟨n, d, s, ws', hT, -⟩ := commitArtWT_inv (a' := r.1) (w' := r.2) h
  exact commitArtT_cacheOnly hT

theorem visit_commitTravT_cacheOnly {c : CmdCfg κ} {strat : Strat} {r : Bool} {fuel : Nat}
    {avail : List Bytes} {t : Bytes} {w w' : World κ} {arts : List (List (Call κ))}
    (h : visit (commitTravT c strat) r fuel avail t (w, []) = .ok (w', arts)) :
    ∀ x ∈ arts.flatten, CacheOnly x := by
  have := visit_commitTravT_segs (Q := fun _ sg => ∀ seg ∈ sg, ∀ x ∈ seg.2, CacheOnly x)
    (fun _ _ _ _ _ _ _ hq h1 => List.forall_mem_append.2 ⟨hq, List.forall_mem_singleton.2
      (commitArtWT_cacheOnly h1)⟩)
    (fun _ _ _ _ _ _ _ _ _ hq => hq) (p := (w, [])) [] (by simp) h
  intro x hx
  obtain ⟨s, hs, hx⟩ := List.mem_flatten.1 hx
  exact this (true, s) (by simpa using hs) x hx

theorem metaWrite_tmp_free (emp : κ) (isEmp : κ → Bool) (fs : FS κ) (p tmp : P) (hne : tmp ≠ p) (x : κ) :
    (replay emp fs (metaWriteCalls true p tmp isEmp x)).get tmp = none := by
  cases he : isEmp x <;> simp [metaWriteCalls, he, replay, get_apply, hne.symm]

/-- no temp file of an interrupted `stage.ToFile` is lying around -/
def StageTmpFree (fs : FS κ) : Prop := ∀ sp, fs.get (.stageTmp sp) = none

theorem stageWriteCalls_tmp_free (c : CmdCfg κ) (hat : stageAtomic = true) (emp : κ) (idx : Index)
    (sp : Bytes) {fs : FS κ} (h : StageTmpFree fs) :
    StageTmpFree (replay emp fs (stageWriteCalls c idx sp)) := by
  intro sp'
  by_cases hsp : sp' = sp
  · subst hsp
    unfold stageWriteCalls
    cases alookup idx sp' with
    | none => exact h sp'
    | some stg =>
      simp only [hat]
      exact metaWrite_tmp_free emp _ fs _ _ (by simp) _
  · rw [replay_get_frame]
    · exact h sp'
    · intro x hx hmem
      rcases stageWriteCalls_paths c idx sp x hx _ (callWrites_sub _ _ hmem) with h | h
      · cases h
      · injection h with h; exact hsp h

theorem metaWrite_final (emp : κ) (isEmp : κ → Bool) (hemp : ∀ c, isEmp c = true → c = emp) (fs : FS κ)
    (p tmp : P) (habs : fs.get tmp = none) (x : κ) :
    (replay emp fs (metaWriteCalls true p tmp isEmp x)).get p = some (.file x 0o600) := by
  cases he : isEmp x with
  | true => obtain rfl := hemp x he; simp [metaWriteCalls, he, replay, get_apply, habs]
  | false => simp [metaWriteCalls, he, replay, get_apply, habs, Entry.tear, Entry.fill]

end Dud.Sys
