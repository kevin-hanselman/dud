import DudModel.Spec
import DudModel.World
/-!
# A concrete context satisfying `Good` (non-vacuity witness)

Contents are a small inductive type `K` (raw bytes given as a string, or a typed manifest); the
"hash" is an injective printing of `K` into strings, prefixed by `"xxx"`.  Injectivity is proved by
showing that the printing is a prefix-free code.  A second, smaller context over strings,
`ToyGood.ctx` (with `ToyGood.cfg`), stands at the end: the context of the world-level examples.
-/
namespace Dud.Example

/-- prefix-free code: equal concatenations have equal heads and equal rests -/
def PF {α : Type} (enc : α → List Char) : Prop :=
  ∀ a b r1 r2, enc a ++ r1 = enc b ++ r2 → a = b ∧ r1 = r2

theorem PF.inj {α : Type} {enc : α → List Char} (h : PF enc) {a b : α} (e : enc a = enc b) :
    a = b := (h a b [] [] (by simp [e])).1

def encNat : Nat → List Char
  | 0 => ['0']
  | n+1 => '1' :: encNat n

theorem pf_encNat : PF encNat := by
  intro a
  induction a with
  | zero =>
    intro b r1 r2 h
    cases b with
    | zero => simpa [encNat] using h
    | succ b => simp [encNat] at h
  | succ a ih =>
    intro b r1 r2 h
    cases b with
    | zero => simp [encNat] at h
    | succ b =>
      simp only [encNat, List.cons_append, List.cons.injEq, true_and] at h
      obtain ⟨h1, h2⟩ := ih b r1 r2 h
      exact ⟨by rw [h1], h2⟩

def encBool : Bool → List Char
  | false => ['0']
  | true => ['1']

theorem pf_encBool : PF encBool := by
  intro a b r1 r2 h
  cases a <;> cases b <;> simp [encBool] at h ⊢ <;> exact h

def encChar (c : Char) : List Char := [c]

theorem pf_encChar : PF encChar := by
  intro a b r1 r2 h
  simpa [encChar] using h

def encList {α : Type} (enc : α → List Char) : List α → List Char
  | [] => ['0']
  | a :: l => '1' :: (enc a ++ encList enc l)

theorem pf_encList {α : Type} {enc : α → List Char} (h : PF enc) : PF (encList enc) := by
  intro a
  induction a with
  | nil =>
    intro b r1 r2 e
    cases b with
    | nil => simpa [encList] using e
    | cons y ys => simp [encList] at e
  | cons x xs ih =>
    intro b r1 r2 e
    cases b with
    | nil => simp [encList] at e
    | cons y ys =>
      simp only [encList, List.cons_append, List.cons.injEq, true_and, List.append_assoc] at e
      obtain ⟨h1, h2⟩ := h x y _ _ e
      obtain ⟨h3, h4⟩ := ih ys r1 r2 h2
      exact ⟨by rw [h1, h3], h4⟩

theorem pf_comp {α β : Type} {enc : β → List Char} (h : PF enc) (f : α → β)
    (hf : ∀ a b, f a = f b → a = b) : PF (fun a => enc (f a)) := by
  intro a b r1 r2 e
  obtain ⟨h1, h2⟩ := h (f a) (f b) r1 r2 e
  exact ⟨hf a b h1, h2⟩

def encU8 (u : UInt8) : List Char := encNat u.toNat

theorem pf_encU8 : PF encU8 :=
  pf_comp pf_encNat UInt8.toNat (fun _ _ h => UInt8.toNat_inj.1 h)

def encBytes : Bytes → List Char := encList encU8

theorem pf_encBytes : PF encBytes := pf_encList pf_encU8

def encString (s : String) : List Char := encList encChar s.toList

theorem pf_encString : PF encString :=
  pf_comp (pf_encList pf_encChar) String.toList (fun _ _ h => String.toList_inj.1 h)

def encSchema : Schema → List Char
  | .new => ['0']
  | .old => ['1']

theorem pf_encSchema : PF encSchema := by
  intro a b r1 r2 h
  cases a <;> cases b <;> simp [encSchema] at h ⊢ <;> exact h

def encChild (c : Child) : List Char := encBytes c.name ++ (encString c.sum ++ encBool c.isDir)

theorem pf_encChild : PF encChild := by
  intro a b r1 r2 h
  simp only [encChild, List.append_assoc] at h
  obtain ⟨h1, h⟩ := pf_encBytes _ _ _ _ h
  obtain ⟨h2, h⟩ := pf_encString _ _ _ _ h
  obtain ⟨h3, h⟩ := pf_encBool _ _ _ _ h
  cases a; cases b; simp_all

/-- file contents of the example: raw data or a typed manifest -/
inductive K where
  | raw (s : String)
  | man (sch : Schema) (p : Bytes) (cs : List Child)
deriving DecidableEq, Repr, Inhabited

def encK : K → List Char
  | .raw s => '0' :: encString s
  | .man sch p cs => '1' :: (encSchema sch ++ (encBytes p ++ encList encChild cs))

theorem pf_encK : PF encK := by
  intro a b r1 r2 h
  cases a with
  | raw s =>
    cases b with
    | raw s' =>
      simp only [encK, List.cons_append, List.cons.injEq, true_and] at h
      obtain ⟨h1, h⟩ := pf_encString _ _ _ _ h
      exact ⟨by rw [h1], h⟩
    | man _ _ _ => simp [encK] at h
  | man sch p cs =>
    cases b with
    | raw _ => simp [encK] at h
    | man sch' p' cs' =>
      simp only [encK, List.cons_append, List.cons.injEq, true_and, List.append_assoc] at h
      obtain ⟨h1, h⟩ := pf_encSchema _ _ _ _ h
      obtain ⟨h2, h⟩ := pf_encBytes _ _ _ _ h
      obtain ⟨h3, h⟩ := pf_encList pf_encChild _ _ _ _ h
      exact ⟨by rw [h1, h2, h3], h⟩

/-- the example context: injective "hash", typed manifests as their own bytes, honest decoder -/
def ctx : Ctx K where
  H := fun k => String.ofList ('x' :: 'x' :: 'x' :: encK k)
  encMan := K.man
  decBlob := fun k => match k with
    | .man _ _ cs => some cs
    | .raw _ => none
  reload := fun _ c => c
  nameOK := fun _ => true

theorem good : Good ctx where
  inj := by
    intro a b h
    have h' := String.ofList_injective h
    simp only [List.cons.injEq, true_and] at h'
    exact pf_encK.inj h'
  len := by
    intro a
    show 3 ≤ (String.ofList ('x' :: 'x' :: 'x' :: encK a)).length
    rw [String.length_ofList]
    simp only [List.length_cons]
    omega
  dec := by
    intro sch p cs
    simp [ctx]

end Dud.Example

/-! A second context satisfying `Good`, over strings: hash = `"abc" ++ bytes` (injective, length ≥ 3);
the toy codec keeps only the number of entries of a manifest (`reload` forgets everything else), which
is all `Good.dec` asks for. -/
namespace Dud.ToyGood

def ctx : Ctx String :=
  { H := fun c => "abc" ++ c
    encMan := fun _ _ cs => String.ofList (List.replicate cs.length 'm')
    decBlob := fun c => some (List.replicate c.length default)
    reload := fun _ _ => default
    nameOK := fun _ => true }

theorem good : Good ctx where
  inj a b h := (String.append_right_inj "abc").1 h
  len a := by
    show 3 ≤ ("abc" ++ a).length
    rw [String.length_append]
    exact Nat.le_add_right 3 _
  dec sch p cs := by
    show some (List.replicate (String.ofList (List.replicate cs.length 'm')).length default)
      = some (cs.map fun _ => default)
    rw [String.length_ofList, List.length_replicate, List.map_const']

def cfg : Cfg String :=
  { ctx := ctx, ofBytes := fun _ => "", toBytes := fun _ => [], walkAccumulates := false, fuel := 5 }

end Dud.ToyGood
