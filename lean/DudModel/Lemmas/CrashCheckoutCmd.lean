import DudModel.Lemmas.CrashCheckoutStep
/-!
# Crash safety of `dud checkout`: one artifact with its `MkdirAll`, all artifacts of the command

Continues `Lemmas/CrashCheckoutStep.lean` (vocabulary there).  At the end: Boolean checkers of `Consistent`
and `uniqNode`, for the concrete instances of the `Props` files.
-/
namespace Dud.Sys
open Dud
variable {κ : Type}

/-- the `mkdir`s of `os.MkdirAll` on the way from `pre` down to `pre ++ comps`: the directory at `pre` is
created when it is absent and the path goes on below it (`parentMkdirs_eq`) -/
def mkdirsAt : List Name → Option (Node κ) → List Name → List (Call κ)
  | _, _, [] => []
  | pre, cur, c :: r =>
    (if cur.isNone then [.mkdir (.ws pre)] else []) ++ mkdirsAt (pre ++ [c]) (getOpt cur [c]) r

theorem take_range_cons {α : Type} (c : α) (r : List α) :
    (List.range (c :: r).length).map (fun k => (c :: r).take k) =
      [] :: ((List.range r.length).map (fun k => r.take k)).map (c :: ·) := by
  simp [List.range_succ_eq_map, Function.comp_def]

theorem mkdirsAt_eq : ∀ (comps pre : List Name) (cur : Option (Node κ)),
    mkdirsAt pre cur comps = (((List.range comps.length).map (fun k => comps.take k)).filter
      (fun p => (getOpt cur p).isNone)).map (fun p => Call.mkdir (.ws (pre ++ p)))
  | [], _, _ => rfl
  | c :: r, pre, cur => by
    rw [mkdirsAt, mkdirsAt_eq r, take_range_cons, List.filter_cons, getOpt_nil]
    simp only [List.filter_map, List.map_map, Function.comp_def, ← getOpt_cons, List.append_assoc,
      List.singleton_append]
    cases cur.isNone <;> simp

theorem parentMkdirs_eq (ws : Node κ) (comps : List Name) :
    parentMkdirs ws comps = mkdirsAt [] (some ws) comps := by
  rw [mkdirsAt_eq]
  cases comps with
  | nil => rfl
  | cons c r =>
    rw [take_range_cons, List.filter_cons, getOpt_nil]
    simp [parentMkdirs, parentDirs, getOpt_some, List.filter_map, Function.comp_def]

theorem mkdirsAt_below : ∀ (comps pre : List Name) (cur : Option (Node κ)), Below pre (mkdirsAt pre cur comps)
  | [], _, _ => fun _ hc => nomatch hc
  | c :: r, pre, cur => by
    refine Below.append (fun x hx p hp => ?_) (mkdirsAt_below r (pre ++ [c]) _).up
    split at hx
    · cases List.mem_singleton.1 hx
      exact ⟨[], by simpa [callWrites, callPaths] using hp⟩
    · cases hx

/-- **Down to the artifact**: `MkdirAll` of the missing directories from `pre` to `pre ++ comps`, then a step
at `pre ++ comps`, is a step at `pre` to the tree with the new node set at `comps`.  (`cur` is optional and
read as `cur.getD (.dir [])` because that is how `setPath` itself goes on below an absent entry.) -/
theorem StepRes.descend {st : Strat} {emp : κ} {fs0 : FS κ} {n : Node κ} {calls : List (Call κ)}
    (comps : List Name) : ∀ (pre : List Name) (cur : Option (Node κ)) (cur' : Node κ) (fs : FS κ),
      setPath (cur.getD (.dir [])) comps n = some cur' → AbsAt pre cur fs → KeptB st fs0 fs →
      Below (pre ++ comps) calls →
      (∀ fs1, AbsAt (pre ++ comps) (getOpt cur comps) fs1 → KeptB st fs0 fs1 →
        StepRes st emp fs0 (pre ++ comps) n fs1 calls) →
      StepRes st emp fs0 pre cur' fs (mkdirsAt pre cur comps ++ calls) := by
  induction comps with
  | nil =>
    intro pre cur cur' fs hs ha hk _ hin
    simp only [setPath, Option.some.injEq] at hs
    subst hs
    simpa [mkdirsAt] using hin fs (by simpa [getOpt_nil] using ha) hk
  | cons c r ih =>
    intro pre cur cur' fs hs ha hk hb hin
    obtain ⟨es, k, hcur, hk', rfl⟩ := setPath_cons_inv hs
    have hb' : Below (pre ++ [c] ++ r) calls := by simpa [List.append_assoc] using hb
    have key : getOpt cur [c] = alookup es c → ∀ fs1, fs1.get (.ws pre) = some .dir → AbsList pre es fs1 →
        KeptB st fs0 fs1 → StepRes st emp fs0 pre (.dir (setEntry es c k)) fs1
          (mkdirsAt (pre ++ [c]) (getOpt cur [c]) r ++ calls) := by
      intro hc fs1 h0 hl hk1
      rw [hc]
      refine (ih (pre ++ [c]) (alookup es c) k fs1 hk' (hl.child c) hk1 hb'
        fun fs2 ha2 hk2 => ?_).entry h0 hl ((mkdirsAt_below r _ _).append hb'.up)
      have := hin fs2 (by rw [getOpt_cons, hc]; simpa [List.append_assoc] using ha2) hk2
      simpa [List.append_assoc] using this
    cases cur with
    | none =>
      obtain rfl : es = [] := by simpa using hcur.symm
      simpa [mkdirsAt] using StepRes.mkdir ha hk (key rfl)
    | some nd =>
      obtain rfl : nd = .dir es := by simpa using hcur
      simpa [mkdirsAt] using key (by rw [getOpt_dir_cons, getOpt_nil]) fs
        (by simpa [getOpt, getPath, EntOK] using ha []) (AbsList.of_dir ha) hk

/-- **One traced `LocalCache.Checkout`** (the `MkdirAll` of the ancestors, then the artifact): from a state
that agrees with the logical workspace, the state afterwards agrees with the new logical workspace; after
every prefix the entries the workspace held before the command are kept (`KeptP`). -/
theorem checkoutArtWT_step {c : CmdCfg κ} {strat : Strat} {emp : κ}
    (hemp : ∀ x, c.isEmp x = true → x = emp) {a : Art} {w w' : World κ} {calls : List (Call κ)}
    (h : checkoutArtWT c strat a w = .ok (w', calls)) {fs0 fs : FS κ}
    (hobj : ObjIn c.cfg.ctx w.store fs0) (ha : AbsAt [] (some w.ws) fs) (hk : KeptB strat fs0 fs) :
    StepRes strat emp fs0 [] w'.ws fs calls := by
  obtain ⟨n, ncalls, ws', hT, hset, rfl, rfl⟩ := checkoutArtWT_inv h
  have tr := checkoutNodeT_trace (t := c.tc strat) c.cfg.fuel hT
  rw [parentMkdirs_eq]
  exact StepRes.descend (Path.comps a.path) [] (some w.ws) ws' fs hset ha hk tr.writes_below
    fun fs1 ha1 hk1 => tr.step hemp hobj (fs := fs1) (by simpa [getOpt_some] using ha1) hk1

theorem checkoutArtWT_uniq {c : CmdCfg κ} {strat : Strat} {a : Art} {w w' : World κ} {calls : List (Call κ)}
    (h : checkoutArtWT c strat a w = .ok (w', calls)) (hu : uniqNode w.ws) : uniqNode w'.ws := by
  obtain ⟨n, ncalls, ws', hT, hset, rfl, rfl⟩ := checkoutArtWT_inv h
  exact uniqNode_setPath _ w.ws ws' n hu
    ((checkoutNodeT_trace (t := c.tc strat) c.cfg.fuel hT).uniq (uniqOpt_getPath _ w.ws hu)) hset

/-- **All `LocalCache.Checkout`s of a successful command**, from a state `fsb` that agrees with the workspace
and keeps the entries of the state `fs0` before the command -/
theorem cmdCheckoutSegs_step {c : CmdCfg κ} {strat : Strat} {emp : κ}
    (hemp : ∀ x, c.isEmp x = true → x = emp) {single : Bool} {targets : List Bytes} {w w' : World κ}
    {segs : List (List (Call κ))} (h : cmdCheckoutSegs c strat single targets w = .ok (w', segs))
    {fs0 fsb : FS κ} (hobj : ObjIn c.cfg.ctx w.store fs0) (ha : AbsAt [] (some w.ws) fsb)
    (hk : KeptB strat fs0 fsb) :
    StepRes strat emp fs0 [] w'.ws fsb segs.flatten ∧ w'.store = w.store ∧ w'.idx = w.idx :=
  cmdCheckoutSegs_induct (Q := fun ws segs => StepRes strat emp fs0 [] ws fsb segs.flatten)
    (fun a _ w1 w2 seg segs hst hq h1 => by
      simpa using hq.append (checkoutArtWT_step hemp h1 (hst ▸ hobj) hq.abs hq.kept))
    h (.nil ha hk)

theorem cmdCheckoutSegs_uniq {c : CmdCfg κ} {strat : Strat} {single : Bool} {targets : List Bytes}
    {w w' : World κ} {segs : List (List (Call κ))}
    (h : cmdCheckoutSegs c strat single targets w = .ok (w', segs)) (hu : uniqNode w.ws) : uniqNode w'.ws :=
  (cmdCheckoutSegs_induct (Q := fun ws _ => uniqNode ws) (fun _ _ _ _ _ _ _ hq h1 => checkoutArtWT_uniq h1 hq)
    h hu).1

def consistentB (ctx : Ctx κ) (s : Store κ) : Bool := s.all (fun e => e.2.digest ctx == e.1)

theorem consistent_of_consistentB {ctx : Ctx κ} {s : Store κ} (h : consistentB ctx s = true) :
    Consistent ctx s := by
  intro d o hg
  have hm := alookup_mem hg
  simp only [consistentB, List.all_eq_true] at h
  simpa using h _ hm

mutual
def uniqNodeB : Node κ → Bool
  | .dir es => uniqListB es
  | _ => true
def uniqListB : List (Name × Node κ) → Bool
  | [] => true
  | (nm, n) :: r => uniqNodeB n && r.all (fun e => e.1 != nm) && uniqListB r
end

mutual
theorem uniqNode_of_B : ∀ (n : Node κ), uniqNodeB n = true → uniqNode n
  | .dir es, h => by
    simp only [uniqNodeB] at h
    simp only [uniqNode]
    exact uniqList_of_B es h
  | .file _, _ => by simp [uniqNode]
  | .link _, _ => by simp [uniqNode]
  | .other, _ => by simp [uniqNode]
theorem uniqList_of_B : ∀ (es : List (Name × Node κ)), uniqListB es = true → uniqList es
  | [], _ => by simp [uniqList]
  | (nm, n) :: r, h => by
    simp only [uniqListB, Bool.and_eq_true, List.all_eq_true, bne_iff_ne] at h
    simp only [uniqList]
    exact ⟨uniqNode_of_B n h.1.1, fun e he => h.1.2 e he, uniqList_of_B r h.2⟩
end

end Dud.Sys
