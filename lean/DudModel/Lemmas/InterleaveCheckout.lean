import DudModel.Lemmas.Shuffle
import DudModel.Lemmas.CrashCheckoutCmd
/-!
# Concurrent checkout workers: the per-path argument

Every mutating call `dud checkout` issues (`mkdir`, `symlink`, `create_excl`, `write`, `unlink`) acts on
ONE path: what it leaves at that path depends on what was at that path and on nothing else, and it changes
nothing anywhere else (`apply_get_local`, `apply_get_frame`).  Hence what a trace leaves at a path `q` is
what its sub-sequence of calls AT `q` leaves there (`replay_get_filter`), and two traces with the same
sub-sequence at every path (`SamePerPath`) are indistinguishable: they end in the same file system, and
every crash state of one looks, at any single path, like some crash state of the other
(`SamePerPath.replay_get`, `SamePerPath.take_get`).

The workers of one `checkoutDir` own pairwise disjoint sets of paths (different entry names below the same
directory: `apart_of_below`), so every interleaving of their traces is `SamePerPath` to their concatenation
(`ShuffleN.samePerPath`) and at most one of them acts on a path (`Apart.owner`).  By induction over the
manifest tree every trace of the nested concurrent checkout (`ParCheckoutTrace`) is `SamePerPath` to the
sequential trace `checkoutNodeT` of the model (`parCheckout_seq`), which is one of them
(`checkoutNodeT_seqTrace`, `CheckoutTraces.mono`), as is the sequential trace with the siblings of every
directory permuted.  The second part (`CheckoutRun`) is the larger, prefix-closed set of runs in which
workers fail, are cancelled or are killed, with `checkoutRun_keptP`: every such run keeps what the workspace
held.
-/
namespace Dud.Sys
open Dud
variable {κ : Type}

/-- the path a call acts on (for `rename`: the destination; `rename` is not single-path) -/
def cpath : Call κ → P
  | .mkdir p => p
  | .createExcl p => p
  | .createTrunc p => p
  | .writePart p => p
  | .write p _ => p
  | .rename _ d => d
  | .chmod p _ => p
  | .unlink p => p
  | .symlink _ p => p

/-- every call except `rename` reads and writes one path only -/
def isSingle : Call κ → Bool
  | .rename _ _ => false
  | _ => true

def AllSingle (l : List (Call κ)) : Prop := ∀ c ∈ l, isSingle c = true

theorem AllSingle.append {l1 l2 : List (Call κ)} (h1 : AllSingle l1) (h2 : AllSingle l2) :
    AllSingle (l1 ++ l2) :=
  List.forall_mem_append.2 ⟨h1, h2⟩

theorem AllSingle.take {l : List (Call κ)} (h : AllSingle l) (k : Nat) : AllSingle (l.take k) :=
  fun c hc => h c (List.mem_of_mem_take hc)

theorem callWrites_of_single {c : Call κ} (h : isSingle c = true) : callWrites c = [cpath c] := by
  cases c <;> simp [isSingle] at h <;> rfl

/-- **locality**: what a single-path call leaves at its path depends only on what was there -/
theorem apply_get_local (emp : κ) {c : Call κ} (hc : isSingle c = true) {fs fs' : FS κ}
    (h : fs.get (cpath c) = fs'.get (cpath c)) :
    (apply emp fs c).get (cpath c) = (apply emp fs' c).get (cpath c) := by
  refine apply_get_congr emp c _ (fun p hp => ?_) h
  have : p = cpath c := by cases c <;> simp_all [callReads, cpath, isSingle]
  rw [this, h]

theorem replay_get_local (emp : κ) (q : P) : ∀ (l : List (Call κ)) (fs fs' : FS κ),
    (∀ c ∈ l, isSingle c = true ∧ cpath c = q) → fs.get q = fs'.get q →
    (replay emp fs l).get q = (replay emp fs' l).get q := by
  intro l
  induction l with
  | nil => exact fun _ _ _ h => h
  | cons c l ih =>
    intro fs fs' hl h
    rw [replay_cons, replay_cons]
    obtain ⟨hs, hq⟩ := hl c List.mem_cons_self
    refine ih _ _ (fun c' hc' => hl c' (List.mem_cons_of_mem _ hc')) ?_
    subst hq
    exact apply_get_local emp hs h

def onPath (q : P) (c : Call κ) : Bool := cpath c == q

theorem onPath_iff {q : P} {c : Call κ} : onPath q c = true ↔ cpath c = q := by
  simp [onPath]

/-- **what a trace of single-path calls leaves at `q` is what its calls at `q` leave there** -/
theorem replay_get_filter (emp : κ) (q : P) : ∀ (l : List (Call κ)) (fs : FS κ), AllSingle l →
    (replay emp fs l).get q = (replay emp fs (l.filter (onPath q))).get q := by
  intro l
  induction l with
  | nil => exact fun _ _ => rfl
  | cons c l ih =>
    intro fs hl
    have hl' : AllSingle l := fun c' hc' => hl c' (List.mem_cons_of_mem _ hc')
    rw [replay_cons, ih _ hl']
    cases hp : onPath q c with
    | true => rw [List.filter_cons, hp, if_pos rfl, replay_cons]
    | false =>
      rw [List.filter_cons, hp]
      simp only [Bool.false_eq_true, if_false]
      refine replay_get_local emp q _ _ _ (fun c' hc' => ?_) ?_
      · obtain ⟨hm, hq⟩ := List.mem_filter.1 hc'
        exact ⟨hl' c' hm, onPath_iff.1 hq⟩
      · refine apply_get_frame emp fs c q ?_
        rw [callWrites_of_single (hl c List.mem_cons_self)]
        intro hmem
        simp only [List.mem_singleton] at hmem
        have : onPath q c = true := onPath_iff.2 hmem.symm
        rw [hp] at this; cases this

/-- the two traces issue, at every path, the same calls in the same order (they may differ in how the calls
at DIFFERENT paths are ordered relative to each other) -/
def SamePerPath (l l' : List (Call κ)) : Prop := ∀ q, l.filter (onPath q) = l'.filter (onPath q)

theorem SamePerPath.refl (l : List (Call κ)) : SamePerPath l l := fun _ => rfl
theorem SamePerPath.symm {l l' : List (Call κ)} (h : SamePerPath l l') : SamePerPath l' l :=
  fun q => (h q).symm
theorem SamePerPath.trans {l1 l2 l3 : List (Call κ)} (h1 : SamePerPath l1 l2) (h2 : SamePerPath l2 l3) :
    SamePerPath l1 l3 := fun q => (h1 q).trans (h2 q)

theorem SamePerPath.append {a a' b b' : List (Call κ)} (h1 : SamePerPath a a') (h2 : SamePerPath b b') :
    SamePerPath (a ++ b) (a' ++ b') := by
  intro q; rw [List.filter_append, List.filter_append, h1 q, h2 q]

theorem SamePerPath.mem {l l' : List (Call κ)} (h : SamePerPath l l') (c : Call κ) : c ∈ l ↔ c ∈ l' := by
  have key : ∀ {a b : List (Call κ)}, SamePerPath a b → c ∈ a → c ∈ b := by
    intro a b hab hc
    have : c ∈ a.filter (onPath (cpath c)) := List.mem_filter.2 ⟨hc, onPath_iff.2 rfl⟩
    rw [hab] at this
    exact (List.mem_filter.1 this).1
  exact ⟨key h, key h.symm⟩

theorem SamePerPath.allSingle {l l' : List (Call κ)} (h : SamePerPath l l') (hs : AllSingle l) :
    AllSingle l' := fun c hc => hs c ((h.mem c).2 hc)

/-- **two such traces end in the same file system** (from any start, at every path) -/
theorem SamePerPath.replay_get {l l' : List (Call κ)} (h : SamePerPath l l') (hs : AllSingle l)
    (emp : κ) (fs : FS κ) (q : P) : (replay emp fs l).get q = (replay emp fs l').get q := by
  rw [replay_get_filter emp q l fs hs, replay_get_filter emp q l' fs (h.allSingle hs), h q]

theorem filter_take_prefix {α : Type} (p : α → Bool) (l : List α) (k : Nat) :
    (l.take k).filter p = (l.filter p).take ((l.take k).filter p).length := by
  have h : l.filter p = (l.take k).filter p ++ (l.drop k).filter p := by
    rw [← List.filter_append, List.take_append_drop]
  rw [h, List.take_left' rfl]

theorem filter_take_exists {α : Type} (p : α → Bool) : ∀ (l : List α) (m : Nat),
    ∃ k, (l.take k).filter p = (l.filter p).take m := by
  intro l
  induction l with
  | nil => exact fun _ => ⟨0, by simp⟩
  | cons a l ih =>
    intro m
    cases hp : p a with
    | false =>
      obtain ⟨k, hk⟩ := ih m
      exact ⟨k + 1, by simp [List.take_succ_cons, hp, hk]⟩
    | true =>
      cases m with
      | zero => exact ⟨0, by simp⟩
      | succ m =>
        obtain ⟨k, hk⟩ := ih m
        exact ⟨k + 1, by simp [List.take_succ_cons, hp, hk]⟩

/-- **every crash state of one trace looks, at any single path, like some crash state of the other** -/
theorem SamePerPath.take_get {l l' : List (Call κ)} (h : SamePerPath l l') (hs : AllSingle l)
    (emp : κ) (fs : FS κ) (k : Nat) (q : P) :
    ∃ k', (replay emp fs (l.take k)).get q = (replay emp fs (l'.take k')).get q := by
  obtain ⟨k', hk'⟩ := filter_take_exists (onPath q) l' ((l.take k).filter (onPath q)).length
  refine ⟨k', ?_⟩
  rw [replay_get_filter emp q _ fs (hs.take k), replay_get_filter emp q _ fs ((h.allSingle hs).take k'),
    hk', ← h q, ← filter_take_prefix]

theorem SamePerPath.pref_keptP {l l' : List (Call κ)} (h : SamePerPath l l') (hs : AllSingle l)
    {st : Strat} {emp : κ} {fs0 fs : FS κ} (hp : Pref (KeptP st emp fs0) emp fs l') :
    Pref (KeptP st emp fs0) emp fs l := by
  intro k q e he
  obtain ⟨k', hk'⟩ := h.take_get hs emp fs k (.ws q)
  have := hp k' q e he
  rw [← hk'] at this
  exact this

/-- **what a step guarantees is a matter of the calls at each path**: it holds of every trace with the
same calls per path -/
theorem StepRes.samePerPath {l l' : List (Call κ)} (h : SamePerPath l l') (hs : AllSingle l) {st : Strat}
    {emp : κ} {fs0 fs : FS κ} {pre : List Name} {r : Node κ} (res : StepRes st emp fs0 pre r fs l') :
    StepRes st emp fs0 pre r fs l :=
  have heq := h.replay_get hs emp fs
  ⟨res.abs.frame fun _ => heq _, h.pref_keptP hs res.pref, res.kept.frame fun _ _ => heq _⟩

/-- `Below` (`Lemmas/CrashCheckoutStep.lean`) in terms of `cpath`; for single-path calls it gives `Below`
(`BelowS.below`) -/
def BelowS (pre : List Name) (l : List (Call κ)) : Prop := ∀ c ∈ l, ∃ rel, cpath c = .ws (pre ++ rel)

theorem BelowS.append {pre : List Name} {l1 l2 : List (Call κ)} (h1 : BelowS pre l1) (h2 : BelowS pre l2) :
    BelowS pre (l1 ++ l2) :=
  List.forall_mem_append.2 ⟨h1, h2⟩

theorem BelowS.child {pre : List Name} {nm : Name} {l : List (Call κ)} (h : BelowS (pre ++ [nm]) l) :
    BelowS pre l := by
  intro c hc
  obtain ⟨rel, hr⟩ := h c hc
  exact ⟨nm :: rel, by simpa using hr⟩

theorem BelowS.below {pre : List Name} {l : List (Call κ)} (h : BelowS pre l) (hs : AllSingle l) :
    Below pre l := by
  intro c hc p hp
  rw [callWrites_of_single (hs c hc)] at hp
  simp only [List.mem_singleton] at hp
  obtain ⟨rel, hr⟩ := h c hc
  exact ⟨rel, by rw [hp, hr]⟩

/-- the names of the manifest entries are pairwise distinct (in Go the manifest is a map keyed by name) -/
def NamesDistinct (cs : List Child) : Prop := cs.Pairwise (fun a b => a.name ≠ b.name)

/-- no path is acted on by two of the traces -/
def Apart (ts : List (List (Call κ))) : Prop := ts.Pairwise fun t t' => ∀ x ∈ t, ∀ y ∈ t', cpath x ≠ cpath y

/-- a trace below the entry `b` has no call at a path below another entry `a` of the same directory -/
theorem filter_eq_nil_of_below {pre : List Name} {a b : Name} (hab : a ≠ b) {l : List (Call κ)}
    (hl : BelowS (pre ++ [b]) l) (rel : List Name) : l.filter (onPath (.ws (pre ++ a :: rel))) = [] := by
  rw [List.filter_eq_nil_iff]
  intro c hc hon
  obtain ⟨rel', hr⟩ := hl c hc
  rw [onPath_iff, hr] at hon
  exact ws_child_ne hab rel rel' hon.symm

/-- workers below pairwise different entry names of one directory -/
theorem apart_of_below {pre : List Name} {cs : List Child} {ts : List (List (Call κ))}
    (h : All2 (fun (c : Child) t => BelowS (pre ++ [c.name]) t) cs ts) : NamesDistinct cs → Apart ts := by
  induction h with
  | nil => exact fun _ => .nil
  | @cons c t cs ts hb hrest ih =>
    intro hnd
    obtain ⟨hne, hnd'⟩ := List.pairwise_cons.1 hnd
    refine List.pairwise_cons.2 ⟨fun t' ht' x hx y hy heq => ?_, ih hnd'⟩
    obtain ⟨c', hc', hb'⟩ := hrest.mem_right t' ht'
    obtain ⟨rel, hx⟩ := hb x hx
    exact List.filter_eq_nil_iff.1 (filter_eq_nil_of_below (hne c' hc') hb' rel) y hy
      (onPath_iff.2 (heq.symm.trans (by simpa using hx)))

theorem Shuffle.samePerPath {t r l : List (Call κ)} (h : Shuffle t r l)
    (hap : ∀ x ∈ t, ∀ y ∈ r, cpath x ≠ cpath y) : SamePerPath l (t ++ r) := by
  intro q
  have hsh := h.filter (onPath q)
  rw [List.filter_append]
  by_cases ht : t.filter (onPath q) = []
  · rw [ht] at hsh ⊢
    exact hsh.eq_of_nil_left
  · -- some call of `t` acts on `q`: none of `r` does
    obtain ⟨x, hx⟩ := List.exists_mem_of_ne_nil _ ht
    obtain ⟨hxt, hxq⟩ := List.mem_filter.1 hx
    have hr : r.filter (onPath q) = [] := List.filter_eq_nil_iff.2 fun y hy hon =>
      hap x hxt y hy ((onPath_iff.1 hxq).trans (onPath_iff.1 hon).symm)
    rw [hr] at hsh ⊢
    rw [hsh.eq_of_nil_right, List.append_nil]

theorem ShuffleN.samePerPath {ts : List (List (Call κ))} {l : List (Call κ)} (h : ShuffleN ts l) :
    Apart ts → SamePerPath l ts.flatten := by
  induction h with
  | nil => exact fun _ => .refl _
  | cons hr hi ih =>
    intro hap
    obtain ⟨h1, h2⟩ := List.pairwise_cons.1 hap
    refine (hi.samePerPath fun x hx y hy => ?_).trans ((SamePerPath.refl _).append (ih h2))
    obtain ⟨t', ht', hyt'⟩ := (hr.mem y).1 hy
    exact h1 t' ht' x hx y hyt'

/-- **workers below pairwise different entry names: every interleaving issues, at every path, the calls of
the sequential run in the same order** -/
theorem shuffleN_samePerPath_flatten {pre : List Name} {cs : List Child} {ts : List (List (Call κ))}
    (h : All2 (fun (c : Child) t => BelowS (pre ++ [c.name]) t) cs ts) (hnd : NamesDistinct cs)
    {l : List (Call κ)} (hl : ShuffleN ts l) : SamePerPath l ts.flatten :=
  hl.samePerPath (apart_of_below h hnd)

/-- **at most one of them acts on a path**: the calls of all at `q` are the calls of one at `q`, or there
are none -/
theorem Apart.owner {ts : List (List (Call κ))} (h : Apart ts) (q : P) :
    ts.flatten.filter (onPath q) = [] ∨ ∃ t ∈ ts, ts.flatten.filter (onPath q) = t.filter (onPath q) := by
  induction ts with
  | nil => exact .inl rfl
  | cons t ts ih =>
    obtain ⟨h1, h2⟩ := List.pairwise_cons.1 h
    rw [List.flatten_cons, List.filter_append]
    by_cases ht : t.filter (onPath q) = []
    · rw [ht, List.nil_append]
      exact (ih h2).imp_right fun ⟨t', ht', h'⟩ => ⟨t', List.mem_cons_of_mem _ ht', h'⟩
    · obtain ⟨x, hx⟩ := List.exists_mem_of_ne_nil _ ht
      obtain ⟨hxt, hxq⟩ := List.mem_filter.1 hx
      suffices hts : ts.flatten.filter (onPath q) = [] from .inr ⟨t, List.mem_cons_self, by rw [hts, List.append_nil]⟩
      rw [List.filter_eq_nil_iff]
      intro y hy hon
      obtain ⟨t', ht', hyt'⟩ := List.mem_flatten.1 hy
      exact h1 t' ht' x hxt y hyt' ((onPath_iff.1 hxq).trans (onPath_iff.1 hon).symm)

/-- **what an interleaving of traces that are apart leaves at a path is what one of them alone leaves
there**, or what was there -/
theorem ShuffleN.get_owner {ts : List (List (Call κ))} {l : List (Call κ)} (h : ShuffleN ts l) (hap : Apart ts)
    (hs : ∀ t ∈ ts, AllSingle t) (emp : κ) (fs : FS κ) (q : P) :
    (replay emp fs l).get q = fs.get q ∨ ∃ t ∈ ts, (replay emp fs l).get q = (replay emp fs t).get q := by
  rw [replay_get_filter emp q l fs fun x hx => let ⟨t, ht, hxt⟩ := (h.mem x).1 hx; hs t ht x hxt,
    h.samePerPath hap q]
  rcases hap.owner q with hnil | ⟨t, ht, hown⟩
  · exact .inl (by rw [hnil]; rfl)
  · exact .inr ⟨t, ht, by rw [hown, ← replay_get_filter emp q t fs (hs t ht)]⟩

/-- The traces of `checkoutDir` / `checkoutFile` for the manifest entry `c` at workspace path `pre`, where
`cur` is what the logical workspace holds there, when the traces of the entries of a directory are combined
by `C` (any interleaving, the concatenation, the concatenation in any order …):

* a file entry: the calls of `checkoutFileT` (which must succeed);
* a directory entry (the checks of `checkoutDir` pass, the manifest `cs` is readable, at the path there is
  a directory or nothing): the `mkdir` of the directory if it is absent, then `l` with `C ts l`, where `tsᵢ`
  is (recursively) such a trace of the i-th entry of the manifest at `pre ++ [nameᵢ]`, where the workspace
  holds `alookup es nameᵢ` — what it held BEFORE any sibling ran. -/
def CheckoutTraces (C : List (List (Call κ)) → List (Call κ) → Prop) (t : TCfg κ) (s : Store κ) :
    Nat → List Name → Option (Node κ) → Child → List (Call κ) → Prop
  | 0, _, _, _, _ => False
  | fuel + 1, pre, cur, c, calls =>
    (c.isDir = true ∧ hasSum c.sum = true ∧ s.has c.sum = true ∧
      ∃ cs es head ts l, readManifest t.ctx s c.sum = .ok cs ∧
        ((cur = some (.dir es) ∧ head = []) ∨ (cur = none ∧ es = [] ∧ head = [.mkdir (.ws pre)])) ∧
        All2 (fun (c' : Child) tr =>
          CheckoutTraces C t s fuel (pre ++ [c'.name]) (alookup es c'.name) c' tr) cs ts ∧
        C ts l ∧ calls = head ++ l) ∨
    (c.isDir = false ∧ ∃ r, checkoutFileT t (.ws pre) cur c.sum s = .ok (r, calls))

/-- **the traces of the nested concurrent checkout**: in every directory, at every depth, ANY interleaving
of the traces of the entries, each of them again a concurrent trace -/
abbrev ParCheckoutTrace (t : TCfg κ) (s : Store κ) := CheckoutTraces (κ := κ) ShuffleN t s

/-- the workers of every directory run one after the other, in manifest order -/
abbrev SeqCheckoutTrace (t : TCfg κ) (s : Store κ) :=
  CheckoutTraces (κ := κ) (fun ts l => l = ts.flatten) t s

/-- the workers of every directory run one after the other, IN ANY ORDER (the Go map iteration) -/
abbrev SeqPermTrace (t : TCfg κ) (s : Store κ) :=
  CheckoutTraces (κ := κ) (fun ts l => ∃ ts', List.Perm ts' ts ∧ l = ts'.flatten) t s

theorem CheckoutTraces.mono {C C' : List (List (Call κ)) → List (Call κ) → Prop}
    (hC : ∀ ts l, C ts l → C' ts l) {t : TCfg κ} {s : Store κ} :
    ∀ (fuel : Nat) (pre : List Name) (cur : Option (Node κ)) (c : Child) (calls : List (Call κ)),
      CheckoutTraces C t s fuel pre cur c calls → CheckoutTraces C' t s fuel pre cur c calls := by
  intro fuel
  induction fuel with
  | zero => intro _ _ _ _ h; simp [CheckoutTraces] at h
  | succ fuel ih =>
    intro pre cur c calls h
    simp only [CheckoutTraces] at h ⊢
    rcases h with ⟨hd, h1, h2, cs, es, head, ts, l, hm, hcur, hall, hc, rfl⟩ | h
    · exact .inl ⟨hd, h1, h2, cs, es, head, ts, l, hm, hcur,
        hall.imp (fun c' tr h' => ih _ _ _ _ h'), hC _ _ hc, rfl⟩
    · exact .inr h

theorem seq_seqPerm {t : TCfg κ} {s : Store κ} {fuel : Nat} {pre : List Name} {cur : Option (Node κ)}
    {c : Child} {calls : List (Call κ)} (h : SeqCheckoutTrace t s fuel pre cur c calls) :
    SeqPermTrace t s fuel pre cur c calls :=
  CheckoutTraces.mono (fun ts _ hl => ⟨ts, List.Perm.refl _, hl⟩) _ _ _ _ _ h

theorem checkoutFileCalls_single_path (isEmp : κ → Bool) (strat : Strat) (w : P) (b : Bool) (c : κ)
    (d : Digest) : ∀ call ∈ checkoutFileCalls isEmp strat w b c d, isSingle call = true ∧ cpath call = w := by
  intro call hc
  rcases checkoutFileCalls_mem _ _ _ _ _ _ call hc with rfl | rfl | rfl | rfl | rfl <;> simp [isSingle, cpath]

theorem checkoutFileT_single_path {t : TCfg κ} {w : P} {cur : Option (Node κ)} {sum : Digest} {s : Store κ}
    {r : Node κ} {calls : List (Call κ)} (h : checkoutFileT t w cur sum s = .ok (r, calls)) :
    ∀ call ∈ calls, isSingle call = true ∧ cpath call = w := by
  rcases checkoutFileT_cases h with ⟨-, rfl⟩ | ⟨o, -, -, rfl, -⟩ | ⟨o, -, -, -, rfl, -⟩
  · intro call hc; cases hc
  · exact checkoutFileCalls_single_path _ _ _ _ _ _
  · exact checkoutFileCalls_single_path _ _ _ _ _ _

/-- a directory worker: the `mkdir` of the directory if it was absent, then any interleaving of traces of
its entries, each of single-path calls below the entry's path -/
theorem dir_single_below {pre : List Name} {R : Child → List (Call κ) → Prop}
    (hR : ∀ c t, R c t → AllSingle t ∧ BelowS (pre ++ [c.name]) t) {cs : List Child}
    {ts : List (List (Call κ))} (hall : All2 R cs ts) {l : List (Call κ)} (hc : ShuffleN ts l)
    {cur : Option (Node κ)} {es : List (Name × Node κ)} {head : List (Call κ)}
    (hcur : (cur = some (.dir es) ∧ head = []) ∨ (cur = none ∧ es = [] ∧ head = [.mkdir (.ws pre)])) :
    AllSingle (head ++ l) ∧ BelowS pre (head ++ l) := by
  have hhead : AllSingle head ∧ BelowS pre head := by
    rcases hcur with ⟨-, rfl⟩ | ⟨-, -, rfl⟩
    · exact ⟨fun _ hc => (nomatch hc), fun _ hc => nomatch hc⟩
    · refine ⟨fun c hc => ?_, fun c hc => ?_⟩
      · rw [List.mem_singleton.1 hc]; rfl
      · rw [List.mem_singleton.1 hc]; exact ⟨[], by simp [cpath]⟩
  have hl : ∀ x ∈ l, isSingle x = true ∧ ∃ rel, cpath x = .ws (pre ++ rel) := by
    intro x hx
    obtain ⟨tr, htr, hxt⟩ := (ShuffleN.mem hc x).1 hx
    obtain ⟨c', -, hr⟩ := hall.mem_right tr htr
    exact ⟨(hR _ _ hr).1 x hxt, (hR _ _ hr).2.child x hxt⟩
  exact ⟨hhead.1.append (fun x hx => (hl x hx).1), hhead.2.append (fun x hx => (hl x hx).2)⟩

/-- the traces of concurrent checkouts that may fail, be cancelled or be killed at any point -/
def CheckoutRun (t : TCfg κ) (s : Store κ) :
    Nat → List Name → Option (Node κ) → Child → List (Call κ) → Prop
  | 0, _, _, _, calls => calls = []
  | fuel + 1, pre, cur, c, calls =>
    calls = [] ∨
    (c.isDir = true ∧
      ∃ cs es head ts l, readManifest t.ctx s c.sum = .ok cs ∧
        ((cur = some (.dir es) ∧ head = []) ∨ (cur = none ∧ es = [] ∧ head = [.mkdir (.ws pre)])) ∧
        All2 (fun (c' : Child) tr =>
          CheckoutRun t s fuel (pre ++ [c'.name]) (alookup es c'.name) c' tr) cs ts ∧
        ShuffleN ts l ∧ calls = head ++ l) ∨
    (c.isDir = false ∧ ∃ r full k, checkoutFileT t (.ws pre) cur c.sum s = .ok (r, full) ∧ calls = full.take k)

theorem CheckoutRun.nil (t : TCfg κ) (s : Store κ) : ∀ (fuel : Nat) (pre : List Name)
    (cur : Option (Node κ)) (c : Child), CheckoutRun t s fuel pre cur c []
  | 0, _, _, _ => by unfold CheckoutRun; rfl
  | _ + 1, _, _, _ => by unfold CheckoutRun; exact .inl rfl

theorem CheckoutRun.dir {t : TCfg κ} {s : Store κ} {fuel : Nat} {pre : List Name} {cur : Option (Node κ)}
    {c : Child} {calls : List (Call κ)} (hd : c.isDir = true) {cs : List Child} {es : List (Name × Node κ)}
    {head : List (Call κ)} {ts : List (List (Call κ))} {l : List (Call κ)}
    (hm : readManifest t.ctx s c.sum = .ok cs)
    (hcur : (cur = some (.dir es) ∧ head = []) ∨ (cur = none ∧ es = [] ∧ head = [.mkdir (.ws pre)]))
    (hall : All2 (fun (c' : Child) tr =>
      CheckoutRun t s fuel (pre ++ [c'.name]) (alookup es c'.name) c' tr) cs ts)
    (hs : ShuffleN ts l) (hc : calls = head ++ l) : CheckoutRun t s (fuel + 1) pre cur c calls := by
  simp only [CheckoutRun]
  exact .inr (.inl ⟨hd, cs, es, head, ts, l, hm, hcur, hall, hs, hc⟩)

theorem CheckoutRun.file {t : TCfg κ} {s : Store κ} {fuel : Nat} {pre : List Name} {cur : Option (Node κ)}
    {c : Child} {calls : List (Call κ)} (hd : c.isDir = false) {r : Node κ} {full : List (Call κ)}
    (h : checkoutFileT t (.ws pre) cur c.sum s = .ok (r, full)) (k : Nat) (hc : calls = full.take k) :
    CheckoutRun t s (fuel + 1) pre cur c calls := by
  simp only [CheckoutRun]
  exact .inr (.inr ⟨hd, r, full, k, h, hc⟩)

theorem parTrace_run {t : TCfg κ} {s : Store κ} :
    ∀ (fuel : Nat) (pre : List Name) (cur : Option (Node κ)) (c : Child) (calls : List (Call κ)),
      ParCheckoutTrace t s fuel pre cur c calls → CheckoutRun t s fuel pre cur c calls := by
  intro fuel
  induction fuel with
  | zero => intro _ _ _ _ h; simp [CheckoutTraces] at h
  | succ fuel ih =>
    intro pre cur c calls h
    simp only [CheckoutTraces] at h
    simp only [CheckoutRun]
    rcases h with ⟨hd, -, -, cs, es, head, ts, l, hm, hcur, hall, hc, rfl⟩ | ⟨hd, r, h⟩
    · exact .inr (.inl ⟨hd, cs, es, head, ts, l, hm, hcur,
        hall.imp (fun c' tr h' => ih _ _ _ _ h'), hc, rfl⟩)
    · exact .inr (.inr ⟨hd, r, calls, calls.length, h, by simp⟩)

theorem checkoutRun_single_below {t : TCfg κ} {s : Store κ} :
    ∀ (fuel : Nat) (pre : List Name) (cur : Option (Node κ)) (c : Child) (calls : List (Call κ)),
      CheckoutRun t s fuel pre cur c calls → AllSingle calls ∧ BelowS pre calls := by
  intro fuel
  induction fuel with
  | zero =>
    intro _ _ _ _ h
    simp only [CheckoutRun] at h; subst h
    exact ⟨fun c hc => (by cases hc), fun c hc => (by cases hc)⟩
  | succ fuel ih =>
    intro pre cur c calls h
    simp only [CheckoutRun] at h
    rcases h with rfl | ⟨-, cs, es, head, ts, l, -, hcur, hall, hc, rfl⟩ | ⟨-, r, full, j, h, rfl⟩
    · exact ⟨fun c hc => (by cases hc), fun c hc => (by cases hc)⟩
    · exact dir_single_below (fun _ _ => ih _ _ _ _) hall hc hcur
    · refine ⟨fun x hx => (checkoutFileT_single_path h x (List.mem_of_mem_take hx)).1, fun x hx => ?_⟩
      exact ⟨[], by rw [(checkoutFileT_single_path h x (List.mem_of_mem_take hx)).2]; simp⟩

theorem parCheckout_single_below {t : TCfg κ} {s : Store κ} (fuel : Nat) (pre : List Name)
    (cur : Option (Node κ)) (c : Child) (calls : List (Call κ))
    (h : ParCheckoutTrace t s fuel pre cur c calls) : AllSingle calls ∧ BelowS pre calls :=
  checkoutRun_single_below fuel pre cur c calls (parTrace_run fuel pre cur c calls h)

/-- the entries of the manifest do not see each other when their names are distinct: the trace of the
sequential loop is the concatenation of the traces of the entries, each started from what the workspace held
before the loop -/
theorem checkoutChildrenT_split
    {f : List Name → Option (Node κ) → Child → Except Err (Node κ × List (Call κ))} (pre : List Name)
    (es : List (Name × Node κ)) :
    ∀ (cs : List Child) (es2 es' : List (Name × Node κ)) (calls : List (Call κ)),
      checkoutChildrenT f pre es2 cs = .ok (es', calls) → NamesDistinct cs →
      (∀ c ∈ cs, alookup es2 c.name = alookup es c.name) →
      ∃ trs, All2 (fun (c : Child) tr => ∃ r, f (pre ++ [c.name]) (alookup es c.name) c = .ok (r, tr)) cs trs ∧
        calls = trs.flatten := by
  intro cs
  induction cs with
  | nil =>
    intro es2 es' calls h _ _
    simp only [checkoutChildrenT, Except.ok.injEq, Prod.mk.injEq] at h
    exact ⟨[], .nil, by rw [← h.2]; rfl⟩
  | cons c cs ih =>
    intro es2 es' calls h hnd hlk
    obtain ⟨n, calls1, calls2, hT, hT2, rfl⟩ := checkoutChildrenT_cons_ok h
    have hne : ∀ c' ∈ cs, c.name ≠ c'.name := (List.pairwise_cons.1 hnd).1
    obtain ⟨trs, hall, rfl⟩ := ih _ _ _ hT2 (List.pairwise_cons.1 hnd).2 (fun c' hc' => by
      rw [alookup_setEntry_ne _ _ (hne c' hc')]
      exact hlk c' (List.mem_cons_of_mem _ hc'))
    rw [hlk c List.mem_cons_self] at hT
    exact ⟨calls1 :: trs, .cons ⟨n, hT⟩ hall, by simp⟩

/-- conversely: if every entry succeeds on its own, so does the sequential loop, with the concatenated
trace -/
theorem checkoutChildrenT_join
    {f : List Name → Option (Node κ) → Child → Except Err (Node κ × List (Call κ))} (pre : List Name)
    (es : List (Name × Node κ)) {cs : List Child} {trs : List (List (Call κ))}
    (hall : All2 (fun (c : Child) tr => ∃ r, f (pre ++ [c.name]) (alookup es c.name) c = .ok (r, tr)) cs trs) :
    NamesDistinct cs → ∀ (es2 : List (Name × Node κ)), (∀ c ∈ cs, alookup es2 c.name = alookup es c.name) →
      ∃ es', checkoutChildrenT f pre es2 cs = .ok (es', trs.flatten) := by
  induction hall with
  | nil => intro _ es2 _; exact ⟨es2, rfl⟩
  | @cons c tr cs trs hc _ ih =>
    intro hnd es2 hlk
    obtain ⟨n, hn⟩ := hc
    have hne : ∀ c' ∈ cs, c.name ≠ c'.name := (List.pairwise_cons.1 hnd).1
    obtain ⟨es', he'⟩ := ih (List.pairwise_cons.1 hnd).2 (setEntry es2 c.name n) (fun c' hc' => by
      rw [alookup_setEntry_ne _ _ (hne c' hc')]
      exact hlk c' (List.mem_cons_of_mem _ hc'))
    refine ⟨es', ?_⟩
    simp only [checkoutChildrenT, hlk c List.mem_cons_self, hn, he', List.flatten_cons]

/-- every readable manifest of the cache lists pairwise distinct names -/
def ManUniq (ctx : Ctx κ) (s : Store κ) : Prop := ∀ d cs, readManifest ctx s d = .ok cs → NamesDistinct cs

theorem checkoutNodeT_dir_checks {t : TCfg κ} {s : Store κ} {fuel : Nat} {pre : List Name}
    {cur : Option (Node κ)} {c : Child} {r : Node κ} {calls : List (Call κ)}
    (h : checkoutNodeT t s (fuel + 1) pre cur c = .ok (r, calls)) (hd : c.isDir = true) :
    hasSum c.sum = true ∧ s.has c.sum = true := by
  simp only [checkoutNodeT, hd, if_true] at h
  split at h
  · cases h
  split at h
  · cases h
  rename_i h1 h2
  exact ⟨by simpa using h1, by simpa using h2⟩

/-- **the sequential trace of the model is the concatenation, at every directory, of the traces of its
entries in manifest order** -/
theorem checkoutNodeT_seqTrace {t : TCfg κ} {s : Store κ} (hman : ManUniq t.ctx s) :
    ∀ (fuel : Nat) (pre : List Name) (cur : Option (Node κ)) (c : Child) (r : Node κ) (calls : List (Call κ)),
      checkoutNodeT t s fuel pre cur c = .ok (r, calls) → SeqCheckoutTrace t s fuel pre cur c calls := by
  intro fuel
  induction fuel with
  | zero => intro _ _ _ _ _ h; simp [checkoutNodeT] at h
  | succ fuel ih =>
    intro pre cur c r calls h
    simp only [CheckoutTraces]
    rcases checkoutNodeT_inv h with
      ⟨hd, cs, es, es', calls1, hm, hch, -, hcase⟩ | ⟨hd, hf⟩
    · obtain ⟨h1, h2⟩ := checkoutNodeT_dir_checks h hd
      obtain ⟨trs, hall, rfl⟩ := checkoutChildrenT_split pre es cs es es' calls1 hch (hman _ _ hm)
        (fun _ _ => rfl)
      have hall' := hall.imp (fun c' tr ⟨r', hr'⟩ => ih _ _ _ r' tr hr')
      rcases hcase with ⟨rfl, rfl⟩ | ⟨rfl, rfl, rfl⟩
      · exact .inl ⟨hd, h1, h2, cs, es, [], trs, _, hm, .inl ⟨rfl, rfl⟩, hall', rfl, rfl⟩
      · exact .inl ⟨hd, h1, h2, cs, [], _, trs, _, hm, .inr ⟨rfl, rfl, rfl⟩, hall', rfl, rfl⟩
    · exact .inr ⟨hd, r, hf⟩

theorem children_par_seq {t : TCfg κ} {s : Store κ} {fuel : Nat}
    (ih : ∀ pre cur c calls, ParCheckoutTrace t s fuel pre cur c calls →
      ∃ r seq, checkoutNodeT t s fuel pre cur c = .ok (r, seq) ∧ SamePerPath calls seq)
    (pre : List Name) (es : List (Name × Node κ)) {cs : List Child} {ts : List (List (Call κ))}
    (hall : All2 (fun (c' : Child) tr =>
      ParCheckoutTrace t s fuel (pre ++ [c'.name]) (alookup es c'.name) c' tr) cs ts) :
    ∃ seqs, All2 (fun (c : Child) tr => ∃ r, checkoutNodeT t s fuel (pre ++ [c.name]) (alookup es c.name) c
        = .ok (r, tr)) cs seqs ∧ SamePerPath ts.flatten seqs.flatten := by
  induction hall with
  | nil => exact ⟨[], .nil, SamePerPath.refl _⟩
  | @cons c tr cs ts hc _ ih' =>
    obtain ⟨r, seq, hseq, hsp⟩ := ih _ _ _ _ hc
    obtain ⟨seqs, hall', hsp'⟩ := ih'
    exact ⟨seq :: seqs, .cons ⟨r, hseq⟩ hall', by
      simp only [List.flatten_cons]; exact hsp.append hsp'⟩

/-- **Every trace of the nested concurrent checkout issues, at every path, exactly the calls of the
sequential trace of the model in the same order** — and the sequential run succeeds whenever a concurrent
trace exists. -/
theorem parCheckout_seq {t : TCfg κ} {s : Store κ} (hman : ManUniq t.ctx s) :
    ∀ (fuel : Nat) (pre : List Name) (cur : Option (Node κ)) (c : Child) (calls : List (Call κ)),
      ParCheckoutTrace t s fuel pre cur c calls →
      ∃ r seq, checkoutNodeT t s fuel pre cur c = .ok (r, seq) ∧ SamePerPath calls seq := by
  intro fuel
  induction fuel with
  | zero => intro _ _ _ _ h; simp [CheckoutTraces] at h
  | succ fuel ih =>
    intro pre cur c calls h
    simp only [CheckoutTraces] at h
    rcases h with ⟨hd, h1, h2, cs, es, head, ts, l, hm, hcur, hall, hc, rfl⟩ | ⟨hd, r, h⟩
    · obtain ⟨seqs, hall', hsp⟩ := children_par_seq ih pre es hall
      have hnd := hman _ _ hm
      obtain ⟨es', hch⟩ := checkoutChildrenT_join pre es hall' hnd es (fun _ _ => rfl)
      have hbel : All2 (fun (c : Child) tr => BelowS (pre ++ [c.name]) tr) cs ts :=
        hall.imp (fun c' tr h' => (parCheckout_single_below fuel _ _ _ _ h').2)
      have hl : SamePerPath l seqs.flatten := (shuffleN_samePerPath_flatten hbel hnd hc).trans hsp
      exact ⟨.dir es', head ++ seqs.flatten, checkoutNodeT_dir_ok hd h1 h2 hm hch hcur,
        (SamePerPath.refl head).append hl⟩
    · exact ⟨r, calls, checkoutNodeT_file hd ▸ h, SamePerPath.refl _⟩

/-!
## Runs that fail, are cancelled or are killed

`ParCheckoutTrace` holds the COMPLETE traces of successful concurrent
checkouts.  When a worker fails (an entry in the way, an object missing, a manifest unreadable), the Go
`errgroup` cancels its siblings: the real trace of such a run is an interleaving of PARTIAL traces of the
workers, and there is no complete trace to be a prefix of.  `CheckoutRun` is that larger, prefix-closed set:

* any worker may contribute nothing (it has not started, it failed before its first call, it was
  cancelled);
* a file worker contributes any prefix of the calls of its `checkoutFile` (if that succeeds at all);
* a directory worker whose manifest is readable contributes the `mkdir` of the directory (if absent), then
  any interleaving of runs of its entries.

`parTrace_run`: complete concurrent traces are runs; `CheckoutRun.take`: a prefix of a run is a run;
`checkoutRun_keptP`: after EVERY run the pre-existing workspace entries are kept (`KeptP`) — proved path
by path: a path is acted on by the worker of one file entry only (or by the `mkdir` of one directory that was
absent), so what a run leaves there is what that worker alone leaves there.
-/

/-- **a prefix of a run is a run**: the set is closed under killing the process at any point -/
theorem CheckoutRun.take {t : TCfg κ} {s : Store κ} :
    ∀ (fuel : Nat) (pre : List Name) (cur : Option (Node κ)) (c : Child) (calls : List (Call κ)),
      CheckoutRun t s fuel pre cur c calls → ∀ k, CheckoutRun t s fuel pre cur c (calls.take k) := by
  intro fuel
  induction fuel with
  | zero =>
    intro _ _ _ _ h k
    simp only [CheckoutRun] at h ⊢
    subst h; simp
  | succ fuel ih =>
    intro pre cur c calls h k
    simp only [CheckoutRun] at h ⊢
    rcases h with rfl | ⟨hd, cs, es, head, ts, l, hm, hcur, hall, hc, rfl⟩ | ⟨hd, r, full, j, h, rfl⟩
    · exact .inl (by simp)
    · cases k with
      | zero => exact .inl (by simp)
      | succ k =>
        have key : ∀ k', ∃ ts' , All2 (fun (c' : Child) tr =>
            CheckoutRun t s fuel (pre ++ [c'.name]) (alookup es c'.name) c' tr) cs ts' ∧
            ShuffleN ts' (l.take k') := by
          intro k'
          obtain ⟨ts', hpre, hs'⟩ := hc.take k'
          refine ⟨ts', (hall.comp hpre).imp (fun c' tr' ⟨tr, hrun, j, hj⟩ => ?_), hs'⟩
          subst hj
          exact ih _ _ _ _ hrun j
        rcases hcur with ⟨rfl, rfl⟩ | ⟨rfl, rfl, rfl⟩
        · obtain ⟨ts', hall', hs'⟩ := key (k + 1)
          exact .inr (.inl ⟨hd, cs, es, [], ts', _, hm, .inl ⟨rfl, rfl⟩, hall', hs', by simp⟩)
        · obtain ⟨ts', hall', hs'⟩ := key k
          exact .inr (.inl ⟨hd, cs, [], [.mkdir (.ws pre)], ts', _, hm, .inr ⟨rfl, rfl, rfl⟩, hall', hs',
            by simp [List.take_succ_cons]⟩)
    · exact .inr (.inr ⟨hd, r, full, min k j, h, by rw [List.take_take]⟩)

/-- **After every run — complete, failed, cancelled or killed — the entries the workspace held before are
kept**, up to a link to the very object being copied (`KeptP`).  From any state `fs` that agrees with the
logical workspace below the path. -/
theorem checkoutRun_keptP {t : TCfg κ} {emp : κ} (hemp : ∀ x, t.isEmp x = true → x = emp) {s : Store κ}
    (hman : ManUniq t.ctx s) {fs : FS κ} (hobj : ObjIn t.ctx s fs) :
    ∀ (fuel : Nat) (pre : List Name) (cur : Option (Node κ)) (c : Child) (calls : List (Call κ)),
      CheckoutRun t s fuel pre cur c calls → AbsAt pre cur fs → KeptP t.strat emp fs (replay emp fs calls) := by
  intro fuel
  induction fuel with
  | zero =>
    intro _ _ _ _ h _
    simp only [CheckoutRun] at h; subst h
    exact (KeptB.refl _ fs).toP emp
  | succ fuel ih =>
    intro pre cur c calls h ha
    have hsb := checkoutRun_single_below (fuel + 1) pre cur c calls h
    simp only [CheckoutRun] at h
    rcases h with rfl | ⟨-, cs, es, head, ts, l, hm, hcur, hall, hc, rfl⟩ | ⟨-, r, full, j, h, rfl⟩
    · exact (KeptB.refl _ fs).toP emp
    · rcases hcur with ⟨rfl, rfl⟩ | ⟨rfl, rfl, rfl⟩
      · -- a directory that exists: the state at a path is the state its owner leaves there
        have hsb' := fun (c' : Child) tr
          (h' : CheckoutRun t s fuel (pre ++ [c'.name]) (alookup es c'.name) c' tr) =>
            checkoutRun_single_below fuel _ _ _ _ h'
        intro q e he
        rw [List.nil_append]
        rcases hc.get_owner (apart_of_below (hall.imp fun c' tr h' => (hsb' c' tr h').2) (hman _ _ hm))
          (fun tr htr => let ⟨c', _, h'⟩ := hall.mem_right tr htr; (hsb' c' tr h').1) emp fs (.ws q)
          with hget | ⟨tr, htr, hget⟩
        · rw [hget]; exact .inl he
        · obtain ⟨c', -, hrun⟩ := hall.mem_right tr htr
          rw [hget]
          exact ih _ _ _ _ hrun ((AbsList.of_dir ha).child c'.name) q e he
      · -- a directory that is absent: the run writes below it, where nothing was
        intro q e he
        rw [replay_get_frame emp _ _ fs fun x hx hmem => ?_]
        · exact .inl he
        · obtain ⟨rel, hrel⟩ := hsb.2.below hsb.1 x hx _ hmem
          have := ha rel
          rw [← hrel, he] at this
          cases this
    · -- a file worker, cut short anywhere
      exact (checkoutFileT_step hemp h hobj ha (KeptB.refl _ fs)).pref j

end Dud.Sys
