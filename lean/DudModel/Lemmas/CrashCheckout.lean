import DudModel.Lemmas.SysCheckoutRefine
import DudModel.Lemmas.CrashCmd
/-!
# A file system that agrees with the logical workspace

`EntOK`, `AbsAt`, `AbsList`: below a path the file system holds what the tree holds — nothing where the tree
has nothing, the same bytes where it has a regular file, the same link where it has a link into the cache, a
directory where it has a directory (foreign links and special files are not represented).  `fsOfWorld` is
such a file system (`absAt_init`) and holds the objects of the store (`ObjIn`, `objIn_init`).  This is the
relation the crash argument for `dud checkout` (`Lemmas/CrashCheckoutStep.lean`) re-establishes after every
artifact.
-/
namespace Dud.Sys
open Dud
variable {κ : Type}

theorem replay_take_get_frame (emp : κ) (calls : List (Call κ)) (q : P) (fs : FS κ)
    (h : ∀ c ∈ calls, q ∉ callWrites c) (k : Nat) :
    (replay emp fs (calls.take k)).get q = fs.get q :=
  replay_get_frame emp _ q fs (fun c hc => h c (List.mem_of_mem_take hc))

def getOpt (cur : Option (Node κ)) (r : List Name) : Option (Node κ) := cur.bind (fun n => getPath n r)

theorem getOpt_none (r : List Name) : getOpt (none : Option (Node κ)) r = none := rfl
theorem getOpt_some (n : Node κ) (r : List Name) : getOpt (some n) r = getPath n r := rfl
theorem getOpt_nil (cur : Option (Node κ)) : getOpt cur [] = cur := by
  cases cur <;> rfl

theorem getOpt_dir_cons (es : List (Name × Node κ)) (nm : Name) (r : List Name) :
    getOpt (some (.dir es)) (nm :: r) = getOpt (alookup es nm) r := by
  simp only [getOpt, Option.bind, getPath]
  cases alookup es nm <;> rfl

theorem getOpt_leaf_cons {n : Node κ} (hn : n.isDir = false) (nm : Name) (r : List Name) :
    getOpt (some n) (nm :: r) = none := by
  cases n with
  | dir es => simp [Node.isDir] at hn
  | file _ => rfl
  | link _ => rfl
  | other => rfl

theorem getOpt_cons (cur : Option (Node κ)) (c : Name) (r : List Name) :
    getOpt cur (c :: r) = getOpt (getOpt cur [c]) r := by
  cases cur with
  | none => rfl
  | some n =>
    cases n with
    | dir es => rw [getOpt_dir_cons, getOpt_dir_cons, getOpt_nil]
    | _ => rfl

/-- the file-system entry that stands for a node of the logical workspace (foreign links and special
files are not represented: nothing is claimed about them) -/
def EntOK : Option (Node κ) → Option (Entry κ) → Prop
  | none, e => e = none
  | some (.file x), e => ∃ m, e = some (.file x m)
  | some (.link (.obj d)), e => e = some (.link (.obj d))
  | some (.dir _), e => e = some .dir
  | some (.link (.foreign _)), _ => True
  | some .other, _ => True

/-- below `pre` the file system agrees with the (optional) node `cur` -/
def AbsAt (pre : List Name) (cur : Option (Node κ)) (fs : FS κ) : Prop :=
  ∀ r, EntOK (getOpt cur r) (fs.get (.ws (pre ++ r)))

def AbsList (pre : List Name) (es : List (Name × Node κ)) (fs : FS κ) : Prop :=
  ∀ nm r, EntOK (getOpt (alookup es nm) r) (fs.get (.ws (pre ++ nm :: r)))

theorem AbsAt.frame {pre : List Name} {cur : Option (Node κ)} {fs fs' : FS κ} (h : AbsAt pre cur fs)
    (hfr : ∀ r, fs'.get (.ws (pre ++ r)) = fs.get (.ws (pre ++ r))) : AbsAt pre cur fs' := by
  intro r; rw [hfr]; exact h r

/-- below a path of the workspace the file system agrees with what the tree holds there -/
theorem AbsAt.sub {ws : Node κ} {fs : FS κ} (ha : AbsAt [] (some ws) fs) (comps : List Name) :
    AbsAt comps (getPath ws comps) fs := by
  intro r
  have := ha (comps ++ r)
  rw [getOpt_some, getPath_append] at this
  simpa [getOpt] using this

theorem AbsList.of_dir {pre : List Name} {es : List (Name × Node κ)} {fs : FS κ}
    (h : AbsAt pre (some (.dir es)) fs) : AbsList pre es fs := by
  intro nm r
  have := h (nm :: r)
  rwa [getOpt_dir_cons] at this

theorem AbsList.child {pre : List Name} {es : List (Name × Node κ)} {fs : FS κ} (h : AbsList pre es fs)
    (nm : Name) : AbsAt (pre ++ [nm]) (alookup es nm) fs := by
  intro r
  have := h nm r
  simpa [List.append_assoc] using this

theorem AbsAt.dir {pre : List Name} {es : List (Name × Node κ)} {fs : FS κ}
    (h0 : fs.get (.ws pre) = some .dir) (h : AbsList pre es fs) : AbsAt pre (some (.dir es)) fs := by
  intro r
  cases r with
  | nil => simpa [getOpt, getPath, EntOK] using h0
  | cons nm r => rw [getOpt_dir_cons]; exact h nm r

theorem entOK_entryOf : ∀ (n : Option (Node κ)), EntOK n (entryOf n)
  | none => rfl
  | some (.file _) => ⟨_, rfl⟩
  | some (.dir _) => rfl
  | some (.link (.obj _)) => rfl
  | some (.link (.foreign _)) => trivial
  | some .other => trivial

theorem fsOfNode_get (nd : Node κ) (pre r : List Name) (hu : uniqNode nd) :
    EntOK (getPath nd r) (alookup (fsOfNode pre nd) (.ws (pre ++ r))) :=
  fsOfNode_get_eq r nd pre hu ▸ entOK_entryOf _

theorem fsOfList_get : ∀ (es : List (Name × Node κ)) (pre : List Name) (nm : Name) (r : List Name),
    uniqList es → EntOK (getOpt (alookup es nm) r) (alookup (fsOfList pre es) (.ws (pre ++ nm :: r)))
  | es, pre, nm, r, hu => fsOfList_get_eq es pre nm r hu ▸ entOK_entryOf _

theorem fsOf_get_ws (ctx : Ctx κ) (nd : Node κ) (s : Store κ) (q : List Name) :
    (fsOf ctx [] nd s).get (.ws q) = alookup (fsOfNode [] nd) (.ws q) := by
  simp only [fsOf, fsOfStore, FS.get, List.append_assoc, alookup_append]
  cases alookup (fsOfNode [] nd) (.ws q) with
  | some b => rfl
  | none =>
    have h1 : alookup (s.map (fun e => (P.obj e.1, Entry.file (e.2.bytes ctx) 0o444))) (.ws q) = none := by
      apply alookup_none_of_keys
      intro e he heq
      simp only [List.mem_map] at he
      obtain ⟨x, -, rfl⟩ := he
      cases heq
    have h2 : alookup (s.map (fun e => (P.shard (shardOf e.1), (Entry.dir : Entry κ)))) (.ws q) = none := by
      apply alookup_none_of_keys
      intro e he heq
      simp only [List.mem_map] at he
      obtain ⟨x, -, rfl⟩ := he
      cases heq
    simp [h1, h2, alookup]

theorem absAt_init (c : CmdCfg κ) (w : World κ) (hu : uniqNode w.ws) :
    AbsAt [] (some w.ws) (fsOfWorld c w) := by
  intro r
  rw [fsOfWorld_get c w (by simp), fsOf_get_ws, getOpt_some]
  simpa using fsOfNode_get w.ws [] r hu

/-- the objects of the store are in the cache of the file system -/
def ObjIn (ctx : Ctx κ) (s : Store κ) (fs0 : FS κ) : Prop :=
  ∀ d o, s.get d = some o → ∃ m, fs0.get (.obj d) = some (.file (o.bytes ctx) m)

theorem objIn_init (c : CmdCfg κ) (w : World κ) : ObjIn c.cfg.ctx w.store (fsOfWorld c w) := by
  intro d o h
  refine ⟨0o444, ?_⟩
  rw [fsOfWorld_get c w (by simp), fsOf_get_obj, h]
  rfl

end Dud.Sys
