import DudModel.Stage
/-!
# The ancestor walk of `FindDirArtifactOwnerForPath` as a search

For either value of the regenerated fact the directories the walk asks for do not depend on the map
(`walkDirs`); the walk reports what it finds at the first of them where it stops
(`ownerWalk_eq_findSome`).  Imports the model only, so that both lemma families can use it.
-/
namespace Dud

theorem findArt_some {arts : List Art} {p : Bytes} {o : Art} (h : findArt arts p = some o) :
    o ∈ arts ∧ o.path = p := by
  refine ⟨List.mem_of_find?_eq_some h, ?_⟩
  simpa using List.find?_some h

theorem findArt_eq_none {arts : List Art} {p : Bytes} :
    findArt arts p = none ↔ ∀ o ∈ arts, o.path ≠ p := by
  simp [findArt]

/-- the directories the walk looks up, one for each part -/
def walkDirs (wa : Bool) : Bytes → List Bytes → List Bytes
  | _, [] => []
  | dir, part :: r =>
    let d := Path.join [if wa then dir else [], part]
    d :: walkDirs wa (if wa then d else dir) r

/-- what the walk reports at the directory `d`: the entry with that path, if the walk stops there -/
def ownerAt (arts : List Art) (full d : Bytes) : Option Art :=
  (findArt arts d).filter fun o => !o.noRec || d == full

theorem ownerWalk_eq_findSome (wa : Bool) (arts : List Art) (full : Bytes) :
    ∀ (parts : List Bytes) (dir : Bytes),
      ownerWalk wa arts full dir parts = (walkDirs wa dir parts).findSome? (ownerAt arts full)
  | [], _ => rfl
  | part :: r, dir => by
    rw [ownerWalk, walkDirs, List.findSome?_cons, ownerAt, ← ownerWalk_eq_findSome wa arts full r]
    generalize Path.join [if wa then dir else [], part] = d
    generalize (if wa then d else dir) = dir'
    cases findArt arts d with
    | none => rfl
    | some o => simp only [Option.filter]; split <;> rfl

theorem ownerAt_some {arts : List Art} {full d : Bytes} {o : Art} (h : ownerAt arts full d = some o) :
    o ∈ arts ∧ o.path = d ∧ (o.noRec = false ∨ d = full) := by
  obtain ⟨hf, hst⟩ := Option.filter_eq_some_iff.1 h
  exact ⟨(findArt_some hf).1, (findArt_some hf).2, by simpa using hst⟩

/-- the path reported at `d` depends on the map only through the `noRec` flag of the entry at `d` -/
theorem ownerAt_path (arts : List Art) (full d : Bytes) :
    (ownerAt arts full d).map (·.path) =
      ((findArt arts d).map (·.noRec)).bind fun nr => if !nr || d == full then some d else none := by
  unfold ownerAt
  cases hf : findArt arts d with
  | none => rfl
  | some a =>
    simp only [Option.filter, Option.map_some, Option.bind_some]
    split <;> simp [(findArt_some hf).2]

end Dud
