import DudModel.Lemmas.Crash
/-!
# One step of an interleaving of disciplined traces (C03)

A trace that follows the `Allowed` discipline when run alone and owns a set of private paths
(workspace files, temp files) meets, in an interleaved run, a state that agrees with its solo state on
those paths and holds at least the solo state's objects (`Rel`).  A call that is allowed in the solo
state is then allowed in the interleaved state (`Allowed.transfer`), and `Rel` survives a step of the
owner (`Rel.step_own`) and of anybody else with disjoint private paths (`Rel.step_other`).  The only
shared paths are objects (puts onto the same digest carry equal bytes, by collision freedom) and shard
directories (only ever `mkdir`ed).  The inductions over interleavings are in `Lemmas/InterleaveN.lean`;
the traced commit functions come in with `Lemmas/InterleaveTree.lean` (here only the two basic call
sequences of `Sys.lean`, whose calls are owned).
-/
namespace Dud.Sys

open Dud

variable {κ : Type}

/-- a set of private paths: no objects, no shard directories -/
structure Priv (A : P → Prop) : Prop where
  notObj : ∀ p, A p → p.isObj = false
  notShard : ∀ p h, A p → p ≠ .shard h

/-- the call acts on private paths of `A`, except that it may `mkdir` a shard directory, move a
private file onto an object name, and `chmod` an object -/
def Owned (A : P → Prop) : Call κ → Prop
  | .mkdir p => A p ∨ ∃ h, p = .shard h
  | .createExcl p => A p
  | .createTrunc p => A p
  | .writePart p => A p
  | .write p _ => A p
  | .unlink p => A p
  | .symlink _ p => A p
  | .chmod p _ => A p ∨ p.isObj = true
  | .rename s d => A s ∧ (A d ∨ d.isObj = true)

/-- objects and shard directories: the paths several workers may act on -/
def P.isShared : P → Bool
  | .obj _ => true
  | .shard _ => true
  | _ => false

theorem Priv.notShared {A : P → Prop} (hA : Priv A) {p : P} (h : A p) : p.isShared = false := by
  cases p with
  | obj d => exact absurd (hA.notObj _ h) (by simp [P.isObj])
  | shard s => exact absurd rfl (hA.notShard _ s h)
  | _ => rfl

theorem P.isShared_true {p : P} (h : p.isShared = true) : (∃ d, p = .obj d) ∨ ∃ s, p = .shard s := by
  cases p <;> simp [P.isShared] at h
  · exact .inl ⟨_, rfl⟩
  · exact .inr ⟨_, rfl⟩

theorem Owned.writes {A : P → Prop} {c : Call κ} (ho : Owned A c) {q : P} (hw : q ∈ callWrites c) :
    A q ∨ (c = .mkdir q ∧ ∃ h, q = .shard h) ∨ (∃ m, c = .chmod q m ∧ q.isObj = true) ∨
      ∃ s, A s ∧ c = .rename s q ∧ q.isObj = true := by
  cases c with
  | mkdir p =>
    simp only [callWrites, callPaths, List.mem_singleton] at hw; subst hw
    exact ho.elim .inl (fun h => .inr (.inl ⟨rfl, h⟩))
  | createExcl p => simp only [callWrites, callPaths, List.mem_singleton] at hw; subst hw; exact .inl ho
  | createTrunc p => simp only [callWrites, callPaths, List.mem_singleton] at hw; subst hw; exact .inl ho
  | writePart p => simp only [callWrites, callPaths, List.mem_singleton] at hw; subst hw; exact .inl ho
  | write p x => simp only [callWrites, callPaths, List.mem_singleton] at hw; subst hw; exact .inl ho
  | unlink p => simp only [callWrites, callPaths, List.mem_singleton] at hw; subst hw; exact .inl ho
  | symlink t p => simp only [callWrites, List.mem_singleton] at hw; subst hw; exact .inl ho
  | chmod p m =>
    simp only [callWrites, callPaths, List.mem_singleton] at hw; subst hw
    exact ho.elim .inl (fun h => .inr (.inr (.inl ⟨m, rfl, h⟩)))
  | rename src d =>
    simp only [callWrites, callPaths, List.mem_cons, List.not_mem_nil, or_false] at hw
    rcases hw with rfl | rfl
    · exact .inl ho.1
    · exact ho.2.elim .inl (fun h => .inr (.inr (.inr ⟨src, ho.1, rfl, h⟩)))

theorem Owned.not_writes {A : P → Prop} {c : Call κ} (ho : Owned A c) {q : P} (hq : ¬ A q)
    (hs : q.isShared = false) : q ∉ callWrites c := by
  intro hw
  rcases ho.writes hw with h | ⟨-, s, rfl⟩ | ⟨m, -, h⟩ | ⟨s, -, -, h⟩
  · exact hq h
  · cases hs
  · obtain ⟨d, rfl⟩ := P.isObj_true h; cases hs
  · obtain ⟨d, rfl⟩ := P.isObj_true h; cases hs

/-- the solo state `s` of a trace owning `A` and the interleaved state `f`: they agree on the
private paths, and `f` has at least the objects of `s` -/
structure Rel (A : P → Prop) (s f : FS κ) : Prop where
  priv : ∀ p, A p → f.get p = s.get p
  objs : ObjLe s f

theorem Rel.refl (A : P → Prop) (s : FS κ) : Rel A s s := ⟨fun _ _ => rfl, ObjLe.refl s⟩

theorem Allowed.transfer {ctx : Ctx κ} {tracked : List (P × κ)} {A : P → Prop} {s f : FS κ}
    (hr : Rel A s f) {c : Call κ} (ho : Owned A c) (ha : Allowed ctx tracked s c) :
    Allowed ctx tracked f c := by
  cases c with
  | mkdir p => exact ha
  | createExcl p => exact ha
  | symlink t p => exact ha
  | chmod p m => trivial
  | createTrunc p => exact ⟨ha.1, ha.2.objLe hr.objs⟩
  | writePart p => exact ⟨ha.1, ha.2.objLe hr.objs⟩
  | write p x => exact ⟨ha.1, ha.2.objLe hr.objs⟩
  | unlink p => exact ⟨ha.1, ha.2.objLe hr.objs⟩
  | rename src d =>
    refine ⟨ha.1, fun e he => ?_⟩
    rw [hr.priv src ho.1] at he
    obtain ⟨h1, h2⟩ := ha.2 e he
    exact ⟨h1, fun hd => ⟨(h2 hd).1.objLe hr.objs, (h2 hd).2.objLe hr.objs⟩⟩

theorem Rel.step_own {ctx : Ctx κ} (g : Good ctx) {tracked : List (P × κ)} (emp : κ) {A : P → Prop}
    (hA : Priv A) {s f : FS κ} (hr : Rel A s f) (hntf : NoTorn ctx f) {c : Call κ} (ho : Owned A c)
    (haf : Allowed ctx tracked f c) : Rel A (apply emp s c) (apply emp f c) := by
  refine ⟨fun q hq => ?_, fun d x m hd => ?_⟩
  · -- private paths: what the call reads is private, or the written path itself
    by_cases hw : q ∈ callWrites c
    · apply apply_get_congr emp c q _ (hr.priv q hq)
      intro p hp
      rcases ho.writes (callReads_sub_writes c p hp) with h | ⟨rfl, -⟩ | ⟨m, rfl, -⟩ | ⟨src, hs, rfl, -⟩
      · exact hr.priv p h
      · cases List.mem_singleton.1 hw; exact hr.priv _ hq
      · cases List.mem_singleton.1 hw; exact hr.priv _ hq
      · cases List.mem_singleton.1 hp; exact hr.priv _ hs
    · rw [apply_get_frame _ _ _ _ hw, apply_get_frame _ _ _ _ hw]
      exact hr.priv q hq
  · -- an object the call leaves alone in the solo run
    have untouched : (apply emp s c).get (.obj d) = s.get (.obj d) →
        ∃ m', (apply emp f c).get (.obj d) = some (.file x m') := by
      intro heq
      rw [heq] at hd
      obtain ⟨m1, h1⟩ := hr.objs d x m hd
      exact objLe_apply g emp hntf haf d x m1 h1
    by_cases hw : P.obj d ∈ callWrites c
    · rcases ho.writes hw with h | ⟨-, sh, he⟩ | ⟨mm, rfl, -⟩ | ⟨src, hs, rfl, -⟩
      · cases hA.notObj _ h
      · cases he
      · -- `chmod`: the solo run had a file there before (otherwise no file afterwards)
        obtain ⟨rfl, m0, hsd⟩ := get_chmod_self_inv hd
        obtain ⟨m1, h1⟩ := hr.objs d x m0 hsd
        exact ⟨_, get_chmod_self_file _ h1⟩
      · -- `rename` of a private file onto the object name
        cases hsrc : s.get src with
        | none => exact untouched (by simp [apply, hsrc])
        | some e =>
          rw [get_rename_dst hsrc] at hd
          cases hd
          exact ⟨m, get_rename_dst (by rw [hr.priv src hs]; exact hsrc)⟩
    · exact untouched (apply_get_frame _ _ _ _ hw)

theorem Rel.step_other {ctx : Ctx κ} (g : Good ctx) {tracked : List (P × κ)} (emp : κ)
    {A B : P → Prop} (hA : Priv A) (hdisj : ∀ p, B p → ¬ A p) {s f : FS κ} (hr : Rel A s f)
    (hntf : NoTorn ctx f) {c : Call κ} (ho : Owned B c) (haf : Allowed ctx tracked f c) :
    Rel A s (apply emp f c) := by
  refine ⟨fun q hq => ?_, hr.objs.trans (objLe_apply g emp hntf haf)⟩
  rw [apply_get_frame _ _ _ _ (ho.not_writes (fun hb => hdisj _ hb hq) (hA.notShared hq))]
  exact hr.priv q hq

/-- private paths of a (sub)commit: the workspace paths of its regular files and its temp names -/
def PrivOf (wsPaths : List P) (lo hi : Nat) (p : P) : Prop :=
  (∃ q, p = .ws q ∧ p ∈ wsPaths) ∨ (∃ k, p = .ctmp k ∧ lo ≤ k ∧ k < hi)

theorem privOf_priv (wsPaths : List P) (lo hi : Nat) : Priv (PrivOf wsPaths lo hi) := by
  constructor
  · rintro p (⟨q, rfl, -⟩ | ⟨k, rfl, -⟩) <;> rfl
  · rintro p h (⟨q, rfl, -⟩ | ⟨k, rfl, -⟩) <;> simp

theorem PrivOf.mono {ws ws' : List P} {lo hi lo' hi' : Nat} (hws : ∀ p ∈ ws, p ∈ ws')
    (hlo : lo' ≤ lo) (hhi : hi ≤ hi') {p : P} (h : PrivOf ws lo hi p) : PrivOf ws' lo' hi' p := by
  rcases h with ⟨q, rfl, hq⟩ | ⟨k, rfl, h1, h2⟩
  · exact Or.inl ⟨q, rfl, hws _ hq⟩
  · exact Or.inr ⟨k, rfl, by omega, by omega⟩

theorem privOf_ws {wsPaths : List P} {lo hi : Nat} {q : List Name} (h : PrivOf wsPaths lo hi (.ws q)) :
    P.ws q ∈ wsPaths := by
  rcases h with ⟨q', -, hmem⟩ | ⟨k, heq, -⟩
  · exact hmem
  · cases heq

theorem PrivOf.disjoint {ws1 ws2 : List P} (hws : ∀ p ∈ ws1, p ∉ ws2) {lo1 hi1 lo2 hi2 : Nat}
    (h : hi1 ≤ lo2 ∨ hi2 ≤ lo1) : ∀ p, PrivOf ws1 lo1 hi1 p → ¬ PrivOf ws2 lo2 hi2 p := by
  rintro p (⟨q, rfl, hq⟩ | ⟨k, rfl, hk1, hk2⟩) (⟨q', heq, hq'⟩ | ⟨k', heq, hk1', hk2'⟩)
  · exact hws _ hq hq'
  · cases heq
  · cases heq
  · cases heq; omega

theorem Owned.mono {A B : P → Prop} (hAB : ∀ p, A p → B p) {c : Call κ} (h : Owned A c) : Owned B c := by
  cases c with
  | mkdir p => exact h.elim (fun h => Or.inl (hAB _ h)) Or.inr
  | createExcl p => exact hAB _ h
  | createTrunc p => exact hAB _ h
  | writePart p => exact hAB _ h
  | write p x => exact hAB _ h
  | unlink p => exact hAB _ h
  | symlink t p => exact hAB _ h
  | chmod p m => exact h.elim (fun h => Or.inl (hAB _ h)) Or.inr
  | rename s d => exact ⟨hAB _ h.1, h.2.elim (fun h => Or.inl (hAB _ h)) Or.inr⟩

def OwnedAll (A : P → Prop) (calls : List (Call κ)) : Prop := ∀ c ∈ calls, Owned A c

theorem OwnedAll.mono {A B : P → Prop} (hAB : ∀ p, A p → B p) {calls : List (Call κ)}
    (h : OwnedAll A calls) : OwnedAll B calls := fun c hc => (h c hc).mono hAB

theorem OwnedAll.append {A : P → Prop} {l1 l2 : List (Call κ)} (h1 : OwnedAll A l1)
    (h2 : OwnedAll A l2) : OwnedAll A (l1 ++ l2) := by
  intro c hc
  rcases List.mem_append.1 hc with h | h
  · exact h1 c h
  · exact h2 c h

theorem copyIntoCache_owned (isEmp : κ → Bool) (n : Nat) (c : κ) (d : Digest) :
    OwnedAll (PrivOf [] n (n + 1)) (copyIntoCache isEmp n c d) := by
  have hn : PrivOf [] n (n + 1) (.ctmp n) := Or.inr ⟨n, rfl, Nat.le_refl _, Nat.lt_succ_self _⟩
  intro call hcall
  unfold copyIntoCache at hcall
  cases he : isEmp c <;> simp [he] at hcall <;>
    rcases hcall with rfl | rfl | rfl | rfl | rfl | rfl <;> simp [Owned, hn, P.isObj]

theorem commitFileCalls_owned (isEmp : κ → Bool) (strat : Strat) (canRename : Bool) (q : List Name)
    (n : Nat) (c : κ) (d : Digest) :
    OwnedAll (PrivOf [.ws q] n (if strat == .link && canRename then n else n + 1))
      (commitFileCalls isEmp strat canRename (.ws q) n c d) := by
  have hw : ∀ lo hi, PrivOf [.ws q] lo hi (.ws q) := fun _ _ => Or.inl ⟨q, rfl, by simp⟩
  cases strat <;> cases canRename <;> simp only [commitFileCalls]
  · refine OwnedAll.append ((copyIntoCache_owned isEmp n c d).mono
      (fun p h => h.mono (by simp) (Nat.le_refl _) (by simp))) ?_
    intro call hcall
    simp at hcall
    rcases hcall with rfl | rfl <;> simp [Owned, hw]
  · intro call hcall
    simp at hcall
    rcases hcall with rfl | rfl | rfl | rfl <;> simp [Owned, hw, P.isObj]
  · exact (copyIntoCache_owned isEmp n c d).mono (fun p h => h.mono (by simp) (Nat.le_refl _) (by simp))
  · exact (copyIntoCache_owned isEmp n c d).mono (fun p h => h.mono (by simp) (Nat.le_refl _) (by simp))

end Dud.Sys
