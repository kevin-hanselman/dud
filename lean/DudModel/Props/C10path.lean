import DudModel.OwnerSpec
import DudModel.Lemmas.PathSpec
/-!
# C10, first part — Go's path functions on clean relative paths

What `filepath.Clean`, `Dir`, `Join` and `strings.Split` do on the paths of stage artifacts
(`CleanRel`), as the owner walk uses them (`Lemmas/Owner.lean`).  `GoodComp` unfolds to
`PathSpec.GoodComp`, so `∀ c ∈ cs, GoodComp c` is `PathSpec.Good cs` and the path algebra of
`Lemmas/PathSpec.lean` applies as it stands.
-/
namespace Dud
open Path

theorem GoodComp.ne_nil {c : Bytes} (h : GoodComp c) : c ≠ [] := h.1
theorem GoodComp.noslash {c : Bytes} (h : GoodComp c) : slash ∉ c := h.2.2.2

theorem splitSlash_cleanRel {cs : List Bytes} (hne : cs ≠ []) (h : ∀ c ∈ cs, GoodComp c) :
    Path.splitSlash (intercalate cs) = cs :=
  PathSpec.splitSlash_intercalate hne (PathSpec.Good.slashFree h)

theorem comps_cleanRel {cs : List Bytes} (hne : cs ≠ []) (h : ∀ c ∈ cs, GoodComp c) :
    Path.comps (intercalate cs) = cs := by
  rw [← PathSpec.relOf_eq_intercalate hne]
  exact congrArg PPath.comps (PathSpec.norm_parse_relOf_updown 0 h)

theorem clean_cleanRel {p : Bytes} (h : CleanRel p) : Path.clean p = p := by
  obtain ⟨cs, hne, hg, rfl⟩ := h
  rw [← PathSpec.relOf_eq_intercalate hne]; exact PathSpec.clean_relOf hg

theorem intercalate_ne_nil {cs : List Bytes} (hne : cs ≠ []) (h : ∀ c ∈ cs, GoodComp c) :
    intercalate cs ≠ [] := by
  rw [← clean_cleanRel ⟨cs, hne, h, rfl⟩]; exact PathSpec.clean_ne_nil _

theorem dir_cleanRel_snoc {cs : List Bytes} (c : Bytes) (hne : cs ≠ [])
    (h : ∀ x ∈ cs ++ [c], GoodComp x) : Path.dir (intercalate (cs ++ [c])) = intercalate cs := by
  have hcs : ∀ x ∈ cs, GoodComp x := fun x hx => h x (by simp [hx])
  have hne' : cs.isEmpty = false := by cases cs <;> simp_all
  simp [dir, splitSlash_cleanRel (by simp) h, hne', intercalate_ne_nil hne hcs,
    clean_cleanRel ⟨cs, hne, hcs, rfl⟩]

/-- the case `cs = []` that `dir_cleanRel_snoc` excludes (the result is ".", not `intercalate []`);
written `[] ++ [c]` because that is what `CleanRel.split` leaves in `Lemmas/Owner.lean` -/
theorem dir_cleanRel_single {c : Bytes} (h : GoodComp c) :
    Path.dir (intercalate ([] ++ [c])) = [dot] := by
  simp [dir, intercalate, PathSpec.splitSlash_noslash h.noslash]

theorem join_cleanRel {cs : List Bytes} (c : Bytes) (hne : cs ≠ [])
    (h : ∀ x ∈ cs ++ [c], GoodComp x) : Path.join [intercalate cs, c] = intercalate (cs ++ [c]) := by
  have hcl := clean_cleanRel ⟨cs ++ [c], by simp, h, rfl⟩
  rw [PathSpec.intercalate_append hne (by simp)] at hcl ⊢
  rwa [PathSpec.join_pair (intercalate_ne_nil hne fun x hx => h x (List.mem_append_left _ hx))
    (h c (by simp)).1]

theorem join_empty_cleanRel {c : Bytes} (h : GoodComp c) : Path.join [[], c] = c := by
  have h2 : c.isEmpty = false := by cases c <;> simp_all [GoodComp]
  simpa [join, h2, intercalate] using clean_cleanRel ⟨[c], by simp, by simpa using h, rfl⟩

theorem intercalate_injective {cs ds : List Bytes} (hc : cs ≠ []) (hd : ds ≠ [])
    (h1 : ∀ c ∈ cs, GoodComp c) (h2 : ∀ c ∈ ds, GoodComp c)
    (e : intercalate cs = intercalate ds) : cs = ds :=
  PathSpec.intercalate_inj hc hd (PathSpec.Good.slashFree h1) (PathSpec.Good.slashFree h2) e

end Dud

#print axioms Dud.comps_cleanRel
#print axioms Dud.dir_cleanRel_snoc
#print axioms Dud.dir_cleanRel_single
#print axioms Dud.splitSlash_cleanRel
#print axioms Dud.join_cleanRel
#print axioms Dud.join_empty_cleanRel
#print axioms Dud.clean_cleanRel
#print axioms Dud.intercalate_injective
