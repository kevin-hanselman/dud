import DudModel.Same
/-!
# C05 (same): `fsutil.SameContents` decides equality of contents

For every buffer size `B > 0` the loop of `same.go` answers `true` exactly when the two files have
the same bytes.  Stale buffer tails are harmless: whenever an iteration passes the `bytes.Equal`
test the two buffers are equal as a whole, so in the next iteration the tails beyond `n` are the
same on both sides and the comparison reduces to the freshly read prefixes.
-/
namespace Dud.Same

theorem eq_iff_take_drop (a b : Bytes) (n : Nat) :
    a = b ↔ a.take n = b.take n ∧ a.drop n = b.drop n := by
  constructor
  · rintro rfl; exact ⟨rfl, rfl⟩
  · rintro ⟨h1, h2⟩
    rw [← List.take_append_drop n a, ← List.take_append_drop n b, h1, h2]

/-- Loop invariant form: starting an iteration with EQUAL (arbitrary, possibly dirty) buffers and
enough fuel, the loop decides `a = b`. -/
theorem loop_eq (B : Nat) (hB : 0 < B) :
    ∀ (fuel : Nat) (bufA bufB a b : Bytes), bufA = bufB → a.length + b.length + 2 ≤ fuel →
      loop B fuel bufA bufB a b = decide (a = b) := by
  intro fuel
  induction fuel with
  | zero => intro _ _ a b _ h; omega
  | succ fuel ih =>
    intro bufA bufB a b hbuf hfuel
    subst hbuf
    simp only [loop, fileRead]
    by_cases hn : min B a.length = min B b.length
    · -- same number of bytes read on both sides
      simp only [hn]
      by_cases hpre : a.take (min B b.length) = b.take (min B b.length)
      · have hbufs : a.take (min B b.length) ++ bufA.drop (min B b.length)
            = b.take (min B b.length) ++ bufA.drop (min B b.length) := by rw [hpre]
        by_cases h0 : min B b.length = 0
        · -- both at EOF
          have hal : a.length = 0 := by omega
          have hbl : b.length = 0 := by omega
          have ha0 : a = [] := List.eq_nil_of_length_eq_zero hal
          have hb0 : b = [] := List.eq_nil_of_length_eq_zero hbl
          subst ha0; subst hb0
          simp [hB]
        · -- a full or partial chunk was read from both: go round again with equal buffers
          have hrec := ih _ _ (a.drop (min B b.length)) (b.drop (min B b.length)) hbufs
            (by simp only [List.length_drop]; omega)
          simp only [bne_self_eq_false, Bool.false_eq_true, if_false, hbufs]
          have hz : (min B b.length == 0) = false := by simp [h0]
          simp only [hz, Bool.false_and, Bool.false_eq_true, if_false]
          rw [hbufs] at hrec
          rw [hrec]
          have := eq_iff_take_drop a b (min B b.length)
          simp only [hpre, true_and] at this
          exact decide_eq_decide.mpr this.symm
      · -- the fresh prefixes differ
        have hne : a ≠ b := by
          intro h; subst h; exact hpre rfl
        have hbufs : ¬ (a.take (min B b.length) ++ bufA.drop (min B b.length)
            = b.take (min B b.length) ++ bufA.drop (min B b.length)) :=
          fun h => hpre (List.append_cancel_right h)
        simp [hbufs, hne]
    · -- different read counts
      have hne : a ≠ b := by
        intro h; subst h; exact hn rfl
      simp [hn, hne]

/-- **C05 same.**  `SameContents` (with any positive buffer size) is equality of contents. -/
theorem sameContents_eq {B : Nat} (hB : 0 < B) (a b : Bytes) :
    sameContents B a b = decide (a = b) :=
  loop_eq B hB _ _ _ a b rfl (Nat.le_refl _)

/-- The buffers may even start dirty (e.g. if they came from a pool), provided they start equal. -/
theorem sameContents_dirty {B : Nat} (hB : 0 < B) (buf a b : Bytes) :
    loop B (a.length + b.length + 2) buf buf a b = decide (a = b) :=
  loop_eq B hB _ _ _ a b rfl (Nat.le_refl _)

/-- In this read model the third test `isEndOfFileA != isEndOfFileB` is dead: once the byte counts
agree, the EOF flags agree. -/
theorem eof_agree (B : Nat) (bufA bufB a b : Bytes)
    (h : (fileRead B bufA a).n = (fileRead B bufB b).n) :
    (fileRead B bufA a).eof = (fileRead B bufB b).eof := by
  simp only [fileRead] at h ⊢; rw [h]

-- lengths differ by a multiple of B, one file a strict prefix of the other, stale tail present
example : sameContents 2 [1, 2, 3] [1, 2, 3, 0, 0] = false := by decide
example : sameContents 2 [1, 2, 3, 4, 5] [1, 2, 3] = false := by decide
-- stale byte `2` in bufA/bufB position 1 during the last iteration
example : sameContents 2 [1, 2, 3] [1, 2, 3] = true := by decide
example : sameContents 2 [1, 2, 3] [1, 2, 4] = false := by decide
example : (0 : Nat) < 2 ∧ sameContents 2 [1, 2, 3] [1, 2, 3] = decide (([1, 2, 3] : Bytes) = [1, 2, 3]) :=
  ⟨by decide, sameContents_eq (by decide) _ _⟩
-- `B > 0` is needed: with an empty buffer the loop never sees EOF (fuel runs out ⇒ `false`)
example : sameContents 0 [] [] = false := by decide
example : ∃ buf a b : Bytes, buf ≠ zeros 2 ∧ a ≠ b ∧ loop 2 (a.length + b.length + 2) buf buf a b = false :=
  ⟨[9, 9], [1, 2, 3], [1, 2, 3, 9], by decide, by decide, by decide⟩

end Dud.Same

#print axioms Dud.Same.loop_eq
#print axioms Dud.Same.sameContents_eq
#print axioms Dud.Same.sameContents_dirty
#print axioms Dud.Same.eof_agree
