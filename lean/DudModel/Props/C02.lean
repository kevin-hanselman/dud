import DudModel.Lemmas.Remote
import DudModel.Generated.Facts
import DudModel.Lemmas.Checkout
import DudModel.Lemmas.WorldTrip
import DudModel.Lemmas.CommitOk
import DudModel.Lemmas.Codec
/-!
# C02 — the cache is content-addressed and append-only

Logical level: `Consistent ctx s` (every object sits under the digest of its bytes) is an invariant
of every cache-writing operation, and `Store.le ctx s s'` (the bytes under every existing name are
kept) relates the cache before and after.  `Store.Step ctx s s'` packages both:
`Consistent s → Consistent s' ∧ Store.le s s'`.

Proved for commit on arbitrary nodes and arbitrary recorded checksums, then as frames of the
world-level stage actions, lifted through `visit` / `perTarget` to the six commands and to arbitrary
histories of successful commands; last, the regenerated facts on the on-disk layout (`commitBytes`).
-/
namespace Dud

variable {κ : Type}

/-- `commitWorker` on an arbitrary node with an arbitrary (old or fresh) child record -/
theorem commitNode_store {ctx : Ctx κ} (hg : Good ctx) (strat : Strat) (n : Node κ) (c : Child) (s : Store κ)
    {n' c' s'} (h : commitNode ctx strat n c s = .ok (n', c', s')) (hs : Consistent ctx s) :
    Consistent ctx s' ∧ Store.le ctx s s' := commitNode_step hg strat n c s h hs

theorem commitEntries_store {ctx : Ctx κ} (hg : Good ctx) (strat : Strat) (skipDirs : Bool)
    (es : List (Name × Node κ)) (old : List Child) (s : Store κ) {es' cs s'}
    (h : commitEntries ctx strat skipDirs es old s = .ok (es', cs, s')) (hs : Consistent ctx s) :
    Consistent ctx s' ∧ Store.le ctx s s' := commitEntries_step hg strat skipDirs es old s h hs

/-- `LocalCache.Commit` keeps the cache content-addressed and loses nothing -/
theorem commitArt_store {ctx : Ctx κ} (hg : Good ctx) (strat : Strat) (a : Art) (n : Option (Node κ)) (s : Store κ)
    {n' d s'} (h : commitArt ctx strat a n s = .ok (n', d, s')) (hs : Consistent ctx s) :
    Consistent ctx s' ∧ Store.le ctx s s' := commitArt_step hg strat a n s h hs

def SameCache (w w' : World κ) : Prop := w'.store = w.store ∧ w'.remote = w.remote

theorem SameCache.refl (w : World κ) : SameCache w w := ⟨rfl, rfl⟩
theorem SameCache.trans {a b c : World κ} (h1 : SameCache a b) (h2 : SameCache b c) : SameCache a c :=
  ⟨h2.1.trans h1.1, h2.2.trans h1.2⟩

def CommitRel (ctx : Ctx κ) (w w' : World κ) : Prop := w'.remote = w.remote ∧ Store.Step ctx w.store w'.store

theorem CommitRel.refl (ctx : Ctx κ) (w : World κ) : CommitRel ctx w w := ⟨rfl, .refl _ _⟩
theorem CommitRel.trans {ctx : Ctx κ} {a b c : World κ} (h1 : CommitRel ctx a b) (h2 : CommitRel ctx b c) :
    CommitRel ctx a c := ⟨h2.1.trans h1.1, h1.2.trans h2.2⟩

theorem commitArts_rel {cfg : Cfg κ} (hg : Good cfg.ctx) {strat : Strat} {as as' : List Art} {w w' : World κ}
    (h : commitArts cfg strat as w = .ok (as', w')) : CommitRel cfg.ctx w w' :=
  ⟨by rw [(WT.commitArts_world h).1], WT.commitArts_step hg h⟩

theorem commitAct_store {cfg : Cfg κ} (hg : Good cfg.ctx) (strat : Strat) (sp : Bytes) (w w' : World κ)
    (h : commitAct cfg strat sp w = .ok w') : CommitRel cfg.ctx w w' := by
  obtain ⟨stg, hs⟩ := WStat.commitAct_stage h
  obtain ⟨pl, w1, outs, w2, h1, h2, rfl⟩ := WStat.commitAct_inv hs h
  exact (commitArts_rel hg h1).trans (b := w1) (commitArts_rel hg h2 : CommitRel _ w1 w2)

/-- checkout reads the cache only -/
theorem checkoutAct_store (cfg : Cfg κ) (strat : Strat) (sp : Bytes) (w w' : World κ)
    (h : checkoutAct cfg strat sp w = .ok w') : SameCache w w' := by
  rw [checkoutAct_world h]
  exact ⟨rfl, rfl⟩

/-- status reads the cache only -/
theorem statusAct_store [DecidableEq κ] (cfg : Cfg κ) (sp : Bytes) (w w' : World κ)
    (h : statusAct cfg sp w = .ok w') : SameCache w w' := by
  obtain ⟨_, _, -, -, rfl⟩ := statusAct_inv h
  exact ⟨rfl, rfl⟩

/-- the stage command leaves both caches alone (hypothesis on the interpretation of commands) -/
def ExecFrame (exec : Exec κ) : Prop :=
  ∀ stg w w', exec stg w = .ok w' → w'.store = w.store ∧ w'.remote = w.remote

/-- run itself never writes the cache -/
theorem runAct_store [DecidableEq κ] (cfg : Cfg κ) (exec : Exec κ) (hexec : ExecFrame exec) (r : Bool)
    (sp : Bytes) (w w' : World κ) (h : runAct cfg exec r sp w = .ok w') : SameCache w w' := by
  obtain ⟨w1, _, _, hw, rfl⟩ := runAct_cases h
  rcases hw with rfl | ⟨stg, he⟩
  · exact ⟨rfl, rfl⟩
  · exact hexec stg w w1 he

theorem cmdCommit_rel {cfg : Cfg κ} (hg : Good cfg.ctx) (strat : Strat) (targets : List Bytes) (w w' : World κ)
    (h : cmdCommit cfg strat targets w = .ok w') : CommitRel cfg.ctx w w' :=
  runTargets_keeps (CommitRel cfg.ctx w) (fun sp a b ha hb => ha.trans (commitAct_store hg strat sp a b hb))
    (.refl _ w) (cmdCommit_ok_iff.1 h).2

theorem cmdCheckout_rel (cfg : Cfg κ) (strat : Strat) (single : Bool) (targets : List Bytes) (w w' : World κ)
    (h : cmdCheckout cfg strat single targets w = .ok w') : SameCache w w' :=
  runTargets_keeps (SameCache w) (fun sp a b ha hb => ha.trans (checkoutAct_store cfg strat sp a b hb))
    (.refl w) (cmdCheckout_ok_iff.1 h).2

theorem cmdStatus_rel [DecidableEq κ] (cfg : Cfg κ) (targets : List Bytes) (w w' : World κ)
    (h : cmdStatus cfg targets w = .ok w') : SameCache w w' :=
  runTargets_keeps (SameCache w) (fun sp a b ha hb => ha.trans (statusAct_store cfg sp a b hb))
    (.refl w) (cmdStatus_ok_iff.1 h).2

theorem cmdRun_rel [DecidableEq κ] (cfg : Cfg κ) (exec : Exec κ) (hexec : ExecFrame exec) (single : Bool)
    (targets : List Bytes) (w w' : World κ) (h : cmdRun cfg exec single targets w = .ok w') : SameCache w w' :=
  runTargets_keeps (SameCache w) (fun sp a b ha hb => ha.trans (runAct_store cfg exec hexec _ sp a b hb))
    (.refl w) (cmdRun_ok_iff.1 h).2

/-- both caches are content-addressed -/
def CacheWF (ctx : Ctx κ) (w : World κ) : Prop := Consistent ctx w.store ∧ Consistent ctx w.remote

/-- nothing was lost from either cache -/
def CacheLe (ctx : Ctx κ) (w w' : World κ) : Prop :=
  Store.le ctx w.store w'.store ∧ Store.le ctx w.remote w'.remote

theorem CacheLe.refl (ctx : Ctx κ) (w : World κ) : CacheLe ctx w w := ⟨Store.le_refl _ _, Store.le_refl _ _⟩
theorem CacheLe.trans {ctx : Ctx κ} {a b c : World κ} (h1 : CacheLe ctx a b) (h2 : CacheLe ctx b c) :
    CacheLe ctx a c := ⟨Store.le_trans h1.1 h2.1, Store.le_trans h1.2 h2.2⟩

theorem SameCache.cache {ctx : Ctx κ} {w w' : World κ} (h : SameCache w w') (hw : CacheWF ctx w) :
    CacheWF ctx w' ∧ CacheLe ctx w w' := by
  obtain ⟨h1, h2⟩ := h
  refine ⟨⟨h1 ▸ hw.1, h2 ▸ hw.2⟩, ?_, ?_⟩
  · rw [h1]; exact Store.le_refl _ _
  · rw [h2]; exact Store.le_refl _ _

/-- `dud commit`: local cache stays content-addressed and only grows; the remote is not touched -/
theorem cmdCommit_cache {cfg : Cfg κ} (hg : Good cfg.ctx) (strat : Strat) (targets : List Bytes) (w w' : World κ)
    (h : cmdCommit cfg strat targets w = .ok w') (hw : CacheWF cfg.ctx w) :
    CacheWF cfg.ctx w' ∧ CacheLe cfg.ctx w w' ∧ w'.remote = w.remote := by
  obtain ⟨h1, h2⟩ := cmdCommit_rel hg strat targets w w' h
  obtain ⟨c, l⟩ := h2 hw.1
  refine ⟨⟨c, h1 ▸ hw.2⟩, ⟨l, ?_⟩, h1⟩
  rw [h1]; exact Store.le_refl _ _

theorem cmdCheckout_cache (cfg : Cfg κ) (strat : Strat) (single : Bool) (targets : List Bytes) (w w' : World κ)
    (h : cmdCheckout cfg strat single targets w = .ok w') (hw : CacheWF cfg.ctx w) :
    CacheWF cfg.ctx w' ∧ CacheLe cfg.ctx w w' ∧ w'.store = w.store ∧ w'.remote = w.remote :=
  have hs := cmdCheckout_rel cfg strat single targets w w' h
  ⟨(hs.cache hw).1, (hs.cache hw).2, hs⟩

theorem cmdStatus_cache [DecidableEq κ] (cfg : Cfg κ) (targets : List Bytes) (w w' : World κ)
    (h : cmdStatus cfg targets w = .ok w') (hw : CacheWF cfg.ctx w) :
    CacheWF cfg.ctx w' ∧ CacheLe cfg.ctx w w' ∧ w'.store = w.store ∧ w'.remote = w.remote :=
  have hs := cmdStatus_rel cfg targets w w' h
  ⟨(hs.cache hw).1, (hs.cache hw).2, hs⟩

theorem cmdRun_cache [DecidableEq κ] (cfg : Cfg κ) (exec : Exec κ) (hexec : ExecFrame exec) (single : Bool)
    (targets : List Bytes) (w w' : World κ) (h : cmdRun cfg exec single targets w = .ok w')
    (hw : CacheWF cfg.ctx w) :
    CacheWF cfg.ctx w' ∧ CacheLe cfg.ctx w w' ∧ w'.store = w.store ∧ w'.remote = w.remote :=
  have hs := cmdRun_rel cfg exec hexec single targets w w' h
  ⟨(hs.cache hw).1, (hs.cache hw).2, hs⟩

/-- `dud push`: the local cache is not touched; the remote keeps every object verbatim -/
theorem cmdPush_cache (cfg : Cfg κ) (single : Bool) (targets : List Bytes) (w w' : World κ)
    (h : cmdPush cfg single targets w = .ok w') (hw : CacheWF cfg.ctx w) :
    CacheWF cfg.ctx w' ∧ CacheLe cfg.ctx w w' ∧ w'.store = w.store ∧
      (∀ d o, w.remote.get d = some o → w'.remote.get d = some o) := by
  have hle := cmdPush_le h
  refine ⟨⟨hle.store ▸ hw.1, hle.fed.consistent hw.2 hw.1⟩, ⟨?_, hle.fed.ext.le _⟩, hle.store, hle.fed.ext⟩
  rw [hle.store]; exact Store.le_refl _ _

/-- `dud fetch`: the remote is not touched; the local cache keeps every object verbatim -/
theorem cmdFetch_cache (cfg : Cfg κ) (single : Bool) (targets : List Bytes) (w w' : World κ)
    (h : cmdFetch cfg single targets w = .ok w') (hw : CacheWF cfg.ctx w) :
    CacheWF cfg.ctx w' ∧ CacheLe cfg.ctx w w' ∧ w'.remote = w.remote ∧
      (∀ d o, w.store.get d = some o → w'.store.get d = some o) := by
  have hle := cmdFetch_le h
  refine ⟨⟨hle.fed.consistent hw.1 hw.2, hle.remote ▸ hw.2⟩, ⟨hle.fed.ext.le _, ?_⟩, hle.remote, hle.fed.ext⟩
  rw [hle.remote]; exact Store.le_refl _ _

inductive Cmd where
  | commit (strat : Strat) (targets : List Bytes)
  | checkout (strat : Strat) (single : Bool) (targets : List Bytes)
  | status (targets : List Bytes)
  | run (single : Bool) (targets : List Bytes)
  | push (single : Bool) (targets : List Bytes)
  | fetch (single : Bool) (targets : List Bytes)
deriving Repr

def Cmd.apply [DecidableEq κ] (cfg : Cfg κ) (exec : Exec κ) : Cmd → World κ → Except Err (World κ)
  | .commit strat ts, w => cmdCommit cfg strat ts w
  | .checkout strat single ts, w => cmdCheckout cfg strat single ts w
  | .status ts, w => cmdStatus cfg ts w
  | .run single ts, w => cmdRun cfg exec single ts w
  | .push single ts, w => cmdPush cfg single ts w
  | .fetch single ts, w => cmdFetch cfg single ts w

/-- a history: every command must succeed -/
def Cmd.applyAll [DecidableEq κ] (cfg : Cfg κ) (exec : Exec κ) : List Cmd → World κ → Except Err (World κ)
  | [], w => .ok w
  | c :: r, w => match c.apply cfg exec w with
    | .error e => .error e
    | .ok w' => Cmd.applyAll cfg exec r w'

theorem Cmd.apply_cache [DecidableEq κ] {cfg : Cfg κ} (hg : Good cfg.ctx) (exec : Exec κ) (hexec : ExecFrame exec)
    (c : Cmd) (w w' : World κ) (h : c.apply cfg exec w = .ok w') (hw : CacheWF cfg.ctx w) :
    CacheWF cfg.ctx w' ∧ CacheLe cfg.ctx w w' := by
  cases c with
  | commit strat ts => exact (cmdCommit_cache hg strat ts w w' h hw).imp_right (·.1)
  | checkout strat single ts => exact (cmdCheckout_cache cfg strat single ts w w' h hw).imp_right (·.1)
  | status ts => exact (cmdStatus_cache cfg ts w w' h hw).imp_right (·.1)
  | run single ts => exact (cmdRun_cache cfg exec hexec single ts w w' h hw).imp_right (·.1)
  | push single ts => exact (cmdPush_cache cfg single ts w w' h hw).imp_right (·.1)
  | fetch single ts => exact (cmdFetch_cache cfg single ts w w' h hw).imp_right (·.1)

/-- **append-only over histories of commands**: if every command of a list of `dud commit / checkout /
status / run / push / fetch` invocations succeeds when they are run one after the other
(`Cmd.applyAll` stops at the first error; edits of the workspace or of the index between commands
are not part of a history), both caches are still content-addressed afterwards and hold, under every
name they held at the start, the same bytes -/
theorem history_preserves_cacheWF [DecidableEq κ] {cfg : Cfg κ} (hg : Good cfg.ctx) (exec : Exec κ)
    (hexec : ExecFrame exec) : ∀ (cs : List Cmd) (w w' : World κ),
      Cmd.applyAll cfg exec cs w = .ok w' → CacheWF cfg.ctx w → CacheWF cfg.ctx w' ∧ CacheLe cfg.ctx w w' := by
  intro cs
  induction cs with
  | nil =>
    intro w w' h hw
    simp only [Cmd.applyAll, Except.ok.injEq] at h
    subst h
    exact ⟨hw, .refl _ _⟩
  | cons c r ih =>
    intro w w' h hw
    rw [Cmd.applyAll] at h
    split at h
    · cases h
    rename_i w1 h1
    obtain ⟨a1, a2⟩ := Cmd.apply_cache hg exec hexec c w w1 h1 hw
    obtain ⟨b1, b2⟩ := ih w1 w' h a1
    exact ⟨b1, a2.trans b2⟩

/-- in particular a freshly initialised project (both caches empty) never leaves the invariant -/
theorem history_from_empty [DecidableEq κ] {cfg : Cfg κ} (hg : Good cfg.ctx) (exec : Exec κ)
    (hexec : ExecFrame exec) (cs : List Cmd) (w w' : World κ) (hs : w.store = []) (hr : w.remote = [])
    (h : Cmd.applyAll cfg exec cs w = .ok w') : CacheWF cfg.ctx w' :=
  (history_preserves_cacheWF hg exec hexec cs w w' h ⟨hs ▸ Consistent.nil _, hr ▸ Consistent.nil _⟩).1

theorem cache_layout_facts :
    Dud.Facts.cacheFilePerms = 0o444 ∧ Dud.Facts.pathSplitHead = 2 ∧ Dud.Facts.pathSplitTail = 2 ∧
    Dud.Facts.minChecksumLen = 3 ∧
    Dud.Facts.commitBytesOrder =
      ["os.CreateTemp", "os.Remove", "checksum.Checksum", "os.MkdirAll", "os.Rename", "os.Chmod"] ∧
    -- the temp file is created in the cache's own directory; what is renamed is the caller's file or that temp file, the
    -- target (and what is made read-only) derives from PathForChecksum applied to the result of checksum.Checksum
    -- ("derives from": flow-insensitive, looking through same-package helpers; tools/factgen/deep.go)
    Dud.Facts.commitTempDir = "$recv,field:dir" ∧
    Dud.Facts.commitRenameArgs =
      "src:$param1,$recv,call:os.CreateTemp;dst:$recv,call:PathForChecksum,call:checksum.Checksum,call:os.CreateTemp" ∧
    Dud.Facts.commitChmodArgs = "$recv,call:PathForChecksum,call:checksum.Checksum,call:os.CreateTemp;cacheFilePerms" :=
  ⟨rfl, rfl, rfl, rfl, rfl, rfl, rfl, rfl⟩

/-! The theorems above are not vacuous: over the context `ToyGood.ctx` of `Lemmas/Codec.lean`
(`ToyGood.good : Good ctx`) a history of all six commands runs. -/
namespace ToyGood

def exec : Exec String := fun _ w => .ok w
theorem exec_frame : ExecFrame exec := by
  intro stg w w' h
  simp only [exec, Except.ok.injEq] at h
  subst h
  exact ⟨rfl, rfl⟩

def w0 : World String :=
  { ws := .dir [([100], .file "data")], idx := [([1], { cmd := [1], outputs := [{ path := [100] }] })] }

def hist : List Cmd :=
  [.commit .copy [], .push false [], .status [], .run false [], .fetch false [], .commit .link [],
   .checkout .link false []]

/-- a history using all six commands succeeds from the empty caches and ends content-addressed -/
example : ∃ w', Cmd.applyAll cfg exec hist w0 = .ok w' ∧ CacheWF ctx w' ∧ w'.store.has "abcdata" = true ∧
    w'.remote.has "abcdata" = true := by
  obtain ⟨w', hw, h1, h2⟩ : ∃ w', Cmd.applyAll cfg exec hist w0 = .ok w' ∧ w'.store.has "abcdata" = true ∧
      w'.remote.has "abcdata" = true := ⟨_, rfl, rfl, rfl⟩
  exact ⟨w', hw, history_from_empty (cfg := cfg) good exec exec_frame hist w0 w' rfl rfl hw, h1, h2⟩

def s0 : Store String := [("abcx", .blob "x")]
def tree : Node String := .dir [([2], .file "x"), ([3], .dir [([4], .file "x")])]

/-- a directory commit over a cache that already holds one of the objects (the `put` replaces an
existing binding): the premises of `commitArt_store` are satisfiable and the conclusion applies -/
example : ∃ n d s', commitArt ctx .link { path := [1], isDir := true } (some tree) s0 = .ok (n, d, s') ∧
      Consistent ctx s' ∧ Store.le ctx s0 s' := by
  obtain ⟨r, hr⟩ : ∃ r, commitArt ctx .link { path := [1], isDir := true } (some tree) s0 = .ok r := ⟨_, rfl⟩
  obtain ⟨n, d, s'⟩ := r
  have hc : Consistent ctx s0 := (Consistent.nil ctx).put (.blob "x")
  exact ⟨n, d, s', hr, commitArt_store good .link _ _ _ hr hc⟩

end ToyGood

/-- `Good.inj` is needed: with a colliding hash a commit replaces the bytes stored under a name -/
example : ∃ (ctx : Ctx String) (s s' : Store String) (n : Node String) (d : Digest),
    Consistent ctx s ∧ commitFile ctx .copy false (some (.file "y")) "" s = .ok (n, d, s') ∧ ¬ Store.le ctx s s' := by
  refine ⟨{ ToyGood.ctx with H := fun _ => "abc" }, [("abc", .blob "x")], _, _, _, ?_, rfl, ?_⟩
  · exact (Consistent.nil _).put (.blob "x")
  · intro h
    obtain ⟨o', h1, h2⟩ := h "abc" (.blob "x") rfl
    have : o' = .blob "y" := by
      have h3 : some (Obj.blob "y") = some o' := h1
      injection h3 with h3
      exact h3.symm
    subst this
    exact absurd h2 (by decide)

/-- the hypothesis `Consistent ctx w.remote` of `cmdFetch_cache` (`Store.Fed.consistent`) is needed: fetch
does not hash what it downloads, so a remote holding other bytes under a name puts them, under that
name, into a (previously consistent, here empty) local cache -/
example : ∃ loc', fetchFix ToyGood.ctx [("abcx", .blob "y")] 5 [] [⟨[], "abcx", false⟩] = .ok loc' ∧
    ¬ Consistent ToyGood.ctx loc' := by
  refine ⟨[("abcx", .blob "y")], rfl, ?_⟩
  intro h
  exact absurd (h "abcx" (.blob "y") rfl) (by decide)

#print axioms commitFile_cases
#print axioms commitNode_step
#print axioms commitEntries_step
#print axioms commitNode_store
#print axioms commitEntries_store
#print axioms commitArt_step
#print axioms commitArt_store
#print axioms commitArts_rel
#print axioms commitAct_store
#print axioms checkoutAct_store
#print axioms statusAct_store
#print axioms runAct_store
#print axioms visitAll_keeps
#print axioms visit_keeps
#print axioms perTarget_keeps
#print axioms cmdCommit_rel
#print axioms cmdCheckout_rel
#print axioms cmdStatus_rel
#print axioms cmdRun_rel
#print axioms cmdCommit_cache
#print axioms cmdCheckout_cache
#print axioms cmdStatus_cache
#print axioms cmdRun_cache
#print axioms cmdPush_cache
#print axioms cmdFetch_cache
#print axioms Cmd.apply_cache
#print axioms history_preserves_cacheWF
#print axioms history_from_empty
#print axioms ToyGood.good
#print axioms cache_layout_facts

end Dud
