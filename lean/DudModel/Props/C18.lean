import DudModel.Lemmas.CrashTree
import DudModel.Lemmas.CheckoutTrace
import DudModel.Lemmas.Codec
/-!
# C18 — dud never writes outside the project, its cache and its config

Every path of a trace is a canonical class `P` (`DudModel/Sys.lean`).  The classes of the cache, the
lock, the index and the temp files denote fixed places inside the cache directory, the `.dud`
directory or next to them.  The class the theorems are about is `.ws rel` — a path relative to the
project root — which escapes when `rel` contains a component that is empty, `.`, `..` or contains
`/`.  Left out: `.stageFile rel` / `.stageTmp rel` carry the path of a stage file as the index
records it; `Confined` accepts every such path, and neither `Stage.Validate` nor `index.FromFile`
restricts it (a line `../s.yaml` of `.dud/index` makes `dud commit` rewrite that file:
`cmd/commit.go`, `idx[path].ToFile(path)`).

* `commit_paths_confined`: every workspace path of the traced commit is `pre` followed by entry
  names of the tree, every other path is a cache/temp class; hence `commit_paths_safe`.
* `readManifest_safe`: `readManifest` validates entry names (`entryNameOK`), so every child name it
  returns is a single safe component.
* `checkout_paths_confined`: all workspace paths of the traced checkout are safe and below `pre`, by
  induction on its `CheckoutTrace` (`CheckoutTrace.confined`); `checkout_paths_confined_partial` states
  the validation of the manifests as a hypothesis.
* `manifest_entry_rejected` (witness): a manifest with a child named `../../x` is rejected with
  `badManifest`, by `readManifest` and by the traced checkout, before anything is written.
-/
namespace Dud.Sys

open Dud

variable {κ : Type}

/-- a single, harmless path component -/
def SafeComp (c : Name) : Prop :=
  c ≠ [] ∧ c ≠ [0x2E] ∧ c ≠ [0x2E, 0x2E] ∧ (0x2F : UInt8) ∉ c

/-- a relative path all of whose components are harmless: it stays below the project root -/
def SafeRel (rel : List Name) : Prop := ∀ c ∈ rel, SafeComp c

instance (c : Name) : Decidable (SafeComp c) := by unfold SafeComp; infer_instance

/-- `entryNameOK` (the check of `readManifest`) is exactly `SafeComp` -/
theorem safeComp_iff_entryNameOK (c : Name) : SafeComp c ↔ entryNameOK c = true := by
  simp [SafeComp, entryNameOK, and_assoc]

theorem SafeRel.append {a b : List Name} (ha : SafeRel a) (hb : SafeRel b) : SafeRel (a ++ b) := by
  intro c hc
  rcases List.mem_append.1 hc with h | h
  · exact ha c h
  · exact hb c h

/-- a workspace path must be a safe relative path; every other class counts as inside the project /
cache / config (for `.stageFile` / `.stageTmp` this is not checked: see the head comment) -/
def Confined : P → Prop
  | .ws rel => SafeRel rel
  | _ => True

theorem CommitTrace.confined {t : TCfg κ} {pre : List Name} {nd nd' : Node κ} {full : Bool} {n n' : Nat}
    {calls : List (Call κ)} (h : CommitTrace t pre nd nd' full n n' calls) :
    ∀ call ∈ calls, ∀ p ∈ callPaths call,
      (∃ names, p = .ws (pre ++ names) ∧ ∀ x ∈ names, x ∈ allNames nd) ∨
      (∃ k, p = .ctmp k ∧ n ≤ k ∧ k < n') ∨ (∃ hh, p = .shard hh) ∨ (∃ d, p = .obj d) := by
  intro call hcall p hp
  have hf := h.foot.2 call hcall p hp
  cases p with
  | ws q =>
    simp only [InFoot, paths, List.mem_map] at hf
    obtain ⟨p', hp', heq⟩ := hf
    obtain ⟨names, hn, hall⟩ := trackedOf_names nd pre p' hp'
    exact Or.inl ⟨names, by rw [← heq, hn], hall⟩
  | ctmp k => exact Or.inr (Or.inl ⟨k, rfl, hf.1, hf.2⟩)
  | shard hh => exact Or.inr (Or.inr (Or.inl ⟨hh, rfl⟩))
  | obj d => exact Or.inr (Or.inr (Or.inr ⟨d, rfl⟩))
  | _ => simp [InFoot] at hf

/-- **Paths of the traced commit.**  Workspace paths are `pre` followed by entry names of the tree;
everything else is a temp file in the cache root, a shard directory or an object. -/
theorem commit_paths_confined (t : TCfg κ) {nd : Node κ} {pre : List Name} {c : Child} {s : Store κ}
    {n : Nat} {res : Node κ × Child × Store κ} {calls : List (Call κ)} {n' : Nat}
    (h : commitNodeT t pre nd c s n = .ok (res, calls, n')) :
    ∀ call ∈ calls, ∀ p ∈ callPaths call,
      (∃ names, p = .ws (pre ++ names) ∧ ∀ x ∈ names, x ∈ allNames nd) ∨
      (∃ k, p = .ctmp k ∧ n ≤ k ∧ k < n') ∨ (∃ hh, p = .shard hh) ∨ (∃ d, p = .obj d) :=
  (commitNodeT_trace t nd h).confined

theorem commitEntries_paths_confined (t : TCfg κ) {es : List (Name × Node κ)} {pre : List Name}
    {skipDirs : Bool} {old : List Child} {s : Store κ} {n : Nat}
    {res : List (Name × Node κ) × List Child × Store κ} {calls : List (Call κ)} {n' : Nat}
    (h : commitEntriesT t pre skipDirs es old s n = .ok (res, calls, n')) :
    ∀ call ∈ calls, ∀ p ∈ callPaths call,
      (∃ names, p = .ws (pre ++ names) ∧ ∀ x ∈ names, x ∈ allNamesList es) ∨
      (∃ k, p = .ctmp k ∧ n ≤ k ∧ k < n') ∨ (∃ hh, p = .shard hh) ∨ (∃ d, p = .obj d) :=
  (commitEntriesT_trace t es h).confined

/-- If the artifact path and all entry names are single safe components, commit stays inside. -/
theorem commit_paths_safe (t : TCfg κ) {nd : Node κ} {pre : List Name} {c : Child} {s : Store κ}
    {n : Nat} {res : Node κ × Child × Store κ} {calls : List (Call κ)} {n' : Nat}
    (h : commitNodeT t pre nd c s n = .ok (res, calls, n'))
    (hpre : SafeRel pre) (hnames : ∀ x ∈ allNames nd, SafeComp x) :
    ∀ call ∈ calls, ∀ p ∈ callPaths call, Confined p := by
  intro call hcall p hp
  rcases commit_paths_confined t h call hcall p hp with
    ⟨names, rfl, hall⟩ | ⟨k, rfl, -⟩ | ⟨hh, rfl⟩ | ⟨d, rfl⟩
  · exact hpre.append (fun x hx => hnames x (hall x hx))
  all_goals trivial

/-- the whole `LocalCache.Commit`: MkdirAll(cache) and the rename probe add the cache root and the
two probe temp files -/
theorem commitArt_paths_confined (t : TCfg κ) {a : Art} {pre : List Name} {nd : Node κ} {s : Store κ}
    {res : Node κ × Digest × Store κ} {calls : List (Call κ)}
    (h : commitArtT t a pre (some nd) s = .ok (res, calls)) :
    ∀ call ∈ calls, ∀ p ∈ callPaths call,
      (∃ names, p = .ws (pre ++ names) ∧ ∀ x ∈ names, x ∈ allNames nd) ∨
      (∃ k, p = .ctmp k) ∨ (∃ hh, p = .shard hh) ∨ (∃ d, p = .obj d) ∨ p = .cacheRoot ∨ p = .wtmp 0 := by
  intro call hcall p hp
  obtain ⟨nd0, calls1, n', hnd, rfl, hct⟩ := commitArtT_trace h
  cases hnd
  rcases List.mem_append.1 hcall with hc | hc
  · rcases headCalls_paths call hc p hp with rfl | rfl | rfl
    · simp
    · simp
    · exact .inr (.inl ⟨0, rfl⟩)
  · rcases hct.confined call hc p hp with h | ⟨k, rfl, -⟩ | h | h
    · exact .inl h
    · exact .inr (.inl ⟨k, rfl⟩)
    · exact .inr (.inr (.inl h))
    · exact .inr (.inr (.inr (.inl h)))

theorem commitArt_paths_safe (t : TCfg κ) {a : Art} {pre : List Name} {nd : Node κ} {s : Store κ}
    {res : Node κ × Digest × Store κ} {calls : List (Call κ)}
    (h : commitArtT t a pre (some nd) s = .ok (res, calls))
    (hpre : SafeRel pre) (hnames : ∀ x ∈ allNames nd, SafeComp x) :
    ∀ call ∈ calls, ∀ p ∈ callPaths call, Confined p := by
  intro call hcall p hp
  rcases commitArt_paths_confined t h call hcall p hp with
    ⟨names, rfl, hall⟩ | ⟨k, rfl⟩ | ⟨hh, rfl⟩ | ⟨d, rfl⟩ | rfl | rfl
  · exact hpre.append (fun x hx => hnames x (hall x hx))
  all_goals trivial

/-- where a traced checkout below `pre` may write: safe workspace paths below `pre`, and objects
(mentioned as link targets) -/
def CoOK (pre : List Name) (p : P) : Prop :=
  (∃ rel, p = .ws rel ∧ pre <+: rel ∧ SafeRel rel) ∨ ∃ d, p = .obj d

theorem CoOK.up {pre : List Name} {nm : Name} {p : P} (h : CoOK (pre ++ [nm]) p) : CoOK pre p := by
  rcases h with ⟨rel, rfl, hpre, hs⟩ | h
  · exact Or.inl ⟨rel, rfl, List.IsPrefix.trans (List.prefix_append pre [nm]) hpre, hs⟩
  · exact Or.inr h

/-- **Manifests are validated on read**: every entry name `readManifest` returns is a single safe
component. -/
theorem readManifest_safe {ctx : Ctx κ} {s : Store κ} {d : Digest} {cs : List Child}
    (h : readManifest ctx s d = .ok cs) : ∀ c ∈ cs, SafeComp c.name :=
  fun c hc => (safeComp_iff_entryNameOK c.name).2 (readManifest_childrenOK h c hc)

/-- Every workspace path of a traced checkout is a safe relative path below `pre`; the only other paths
are objects.  The entry names come from manifests and are safe by `readManifest_safe`.  (`hcs` asks for
safe names in the loop form only: with `full = true` the name of the one entry is not joined to `pre`,
the caller has done that.) -/
theorem CheckoutTrace.confined {t : TCfg κ} {s : Store κ}
    {pre : List Name} {cs : List Child} {cur : Option (Node κ)} {r : Node κ} {full : Bool}
    {calls : List (Call κ)} (h : CheckoutTrace t s pre cs cur r full calls) (hpre : SafeRel pre)
    (hcs : full = false → ∀ c ∈ cs, SafeComp c.name) :
    ∀ call ∈ calls, ∀ p ∈ callPaths call, CoOK pre p := by
  have self : ∀ {pre : List Name}, SafeRel pre → CoOK pre (.ws pre) :=
    fun hpre => Or.inl ⟨_, rfl, List.prefix_refl _, hpre⟩
  induction h with
  | file _ hF =>
    rcases checkoutFileT_calls hF with rfl | ⟨b, x, rfl⟩
    · exact fun _ hc => nomatch hc
    · intro call hcall p hp
      rcases checkoutFileCalls_paths _ _ _ _ _ _ call hcall p hp with rfl | rfl
      · exact self hpre
      · exact Or.inr ⟨_, rfl⟩
  | dir _ hm _ ih => exact ih hpre (fun _ => readManifest_safe hm)
  | mkdir _ hm _ ih =>
    refine List.forall_mem_cons.2 ⟨fun p hp => ?_, ih hpre (fun _ => readManifest_safe hm)⟩
    cases List.mem_singleton.1 hp
    exact self hpre
  | nil => exact fun _ hc => nomatch hc
  | cons _ _ ih1 ih2 =>
    have hc := hcs rfl
    intro call hcall p hp
    rcases List.mem_append.1 hcall with h | h
    · exact (ih1 (hpre.append fun x hx => List.mem_singleton.1 hx ▸ hc _ List.mem_cons_self)
        (fun h => nomatch h) call h p hp).up
    · exact ih2 hpre (fun _ c' hc' => hc c' (List.mem_cons_of_mem _ hc')) call h p hp

/-- **Paths of the traced checkout.**  Every workspace path of the traced checkout is a safe
relative path below `pre`; the only other paths are objects. -/
theorem checkout_paths_confined {t : TCfg κ} {s : Store κ}
    (fuel : Nat) (pre : List Name) (cur : Option (Node κ)) (c : Child) (r : Node κ)
    (calls : List (Call κ)) (hpre : SafeRel pre)
    (h : checkoutNodeT t s fuel pre cur c = .ok (r, calls)) :
    ∀ call ∈ calls, ∀ p ∈ callPaths call, CoOK pre p :=
  (checkoutNodeT_trace fuel h).confined hpre (fun h => nomatch h)

/-- the same with the validation of the manifests as a hypothesis, which `readManifest_safe` provides for
every store -/
theorem checkout_paths_confined_partial {t : TCfg κ} {s : Store κ}
    (_ : ∀ d cs, readManifest t.ctx s d = .ok cs → ∀ c ∈ cs, SafeComp c.name) :
    ∀ (fuel : Nat) (pre : List Name) (cur : Option (Node κ)) (c : Child) (r : Node κ)
      (calls : List (Call κ)), SafeRel pre → checkoutNodeT t s fuel pre cur c = .ok (r, calls) →
      ∀ call ∈ calls, ∀ p ∈ callPaths call, CoOK pre p :=
  checkout_paths_confined

/-- in particular every path of the traced checkout is confined -/
theorem checkout_paths_safe {t : TCfg κ} {s : Store κ}
    {fuel : Nat} {pre : List Name} {cur : Option (Node κ)} {c : Child} {r : Node κ}
    {calls : List (Call κ)} (hpre : SafeRel pre)
    (h : checkoutNodeT t s fuel pre cur c = .ok (r, calls)) :
    ∀ call ∈ calls, ∀ p ∈ callPaths call, Confined p := by
  intro call hcall p hp
  rcases checkout_paths_confined fuel pre cur c r calls hpre h call hcall p hp with
    ⟨rel, rfl, -, hs⟩ | ⟨d, rfl⟩
  · exact hs
  · trivial

/-- the one-entry store used by the witness: a manifest with a single file entry named `nm`, and
the payload it points to, each under its own digest -/
def escStore (ctx : Ctx κ) (path nm : Name) (payload : κ) : Store κ :=
  [((Obj.man .new path [⟨nm, ctx.H payload, false⟩] : Obj κ).digest ctx,
      .man .new path [⟨nm, ctx.H payload, false⟩]),
   (ctx.H payload, .blob payload)]

theorem escStore_consistent (ctx : Ctx κ) (path nm : Name) (payload : κ) :
    Consistent ctx (escStore ctx path nm payload) := by
  intro d o h
  simp only [escStore, Store.get, alookup, beq_iff_eq] at h
  split at h
  · next hd => cases h; exact hd
  · split at h
    · next hd => cases h; exact hd
    · cases h

/-- Whatever the *valid* entry name `nm` of the manifest, checking out the directory at `pre` into
an empty place writes to `pre ++ [nm]` — the name is joined as is (which is harmless, the name being
a single safe component; invalid names: `checkout_rejects_entry_name`). -/
theorem checkout_writes_entry_name (t : TCfg κ) (g : Good t.ctx) (path nm : Name) (payload : κ)
    (pre : List Name) (hrel : ∀ c, t.ctx.reload .new c = c) (hnm : entryNameOK nm = true)
    (hne : (Obj.man .new path [⟨nm, t.ctx.H payload, false⟩] : Obj κ).digest t.ctx ≠ t.ctx.H payload) :
    ∃ r calls, checkoutNodeT t (escStore t.ctx path nm payload) 2 pre none
        ⟨path, (Obj.man .new path [⟨nm, t.ctx.H payload, false⟩] : Obj κ).digest t.ctx, true⟩ = .ok (r, calls) ∧
      ∃ call ∈ calls, P.ws (pre ++ [nm]) ∈ callWrites call := by
  generalize hdm : (Obj.man .new path [⟨nm, t.ctx.H payload, false⟩] : Obj κ).digest t.ctx = dm at hne
  have hs1 : hasSum dm = true := by rw [← hdm]; exact hasSum_H g _
  have hs2 : hasSum (t.ctx.H payload) = true := hasSum_H g payload
  have hg1 : (escStore t.ctx path nm payload).get dm
      = some (.man .new path [⟨nm, t.ctx.H payload, false⟩]) := by
    simp [escStore, Store.get, alookup, hdm]
  have hg2 : (escStore t.ctx path nm payload).get (t.ctx.H payload) = some (.blob payload) := by
    simp [escStore, Store.get, alookup, hdm, hne]
  generalize escStore t.ctx path nm payload = s at hg1 hg2
  have hrm : readManifest t.ctx s dm = .ok [⟨nm, t.ctx.H payload, false⟩] := by
    simp [readManifest, hg1, hrel, hnm]
  have hfile : ∃ r, checkoutFileT t (.ws (pre ++ [nm])) none (t.ctx.H payload) s =
      .ok (r, checkoutFileCalls t.isEmp t.strat (.ws (pre ++ [nm])) false payload (t.ctx.H payload)) := by
    have hq : quick s (t.ctx.H payload) (none : Option (Node κ)) =
        { has := true, inCache := true, ws := .absent, cm := false } := by
      simp [quick, hs2, Store.has, hg2, wsOf]
    have hcf : ∃ r, checkoutFile t.ctx t.strat none (t.ctx.H payload) s = .ok r := by
      cases hst : t.strat <;> simp [checkoutFile, hq, hg2, upToDateCopy, Obj.bytes]
    obtain ⟨r, hr⟩ := hcf
    exact ⟨r, by simp [checkoutFileT, hr, upToDateCopy, hg2, hq, Obj.bytes]⟩
  obtain ⟨r1, hr1⟩ := hfile
  refine ⟨.dir [(nm, r1)], .mkdir (.ws pre) ::
    (checkoutFileCalls t.isEmp t.strat (.ws (pre ++ [nm])) false payload (t.ctx.H payload) ++ []), ?_, ?_⟩
  · simp [checkoutNodeT, hs1, Store.has, hg1, hrm, checkoutChildrenT, alookup, hr1, setEntry]
  · cases hst : t.strat with
    | link =>
      exact ⟨.symlink (.obj (t.ctx.H payload)) (.ws (pre ++ [nm])), by simp [checkoutFileCalls],
        by simp [callWrites]⟩
    | copy =>
      exact ⟨.createExcl (.ws (pre ++ [nm])), by simp [checkoutFileCalls],
        by simp [callWrites, callPaths]⟩

/-- **An invalid entry name is rejected**: if the entry name `nm` of the manifest is empty, `.`,
`..` or contains `/`, reading the manifest and checking out the directory (at any `pre`, into an
empty place or over a directory: `hcur`; over anything else the checkout fails earlier, with
`exists_`) fail with `badManifest`; no call is issued. -/
theorem checkout_rejects_entry_name (t : TCfg κ) (g : Good t.ctx) (path nm : Name) (payload : κ)
    (pre : List Name) (cur : Option (Node κ)) (fuel : Nat)
    (hrel : ∀ c, t.ctx.reload .new c = c) (hnm : entryNameOK nm = false)
    (hcur : ∀ n, cur = some n → n.isDir = true) :
    readManifest t.ctx (escStore t.ctx path nm payload)
        ((Obj.man .new path [⟨nm, t.ctx.H payload, false⟩] : Obj κ).digest t.ctx) = .error .badManifest ∧
    checkoutNodeT t (escStore t.ctx path nm payload) (fuel + 1) pre cur
        ⟨path, (Obj.man .new path [⟨nm, t.ctx.H payload, false⟩] : Obj κ).digest t.ctx, true⟩ =
      .error .badManifest := by
  generalize hdm : (Obj.man .new path [⟨nm, t.ctx.H payload, false⟩] : Obj κ).digest t.ctx = dm
  have hs1 : hasSum dm = true := by rw [← hdm]; exact hasSum_H g _
  have hg1 : (escStore t.ctx path nm payload).get dm
      = some (.man .new path [⟨nm, t.ctx.H payload, false⟩]) := by
    simp [escStore, Store.get, alookup, hdm]
  generalize escStore t.ctx path nm payload = s at hg1
  have hrm : readManifest t.ctx s dm = .error .badManifest := by
    refine readManifest_man_bad hg1 (fun hok => ?_)
    have := hok _ (List.mem_map.2 ⟨_, List.mem_singleton.2 rfl, rfl⟩)
    rw [hrel, hnm] at this
    cases this
  refine ⟨hrm, ?_⟩
  cases cur with
  | none => simp [checkoutNodeT, hs1, Store.has, hg1, hrm]
  | some n =>
    cases n with
    | dir es => simp [checkoutNodeT, hs1, Store.has, hg1, hrm]
    | file _ => simpa [Node.isDir] using hcur _ rfl
    | link _ => simpa [Node.isDir] using hcur _ rfl
    | other => simpa [Node.isDir] using hcur _ rfl

namespace Escape
open Dud.Example

/-- `../../x` -/
def evilName : Name := [0x2E, 0x2E, 0x2F, 0x2E, 0x2E, 0x2F, 0x78]

def payload : K := .raw "evil"

def tcfg (strat : Strat) : TCfg K :=
  { ctx := ctx, isEmp := fun k => k == .raw "", strat := strat, canRename := false }

/-- a consistent store: a manifest for directory `t` whose only entry is named `../../x` (as an
attacker, or a buggy third-party tool, could place it in a shared cache or a remote), and the
payload it points to -/
def store : Store K := escStore ctx [116] evilName payload

theorem store_consistent : Consistent ctx store := escStore_consistent ctx [116] evilName payload

/-- the artifact the user checks out: directory `t` with the manifest's checksum -/
def art : Child :=
  { name := [116], sum := (Obj.man .new [116] [⟨evilName, ctx.H payload, false⟩] : Obj K).digest ctx,
    isDir := true }

theorem evil_not_safe : ¬ SafeRel ([[116]] ++ [evilName]) := by
  intro h
  have := h evilName (by simp)
  exact this.2.2.2 (by decide)

theorem digest_ne :
    (Obj.man .new [116] [⟨evilName, ctx.H payload, false⟩] : Obj K).digest ctx ≠ ctx.H payload := by
  intro h
  have := good.inj _ _ h
  simp [Obj.bytes, ctx, payload] at this

/-- **A manifest entry named `../../x` is rejected.**  From the consistent store whose manifest has a child `../../x`, reading
the manifest fails with `badManifest`, and so does checking out directory `t` into an empty place —
with either strategy, without a single call (in particular nothing is written to `t/../../x`). -/
theorem manifest_entry_rejected (strat : Strat) :
    readManifest (tcfg strat).ctx store art.sum = .error .badManifest ∧
      checkoutNodeT (tcfg strat) store 2 [[116]] none art = .error .badManifest :=
  checkout_rejects_entry_name (tcfg strat) good [116] evilName payload [[116]] none 1
    (fun _ => rfl) (by decide) (fun _ h => by cases h)

/-- the hypothesis of `checkout_paths_confined_partial` holds for this store, as for every store -/
theorem store_manifests_validated (strat : Strat) :
    ∀ d cs, readManifest (tcfg strat).ctx store d = .ok cs → ∀ c ∈ cs, SafeComp c.name :=
  fun _ _ h => readManifest_safe h

/-- a valid entry name is joined as is: checkout of the same store shape with the entry named
`x` writes `t/x` (non-vacuity of `checkout_writes_entry_name`) -/
theorem valid_entry_written (strat : Strat) :
    ∃ r calls, checkoutNodeT (tcfg strat) (escStore ctx [116] [0x78] payload) 2 [[116]] none
        ⟨[116], (Obj.man .new [116] [⟨[0x78], ctx.H payload, false⟩] : Obj K).digest ctx, true⟩ =
          .ok (r, calls) ∧
      (∃ call ∈ calls, P.ws ([[116]] ++ [[0x78]]) ∈ callWrites call) ∧ SafeRel ([[116]] ++ [[0x78]]) := by
  have hne : (Obj.man .new [116] [⟨[0x78], ctx.H payload, false⟩] : Obj K).digest ctx ≠ ctx.H payload := by
    intro h
    have := good.inj _ _ h
    simp [Obj.bytes, ctx, payload] at this
  obtain ⟨r, calls, h, hc⟩ := checkout_writes_entry_name (tcfg strat) good [116] [0x78] payload [[116]]
    (fun _ => rfl) (by decide) hne
  refine ⟨r, calls, h, hc, ?_⟩
  intro c hc'
  simp at hc'
  rcases hc' with rfl | rfl <;> decide

def showB (n : Name) : String := String.ofList (n.map (fun b => Char.ofNat b.toNat))

def showP : P → String
  | .ws rel => "ws:" ++ "/".intercalate (rel.map showB)
  | .obj d => s!"obj#{d.length}"
  | .shard h => s!"shard:{h}"
  | .ctmp n => s!"ctmp{n}"
  | .wtmp n => s!"wtmp{n}"
  | .cacheRoot => "cache"
  | _ => "other"

def showCall : Call K → String
  | .mkdir p => s!"mkdir {showP p}"
  | .createExcl p => s!"createExcl {showP p}"
  | .createTrunc p => s!"createTrunc {showP p}"
  | .writePart p => s!"writePart {showP p}"
  | .write p _ => s!"write {showP p}"
  | .rename s d => s!"rename {showP s} {showP d}"
  | .chmod p m => s!"chmod {showP p} {m}"
  | .unlink p => s!"unlink {showP p}"
  | .symlink t p => s!"symlink {showP t} {showP p}"

#eval match checkoutNodeT (tcfg .copy) store 2 [[116]] none art with
  | .ok (_, calls) => "; ".intercalate (calls.map showCall)
  | .error e => s!"error {e}"
#eval match checkoutNodeT (tcfg .link) store 2 [[116]] none art with
  | .ok (_, calls) => "; ".intercalate (calls.map showCall)
  | .error e => s!"error {e}"

end Escape

namespace ExampleC18
open Dud.Example

def tree : Node K :=
  .dir [([97], .file (.raw "alpha")), ([98], .dir [([99], .file (.raw "gamma"))])]

def tcfg : TCfg K := { ctx := ctx, isEmp := fun k => k == .raw "", strat := .link, canRename := true }

theorem pre_safe : SafeRel [[116]] := by
  intro c hc; simp at hc; subst hc; decide

theorem names_safe : ∀ x ∈ allNames tree, SafeComp x := by
  intro x hx
  simp [tree, allNames, allNamesList] at hx
  rcases hx with rfl | rfl | rfl <;> decide

/-- commit of a tree with safe names succeeds and all its paths are confined -/
example : ∃ res calls, commitArtT tcfg { path := [116], isDir := true } [[116]] (some tree) [] = .ok (res, calls) ∧
    ∀ call ∈ calls, ∀ p ∈ callPaths call, Confined p := by
  have h : ∃ res calls, commitArtT tcfg { path := [116], isDir := true } [[116]] (some tree) []
      = .ok (res, calls) := ⟨_, _, rfl⟩
  obtain ⟨res, calls, h⟩ := h
  exact ⟨res, calls, h, commitArt_paths_safe tcfg h pre_safe names_safe⟩

/-- commit, then checkout from the resulting store -/
def committed : Store K × Digest :=
  match commitArtT tcfg { path := [116], isDir := true } [[116]] (some tree) [] with
  | .ok ((_, d, s), _) => (s, d)
  | .error _ => ([], "")

#eval match checkoutNodeT tcfg committed.1 3 [[116]] none ⟨[116], committed.2, true⟩ with
  | .ok (_, calls) => "; ".intercalate (calls.map Escape.showCall)
  | .error e => s!"error {e}"

end ExampleC18

#print axioms CommitTrace.confined
#print axioms commit_paths_confined
#print axioms commitEntries_paths_confined
#print axioms commit_paths_safe
#print axioms commitArt_paths_confined
#print axioms commitArt_paths_safe
#print axioms CheckoutTrace.confined
#print axioms checkout_paths_confined_partial
#print axioms safeComp_iff_entryNameOK
#print axioms readManifest_safe
#print axioms checkout_paths_confined
#print axioms checkout_paths_safe
#print axioms escStore_consistent
#print axioms checkout_writes_entry_name
#print axioms checkout_rejects_entry_name
#print axioms Escape.store_consistent
#print axioms Escape.evil_not_safe
#print axioms Escape.manifest_entry_rejected
#print axioms Escape.store_manifests_validated
#print axioms Escape.valid_entry_written
#print axioms ExampleC18.pre_safe
#print axioms ExampleC18.names_safe

end Dud.Sys
