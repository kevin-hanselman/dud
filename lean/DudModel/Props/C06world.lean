import DudModel.Props.C06
import DudModel.Lemmas.Codec
import DudModel.Lemmas.WorldDec
/-!
# C06 at the world level — `dud checkout` keeps the whole workspace

`Props/C06.lean` proves the frame property for the node found at one artifact's path.  This file
lifts it through the workspace addressing (`getPath` / `setPath`, including the directories
`os.MkdirAll` creates on the way to an artifact), through the outputs of a stage
(`checkoutArts`), and through the index traversal of `cmdCheckout`, for every index (cyclic ones
included: a refused traversal is an error), every target list, both strategies and
`--single-stage` (the lifts themselves are in `Lemmas/Checkout.lean`: `setPath_keeps` /
`setPath_checkoutNode_keeps` take `Keeps` through `setPath`; `checkoutArts_rel`, `checkoutAct_rel`,
`cmdCheckout_rel_ws` hold for any preorder on workspaces and are instantiated here with `Keeps`):

  `cmdCheckout … w = .ok w'  →  Keeps ctx w.store strat w.ws w'.ws ∧ w'.store = w.store`

`Keeps` (FrameSpec.lean) on the workspace ROOT is recursive, so the statement speaks about every
pre-existing entry at every depth, inside and outside the artifacts: it is unchanged, except that
under the copy strategy a link resolving to a cache object may have become a regular file with
exactly that object's bytes; no entry is removed, reordered or replaced, directories only gain
entries.  No hypothesis on the index (overlapping outputs, shared paths, unknown owners) is needed.

Not covered here: the state after a FAILED checkout (the logical model returns no world on error;
the entry "left intact" on failure is `checkoutFile_blocked` + the S1 oracle on the implementation).
-/
namespace Dud

variable {κ : Type}

theorem checkoutArtW_frameW {cfg : Cfg κ} {strat : Strat} {a : Art} {w w' : World κ}
    (h : checkoutArtW cfg strat a w = .ok w') :
    w' = { w with ws := w'.ws } ∧ Keeps cfg.ctx w.store strat w.ws w'.ws := by
  rcases checkoutArtW_inv h with ⟨-, rfl⟩ | ⟨-, n, ws', hn, hsp, rfl⟩
  · exact ⟨rfl, Keeps_refl ..⟩
  · exact ⟨rfl, setPath_checkoutNode_keeps hn hsp⟩

theorem checkoutArts_frameW {cfg : Cfg κ} {strat : Strat} {as : List Art} {w w' : World κ}
    (h : checkoutArts cfg strat as w = .ok w') :
    w' = { w with ws := w'.ws } ∧ Keeps cfg.ctx w.store strat w.ws w'.ws :=
  checkoutArts_rel (Keeps_refl _ _ _) (Keeps_trans _ _ _ _ _ _) as
    (fun _ _ _ _ _ => setPath_checkoutNode_keeps) rfl h

theorem checkoutAct_frameW {cfg : Cfg κ} {strat : Strat} {sp : Bytes} {w w' : World κ}
    (h : checkoutAct cfg strat sp w = .ok w') :
    w' = { w with ws := w'.ws, done := sp :: w.done } ∧ Keeps cfg.ctx w.store strat w.ws w'.ws :=
  checkoutAct_rel (Keeps_refl _ _ _) (Keeps_trans _ _ _ _ _ _)
    (fun _ _ _ _ _ _ _ => setPath_checkoutNode_keeps) rfl h

/-- **C06, the command.**  A successful `dud checkout [--copy] [--single-stage] [targets]` keeps
every pre-existing workspace entry (see the header) and does not touch the cache. -/
theorem cmdCheckout_keeps_workspace (cfg : Cfg κ) (strat : Strat) (single : Bool) (targets : List Bytes)
    (w w' : World κ) (h : cmdCheckout cfg strat single targets w = .ok w') :
    Keeps cfg.ctx w.store strat w.ws w'.ws ∧ w'.store = w.store := by
  obtain ⟨e, hk⟩ := cmdCheckout_rel_ws (Keeps_refl _ _ _) (Keeps_trans _ _ _ _ _ _)
    (fun _ _ _ _ _ _ _ _ => setPath_checkoutNode_keeps) h
  exact ⟨hk, by rw [e]; rfl⟩

/-- **C06, per path.**  After a successful checkout, a regular file found anywhere in the workspace
before the command is found at the same path with the same bytes; with the link strategy every
link is unchanged as well. -/
theorem cmdCheckout_keeps_file (cfg : Cfg κ) (strat : Strat) (single : Bool) (targets : List Bytes)
    (w w' : World κ) (h : cmdCheckout cfg strat single targets w = .ok w') (p : List Name) (x : κ)
    (hp : getPath w.ws p = some (.file x)) : getPath w'.ws p = some (.file x) := by
  obtain ⟨n', hn', hk⟩ := Keeps_getPath p _ _ _ (cmdCheckout_keeps_workspace cfg strat single targets w w' h).1 hp
  rw [hn', Keeps_file hk]

theorem cmdCheckout_link_keeps_link (cfg : Cfg κ) (single : Bool) (targets : List Bytes)
    (w w' : World κ) (h : cmdCheckout cfg .link single targets w = .ok w') (p : List Name) (l : Link)
    (hp : getPath w.ws p = some (.link l)) : getPath w'.ws p = some (.link l) := by
  obtain ⟨n', hn', hk⟩ := Keeps_getPath p _ _ _ (cmdCheckout_keeps_workspace cfg .link single targets w w' h).1 hp
  rw [hn', Keeps_link_strategy hk]

/-- … and with the copy strategy a link either stays or became a regular file holding exactly the
bytes of the cache object it resolved to. -/
theorem cmdCheckout_copy_link (cfg : Cfg κ) (single : Bool) (targets : List Bytes)
    (w w' : World κ) (h : cmdCheckout cfg .copy single targets w = .ok w') (p : List Name) (d : Digest)
    (hp : getPath w.ws p = some (.link (.obj d))) :
    getPath w'.ws p = some (.link (.obj d)) ∨
      ∃ o, w.store.get d = some o ∧ getPath w'.ws p = some (.file (o.bytes cfg.ctx)) := by
  obtain ⟨n', hn', hk⟩ := Keeps_getPath p _ _ _ (cmdCheckout_keeps_workspace cfg .copy single targets w w' h).1 hp
  rcases Keeps_obj.1 hk with rfl | ⟨_, o, ho, rfl⟩
  · exact .inl hn'
  · exact .inr ⟨o, ho, hn'⟩

/-! ## Non-vacuity: a successful copy checkout over a workspace that already holds things -/
namespace C06Example
open ToyGood

/-- an unrelated file, the output as a link to its cache object, a dangling foreign link -/
def w : World String :=
  { ws := .dir [([107], .file "keep"), ([100], .link (.obj "abcdata")), ([108], .link (.foreign false))],
    store := [("abcdata", .blob "data")],
    idx := [([1], { cmd := [1], outputs := [{ path := [100], sum := "abcdata" }] })] }

def w' : World String :=
  match cmdCheckout cfg .copy false [] w with
  | .ok x => x
  | .error _ => default

/-- the world after the checkout: the link has become a copy, the rest is as it was -/
def w1 : World String :=
  { w with
    ws := .dir [([107], .file "keep"), ([100], .file "data"), ([108], .link (.foreign false))],
    done := [[1]] }

/-- the one evaluation of the command that the statements below share -/
theorem run_eq : cmdCheckout cfg .copy false [] w = .ok w1 := by open Dud.WorldDec in decide +kernel

theorem w'_eq : w' = w1 := by
  have h := run_eq
  unfold w'
  -- with the run abstracted, the kernel does not evaluate it again
  generalize cmdCheckout cfg .copy false [] w = r at h
  subst h
  rfl

theorem checkout_ok : cmdCheckout cfg .copy false [] w = .ok w' := w'_eq ▸ run_eq

/-- the link became a copy of the object's bytes, everything else is literally unchanged -/
example : getPath w'.ws [[100]] = some (.file "data") ∧ getPath w'.ws [[107]] = some (.file "keep") ∧
    getPath w'.ws [[108]] = some (.link (.foreign false)) := w'_eq ▸ ⟨rfl, rfl, rfl⟩

example : Keeps cfg.ctx w.store .copy w.ws w'.ws :=
  (cmdCheckout_keeps_workspace cfg .copy false [] w w' checkout_ok).1

/-- a different regular file in the way: the command fails (and the model never reaches a state in
which the file is gone) -/
example : ∃ e, cmdCheckout cfg .copy false []
    { w with ws := .dir [([100], .file "other")] } = .error e :=
  ⟨.exists_, by open Dud.WorldDec in decide +kernel⟩

end C06Example

end Dud

#print axioms Dud.setPath_keeps
#print axioms Dud.cmdCheckout_keeps_workspace
#print axioms Dud.cmdCheckout_keeps_file
#print axioms Dud.cmdCheckout_link_keeps_link
#print axioms Dud.cmdCheckout_copy_link
