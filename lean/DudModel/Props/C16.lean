import DudModel.Lemmas.Compat
import DudModel.Props.C01
import DudModel.Generated.Facts
/-!
# C16 — an artifact's checksum depends only on its path and content

* (a) `recommit_post` / `recommit_digest`, `digest_history_independent`: committing a plain tree on
  top of *any* compatible old manifest records `treeDigest` — the digest of a from-scratch commit.
* (b) `recommit_older`, `recommit_after_edit`, `type_swap_recommit_ok`: after any edit — in
  particular an entry that changed between file and directory — the recommit succeeds:
  `commitWorker` reuses the old child only if its kind agrees (`worker_kind_fact`: the fact
  obligation on the Go source).  `commitNode_kind_mismatch`: the kind declared for the top-level
  artifact is checked all the same.
* (e) `treeDigest_perm` (`Lemmas/Tree.lean`), `commit_perm_digest`: the listing order is irrelevant.
* (c) `treeDigest_injective`: different trees of one kind get different checksums (given an injective
  codec, `GoodEnc`); `file_dir_digest_collision`: why the kinds have to agree.
* (d) `commit_keys`: which objects a commit adds (equal contents share one object).

`Re.recommitNodeL_post` asks for `Re.RecommitOK`: it follows from `CompatNode`
(`Re.RecommitOK.of_compat`, `Lemmas/Compat.lean`) and holds in every cache when the recorded checksum
is that of an older version of the tree (`Re.RecommitOK.of_digestAs`, `Lemmas/Recommit.lean`).
-/
namespace Dud

variable {κ : Type}

def REntriesPost (ctx : Ctx κ) (es : List (Name × Node κ)) : Prop :=
  ∀ (old : List Child) (s : Store κ) (strat : Strat), CompatList ctx s es old →
    Consistent ctx s →
    ∃ s', commitEntries ctx strat false es old s =
        .ok (wsAfterList ctx strat es, childrenOf ctx es, s') ∧
      Consistent ctx s' ∧ Store.le ctx s s' ∧ HoldsList ctx s' newChoice es ∧
      (HoldsList ctx s newChoice es → Store.le ctx s' s) ∧
      (∀ d, s'.has d = true → s.has d = true ∨ d ∈ allDigestsList ctx es)

/-- Commit of a plain tree on a child artifact recovered from a compatible old manifest.  A
compatible old manifest is a readable one, and a plain tree is its own logical content: the
instance of `Re.recommitNodeL_post`. -/
theorem recommitNode_post {ctx : Ctx κ} (g : Good ctx) (t : Node κ) (hp : t.plain = true)
    (hn : NamesOK ctx t) (c : Child) (s : Store κ) (strat : Strat) (hcd : c.isDir = t.isDir)
    (hcompat : CompatNode ctx s t c.sum) (hc : Consistent ctx s) :
    ∃ s', commitNode ctx strat t c s =
        .ok (wsAfter ctx strat t, ⟨c.name, treeDigest ctx c.name t, c.isDir⟩, s') ∧
      Consistent ctx s' ∧ Store.le ctx s s' ∧ HoldsNode ctx s' newChoice c.name t ∧
      (HoldsNode ctx s newChoice c.name t → Store.le ctx s' s) ∧
      (∀ d, s'.has d = true → s.has d = true ∨ d ∈ allDigests ctx c.name t) := by
  have h := Re.recommitNodeL_post g t hn c s strat hcd (by rw [deref_plain ctx s t hp]; exact hp)
    (Re.RecommitOK.of_compat g hcompat) hc
  rw [deref_plain ctx s t hp] at h
  obtain ⟨s', h1, h2, h3, h4, _, h6, h7⟩ := h
  exact ⟨s', h1, h2, h3, h4, h6, h7⟩

theorem recommitEntries_post {ctx : Ctx κ} (g : Good ctx) : ∀ (es : List (Name × Node κ)),
    plainList es = true → NamesOKList ctx es → REntriesPost ctx es
  | es, hp, hn => by
    intro old s strat hcompat hc
    have h := Re.recommitEntriesL_full g es hn old s strat
      (by rw [derefList_plain ctx s es hp]; exact hp) (.of_compat g hcompat) hc
    rw [derefList_plain ctx s es hp] at h
    obtain ⟨s', h1, h2, h3, h4, _, h6, h7⟩ := h
    exact ⟨s', h1, h2, h3, h4, h6, h7⟩

/-- **C16 (a).** Commit of a plain tree with a child artifact recovered from a compatible old
manifest: succeeds, leaves the workspace `wsAfter`, records the from-scratch digest
`treeDigest ctx c.name t` (whatever `c.sum`, the store and the strategy are), keeps the store
consistent and growing; the new store holds the tree, and nothing is added (up to bytes) if the
store held the tree before.  (No sortedness is needed on the commit side.) -/
theorem recommit_post (ctx : Ctx κ) (g : Good ctx) (t : Node κ)
    (hp : t.plain = true) (hn : NamesOK ctx t)
    (c : Child) (hcd : c.isDir = t.isDir) (s : Store κ) (hc : Consistent ctx s)
    (hcompat : CompatNode ctx s t c.sum) (strat : Strat) :
    ∃ t' c' s', commitNode ctx strat t c s = .ok (t', c', s') ∧
      t' = wsAfter ctx strat t ∧
      c'.name = c.name ∧ c'.isDir = t.isDir ∧ c'.sum = treeDigest ctx c.name t ∧
      Consistent ctx s' ∧ Store.le ctx s s' ∧ deref ctx s' t' = t ∧
      HoldsNode ctx s' newChoice c.name t ∧
      (HoldsNode ctx s newChoice c.name t → Store.le ctx s' s) ∧
      (∀ d, s'.has d = true → s.has d = true ∨ d ∈ allDigests ctx c.name t) := by
  obtain ⟨s', h, hc', hle, hh, hback, hkeys⟩ :=
    recommitNode_post g t hp hn c s strat hcd hcompat hc
  exact ⟨_, _, s', h, rfl, rfl, hcd, rfl, hc', hle, deref_wsAfter hp hh strat, hh, hback, hkeys⟩

/-- the recorded checksum of a successful recommit -/
theorem recommit_digest (ctx : Ctx κ) (g : Good ctx) (t : Node κ)
    (hp : t.plain = true) (hn : NamesOK ctx t)
    (c : Child) (hcd : c.isDir = t.isDir) (s : Store κ) (hc : Consistent ctx s)
    (hcompat : CompatNode ctx s t c.sum) (strat : Strat)
    {t' : Node κ} {c' : Child} {s' : Store κ}
    (h : commitNode ctx strat t c s = .ok (t', c', s')) :
    c'.sum = treeDigest ctx c.name t := by
  obtain ⟨s₁, h₁, _⟩ := recommitNode_post g t hp hn c s strat hcd hcompat hc
  rw [h₁] at h
  cases h
  rfl

/-- **History independence.** Two commits of the same plain tree under the same name, from any
two consistent stores with compatible old manifests, with either strategy, record the same
checksum. -/
theorem digest_history_independent (ctx : Ctx κ) (g : Good ctx) (t : Node κ)
    (hp : t.plain = true) (hn : NamesOK ctx t)
    (c₁ c₂ : Child) (hname : c₁.name = c₂.name)
    (hd₁ : c₁.isDir = t.isDir) (hd₂ : c₂.isDir = t.isDir)
    (s₁ s₂ : Store κ) (hc₁ : Consistent ctx s₁) (hc₂ : Consistent ctx s₂)
    (hk₁ : CompatNode ctx s₁ t c₁.sum) (hk₂ : CompatNode ctx s₂ t c₂.sum)
    (strat₁ strat₂ : Strat) :
    ∃ t₁ t₂ c₁' c₂' s₁' s₂', commitNode ctx strat₁ t c₁ s₁ = .ok (t₁, c₁', s₁') ∧
      commitNode ctx strat₂ t c₂ s₂ = .ok (t₂, c₂', s₂') ∧ c₁'.sum = c₂'.sum := by
  obtain ⟨s₁', h₁, _⟩ := recommitNode_post g t hp hn c₁ s₁ strat₁ hd₁ hk₁ hc₁
  obtain ⟨s₂', h₂, _⟩ := recommitNode_post g t hp hn c₂ s₂ strat₂ hd₂ hk₂ hc₂
  exact ⟨_, _, _, _, s₁', s₂', h₁, h₂, by simp [hname]⟩

/-- **Recommit on top of the checksum of any older version, in any consistent cache** (whether it
still holds the manifests of `t1`, in part, or not at all): the instance of `Re.recommitNodeL_post`
at `Re.RecommitOK.of_digestAs`. -/
theorem recommit_older (ctx : Ctx κ) (g : Good ctx) (t1 t2 : Node κ) (ch : Choice) (nm : Bytes)
    (hs1 : t1.sorted = true) (hn1 : NamesOK ctx t1)
    (hp2 : t2.plain = true) (hn2 : NamesOK ctx t2) (hd : t1.isDir = t2.isDir)
    (s : Store κ) (hc : Consistent ctx s) (strat : Strat) :
    ∃ s', commitNode ctx strat t2 ⟨nm, digestAs ctx ch nm t1, t1.isDir⟩ s =
        .ok (wsAfter ctx strat t2, ⟨nm, treeDigest ctx nm t2, t1.isDir⟩, s') ∧
      Consistent ctx s' ∧ Store.le ctx s s' ∧ HoldsNode ctx s' newChoice nm t2 ∧
      deref ctx s' (wsAfter ctx strat t2) = t2 := by
  have h := Re.recommitNodeL_post g t2 hn2 ⟨nm, digestAs ctx ch nm t1, t1.isDir⟩ s strat hd
    (by rw [deref_plain ctx s t2 hp2]; exact hp2) (Re.RecommitOK.of_digestAs g s t2 t1 ch nm hs1 hn1 hd) hc
  rw [deref_plain ctx s t2 hp2] at h
  obtain ⟨s', h1, hc', hle, hh', hd', _⟩ := h
  exact ⟨s', h1, hc', hle, hh', hd'⟩

/-- **Recommit after any edit.**  In a consistent store holding the committed tree `t1` (manifests
of any schemas), committing *any* plain tree `t2` of the same top-level kind, with the child
artifact recorded for `t1`, succeeds and records `treeDigest ctx nm t2`.  Entry by entry the old
child is reused only where the kinds still agree. -/
theorem recommit_after_edit (ctx : Ctx κ) (g : Good ctx) (t1 t2 : Node κ) (ch : Choice) (nm : Bytes)
    (hs1 : t1.sorted = true) (hn1 : NamesOK ctx t1)
    (hp2 : t2.plain = true) (hn2 : NamesOK ctx t2) (hd : t1.isDir = t2.isDir)
    (s : Store κ) (hc : Consistent ctx s) (hh : HoldsNode ctx s ch nm t1) (strat : Strat) :
    ∃ s', commitNode ctx strat t2 ⟨nm, digestAs ctx ch nm t1, t1.isDir⟩ s =
        .ok (wsAfter ctx strat t2, ⟨nm, treeDigest ctx nm t2, t1.isDir⟩, s') ∧
      Consistent ctx s' ∧ Store.le ctx s s' ∧ HoldsNode ctx s' newChoice nm t2 ∧
      deref ctx s' (wsAfter ctx strat t2) = t2 :=
  have _ := hh  -- the cache need not hold `t1`
  recommit_older ctx g t1 t2 ch nm hs1 hn1 hp2 hn2 hd s hc strat

/-- **C16 (b), positive (the Go fix).**  Commit a directory where `x` is a file (resp. a
directory); replace `x` by a directory (resp. a file), edit the rest at will; recommit with the
child artifact the first commit recorded: success, and the digest is that of the new tree. -/
theorem type_swap_recommit_ok (ctx : Ctx κ) (g : Good ctx) (nm : Bytes)
    (es1 es2 : List (Name × Node κ))
    (hp1 : (Node.dir es1).plain = true) (hs1 : (Node.dir es1).sorted = true)
    (hn1 : NamesOK ctx (.dir es1))
    (hp2 : (Node.dir es2).plain = true) (hn2 : NamesOK ctx (.dir es2))
    (s : Store κ) (hc : Consistent ctx s) (strat strat2 : Strat) :
    ∃ t' c' s', commitNode ctx strat (.dir es1) ⟨nm, "", true⟩ s = .ok (t', c', s') ∧
      ∃ t'' c'' s'', commitNode ctx strat2 (.dir es2) c' s' = .ok (t'', c'', s'') ∧
        c''.sum = treeDigest ctx nm (.dir es2) ∧ c''.name = nm ∧ c''.isDir = true ∧
        deref ctx s'' t'' = .dir es2 ∧ Consistent ctx s'' ∧ Store.le ctx s' s'' := by
  obtain ⟨s', h, hc', _, hh⟩ := commitNode_fresh g _ hp1 hn1 nm s strat hc
  obtain ⟨s'', h2, hc'', hle, _, hd⟩ := recommit_after_edit ctx g (.dir es1) (.dir es2) newChoice nm
    hs1 hn1 hp2 hn2 rfl s' hc' hh strat2
  rw [digestAs_new] at h2
  exact ⟨_, _, s', h, _, _, s'', h2, rfl, rfl, rfl, hd, hc'', hle⟩

/-- What is still refused: the *top-level* artifact's declared kind (the stage file's `is-dir`)
must agree with the workspace. -/
theorem commitNode_kind_mismatch (ctx : Ctx κ) (strat : Strat) (s : Store κ) (c : Child) :
    (∀ es, c.isDir = false → commitNode ctx strat (.dir es) c s = .error .notRegular) ∧
    (∀ x, c.isDir = true → commitNode ctx strat (.file x) c s = .error .notDir) := by
  constructor
  · intro es h; simp [commitNode_dir, h]
  · intro x h; simp [commitNode_leaf ctx strat (n := .file x) rfl, h]

/-- **C16 (e).** Fresh commits of two listings of the same directory (a permutation of each
other, duplicate-free names) record the same checksum.  Assumed: the tree is plain with accepted
names; *no* sortedness anywhere. -/
theorem commit_perm_digest (ctx : Ctx κ) (g : Good ctx) (nm : Bytes)
    (es1 es2 : List (Name × Node κ)) (hperm : es1.Perm es2) (hnd : (es1.map (·.1)).Nodup)
    (hp : (Node.dir es1).plain = true) (hn : NamesOK ctx (.dir es1))
    (s1 s2 : Store κ) (hc1 : Consistent ctx s1) (hc2 : Consistent ctx s2)
    (strat1 strat2 : Strat) :
    ∃ t1 c1 s1' t2 c2 s2', commitNode ctx strat1 (.dir es1) ⟨nm, "", true⟩ s1 = .ok (t1, c1, s1') ∧
      commitNode ctx strat2 (.dir es2) ⟨nm, "", true⟩ s2 = .ok (t2, c2, s2') ∧
      c1.sum = c2.sum ∧ c1.sum = treeDigest ctx nm (.dir es1) := by
  have hp2 : (Node.dir es2).plain = true := by
    simp only [Node.plain, plainList_iff] at hp ⊢
    exact fun e he => hp e (hperm.mem_iff.2 he)
  have hn2 : NamesOK ctx (.dir es2) := by
    intro x hx
    refine hn x ?_
    simp only [allNames, mem_allNamesList_iff] at hx ⊢
    obtain ⟨e, he, h⟩ := hx
    exact ⟨e, hperm.mem_iff.2 he, h⟩
  obtain ⟨s1', h1, _⟩ := commitNode_fresh g _ hp hn nm s1 strat1 hc1
  obtain ⟨s2', h2, _⟩ := commitNode_fresh g _ hp2 hn2 nm s2 strat2 hc2
  exact ⟨_, _, s1', _, _, s2', h1, h2, treeDigest_perm ctx nm hperm hnd, rfl⟩

/-- the current-format manifest encoding is injective -/
structure GoodEnc (ctx : Ctx κ) : Prop where
  encInj : ∀ p cs p' cs', ctx.encMan .new p cs = ctx.encMan .new p' cs' → p = p' ∧ cs = cs'

theorem Example.goodEnc : GoodEnc Example.ctx where
  encInj := by
    intro p cs p' cs' h
    simpa [Example.ctx] using h

mutual
/-- **C16 (c).** Different plain sorted trees of the same kind (both files or both directories)
get different checksums under the same name. -/
theorem treeDigest_injective {ctx : Ctx κ} (g : Good ctx) (ge : GoodEnc ctx) :
    ∀ (t1 t2 : Node κ) (nm : Bytes), t1.plain = true → t2.plain = true →
      t1.sorted = true → t2.sorted = true → t1.isDir = t2.isDir →
      treeDigest ctx nm t1 = treeDigest ctx nm t2 → t1 = t2
  | .file a, .file b, _, _, _, _, _, _, h => by
    simp only [treeDigest] at h
    rw [g.inj a b h]
  | .file _, .dir _, _, _, _, _, _, hd, _ => by simp [Node.isDir] at hd
  | .dir _, .file _, _, _, _, _, _, hd, _ => by simp [Node.isDir] at hd
  | .dir es1, .dir es2, nm, hp1, hp2, hs1, hs2, _, h => by
    have hp1' : plainList es1 = true := by simpa [Node.plain] using hp1
    have hp2' : plainList es2 = true := by simpa [Node.plain] using hp2
    have hs1' : sortedList es1 = true := by simpa [Node.sorted] using hs1
    have hs2' : sortedList es2 = true := by simpa [Node.sorted] using hs2
    simp only [treeDigest, Obj.digest, Obj.bytes] at h
    have h' := (ge.encInj _ _ _ _ (g.inj _ _ h)).2
    rw [sortChildren_childrenOf ctx es1 hs1', sortChildren_childrenOf ctx es2 hs2'] at h'
    rw [childrenOf_injective g ge es1 es2 hp1' hp2' hs1' hs2' h']
  | .link _, _, _, hp, _, _, _, _, _ => by simp [Node.plain] at hp
  | .other, _, _, hp, _, _, _, _, _ => by simp [Node.plain] at hp
  | _, .link _, _, _, hp, _, _, _, _ => by simp [Node.plain] at hp
  | _, .other, _, _, hp, _, _, _, _ => by simp [Node.plain] at hp
/-- At entry level nothing has to be assumed about the kinds: the manifest records `IsDir`. -/
theorem childrenOf_injective {ctx : Ctx κ} (g : Good ctx) (ge : GoodEnc ctx) :
    ∀ (es1 es2 : List (Name × Node κ)), plainList es1 = true → plainList es2 = true →
      sortedList es1 = true → sortedList es2 = true →
      childrenOf ctx es1 = childrenOf ctx es2 → es1 = es2
  | [], [], _, _, _, _, _ => rfl
  | [], (_, _) :: _, _, _, _, _, h => by simp [childrenOf] at h
  | (_, _) :: _, [], _, _, _, _, h => by simp [childrenOf] at h
  | (nm1, n1) :: r1, (nm2, n2) :: r2, hp1, hp2, hs1, hs2, h => by
    simp only [childrenOf, List.cons.injEq, Child.mk.injEq] at h
    obtain ⟨⟨hnm, hdig, hdir⟩, htl⟩ := h
    subst hnm
    rw [treeDigest_injective g ge n1 n2 nm1 (plainList_cons hp1).1 (plainList_cons hp2).1
      (sortedList_cons hs1).1 (sortedList_cons hs2).1 hdir hdig,
      childrenOf_injective g ge r1 r2 (plainList_cons hp1).2 (plainList_cons hp2).2
      (sortedList_cons hs1).2 (sortedList_cons hs2).2 htl]
end

/-- Why `t1.isDir = t2.isDir` is needed: a regular file whose content is the manifest of a
directory has the checksum of that directory. -/
theorem file_dir_digest_collision (ctx : Ctx κ) (nm : Bytes) (es : List (Name × Node κ)) :
    treeDigest ctx nm (.file (ctx.encMan .new nm (sortChildren (childrenOf ctx es))))
      = treeDigest ctx nm (.dir es) := by
  simp [treeDigest, Obj.digest, Obj.bytes]

mutual
def fileContents : Node κ → List κ
  | .file x => [x]
  | .dir es => fileContentsList es
  | .link _ => []
  | .other => []
def fileContentsList : List (Name × Node κ) → List κ
  | [] => []
  | (_, n) :: r => fileContents n ++ fileContentsList r
end

mutual
theorem holds_fileContents {ctx : Ctx κ} {s : Store κ} : ∀ (t : Node κ) (ch : Choice) (nm : Bytes),
    HoldsNode ctx s ch nm t → ∀ x ∈ fileContents t, s.Holds ctx (ctx.H x) x
  | .file y, _, _, h, x, hx => by
    cases List.mem_singleton.1 hx
    exact h
  | .dir es, ch, _, h, x, hx => holdsList_fileContents es ch h.2 x hx
  | .link _, _, _, _, x, hx => by simp [fileContents] at hx
  | .other, _, _, _, x, hx => by simp [fileContents] at hx
theorem holdsList_fileContents {ctx : Ctx κ} {s : Store κ} : ∀ (es : List (Name × Node κ))
    (ch : Choice), HoldsList ctx s ch es → ∀ x ∈ fileContentsList es, s.Holds ctx (ctx.H x) x
  | [], _, _, x, hx => by simp [fileContentsList] at hx
  | (nm, n) :: r, ch, h, x, hx =>
    (List.mem_append.1 hx).elim (holds_fileContents n _ nm h.1 x) (holdsList_fileContents r ch h.2 x)
end

mutual
theorem holds_allDigests {ctx : Ctx κ} {s : Store κ} : ∀ (t : Node κ) (nm : Bytes),
    HoldsNode ctx s newChoice nm t → ∀ d ∈ allDigests ctx nm t, s.has d = true
  | .file y, _, h, d, hd => by
    cases List.mem_singleton.1 hd
    exact Store.Holds.has h
  | .dir es, nm, h, d, hd => by
    rcases List.mem_cons.1 hd with rfl | hd
    · exact digestAs_new ctx nm (.dir es) ▸ Store.Holds.has h.1
    · exact holdsList_allDigests es h.2 d hd
  | .link _, _, _, d, hd => by simp [allDigests] at hd
  | .other, _, _, d, hd => by simp [allDigests] at hd
theorem holdsList_allDigests {ctx : Ctx κ} {s : Store κ} : ∀ (es : List (Name × Node κ)),
    HoldsList ctx s newChoice es → ∀ d ∈ allDigestsList ctx es, s.has d = true
  | [], _, d, hd => by simp [allDigestsList] at hd
  | (nm, n) :: r, h, d, hd =>
    (List.mem_append.1 hd).elim (holds_allDigests n nm h.1 d) (holdsList_allDigests r h.2 d)
end

/-- **C16 (d).** After a (re)commit the keys of the store are exactly the old keys and the
digests of the tree's objects; every file content `x` of the tree sits (once: under the single
key `ctx.H x`, wherever and however often it occurs) in the store.  Hence at most
`(allDigests ctx nm t).eraseDups.length` keys are new. -/
theorem commit_keys (ctx : Ctx κ) (g : Good ctx) (t : Node κ)
    (hp : t.plain = true) (hn : NamesOK ctx t)
    (c : Child) (hcd : c.isDir = t.isDir) (s : Store κ) (hc : Consistent ctx s)
    (hcompat : CompatNode ctx s t c.sum) (strat : Strat) :
    ∃ t' c' s', commitNode ctx strat t c s = .ok (t', c', s') ∧
      (∀ d, s'.has d = true ↔ s.has d = true ∨ d ∈ allDigests ctx c.name t) ∧
      (∀ x ∈ fileContents t, ∃ o, s'.get (ctx.H x) = some o ∧ o.bytes ctx = x) := by
  obtain ⟨s', h, _, hle, hh, _, hkeys⟩ := recommitNode_post g t hp hn c s strat hcd hcompat hc
  refine ⟨_, _, s', h, fun d => ⟨hkeys d, ?_⟩, holds_fileContents t _ _ hh⟩
  rintro (hd | hd)
  · exact Store.has_le hle hd
  · exact holds_allDigests t _ hh d hd

/-! ## Non-vacuity over `Dud.Example.ctx` -/

namespace Example

/-- (a) the example tree committed twice: the second commit starts from the manifest of the
first and records the same, from-scratch digest -/
example (strat strat2 : Strat) :
    ∃ t' c' s', commitNode ctx strat tree ⟨[116], "", true⟩ [] = .ok (t', c', s') ∧
      ∃ t'' c'' s'', commitNode ctx strat2 tree c' s' = .ok (t'', c'', s'') ∧
        c''.sum = treeDigest ctx [116] tree ∧ Store.le ctx s'' s' := by
  obtain ⟨s', h, hc', _, hh⟩ := commitNode_fresh good tree tree_plain tree_names [116] [] strat
    empty_consistent
  have hk : CompatNode ctx s' tree (treeDigest ctx [116] tree) := by
    have := compatNode_of_holds good tree newChoice [116] tree_sorted tree_names hh
    rwa [digestAs_new] at this
  obtain ⟨s'', h2, _, _, _, hback, _⟩ := recommitNode_post good tree tree_plain tree_names
    ⟨[116], treeDigest ctx [116] tree, true⟩ s' strat2 rfl hk hc'
  exact ⟨_, _, s', h, _, _, s'', h2, rfl, hback hh⟩

/-- the tree after an edit: `a` changed, `b/c` removed, `b/e` and `f` added -/
def tree2 : Node K :=
  .dir [([97], .file (.raw "ALPHA")),
        ([98], .dir [([100], .dir []), ([101], .file (.raw "new"))]),
        ([101], .file (.raw "alpha")),
        ([102], .file (.raw "gamma"))]

/-- executable evidence for (a): recommit of the edited tree on top of the old manifest -/
def recommitEdited (strat strat2 : Strat) : String :=
  match commitNode ctx strat tree ⟨[116], "", true⟩ [] with
  | .error e => s!"commit error {e}"
  | .ok (_, c', s') =>
    match commitNode ctx strat2 tree2 c' s', commitNode ctx strat2 tree2 ⟨[116], "", true⟩ [] with
    | .ok (t'', c'', s''), .ok (_, c0, _) =>
      s!"sum = treeDigest: {c''.sum == treeDigest ctx [116] tree2}; " ++
      s!"same as from scratch: {c''.sum == c0.sum}; differs from old: {c''.sum != c'.sum}; " ++
      s!"logical content kept: {nodeBEq (deref ctx s'' t'') tree2}"
    | .error e, _ => s!"recommit error {e}"
    | _, .error e => s!"scratch commit error {e}"

#eval recommitEdited .link .copy
#eval recommitEdited .copy .link

/-- the example tree with `a` turned into a directory and `b` into a file -/
def treeSwapped : Node K :=
  .dir [([97], .dir [([120], .file (.raw "x"))]),
        ([98], .file (.raw "was a directory")),
        ([101], .file (.raw "alpha"))]

/-- (b) `a` was a file and is a directory now, `b` was a directory and is a file now: the
recommit on top of the old manifest succeeds with the digest of the new tree -/
example (strat strat2 : Strat) :
    ∃ t' c' s', commitNode ctx strat tree ⟨[116], "", true⟩ [] = .ok (t', c', s') ∧
      ∃ t'' c'' s'', commitNode ctx strat2 treeSwapped c' s' = .ok (t'', c'', s'') ∧
        c''.sum = treeDigest ctx [116] treeSwapped ∧ deref ctx s'' t'' = treeSwapped := by
  obtain ⟨t', c', s', h, t'', c'', s'', h2, hsum, _, _, hd, _⟩ :=
    type_swap_recommit_ok ctx good [116] _ _ tree_plain tree_sorted tree_names
      (show treeSwapped.plain = true by simp [treeSwapped, Node.plain, plainList])
      (.of_check (fun _ _ => rfl) (by decide)) [] empty_consistent strat strat2
  exact ⟨t', c', s', h, t'', c'', s'', h2, hsum, hd⟩

def typeSwap (t2 : Node K) : String :=
  match commitNode ctx .link tree ⟨[116], "", true⟩ [] with
  | .error e => s!"commit error {e}"
  | .ok (_, c', s') =>
    match commitNode ctx .link t2 c' s', commitNode ctx .link t2 ⟨[116], "", true⟩ [] with
    | .error e, _ => s!"recommit fails with {e}"
    | .ok (t'', c'', s''), .ok (_, c0, _) =>
      s!"recommit ok; sum = treeDigest of the new tree: {c''.sum == treeDigest ctx [116] t2}; " ++
      s!"same as from scratch: {c''.sum == c0.sum}; " ++
      s!"logical content kept: {nodeBEq (deref ctx s'' t'') t2}"
    | .ok _, .error e => s!"recommit ok, from scratch fails with {e}"

#eval typeSwap treeSwapped
#eval typeSwap (.dir [([97], .dir [([120], .file (.raw "x"))])])
#eval typeSwap (.dir [([97], .file (.raw "alpha")), ([98], .file (.raw "was a directory"))])

-- the top-level artifact's declared kind is still checked
#eval match commitNode ctx .link tree ⟨[116], "", false⟩ [] with
  | .error e => s!"top-level kind mismatch: error {e}"
  | .ok _ => "ok"

/-- (e) two listing orders of the example directory -/
def treeRev : Node K :=
  .dir [([101], .file (.raw "alpha")),
        ([97], .file (.raw "alpha")),
        ([98], .dir [([99], .file (.raw "gamma")), ([100], .dir [])])]

example : treeDigest ctx [116] tree = treeDigest ctx [116] treeRev := by
  refine treeDigest_perm ctx [116] ?_ (by decide)
  exact ((List.Perm.swap _ _ _).trans ((List.Perm.swap _ _ _).cons _)).symm

#eval match commitNode ctx .link tree ⟨[116], "", true⟩ [],
            commitNode ctx .copy treeRev ⟨[116], "", true⟩ [] with
  | .ok (_, c1, _), .ok (_, c2, _) => s!"same checksum for both listing orders: {c1.sum == c2.sum}"
  | _, _ => "commit error"

/-- (c) the example context has an injective manifest encoding; distinct trees, distinct sums -/
example : treeDigest ctx [116] tree ≠ treeDigest ctx [116] tree2 := by
  intro h
  have := treeDigest_injective good goodEnc tree tree2 [116] tree_plain
    (by simp [tree2, Node.plain, plainList])
    tree_sorted (by simp [tree2, Node.sorted, sortedList, headName]; decide) rfl h
  simp [tree, tree2] at this

end Example

/-! ## regenerated fact about the Go source (`commitWorker`) -/

/-- the worker reuses the old child artifact, and only when its kind agrees -/
theorem worker_kind_fact :
    Dud.Facts.workerChecksKind = true ∧ Dud.Facts.workerReusesOldChild = true := by decide

#print axioms Store.has_put
#print axioms recommitNode_post
#print axioms recommitEntries_post
#print axioms recommit_post
#print axioms recommit_digest
#print axioms digest_history_independent
#print axioms recommit_after_edit
#print axioms type_swap_recommit_ok
#print axioms commitNode_kind_mismatch
#print axioms plainList_iff
#print axioms mem_allNamesList_iff
#print axioms commit_perm_digest
#print axioms Example.goodEnc
#print axioms treeDigest_injective
#print axioms childrenOf_injective
#print axioms file_dir_digest_collision
#print axioms holds_fileContents
#print axioms holdsList_fileContents
#print axioms holds_allDigests
#print axioms holdsList_allDigests
#print axioms commit_keys
#print axioms worker_kind_fact
#print axioms compatNode_any
#print axioms compatList_any

end Dud
