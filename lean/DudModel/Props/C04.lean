import DudModel.Props.C03
import DudModel.Lock
import DudModel.Props.C12
/-!
# C04 — a failed commit loses nothing

Fault model: the j-th mutating call of the operation fails with an errno.  A failing call has NO
effect on the file system (a short write is the pair `writePart`/`write`: the fault is then at the
`write`), the Go code returns the error up the stack and issues no further mutating call except the
removal of its own private temp files (`commitBytes`, the rename probe, `Stage.ToFile`,
`Index.ToFile` unlink the temp file they created; the deferred `Close` calls do not mutate).
`runFault` executes a trace under this model; `runFault_eq_prefix` shows that the state left behind
is exactly a crash prefix `replay emp fs (calls.take k)` — which is why C04 is a corollary of C03:
`∀ k, Safe … (replay … (calls.take k))` covers every fault position — and `cleanup_safe` /
`commit_fault_cleanup_safe` show that unlinking any set of temp paths afterwards keeps it safe.

Second part (`DudModel/Lock.lean`): a command built on `prepare` whose body fails still removes the
lock file and exits non-zero.
-/
namespace Dud.Sys

open Dud

variable {κ : Type}

/-- run a trace in which the call at (0-based) position `k` fails: the calls before it take effect,
the failing call has no effect, nothing after it is issued.  (`k ≥ length`: no fault.) -/
def runFault (emp : κ) : FS κ → List (Call κ) → Nat → FS κ
  | fs, [], _ => fs
  | fs, _ :: _, 0 => fs
  | fs, c :: cs, k+1 => runFault emp (apply emp fs c) cs k

/-- the calls that took effect when the call at position `k` failed -/
def faultAt (k : Nat) (calls : List (Call κ)) : List (Call κ) := calls.take k

/-- **A fault leaves a crash prefix.** -/
theorem runFault_eq_prefix (emp : κ) : ∀ (calls : List (Call κ)) (fs : FS κ) (k : Nat),
    runFault emp fs calls k = replay emp fs (faultAt k calls)
  | [], fs, k => by simp [runFault, faultAt, replay]
  | c :: cs, fs, 0 => by simp [runFault, faultAt, replay]
  | c :: cs, fs, k+1 => by
    simp only [runFault, faultAt, List.take_succ_cons, replay_cons]
    exact runFault_eq_prefix emp cs (apply emp fs c) k

/-- 1-based numbering as in the fault-injection harness: "the k-th call fails" leaves the first
`k-1` calls -/
theorem runFault_kth (emp : κ) (calls : List (Call κ)) (fs : FS κ) (k : Nat) :
    runFault emp fs calls (k - 1) = replay emp fs (calls.take (k - 1)) := by
  have := runFault_eq_prefix emp calls fs (k - 1)
  simpa [faultAt] using this

/-- **A failed `LocalCache.Commit` loses nothing** (general form): whatever call fails, every
recorded byte sequence is still retrievable and no object is torn. -/
theorem commit_fault_safe {t : TCfg κ} (g : Good t.ctx) {tracked : List (P × κ)}
    (htw : TrackedWs tracked) {emp : κ} (hemp : ∀ c, t.isEmp c = true → c = emp)
    {a : Art} {pre : List Name} {nd : Option (Node κ)} {s : Store κ}
    {res : Node κ × Digest × Store κ} {calls : List (Call κ)}
    (hu : uniqOpt nd) (h : commitArtT t a pre nd s = .ok (res, calls))
    {fs : FS κ} (hs : Safe t.ctx tracked fs)
    (hin : ∀ p ∈ trackedOpt pre nd, ∃ m, fs.get p.1 = some (.file p.2 m))
    (hfr : ∀ k, 1 ≤ k → fs.get (.ctmp k) = none) :
    ∀ k, Safe t.ctx tracked (runFault emp fs calls k) := by
  intro k
  rw [runFault_eq_prefix]
  exact commitArtT_crash_safe g htw hemp hu h hs hin hfr k

/-- a private temp path: never a workspace path, never a cache object -/
def P.isTemp : P → Bool
  | .ctmp _ | .wtmp _ | .stageTmp _ | .indexTmp => true
  | _ => false

theorem isTemp_not_special {p : P} (h : p.isTemp = true) :
    p.isObj = false ∧ (∀ q, p ≠ .ws q) ∧ p ≠ .lock ∧ ∀ sp, p ≠ .stageFile sp := by
  cases p <;> simp [P.isTemp] at h <;> simp [P.isObj]

/-- **Cleanup after a fault is harmless.**  Unlinking any list of private temp paths (whether they
exist or not) keeps every recorded byte sequence retrievable and no object torn. -/
theorem cleanup_safe {ctx : Ctx κ} (g : Good ctx) {tracked : List (P × κ)} (htw : TrackedWs tracked)
    (emp : κ) : ∀ (tmps : List P) {fs : FS κ}, Safe ctx tracked fs → (∀ p ∈ tmps, p.isTemp = true) →
    Safe ctx tracked (replay emp fs (tmps.map Call.unlink))
  | tmps, fs, hs, h => by
    refine ((allowedTrace_of_harmless htw emp _ (fun c hc p hp => ?_) fs).prefixSafe g hs).final
    obtain ⟨q, hq, rfl⟩ := List.mem_map.1 hc
    obtain rfl : p = q := by simpa [callWrites, callPaths] using hp
    exact ⟨(isTemp_not_special (h p hq)).1, (isTemp_not_special (h p hq)).2.1⟩

/-- **A failed commit with cleanup loses nothing**: whatever call fails and whichever of its temp
files the code removes afterwards. -/
theorem commit_fault_cleanup_safe {t : TCfg κ} (g : Good t.ctx) {tracked : List (P × κ)}
    (htw : TrackedWs tracked) {emp : κ} (hemp : ∀ c, t.isEmp c = true → c = emp)
    {a : Art} {pre : List Name} {nd : Option (Node κ)} {s : Store κ}
    {res : Node κ × Digest × Store κ} {calls : List (Call κ)}
    (hu : uniqOpt nd) (h : commitArtT t a pre nd s = .ok (res, calls))
    {fs : FS κ} (hs : Safe t.ctx tracked fs)
    (hin : ∀ p ∈ trackedOpt pre nd, ∃ m, fs.get p.1 = some (.file p.2 m))
    (hfr : ∀ k, 1 ≤ k → fs.get (.ctmp k) = none)
    (tmps : List P) (htm : ∀ p ∈ tmps, p.isTemp = true) :
    ∀ k, Safe t.ctx tracked (replay emp (runFault emp fs calls k) (tmps.map Call.unlink)) := fun k =>
  cleanup_safe g htw emp tmps (commit_fault_safe g htw hemp hu h hs hin hfr k) htm

/-- the cleanup really removes the temp file: after it the path is absent -/
theorem cleanup_removes {emp : κ} (fs : FS κ) (p : P) :
    (replay emp fs [Call.unlink p]).get p = none := by
  simpa [replay] using get_unlink_self (emp := emp) (fs := fs) (p := p)

/-- `commit_fault_safe` on the abstraction `fsOf` of a workspace tree next to a consistent cache -/
theorem commit_fault_safe_fsOf {t : TCfg κ} (g : Good t.ctx) {emp : κ}
    (hemp : ∀ c, t.isEmp c = true → c = emp)
    {a : Art} {nd : Node κ} {pre : List Name} {s : Store κ}
    {res : Node κ × Digest × Store κ} {calls : List (Call κ)}
    (hu : uniqNode nd) (hc : Consistent t.ctx s)
    (h : commitArtT t a pre (some nd) s = .ok (res, calls)) :
    ∀ k, Safe t.ctx (trackedOf pre nd) (runFault emp (fsOf t.ctx pre nd s) calls k) := by
  intro k
  rw [runFault_eq_prefix]
  exact commitArtT_crash_safe_fsOf g hemp hu hc h k

/-- the same for one file (`commitFileArtifact`), all three variants -/
theorem commitFile_fault_safe {ctx : Ctx κ} (g : Good ctx) {tracked : List (P × κ)}
    (htw : TrackedWs tracked) {emp : κ} {isEmp : κ → Bool} (hemp : ∀ c, isEmp c = true → c = emp)
    {fs : FS κ} (hs : Safe ctx tracked fs) {q : List Name} {c : κ} {m : Nat}
    (hw : fs.get (.ws q) = some (.file c m)) {n : Nat} (hfresh : fs.get (.ctmp n) = none)
    (strat : Strat) (canRename : Bool) :
    ∀ k, Safe ctx tracked
      (runFault emp fs (commitFileCalls isEmp strat canRename (.ws q) n c (ctx.H c)) k) := by
  intro k
  rw [runFault_eq_prefix]
  exact commitFile_crash_safe g htw hemp hs hw hfresh strat canRename k

/-- and for checkout of one file -/
theorem checkoutFile_fault_safe {ctx : Ctx κ} (g : Good ctx) {tracked : List (P × κ)} {emp : κ}
    (isEmp : κ → Bool) {fs : FS κ} (hs : Safe ctx tracked fs) (strat : Strat) {w : P}
    (hwo : w.isObj = false) (wasExactLink : Bool) (c : κ) (d : Digest)
    (hpre : if wasExactLink then fs.get w = some (.link (.obj d)) else fs.get w = none) :
    ∀ k, Safe ctx tracked (runFault emp fs (checkoutFileCalls isEmp strat w wasExactLink c d) k) := by
  intro k
  rw [runFault_eq_prefix]
  exact checkoutFileCalls_crash_safe g isEmp hs strat hwo wasExactLink c d hpre k

/-- what is NOT promised: the workspace file need not be at its path any more.  With the link
strategy and no rename capability a fault at the final `symlink` leaves the path absent — the bytes
are in the cache (third disjunct of `Retr`), `dud checkout` brings the file back. -/
theorem fault_may_leave_path_absent {ctx : Ctx κ} {emp : κ} {isEmp : κ → Bool} (fs : FS κ)
    (q : List Name) (n : Nat) (c : κ) :
    let calls := commitFileCalls isEmp .link false (.ws q) n c (ctx.H c)
    (runFault emp fs calls (calls.length - 1)).get (.ws q) = none := by
  intro calls
  have hcalls : calls = (copyIntoCache isEmp n c (ctx.H c) ++ [Call.unlink (.ws q)]) ++
      [Call.symlink (.obj (ctx.H c)) (.ws q)] := by simp [calls, commitFileCalls]
  rw [runFault_eq_prefix, faultAt, hcalls]
  simp [List.take_append, replay, get_apply]

/-- **The retry is possible.**  After a fault past the rename the workspace entry is a link into
the cache while the stage still records no checksum. `commitFileArtifact` accepts such a link (it
resolves to an object of this cache, so the file is committed already) and records the checksum
the object is stored under; nothing is rewritten. (Before the repair of the Go code this was
`.error .notRegular`: "expected regular file, got link" for ever.) -/
theorem retry_after_fault_accepts_link (ctx : Ctx κ) (strat : Strat) (d : Digest) (s : Store κ)
    (hd : s.has d = true) :
    commitFile ctx strat false (some (.link (.obj d))) "" s = .ok (.link (.obj d), d, s) := by
  simp [commitFile_link_obj, hasSum_empty, hd]

/-- a link to an object that is NOT in the cache is still refused -/
theorem retry_dangling_link_refused (ctx : Ctx κ) (strat : Strat) (d : Digest) (s : Store κ)
    (hd : s.has d = false) :
    commitFile ctx strat false (some (.link (.obj d))) "" s = .error .notRegular := by
  simp [commitFile_link_obj, hasSum_empty, hd]

end Dud.Sys

namespace Dud.Lock

/-- **A failing command still unlocks.**  For every command built on `prepare` (it changes to the
project root before locking), from every starting directory: if the body fails, `fatal` removes the
lock file and the exit status is non-zero. -/
theorem failed_command_unlocks (root cwd : List String) :
    runCommand true root cwd false false = (false, false) :=
  prepare_commands_release root cwd false

/-- the successful case for comparison: exit 0, lock removed -/
theorem successful_command_unlocks (root cwd : List String) :
    runCommand true root cwd true false = (true, false) :=
  prepare_commands_release root cwd true

/-- which commands this covers: `cmdChdirs true` (`usesPrepare`) -/
theorem failed_prepare_command_unlocks (root cwd : List String) :
    runCommand (cmdChdirs true) root cwd false false = (false, false) := by
  have : cmdChdirs true = true := by decide
  rw [this]; exact failed_command_unlocks root cwd

end Dud.Lock

namespace Dud.Sys.Example
open Dud Dud.Sys Dud.Example

/-- non-vacuity: on the concrete tree of C03 every fault position of the whole commit is safe -/
example (strat : Strat) (canRename : Bool) :
    ∃ res calls, commitArtT (tc strat canRename) art [[116]] (some tree) [] = .ok (res, calls) ∧
      ∀ k, Safe ctx (trackedOf [[116]] tree) (runFault emp (fsOf ctx [[116]] tree []) calls k) := by
  have hok := commit_ok strat canRename
  cases h : commitArtT (tc strat canRename) art [[116]] (some tree) [] with
  | error e => rw [h] at hok; cases hok
  | ok r =>
    exact ⟨r.1, r.2, rfl, commit_fault_safe_fsOf (t := tc strat canRename) good hemp tree_uniq
      empty_consistent h⟩

/-- executable: fault at every position, Boolean checker -/
def faultReport (strat : Strat) (canRename : Bool) : String :=
  match commitArtT (tc strat canRename) art [[116]] (some tree) [] with
  | .error e => s!"error {e}"
  | .ok (_, calls) =>
    let fs0 := fsOf ctx [[116]] tree []
    let tracked := trackedOf [[116]] tree
    let ok := (List.range (calls.length + 1)).all (fun k => safeB tracked (runFault emp fs0 calls k))
    s!"{calls.length} fault positions, all safe: {ok}"

#eval faultReport .link true
#eval faultReport .link false
#eval faultReport .copy true

example : Dud.Lock.runCommand true ["p"] ["p", "sub"] false false = (false, false) :=
  Dud.Lock.failed_command_unlocks _ _

end Dud.Sys.Example

#print axioms Dud.Sys.runFault_eq_prefix
#print axioms Dud.Sys.runFault_kth
#print axioms Dud.Sys.commit_fault_safe
#print axioms Dud.Sys.cleanup_safe
#print axioms Dud.Sys.commit_fault_cleanup_safe
#print axioms Dud.Sys.cleanup_removes
#print axioms Dud.Sys.commit_fault_safe_fsOf
#print axioms Dud.Sys.commitFile_fault_safe
#print axioms Dud.Sys.checkoutFile_fault_safe
#print axioms Dud.Sys.fault_may_leave_path_absent
#print axioms Dud.Sys.retry_after_fault_accepts_link
#print axioms Dud.Sys.retry_dangling_link_refused
#print axioms Dud.Lock.failed_command_unlocks
#print axioms Dud.Lock.successful_command_unlocks
#print axioms Dud.Lock.failed_prepare_command_unlocks
