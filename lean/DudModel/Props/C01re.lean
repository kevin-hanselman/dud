import DudModel.Props.C01world
import DudModel.Lemmas.WorldDec
/-!
# C01 for re-commits — `dud commit` (any, not just the first) then `dud checkout` in a clone

`Props/C01world.lean` proves the world-level commit→checkout round trip for FIRST commits: a
directory output must be fresh (`ArtPre.fresh`: no recorded checksum) and the workspace must be
plain (no links).  This file removes both restrictions:

* the artifact may record ANY checksum — of an older version of the tree, with entries added,
  removed, modified or changed between file and directory since; with the manifest in the cache or
  not — as long as the old manifests the commit reads are readable (`RecommitOK`, see below);
* the workspace may be full of links into the cache (the state a previous link commit or link
  checkout leaves): "content" always means logical content (`deref`: a link into the cache counts
  as a regular file with the object's bytes).

Vocabulary (namespace `Dud.Re`; `Lemmas/Recommit.lean`, `Props/C16.lean`, `Lemmas/WorldTripRe.lean`):

* `ArtPreRe ctx fuel s a n` — `ArtPre` without `fresh`: kinds agree; every link of `n` resolves in
  the cache `s` (`(deref ctx s n).plain`); `n` sorted, names acceptable; a skip-cache file artifact
  is a regular file (or the link to the very object it records); `RecommitOK` for the tracked part;
  fuel.
* `RecommitOK ctx s t sum` — in every consistent cache extending `s`, the old manifests a commit of
  `t` started from the recorded checksum `sum` reads are readable: the manifest of `sum` IF that
  checksum is in the cache (if it is not, the commit starts from an empty manifest), and below it
  the manifest recorded for every entry whose kind (file/directory) still agrees.  The
  quantification over later caches is needed because the cache grows while the entries of one
  directory (and the artifacts of one command) are committed, and an object that appears under a
  recorded checksum would be read.  Sufficient conditions: `RecommitOK.empty` (no checksum);
  `RecommitOK.of_digestAs` / `.of_treeDigest`: the checksum is that of SOME older version of the
  tree (sorted, acceptable names, same top-level kind, manifests of any schema) — whether its
  manifests are in the cache, in part, or not at all (in a consistent cache whatever sits under
  such a checksum is that manifest; `ArtPreRe.of_older` packages this); `RecommitOK.of_compat`
  (`CompatNode`, the hypothesis of `recommit_post`: present and readable); `RecommitOK.of_holds`
  (the cache holds the older version); `RecommitOK.of_never` (the checksum is the hash of nothing).
  In particular after ANY commit covered by the theorems below the hypothesis holds for the next
  commit, whatever the edit (`next_commit_recommitOK`).
* What if an old manifest is NOT readable?  Then `commitArt` fails with the error of
  `readManifest` (`commitArt_unreadable_fails`).  This is what the Go code does:
  `commitDirArtifact` (`/repo/src/cache/commit.go`) calls `readDirManifest` whenever
  `status.ChecksumInCache` and returns its error; `commitWorker` does the same for a sub-directory
  whose old child is reused.  So readability is a genuine precondition of `dud commit`, not an
  artefact of the proof; a damaged cache object is the only way to violate it after a successful
  earlier commit.

Main statements: `commitArt_roundtrip_re` (one artifact), `stage_commit_checkout_roundtrip_re`
(stage), `commit_checkout_world_roundtrip_re` and `commit_checkout_empty_workspace_re` (commands),
`next_commit_recommitOK` (the hypothesis `RecommitOK` of the NEXT commit follows from the conclusion
of this one, whatever the edit in between), `Example3.second_commit_roundtrip` (non-vacuity).

What the statements do NOT cover:
* a link that does not resolve to an object of the cache (dangling, or pointing elsewhere), FIFOs
  etc.: commit fails on them (C02/C07); a skip-cache FILE artifact whose workspace entry is a link
  other than the one it records (commit refuses it);
* `commit` success is a hypothesis at stage and command level (as in `Props/C01world.lean`; at
  artifact level it is proved); `--single-stage` is not considered;
* an un-owned input is committed by `commitAct` itself and has to be a file, or a directory that
  overlaps no output (as in `Props/C01world.lean`).
-/
namespace Dud

open WT Re

variable {κ : Type}

/-- **C01, one artifact, any commit.** For an artifact `a` recording ANY checksum and ANY node `n`
at its path with `ArtPreRe` (links into the cache allowed), `commitArt` succeeds, records
`treeDigest` of the tracked part of the logical content, keeps the cache consistent and growing,
leaves the logical content of the workspace unchanged, and (unless `skip-cache`) has the `RoundTrip`
property: checkout of the committed artifact into an absent place, from any later cache, with either
strategy, reproduces the tracked tree. -/
theorem commitArt_roundtrip_re (cfg : Cfg κ) (g : Good cfg.ctx) (a : Art) (n : Node κ) (s : Store κ)
    (hpre : ArtPreRe cfg.ctx cfg.fuel s a n) (hc : Consistent cfg.ctx s) (strat : Strat) :
    ∃ t' s', commitArt cfg.ctx strat a (some n) s
        = .ok (t', treeDigest cfg.ctx a.path (trackedOf a (deref cfg.ctx s n)), s') ∧
      Consistent cfg.ctx s' ∧ Store.le cfg.ctx s s' ∧
      deref cfg.ctx s' t' = deref cfg.ctx s n ∧
      (a.skip = false → RoundTrip cfg a (trackedOf a (deref cfg.ctx s n)) s') ∧
      (a.isDir = true →
        HoldsNode cfg.ctx s' newChoice a.path (trackedOf a (deref cfg.ctx s n))) := by
  obtain ⟨t', s', h1, h2, h3, h4, h5, h6⟩ := commitArt_roundtrip_re' cfg g a n s hpre hc strat
  exact ⟨t', s', h1, h2, h3, h4, h5, h6⟩

/-- the first-commit theorem `commitArt_roundtrip` is the instance `ArtPreRe.of_artPre` -/
example (cfg : Cfg κ) (g : Good cfg.ctx) (a : Art) (n : Node κ)
    (hpre : ArtPre cfg.ctx cfg.fuel a n) (s : Store κ) (hc : Consistent cfg.ctx s) (strat : Strat) :
    ∃ t' s', commitArt cfg.ctx strat a (some n) s
        = .ok (t', treeDigest cfg.ctx a.path (trackedOf a n), s') ∧
      deref cfg.ctx s' t' = n := by
  obtain ⟨t', s', h1, _, _, h4, _⟩ :=
    commitArt_roundtrip_re cfg g a n s (ArtPreRe.of_artPre s hpre) hc strat
  rw [deref_plain cfg.ctx s n hpre.plain] at h1 h4
  exact ⟨t', s', h1, h4⟩

/-- **Unreadable old manifest.** If the recorded checksum of a directory artifact is in the cache
and `readManifest` fails on it, `commitArt` fails with that error (Go: `commitDirArtifact` returns
the error of `readDirManifest` when `status.ChecksumInCache`). -/
theorem commitArt_unreadable_fails (ctx : Ctx κ) (strat : Strat) (a : Art)
    (es : List (Name × Node κ)) (s : Store κ) (e : Err) (hd : a.isDir = true)
    (hsum : hasSum a.sum = true) (hin : s.has a.sum = true)
    (hbad : readManifest ctx s a.sum = .error e) :
    commitArt ctx strat a (some (.dir es)) s = .error e := by
  rw [commitArt_dir ctx strat hd, oldManifest_present ctx hsum hin, hbad]

/-- … whereas a recorded checksum that is NOT in the cache is no obstacle: the commit starts from an
empty old manifest (`RecommitOK` then only has to exclude that the object appears, unreadable,
later: e.g. `RecommitOK.of_never`). -/
theorem oldManifest_absent (ctx : Ctx κ) (s : Store κ) (sum : Digest) (h : s.has sum = false) :
    oldManifest ctx s sum = .ok [] := by
  simp [oldManifest, h]

/-- **C01, stage level, any commit.** `stage_commit_checkout_roundtrip` with `ArtPreRe` (w.r.t. the
cache of the world) in place of `ArtPre`; the reference is the logical content
`deref cfg.ctx w.store (origAt w.ws a)` of what is found at the output's path. -/
theorem stage_commit_checkout_roundtrip_re (cfg : Cfg κ) (g : Good cfg.ctx) (strat : Strat)
    (sp : Bytes) (w w' : World κ) (stg : Stage) (hs : alookup w.idx sp = some stg)
    (hap : ApartArts stg.outputs)
    (hpre : ∀ a, a ∈ stg.outputs → ∃ n, getPath w.ws (Path.comps a.path) = some n ∧
      ArtPreRe cfg.ctx cfg.fuel w.store a n)
    (hin : ∀ a, a ∈ stg.outputs → PlainInputsApart cfg w.idx stg (Path.comps a.path))
    (hc : Consistent cfg.ctx w.store) (h : commitAct cfg strat sp w = .ok w') :
    (Consistent cfg.ctx w'.store ∧ Store.le cfg.ctx w.store w'.store) ∧
    (∃ stg', alookup w'.idx sp = some stg' ∧
      ∀ a, a ∈ stg.outputs → ∃ a', a' ∈ stg'.outputs ∧ a'.path = a.path ∧
        a'.sum = treeDigest cfg.ctx a.path
          (trackedOf a (deref cfg.ctx w.store (origAt w.ws a)))) ∧
    (∀ a, a ∈ stg.outputs → ∃ t', getPath w'.ws (Path.comps a.path) = some t' ∧
      deref cfg.ctx w'.store t' = deref cfg.ctx w.store (origAt w.ws a)) ∧
    ∀ (v : World κ) (strat2 : Strat), v.idx = w'.idx → Store.le cfg.ctx w'.store v.store →
      (∀ a, a ∈ stg.outputs → a.skip = false →
        getPath v.ws (Path.comps a.path) = none ∧ Writable v.ws (Path.comps a.path)) →
      ∃ v', checkoutAct cfg strat2 sp v = .ok v' ∧ v'.store = v.store ∧
        ∀ a, a ∈ stg.outputs → a.skip = false → ∃ r, getPath v'.ws (Path.comps a.path) = some r ∧
          deref cfg.ctx v'.store r = trackedOf a (deref cfg.ctx w.store (origAt w.ws a)) := by
  obtain ⟨c', l', _, ⟨stg', _, hl', hout⟩, hlog, hrt, _⟩ :=
    commitAct_postR cfg g strat sp w w' stg hs hap hpre hin hc h
  have ho : ∀ a, origAt (logWs cfg w) a = deref cfg.ctx w.store (origAt w.ws a) :=
    fun a => origAt_deref cfg.ctx w.store w.ws a
  refine ⟨⟨c', l'⟩, ⟨stg', hl', ?_⟩, ?_, ?_⟩
  · intro a ha
    refine ⟨committedArt cfg.ctx (logWs cfg w) a, ?_, rfl, ?_⟩
    · rw [hout]
      exact List.mem_map.2 ⟨a, mem_sortArts_of_mem hap.paths_ne ha, rfl⟩
    · simp [committedArt, ho]
  · intro a ha
    obtain ⟨t', gt, dt⟩ := hlog a ha
    exact ⟨t', gt, by rw [dt, ho]⟩
  · intro v strat2 hidx hle habs
    obtain ⟨v', h1, h2, _, _, h5, _⟩ := checkoutAct_committed cfg strat2 sp (logWs cfg w) stg stg' v
      w'.store (by rw [hidx]; exact hl') hout hap (fun a ha hsk => (hrt a ha).1 hsk) hle habs
    exact ⟨v', h1, h2, fun a ha hsk => by rw [h2, ← ho]; exact h5 a ha hsk⟩

/-- **C01, command level, any commit.** `dud commit [targets]` on a pipeline satisfying
`PipelineOKRe` — every output in scope may record any checksum and may consist of links into the
cache; e.g. the SECOND and every later commit of a project, after files were edited, added,
removed or swapped between file and directory — followed by `dud checkout [targets]` (either
strategy) in ANY world `v` that has the committed index, a cache extending the committed cache,
and in which the non-skip outputs of the stages in scope are absent and writable: the checkout
succeeds, and at the path of every non-skip output of every stage in scope there is a node whose
logical content is the tracked part of the logical content of the original workspace.  Moreover
(a) the committed cache is consistent and extends the initial one; (b) every stage in scope is
recorded with the outputs `committedArt …` of the logical workspace, i.e. with
`sum = treeDigest` of the tracked logical subtree; (c) the logical content found at every output
after the commit is the original one; (d) the committed cache holds the tracked tree of every
directory output with current-format manifests — hence (`next_commit_recommitOK`) the `RecommitOK`
hypothesis of the next commit holds whatever the workspace is edited into. -/
theorem commit_checkout_world_roundtrip_re (cfg : Cfg κ) (g : Good cfg.ctx) (strat strat2 : Strat)
    (targets : List Bytes) (w0 w' : World κ) (hc : Consistent cfg.ctx w0.store)
    (hok : PipelineOKRe cfg (InScope cfg w0 targets) w0)
    (h : cmdCommit cfg strat targets w0 = .ok w') :
    (Consistent cfg.ctx w'.store ∧ Store.le cfg.ctx w0.store w'.store) ∧
    (∀ sp stg, InScope cfg w0 targets sp → alookup w0.idx sp = some stg →
      ∃ stg', alookup w'.idx sp = some stg' ∧
        stg'.outputs = (sortArts stg.outputs).map
          (committedArt cfg.ctx (deref cfg.ctx w0.store w0.ws))) ∧
    (∀ sp stg, InScope cfg w0 targets sp → alookup w0.idx sp = some stg →
      ∀ a, a ∈ stg.outputs → ∃ t', getPath w'.ws (Path.comps a.path) = some t' ∧
        deref cfg.ctx w'.store t' = deref cfg.ctx w0.store (origAt w0.ws a)) ∧
    (∀ sp stg, InScope cfg w0 targets sp → alookup w0.idx sp = some stg →
      ∀ a, a ∈ stg.outputs → a.isDir = true → HoldsNode cfg.ctx w'.store newChoice a.path
        (trackedOf a (deref cfg.ctx w0.store (origAt w0.ws a)))) ∧
    ∀ v : World κ, v.idx = w'.idx → Store.le cfg.ctx w'.store v.store →
      (∀ sp stg, InScope cfg w0 targets sp → alookup w0.idx sp = some stg →
        ∀ a, a ∈ stg.outputs → a.skip = false →
          getPath v.ws (Path.comps a.path) = none ∧ Writable v.ws (Path.comps a.path)) →
      ∃ v', cmdCheckout cfg strat2 false targets v = .ok v' ∧ v'.store = v.store ∧ v'.idx = v.idx ∧
        ∀ sp stg, InScope cfg w0 targets sp → alookup w0.idx sp = some stg →
          ∀ a, a ∈ stg.outputs → a.skip = false →
            ∃ r, getPath v'.ws (Path.comps a.path) = some r ∧
              deref cfg.ctx v'.store r =
                trackedOf a (deref cfg.ctx w0.store (origAt w0.ws a)) := by
  have hci := (cmdCommit_invR cfg g strat targets w0 w' hc hok h).1
  have ho : ∀ a, origAt (logWs cfg w0) a = deref cfg.ctx w0.store (origAt w0.ws a) :=
    fun a => origAt_deref cfg.ctx w0.store w0.ws a
  -- what the invariant says of a stage in scope, all of which are done
  have hfin : ∀ sp stg, InScope cfg w0 targets sp → alookup w0.idx sp = some stg →
      ∃ stg', alookup w'.idx sp = some stg' ∧
        stg'.outputs = (sortArts stg.outputs).map (committedArt cfg.ctx (logWs cfg w0)) ∧
        (∀ a, a ∈ stg.outputs → Kept cfg a (trackedOf a (origAt (logWs cfg w0) a)) w'.store) ∧
        (∀ a, a ∈ stg.outputs → ∃ t', getPath w'.ws (Path.comps a.path) = some t' ∧
          deref cfg.ctx w'.store t' = origAt (logWs cfg w0) a) := by
    intro sp stg hsp hs
    obtain ⟨stg0, stg', e0, e⟩ := hci.finished sp hsp (cmdCommit_stage hok.keys h hsp).1
    rw [hs] at e0
    cases e0
    exact ⟨stg', e⟩
  refine ⟨⟨hci.cons, hci.le⟩, fun sp stg hsp hs => ?_, fun sp stg hsp hs a ha => ?_,
    fun sp stg hsp hs a ha hd => ?_, ?_⟩
  · obtain ⟨stg', e1, e2, _⟩ := hfin sp stg hsp hs
    exact ⟨stg', e1, e2⟩
  · obtain ⟨_, _, _, _, e4⟩ := hfin sp stg hsp hs
    rw [← ho]
    exact e4 a ha
  · obtain ⟨_, _, _, e3, _⟩ := hfin sp stg hsp hs
    rw [← ho]
    exact (e3 a ha).2 hd
  intro v hv hle hfresh
  obtain ⟨v', h1, h2, h3, h4⟩ :=
    cmdCheckout_in_clone cfg g strat strat2 targets w0 w' hc hok h v hv hle hfresh
  exact ⟨v', h1, h2, h3, fun sp stg hsp hs a ha hsk => by rw [← ho]; exact h4 sp stg hsp hs a ha hsk⟩

/-- **C01, command level, any commit, empty workspace.** The clone has the committed index, a cache
extending the committed one and an EMPTY workspace (no output path is "." itself): `dud checkout`
succeeds and reproduces the tracked part of the logical content of every output in scope. -/
theorem commit_checkout_empty_workspace_re (cfg : Cfg κ) (g : Good cfg.ctx) (strat strat2 : Strat)
    (targets : List Bytes) (w0 w' : World κ) (hc : Consistent cfg.ctx w0.store)
    (hok : PipelineOKRe cfg (InScope cfg w0 targets) w0)
    (hdot : ∀ sp stg, InScope cfg w0 targets sp → alookup w0.idx sp = some stg →
      ∀ a, a ∈ stg.outputs → a.skip = false → Path.comps a.path ≠ [])
    (h : cmdCommit cfg strat targets w0 = .ok w')
    (v : World κ) (hidx : v.idx = w'.idx) (hws : v.ws = .dir [])
    (hle : Store.le cfg.ctx w'.store v.store) :
    ∃ v', cmdCheckout cfg strat2 false targets v = .ok v' ∧ v'.store = v.store ∧
      ∀ sp stg, InScope cfg w0 targets sp → alookup w0.idx sp = some stg →
        ∀ a, a ∈ stg.outputs → a.skip = false →
          ∃ r, getPath v'.ws (Path.comps a.path) = some r ∧
            deref cfg.ctx v'.store r = trackedOf a (deref cfg.ctx w0.store (origAt w0.ws a)) := by
  obtain ⟨_, _, _, _, hco⟩ :=
    commit_checkout_world_roundtrip_re cfg g strat strat2 targets w0 w' hc hok h
  obtain ⟨v', h1, h2, _, h4⟩ := hco v hidx hle (fun sp stg hsp hs a ha hsk => by
    rw [hws]
    refine ⟨?_, WT.writable_empty _⟩
    cases hp : Path.comps a.path with
    | nil => exact absurd hp (hdot sp stg hsp hs a ha hsk)
    | cons c r => exact getPath_nil_dir r c)
  exact ⟨v', h1, h2, h4⟩

/-- **The next commit's `RecommitOK` comes for free.** After a commit covered by
`commit_checkout_world_roundtrip_re`, let `a'` be the recorded version of a directory output `a` of
a stage in scope (`a' = committedArt … a`: the stage file now records the new checksum).  Whatever
directory `n'` the workspace is edited into at that path — entries modified, added, removed,
changed between file and directory — in every cache extending the committed one (later commits,
fetches) the hypothesis `old` of `ArtPreRe` for `a'` and `n'` holds.  (The remaining fields of
`ArtPreRe` concern the new workspace only.) -/
theorem next_commit_recommitOK (cfg : Cfg κ) (g : Good cfg.ctx) (strat : Strat)
    (targets : List Bytes) (w0 w' : World κ) (hc : Consistent cfg.ctx w0.store)
    (hok : PipelineOKRe cfg (InScope cfg w0 targets) w0)
    (h : cmdCommit cfg strat targets w0 = .ok w')
    (sp : Bytes) (stg : Stage) (hsp : InScope cfg w0 targets sp) (hs : alookup w0.idx sp = some stg)
    (a : Art) (ha : a ∈ stg.outputs) (hd : a.isDir = true)
    (s'' : Store κ) (hle : Store.le cfg.ctx w'.store s'') (n' : Node κ) (hn' : n'.isDir = true) :
    RecommitOK cfg.ctx s''
      (trackedOf (committedArt cfg.ctx (deref cfg.ctx w0.store w0.ws) a) n')
      (committedArt cfg.ctx (deref cfg.ctx w0.store w0.ws) a).sum := by
  obtain ⟨_, _, _, hh, _⟩ :=
    commit_checkout_world_roundtrip_re cfg g strat strat targets w0 w' hc hok h
  obtain ⟨n, hn, hp⟩ := hok.pre sp stg hsp hs a ha
  have ho : origAt (deref cfg.ctx w0.store w0.ws) a = deref cfg.ctx w0.store (origAt w0.ws a) :=
    origAt_deref cfg.ctx w0.store w0.ws a
  have hsum : (committedArt cfg.ctx (deref cfg.ctx w0.store w0.ws) a).sum =
      treeDigest cfg.ctx a.path (trackedOf a (deref cfg.ctx w0.store (origAt w0.ws a))) := by
    simp [committedArt, ho]
  rw [hsum, trackedOf_sum]
  have hon : origAt w0.ws a = n := origAt_of_getPath hn
  refine (RecommitOK.of_holds_new g (hh sp stg hsp hs a ha hd) ?_ ?_ _ ?_).mono hle
  · rw [hon, trackedOf_deref]
    exact sorted_deref _ _ _ (sorted_trackedOf a hp.sorted)
  · rw [hon, trackedOf_deref]
    exact namesOK_deref _ (namesOK_trackedOf a hp.names)
  · rw [hon, trackedOf_isDir, trackedOf_isDir, deref_isDir, hp.kind, hd, hn']

/-! ## non-vacuity: the two-stage pipeline, committed, edited, committed again, cloned

The pipeline is the one of `Props/C01world.lean` (`Example2`: stage `[1]` writes a directory with a
file and a sub-directory, stage `[2]` reads that directory and writes a file).  It is committed
(link strategy), EDITED — one file modified, one added, one removed, one file turned into a
directory (into which the link the first commit left is moved) —, committed again with the OTHER
strategy (copy), and checked out into a clone with an empty workspace.

* `Example3` (below): the scenario in the context `Example.ctx` with the injective hash (`Good`), as an
  instance of the theorems: `second_commit_roundtrip`; the first commit is evaluated by `rfl`, the
  second commit and the clone's checkouts by one `decide +kernel` (`run2`).  The entries are named by
  the bytes 1…7 instead of the letters `a`, `b`, `x`, … of `Example2`: the injective example hash
  codes every byte of a name in unary inside the digest strings, and with letters the digests
  (hundreds of characters) make every cache lookup very slow under kernel evaluation.  The
  `RecommitOK` hypothesis of the second commit is NOT evaluated: it is derived from the theorem for
  the first commit (`next_commit_recommitOK`).
* `ExampleQ`: literally `Example2.w0` (letters), the whole scenario evaluated by the kernel under a
  cheap (non-injective) hash, and by `#eval` under the injective one.
-/

theorem Re.PipelineOKRe.of_all {cfg : Cfg κ} {w : World κ}
    (h : PipelineAll cfg (ArtPreRe cfg.ctx cfg.fuel w.store) w) (Sc : Bytes → Prop) : PipelineOKRe cfg Sc w :=
  have ⟨h1, h2, h3, h4, h5⟩ := h.lookups
  ⟨h1, fun sp stg _ => h2 sp stg, fun sp1 sp2 s1 s2 _ _ => h3 sp1 sp2 s1 s2,
    fun sp stg _ => h4 sp stg, fun sp stg _ hs sp' stg' _ => h5 sp stg hs sp' stg'⟩

namespace Example3
open Dud.Example

def cfg : Cfg K := Example2.cfg

def treeA : Node K := .dir [([4], .file (.raw "x")), ([5], .dir [([6], .file (.raw "z"))])]
def outA : Art := { path := [1], isDir := true }
def outB : Art := { path := [2] }
def stageA : Stage := { cmd := [1], outputs := [outA] }
def stageB : Stage := { cmd := [2], inputs := [{ path := [1], isDir := true }], outputs := [outB] }
def w0 : World K :=
  { ws := .dir [([1], treeA), ([2], .file (.raw "out"))],
    idx := [([1], stageA), ([2], stageB)] }
def w1 : World K :=
  match cmdCommit cfg .link [] w0 with
  | .ok w => w
  | .error _ => default

/-- the stages as the first commit recorded them -/
def stageA1 : Stage := (alookup w1.idx [1]).getD default
def stageB1 : Stage := (alookup w1.idx [2]).getD default

/-- the outputs with the checksums of the first commit -/
def outA1 : Art := committedArt ctx (deref ctx w0.store w0.ws) outA
def outB1 : Art := committedArt ctx (deref ctx w0.store w0.ws) outB

/-- the one evaluation of the first commit: it succeeds, and what it recorded (four `rfl`s in one
declaration run the commit once, in four declarations four times) -/
theorem run1 : cmdCommit cfg .link [] w0 = .ok w1 ∧ w1.idx = [([1], stageA1), ([2], stageB1)] ∧
    stageA1.outputs = [outA1] ∧ stageB1.outputs = [outB1] := ⟨rfl, rfl, rfl, rfl⟩

theorem commit_ok : cmdCommit cfg .link [] w0 = .ok w1 := run1.1
theorem w1_idx : w1.idx = [([1], stageA1), ([2], stageB1)] := run1.2.1
theorem outsA1 : stageA1.outputs = [outA1] := run1.2.2.1
theorem outsB1 : stageB1.outputs = [outB1] := run1.2.2.2

theorem scope_all {w : World K} {sA sB : Stage} (hidx : w.idx = [([1], sA), ([2], sB)]) (sp : Bytes)
    (h : sp = [1] ∨ sp = [2]) : InScope cfg w [] sp :=
  inScope_all cfg (by simpa [allStages, hidx] using h)

theorem cons0 : Consistent ctx w0.store := Consistent.nil _

theorem pipeline0 (Sc : Bytes → Prop) : PipelineOKRe cfg Sc w0 :=
  .of_pipelineOK (.of_check (fun _ _ => rfl) (by decide) Sc)

/-- the theorem applied to the FIRST commit: the committed cache is consistent -/
theorem cons1 : Consistent ctx w1.store :=
  (commit_checkout_world_roundtrip_re cfg good .link .link [] w0 w1 cons0 (pipeline0 _) commit_ok).1.1

/-- the directory `[1]` after the edit: `[3]` ADDED (a regular file), the file `[4]` turned into a
DIRECTORY containing (under the name `[7]`) the link the first commit left for it, `[5]/[6]`
REMOVED -/
def nE : Node K :=
  .dir [([3], .file (.raw "new")),
        ([4], .dir [([7], .link (.obj (ctx.H (.raw "x"))))]),
        ([5], .dir [])]
/-- … and the file `[2]` MODIFIED: the link replaced by a regular file with new content -/
def wsE : Node K := .dir [([1], nE), ([2], .file (.raw "out2"))]
def w1e : World K := { w1 with ws := wsE }

/-- the logical content of the edited directory -/
def treeA2 : Node K :=
  .dir [([3], .file (.raw "new")), ([4], .dir [([7], .file (.raw "x"))]), ([5], .dir [])]

/-- the first commit left the object of `[1]/[4]` in the cache (by the theorem, not by evaluation) -/
theorem nE_logical : deref ctx w1e.store nE = treeA2 := by
  have h : HoldsNode ctx w1.store newChoice [1] treeA :=
    (commit_checkout_world_roundtrip_re cfg good .link .link [] w0 w1 cons0 (pipeline0 _)
      commit_ok).2.2.2.1 [1] stageA (scope_all rfl _ (.inl rfl)) rfl outA (by simp [stageA]) rfl
  simp only [treeA, HoldsNode, HoldsList] at h
  obtain ⟨_, ⟨o, ho, hb⟩, _⟩ := h
  simp [nE, treeA2, w1e, deref, derefList, ho, hb]

theorem preA1 : ArtPreRe cfg.ctx cfg.fuel w1e.store outA1 nE where
  kind := rfl
  resolved := by rw [show cfg.ctx = ctx from rfl, nE_logical]; simp [treeA2, Node.plain, plainList]
  sorted := by simp [nE, Node.sorted, sortedList, headName]; decide
  names := .of_check (fun _ _ => rfl) (by decide)
  skipfile := fun h => by cases h
  old := next_commit_recommitOK cfg good .link [] w0 w1 cons0 (pipeline0 _) commit_ok [1] stageA
    (scope_all rfl _ (.inl rfl)) rfl outA (by simp [stageA]) rfl w1e.store (Store.le_refl _ _) nE rfl
  fuel := by simp [trackedOf, outA1, committedArt, outA, nE, depth, depthList, cfg, Example2.cfg]

theorem preB1 : ArtPreRe cfg.ctx cfg.fuel w1e.store outB1 (.file (.raw "out2")) where
  kind := rfl
  resolved := rfl
  sorted := rfl
  names := by intro nm h; simp [allNames] at h
  skipfile := fun h => by cases h
  old := RecommitOK.of_not_dir _ _ _ rfl
  fuel := by simp [trackedOf, depth, cfg, Example2.cfg]

theorem pipeline1 (Sc : Bytes → Prop) : PipelineOKRe cfg Sc w1e :=
  .of_all ((by decide +kernel : PipelineAll cfg (fun _ _ => True) w1e).imp fun e he a ha _ => by
    have he : e ∈ [([1], stageA1), ([2], stageB1)] := (congrArg (e ∈ ·) w1_idx).mp he
    simp only [List.mem_cons, List.not_mem_nil, or_false] at he
    rcases he with rfl | rfl
    · cases List.mem_singleton.1 (outsA1 ▸ ha); exact preA1
    · cases List.mem_singleton.1 (outsB1 ▸ ha); exact preB1) Sc

/-- the world after the second `dud commit`, this time with the copy strategy -/
def w2 : World K :=
  match cmdCommit cfg .copy [] w1e with
  | .ok w => w
  | .error _ => default

/-- a fresh clone: index and cache of the second commit, empty workspace -/
def clone2 : World K := { idx := w2.idx, store := w2.store }

/-- the logical content of the edited workspace -/
def wsE_logical : Node K := .dir [([1], treeA2), ([2], .file (.raw "out2"))]

/-- the one kernel evaluation of the second commit and of the two checkouts in the fresh clone; the
digest strings compared have some hundred characters -/
theorem run2 : cmdCommit cfg .copy [] w1e = .ok w2 ∧
    (match cmdCheckout cfg .copy false [] clone2 with
      | .ok v => nodeBEq v.ws wsE_logical
      | .error _ => false) = true ∧
    (match cmdCheckout cfg .link false [] clone2 with
      | .ok v => nodeBEq (deref ctx v.store v.ws) wsE_logical && !nodeBEq v.ws wsE_logical
      | .error _ => false) = true := by
  open Dud.WorldDec in decide +kernel

theorem commit_ok2 : cmdCommit cfg .copy [] w1e = .ok w2 := run2.1

/-- the fields of a fresh clone, stated for variables: comparing `clone2` with `w2` field by field
would evaluate the commit -/
theorem clone_fields (i : Index) (s : Store K) :
    ({ idx := i, store := s } : World K).idx = i ∧
    ({ idx := i, store := s } : World K).ws = .dir [] ∧
    ({ idx := i, store := s } : World K).store = s := ⟨rfl, rfl, rfl⟩

/-- **The command-level theorem instantiated for the SECOND commit**: the two-stage pipeline,
committed (link), edited (one file modified, one added, one removed, one file turned into a directory
that contains a link into the cache), committed again (copy), then `dud checkout` (either strategy)
in a fresh clone with an empty workspace rebuilds the edited directory and the modified file. -/
theorem second_commit_roundtrip (strat2 : Strat) :
    ∃ v', cmdCheckout cfg strat2 false [] clone2 = .ok v' ∧
      (∃ r, getPath v'.ws [[1]] = some r ∧ deref ctx v'.store r = treeA2) ∧
      (∃ r, getPath v'.ws [[2]] = some r ∧ deref ctx v'.store r = .file (.raw "out2")) := by
  obtain ⟨e1, e2, e3⟩ := clone_fields w2.idx w2.store
  obtain ⟨v', h1, _, h3⟩ := commit_checkout_empty_workspace_re cfg good .copy strat2 [] w1e w2
    cons1 (pipeline1 _)
    (stage_forall (by decide +kernel))
    commit_ok2 clone2 e1 e2 (by rw [show clone2.store = w2.store from e3]; exact Store.le_refl _ _)
  have hl : ∀ sp, alookup w1e.idx sp = alookup [([1], stageA1), ([2], stageB1)] sp :=
    fun sp => congrArg (alookup · sp) w1_idx
  have hA := h3 [1] stageA1 (scope_all w1_idx _ (.inl rfl)) ((hl _).trans rfl) outA1
    (by rw [outsA1]; simp) rfl
  have hB := h3 [2] stageB1 (scope_all w1_idx _ (.inr rfl)) ((hl _).trans rfl) outB1
    (by rw [outsB1]; simp) rfl
  rw [show origAt w1e.ws outA1 = nE from rfl, show cfg.ctx = ctx from rfl, nE_logical] at hA
  exact ⟨v', h1, hA, hB⟩

/-- the same by running the model (kernel evaluation): with the copy strategy the clone's workspace
IS the logical content of the edited workspace -/
theorem copy_exact2 :
    (match cmdCheckout cfg .copy false [] clone2 with
      | .ok v => nodeBEq v.ws wsE_logical
      | .error _ => false) = true := run2.2.1

/-- … and with the link strategy it is a tree of links with that logical content -/
theorem link_logical2 :
    (match cmdCheckout cfg .link false [] clone2 with
      | .ok v => nodeBEq (deref ctx v.store v.ws) wsE_logical && !nodeBEq v.ws wsE_logical
      | .error _ => false) = true := run2.2.2

/-- the checksum the second commit records for `[1]` is `treeDigest` of the edited logical tree:
clause (b) of the theorem, the logical tree from `nE_logical` -/
theorem second_sum : (alookup w2.idx [1]).map (fun s => s.outputs.map (·.sum)) =
    some [treeDigest ctx [1] treeA2] := by
  obtain ⟨stg', h1, h2⟩ := (commit_checkout_world_roundtrip_re cfg good .copy .copy [] w1e w2 cons1
    (pipeline1 _) commit_ok2).2.1 [1] stageA1 (scope_all w1_idx _ (.inl rfl))
    ((congrArg (alookup · [1]) w1_idx).trans rfl)
  rw [h1, Option.map_some, h2, outsA1]
  show some [treeDigest ctx [1] (trackedOf outA1 (origAt (deref ctx w1e.store wsE) outA1))] = _
  rw [origAt_deref, show origAt wsE outA1 = nE from rfl, nE_logical]
  rfl

#eval match cmdCheckout cfg .link false [] clone2 with
  | .ok v => repr v.ws
  | .error e => repr e

end Example3

namespace ExampleQ
open Dud.Example

/-- the example context with SHORT digests (not injective; cheap to compare by kernel evaluation) -/
def ctxQ : Ctx K :=
  { ctx with H := fun k => match k with
      | .raw s => "raw-" ++ s
      | .man _ _ cs => "man-" ++ String.join (cs.map (fun c => "/" ++ c.sum)) }

def cfgQ : Cfg K := { Example2.cfg with ctx := ctxQ }

/-- the edit of the workspace the first commit left: `a/w` ADDED, the file `a/x` turned into a
DIRECTORY into which the link found at `a/x` is moved (as `a/x/q`), `a/y/z` REMOVED, `b` MODIFIED -/
def edit (ws : Node K) : Node K :=
  .dir [([97], .dir [([119], .file (.raw "new")),
                     ([120], .dir [([113], (getPath ws [[97], [120]]).getD .other)]),
                     ([121], .dir [])]),
        ([98], .file (.raw "out2"))]

/-- the logical content of `a/` after the edit -/
def treeA2 : Node K :=
  .dir [([119], .file (.raw "new")), ([120], .dir [([113], .file (.raw "x"))]), ([121], .dir [])]

/-- `Example2.w0`: `dud commit`, edit, `dud commit --copy`, `dud checkout` (strategy `strat2`) in a
fresh clone; the result: the clone has the logical content of the edited workspace, and the second
commit recorded `treeDigest` of the edited `a/` -/
def scenario (c : Cfg K) (strat2 : Strat) : Bool :=
  match cmdCommit c .link [] Example2.w0 with
  | .error _ => false
  | .ok w1 =>
    match cmdCommit c .copy [] { w1 with ws := edit w1.ws } with
    | .error _ => false
    | .ok w2 =>
      match cmdCheckout c strat2 false [] { idx := w2.idx, store := w2.store } with
      | .error _ => false
      | .ok v =>
        nodeBEq (deref c.ctx v.store v.ws) (.dir [([97], treeA2), ([98], .file (.raw "out2"))]) &&
          ((alookup w2.idx [1]).map (fun s => s.outputs.map (·.sum)) ==
            some [treeDigest c.ctx [97] treeA2])

/-- one evaluation for both strategies (the two commits are the same) -/
theorem scenarios : scenario cfgQ .copy = true ∧ scenario cfgQ .link = true := by decide +kernel
theorem scenario_copy : scenario cfgQ .copy = true := scenarios.1
theorem scenario_link : scenario cfgQ .link = true := scenarios.2

-- the same under the injective hash of `Example.ctx`
#eval scenario Example2.cfg .copy
#eval scenario Example2.cfg .link

end ExampleQ

#print axioms commitArt_roundtrip_re
#print axioms commitArt_unreadable_fails
#print axioms oldManifest_absent
#print axioms stage_commit_checkout_roundtrip_re
#print axioms commit_checkout_world_roundtrip_re
#print axioms commit_checkout_empty_workspace_re
#print axioms next_commit_recommitOK
#print axioms Re.recommitNodeL_post
#print axioms Re.commitArt_roundtrip_re'
#print axioms Re.commitAct_postR
#print axioms Re.cmdCommit_invR
#print axioms Re.RecommitOK.of_compat
#print axioms Re.RecommitOK.of_holds
#print axioms Re.RecommitOK.of_holds_new
#print axioms Re.RecommitOK.of_never
#print axioms Re.RecommitOK.of_digestAs
#print axioms Re.RecommitOK.of_treeDigest
#print axioms Re.ArtPreRe.of_older
#print axioms Re.ArtPreRe.of_artPre
#print axioms Re.PipelineOKRe.of_pipelineOK
#print axioms Example3.commit_ok
#print axioms Example3.commit_ok2
#print axioms Example3.pipeline0
#print axioms Example3.pipeline1
#print axioms Example3.second_commit_roundtrip
#print axioms Example3.copy_exact2
#print axioms Example3.link_logical2
#print axioms Example3.second_sum
#print axioms ExampleQ.scenario_copy
#print axioms ExampleQ.scenario_link

end Dud
