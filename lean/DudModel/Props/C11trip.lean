import DudModel.Props.C11world
import DudModel.Lemmas.WorldStatus
import DudModel.Lemmas.WorldDec
import DudModel.Lemmas.WorldCheck
/-!
# C11 ∘ C01 at the world level — commit, push, lose the cache, fetch, checkout

`commit_checkout_world_roundtrip` (`Props/C01world.lean`) asks of the cache used by checkout that it
extends the committed cache on ALL objects (`Store.le`).  A fetch restores only the objects reachable
from the non-skip outputs in scope (`push_fetch_world_partial`), so the two do not compose as stated.
This file closes the gap: after `dud commit` the cache HOLDS (`HoldsNode`, `Lemmas/Holds.lean`) the
tree of every non-skip output in scope (`cmdCommit_holds`); holding a tree is a matter of the objects
reachable (`Reaches`) from its entry (`holds_transfer`), which push and fetch restore with the same
bytes; and from a store holding the tree, checkout into an absent place rebuilds it
(`Re.roundTrip_of_holds`; `cmdCheckout_restored` is the checkout half of
`commit_checkout_world_roundtrip` with the hypothesis on the clone's own cache).  The result is
**`commit_push_fetch_checkout_world_partial`**: `dud commit`, `dud push`, a clone with the committed
index, the remote, NO cache and an EMPTY workspace, `dud fetch`, `dud checkout`: the checkout succeeds
and at every non-skip output of every stage in scope stands a node whose logical content (`deref`) is
the original subtree.

PARTIAL because of `KindsAgree` on the manifests of the remote (inherited from
`cmdFetch_world_closure_partial`, see `fetch_skips_children` in `Props/C11.lean`).  Further
hypotheses, all inherited: `PipelineOK` (`Lemmas/WorldCheckout.lean`, the hypothesis of
`Props/C01world.lean`); the inputs no stage owns are file artifacts and directory outputs are
recursive (`PlainInputsFiles` of `Lemmas/WorldStatus.lean`, `WStat.Recursive`, the hypotheses of
`Props/C05world.lean`: `HoldsNode` is established for whole trees); `single = false`.
-/
namespace Dud

open WT WR WStat

variable {κ : Type}

/-- **`dud commit` leaves a cache holding every non-skip output tree in scope.** -/
theorem cmdCommit_holds (cfg : Cfg κ) (g : Good cfg.ctx) (strat : Strat) (targets : List Bytes)
    (w0 w' : World κ) (hc : Consistent cfg.ctx w0.store)
    (hok : PipelineOK cfg (InScope cfg w0 targets) w0)
    (hfiles : PlainInputsFiles cfg (InScope cfg w0 targets) w0)
    (hrec : ∀ sp stg, InScope cfg w0 targets sp → alookup w0.idx sp = some stg →
      ∀ a, a ∈ stg.outputs → Recursive a)
    (h : cmdCommit cfg strat targets w0 = .ok w') :
    ∀ sp stg, InScope cfg w0 targets sp → alookup w0.idx sp = some stg →
      ∀ a, a ∈ stg.outputs → a.skip = false →
        HoldsNode cfg.ctx w'.store newChoice a.path (origAt w0.ws a) := by
  obtain ⟨_, hall⟩ := cmdCommit_scope_done hok.keys h
  have hinv := cmdCommit_invRec g strat targets w0 w' hc hok hfiles h
  intro sp stg hsp hs a ha hsk
  obtain ⟨_, _, hh⟩ := hinv.outs sp stg hsp (hall sp hsp) hs a ha
  exact (hrec sp stg hsp hs a ha).tracked_eq (n := origAt w0.ws a) (by
    obtain ⟨n, hn, hpre⟩ := hok.pre sp stg hsp hs a ha
    rw [origAt_of_getPath hn]; exact hpre.kind) ▸ hh.2.2 (.inr hsk)

mutual
theorem holds_transfer {ctx : Ctx κ} (g : Good ctx) {s s' : Store κ} :
    ∀ (t : Node κ) (ch : Choice) (nm : Bytes), t.plain = true → t.sorted = true → NamesOK ctx t →
      HoldsNode ctx s ch nm t →
      (∀ d, Reaches ctx s ⟨nm, digestAs ctx ch nm t, t.isDir⟩ d →
        ∃ o o', s.get d = some o ∧ s'.get d = some o' ∧ o'.bytes ctx = o.bytes ctx) →
      HoldsNode ctx s' ch nm t
  | .file x, ch, nm, _, _, _, h, htr => by
    simp only [HoldsNode] at h ⊢
    obtain ⟨o, ho, hb⟩ := h
    obtain ⟨o1, o1', h1, h1', hb1⟩ := htr (ctx.H x) (by
      have := Reaches.self (ctx := ctx) (s := s) ⟨nm, digestAs ctx ch nm (.file x), false⟩
      simpa [digestAs, Node.isDir] using this)
    rw [ho] at h1
    cases h1
    exact ⟨o1', h1', hb1.trans hb⟩
  | .dir es, ch, nm, hp, hs, hn, h, htr => by
    have hp' : plainList es = true := by simpa [Node.plain] using hp
    have hs' : sortedList es = true := by simpa [Node.sorted] using hs
    have hn' : NamesOKList ctx es := namesOK_dir hn
    obtain ⟨_, hread⟩ := readManifest_holds g hs' hn' h
    simp only [HoldsNode] at h ⊢
    obtain ⟨⟨o, ho, hb⟩, hl⟩ := h
    obtain ⟨o1, o1', h1, h1', hb1⟩ := htr _ (.self _)
    simp only at h1 h1'
    rw [ho] at h1
    cases h1
    refine ⟨⟨o1', h1', hb1.trans hb⟩, holdsList_transfer g es ch hp' hs' hn' hl ?_⟩
    intro e he d hr
    refine htr d (.child _ (childrenAs ctx ch es) _ d rfl hread ?_ hr)
    rw [childrenAs_eq_map]
    exact List.mem_map.2 ⟨e, he, rfl⟩
  | .link _, _, _, hp, _, _, _, _ => by simp [Node.plain] at hp
  | .other, _, _, hp, _, _, _, _ => by simp [Node.plain] at hp
theorem holdsList_transfer {ctx : Ctx κ} (g : Good ctx) {s s' : Store κ} :
    ∀ (es : List (Name × Node κ)) (ch : Choice), plainList es = true → sortedList es = true →
      NamesOKList ctx es → HoldsList ctx s ch es →
      (∀ e, e ∈ es → ∀ d,
        Reaches ctx s ⟨e.1, digestAs ctx (subChoice ch e.1) e.1 e.2, e.2.isDir⟩ d →
        ∃ o o', s.get d = some o ∧ s'.get d = some o' ∧ o'.bytes ctx = o.bytes ctx) →
      HoldsList ctx s' ch es
  | [], _, _, _, _, _, _ => by simp [HoldsList]
  | (nm, n) :: r, ch, hp, hs, hn, h, htr => by
    simp only [HoldsList] at h ⊢
    exact ⟨holds_transfer g n (subChoice ch nm) nm (plainList_cons hp).1 (sortedList_cons hs).1
        (namesOK_node hn) h.1 (fun d hr => htr (nm, n) List.mem_cons_self d hr),
      holdsList_transfer g r ch (plainList_cons hp).2 (sortedList_cons hs).2 (namesOK_tail hn) h.2
        (fun e he d hr => htr e (List.mem_cons_of_mem _ he) d hr)⟩
end

/-- **`dud checkout` in a clone whose cache was restored.** `w'` is the world a successful
`dud commit [targets]` left; the clone `v` has the committed index, a cache with the `RoundTrip`
property for every non-skip output in scope, and these outputs are absent and writable.  Then
`dud checkout [targets]` succeeds and rebuilds every such output.  (The checkout half of
`commit_checkout_world_roundtrip`, with the hypothesis on the clone's cache alone.) -/
theorem cmdCheckout_restored (cfg : Cfg κ) (g : Good cfg.ctx) (strat strat2 : Strat)
    (targets : List Bytes) (w0 w' : World κ) (hc : Consistent cfg.ctx w0.store)
    (hok : PipelineOK cfg (InScope cfg w0 targets) w0)
    (h : cmdCommit cfg strat targets w0 = .ok w') (v : World κ) (hv : v.idx = w'.idx)
    (hrt : ∀ sp stg, InScope cfg w0 targets sp → alookup w0.idx sp = some stg →
      ∀ a, a ∈ stg.outputs → a.skip = false →
        RoundTrip cfg a (trackedOf a (origAt w0.ws a)) v.store)
    (hfresh : ∀ sp stg, InScope cfg w0 targets sp → alookup w0.idx sp = some stg →
      ∀ a, a ∈ stg.outputs → a.skip = false →
        getPath v.ws (Path.comps a.path) = none ∧ Writable v.ws (Path.comps a.path)) :
    ∃ v', cmdCheckout cfg strat2 false targets v = .ok v' ∧ v'.store = v.store ∧ v'.idx = v.idx ∧
      ∀ sp stg, InScope cfg w0 targets sp → alookup w0.idx sp = some stg →
        ∀ a, a ∈ stg.outputs → a.skip = false →
          ∃ r, getPath v'.ws (Path.comps a.path) = some r ∧
            deref cfg.ctx v'.store r = trackedOf a (origAt w0.ws a) := by
  have hci := (cmdCommit_inv cfg g strat targets w0 w' hc hok h).1
  have hall : ∀ sp, InScope cfg w0 targets sp → w'.done.contains sp = true :=
    fun sp hsp => (cmdCommit_stage hok.keys h hsp).1
  have hstage : ∀ sp, InScope cfg w0 targets sp → ∃ stg stg', alookup w0.idx sp = some stg ∧
      alookup w'.idx sp = some stg' ∧
      stg'.outputs = (sortArts stg.outputs).map (committedArt cfg.ctx w0.ws) := by
    intro sp hsp
    obtain ⟨stg, stg', e0, e1, e2, _⟩ := hci.finished sp hsp (hall sp hsp)
    exact ⟨stg, stg', e0, e1, e2⟩
  exact cmdCheckout_after_commit strat2 hok.keys h w0.ws hok.apart_in hok.apart_across
    hstage v hv hrt hfresh

/-- **C11 ∘ C01, world level — PARTIAL (`KindsAgree` on the remote).**
`dud commit [targets]` in `w0` (pipeline satisfying `PipelineOK`, un-owned inputs files, directory
outputs recursive), `dud push [targets]` to a consistent remote, then a clone `c` that has the
committed index and the remote but NO cache (`c.store = []`), and in which the non-skip outputs in
scope are absent and writable (e.g. an empty workspace: `commit_push_fetch_checkout_empty_partial`):
`dud fetch [targets]` (assumed to succeed, like commit and push) followed by `dud checkout [targets]`
with either strategy SUCCEEDS, and at the path of every non-skip output of every stage in scope
stands a node whose logical content (`deref` in the fetched cache) is the original subtree. -/
theorem commit_push_fetch_checkout_world_partial (cfg : Cfg κ) (g : Good cfg.ctx)
    (strat strat2 : Strat) (targets : List Bytes) (w0 w1 w2 c v : World κ)
    (hc : Consistent cfg.ctx w0.store)
    (hok : PipelineOK cfg (InScope cfg w0 targets) w0)
    (hfiles : PlainInputsFiles cfg (InScope cfg w0 targets) w0)
    (hrec : ∀ sp stg, InScope cfg w0 targets sp → alookup w0.idx sp = some stg →
      ∀ a, a ∈ stg.outputs → Recursive a)
    (hcommit : cmdCommit cfg strat targets w0 = .ok w1)
    (hcr : Consistent cfg.ctx w1.remote)
    (hpush : cmdPush cfg false targets w1 = .ok w2)
    (hci : c.idx = w1.idx) (hcrem : c.remote = w2.remote) (hcs : c.store = [])
    (hfresh : ∀ sp stg, InScope cfg w0 targets sp → alookup w0.idx sp = some stg →
      ∀ a, a ∈ stg.outputs → a.skip = false →
        getPath c.ws (Path.comps a.path) = none ∧ Writable c.ws (Path.comps a.path))
    (hk : KindsAgree (Occurs cfg.ctx w2.remote))
    (hfetch : cmdFetch cfg false targets c = .ok v) :
    ∃ v', cmdCheckout cfg strat2 false targets v = .ok v' ∧ v'.store = v.store ∧ v'.idx = w1.idx ∧
      ∀ sp stg, InScope cfg w0 targets sp → alookup w0.idx sp = some stg →
        ∀ a, a ∈ stg.outputs → a.skip = false →
          ∃ r, getPath v'.ws (Path.comps a.path) = some r ∧
            deref cfg.ctx v'.store r = origAt w0.ws a := by
  -- commit: consistent cache, recorded outputs, held trees
  obtain ⟨⟨hc1, _⟩, hrecd, _⟩ :=
    commit_checkout_world_roundtrip cfg g strat strat2 targets w0 w1 hc hok hcommit
  obtain ⟨_, hsh, _⟩ := cmdCommit_inv cfg g strat targets w0 w1 hc hok hcommit
  have hheld := cmdCommit_holds cfg g strat targets w0 w1 hc hok hfiles hrec hcommit
  -- push + fetch: the closures are restored with the same bytes
  obtain ⟨_, htr⟩ := push_fetch_world_partial g false targets w1 w2 c v hc1 hcr hpush hci hcrem
    (by rw [hcs]; exact Consistent.nil _)
    (kindsAgreeW_empty cfg c hcs (by rw [hcrem]; exact hk)) hfetch
  obtain ⟨_, hvi, hvw, _, _⟩ := cmdFetch_world_mono cfg false targets c v hfetch
  -- so the fetched cache has the `RoundTrip` property
  have hrt : ∀ sp stg, InScope cfg w0 targets sp → alookup w0.idx sp = some stg →
      ∀ a, a ∈ stg.outputs → a.skip = false →
        RoundTrip cfg a (trackedOf a (origAt w0.ws a)) v.store := by
    intro sp stg hsp hs a ha hsk
    obtain ⟨n, hn, hpre⟩ := hok.pre sp stg hsp hs a ha
    have horig : origAt w0.ws a = n := origAt_of_getPath hn
    have hra := hrec sp stg hsp hs a ha
    have htk : trackedOf a n = n := hra.tracked_eq hpre.kind
    rw [horig, htk]
    obtain ⟨stg', hs', hout⟩ := hrecd sp stg hsp hs
    have hap := hok.apart_in sp stg hsp hs
    have hap' : ApartArts stg'.outputs := by
      rw [hout]
      exact hap.sortArts.of_paths (committedArt_paths cfg.ctx w0.ws _)
    have hmem : committedArt cfg.ctx w0.ws a ∈ sortArts stg'.outputs := by
      refine mem_sortArts_of_mem hap'.paths_ne ?_
      rw [hout]
      exact List.mem_map.2 ⟨a, mem_sortArts_of_mem hap.paths_ne ha, rfl⟩
    have hh1 : HoldsNode cfg.ctx w1.store newChoice a.path n := by
      have := hheld sp stg hsp hs a ha hsk
      rwa [horig] at this
    have hchild : (committedArt cfg.ctx w0.ws a).child =
        ⟨a.path, digestAs cfg.ctx newChoice a.path n, n.isDir⟩ := by
      simp only [committedArt, Art.child, horig, htk, digestAs_new, hpre.kind]
    have hh2 : HoldsNode cfg.ctx v.store newChoice a.path n := by
      refine holds_transfer g n newChoice a.path hpre.plain hpre.sorted hpre.names hh1 ?_
      intro d hr
      rw [← hchild] at hr
      exact (htr sp stg' ((cmdScope_iff_inScope cfg hsh targets sp).2 hsp) hs' _ hmem hsk d hr).2
    exact Re.roundTrip_of_holds cfg g a n v.store hsk hpre.kind hpre.plain hpre.sorted hpre.names
      (by have := hpre.fuel; rwa [htk] at this) hh2
  obtain ⟨v', h1, h2, h3, h4⟩ := cmdCheckout_restored cfg g strat strat2 targets w0 w1 hc hok
    hcommit v (hvi.trans hci) hrt (by rw [hvw]; exact hfresh)
  refine ⟨v', h1, h2, h3.trans (hvi.trans hci), ?_⟩
  intro sp stg hsp hs a ha hsk
  obtain ⟨r, hr, hd⟩ := h4 sp stg hsp hs a ha hsk
  obtain ⟨n, hn, hpre⟩ := hok.pre sp stg hsp hs a ha
  refine ⟨r, hr, ?_⟩
  rw [hd, origAt_of_getPath hn, (hrec sp stg hsp hs a ha).tracked_eq hpre.kind]

/-- the same in a FRESH clone: the committed index, the remote, no cache and an empty workspace -/
theorem commit_push_fetch_checkout_empty_partial (cfg : Cfg κ) (g : Good cfg.ctx)
    (strat strat2 : Strat) (targets : List Bytes) (w0 w1 w2 v : World κ)
    (hc : Consistent cfg.ctx w0.store)
    (hok : PipelineOK cfg (InScope cfg w0 targets) w0)
    (hfiles : PlainInputsFiles cfg (InScope cfg w0 targets) w0)
    (hrec : ∀ sp stg, InScope cfg w0 targets sp → alookup w0.idx sp = some stg →
      ∀ a, a ∈ stg.outputs → Recursive a)
    (hdot : ∀ sp stg, InScope cfg w0 targets sp → alookup w0.idx sp = some stg →
      ∀ a, a ∈ stg.outputs → a.skip = false → Path.comps a.path ≠ [])
    (hcommit : cmdCommit cfg strat targets w0 = .ok w1)
    (hcr : Consistent cfg.ctx w1.remote)
    (hpush : cmdPush cfg false targets w1 = .ok w2)
    (hk : KindsAgree (Occurs cfg.ctx w2.remote))
    (hfetch : cmdFetch cfg false targets { idx := w1.idx, remote := w2.remote } = .ok v) :
    ∃ v', cmdCheckout cfg strat2 false targets v = .ok v' ∧
      ∀ sp stg, InScope cfg w0 targets sp → alookup w0.idx sp = some stg →
        ∀ a, a ∈ stg.outputs → a.skip = false →
          ∃ r, getPath v'.ws (Path.comps a.path) = some r ∧
            deref cfg.ctx v'.store r = origAt w0.ws a := by
  obtain ⟨v', h1, _, _, h4⟩ := commit_push_fetch_checkout_world_partial cfg g strat strat2 targets
    w0 w1 w2 { idx := w1.idx, remote := w2.remote } v hc hok hfiles hrec hcommit hcr hpush rfl rfl rfl
    (fun sp stg hsp hs a ha hsk => by
      refine ⟨?_, WT.writable_empty _⟩
      cases hp : Path.comps a.path with
      | nil => exact absurd hp (hdot sp stg hsp hs a ha hsk)
      | cons c r => exact getPath_nil_dir r c)
    hk hfetch
  exact ⟨v', h1, h4⟩

/-- all entries of all manifests readable from the store -/
def storeKids (ctx : Ctx κ) (s : Store κ) : List Child :=
  s.flatMap (fun p => match readManifest ctx s p.1 with
    | .ok cs => cs
    | .error _ => [])

theorem occurs_mem_storeKids {ctx : Ctx κ} {s : Store κ} {c : Child} (h : Occurs ctx s c) :
    c ∈ storeKids ctx s := by
  obtain ⟨d, cs, hm, hc⟩ := h
  obtain ⟨o, ho⟩ := Store.has_eq_true.1 (readManifest_ok_has hm)
  have hmem : (d, o) ∈ s := alookup_mem ho
  exact List.mem_flatMap.2 ⟨(d, o), hmem, by simp only [hm]; exact hc⟩

/-- equal checksums have equal kinds, checked pairwise -/
def kindsOK (l : List Child) : Bool :=
  l.all (fun c1 => l.all (fun c2 => c1.sum != c2.sum || c1.isDir == c2.isDir))

theorem kindsAgree_of_kindsOK {ctx : Ctx κ} {s : Store κ} (h : kindsOK (storeKids ctx s) = true) :
    KindsAgree (Occurs ctx s) := by
  intro c1 c2 h1 h2 hs
  have := List.all_eq_true.1 (List.all_eq_true.1 h c1 (occurs_mem_storeKids h1)) c2
    (occurs_mem_storeKids h2)
  simpa [hs] using this

/-! ## non-vacuity: a two-stage pipeline, all five commands

The pipeline of `Example2` (`Props/C01world.lean`: stage `[2]` consumes the directory that stage `[1]`
produces) with one-byte names `[1]`, `[2]`, `[3]`: the example hash prints names in unary, so the
digests stay short (at most 107 characters) and the kernel can run push and fetch. -/

namespace Example3
open Dud.Example

def cfg : Cfg K :=
  { ctx := ctx, ofBytes := fun _ => .raw "", toBytes := fun _ => [], walkAccumulates := true, fuel := 8 }

/-- output of stage A: a directory with a file and a sub-directory -/
def treeA : Node K := .dir [([1], .file (.raw "x")), ([2], .dir [([3], .file (.raw "z"))])]

def outA : Art := { path := [1], isDir := true }
def outB : Art := { path := [2] }
def stageA : Stage := { cmd := [1], outputs := [outA] }
/-- stage B reads the directory `[1]` (owned by stage A) and writes the file `[2]` -/
def stageB : Stage := { cmd := [2], inputs := [{ path := [1], isDir := true }], outputs := [outB] }

def w0 : World K :=
  { ws := .dir [([1], treeA), ([2], .file (.raw "o"))],
    idx := [([1], stageA), ([2], stageB)] }

/-- after `dud commit` (link strategy), computed by the model -/
def w1 : World K :=
  match cmdCommit cfg .link [] w0 with
  | .ok w => w
  | .error _ => default

/-- after `dud push` (all stages) -/
def w2 : World K :=
  match cmdPush cfg false [] w1 with
  | .ok w => w
  | .error _ => default

/-- a fresh clone (committed index, the remote, no cache, empty workspace) after `dud fetch` -/
def v1 : World K :=
  match cmdFetch cfg false [] { idx := w1.idx, remote := w2.remote } with
  | .ok w => w
  | .error _ => default

/-- commit, push and fetch succeed, the push starts from an empty remote and leaves one that lists no
checksum both as a file and as a directory.  One statement, one evaluation: that `w2` is what the
push returns the kernel can only check by running the push, once in every declaration that needs it
(within one declaration the runs are shared). -/
theorem run_ok : cmdCommit cfg .link [] w0 = .ok w1 ∧ w1.remote = [] ∧
    cmdPush cfg false [] w1 = .ok w2 ∧
    cmdFetch cfg false [] { idx := w1.idx, remote := w2.remote } = .ok v1 ∧
    kindsOK (storeKids cfg.ctx w2.remote) = true := by open Dud.WorldDec in decide +kernel

theorem pipelineOK (Sc : Bytes → Prop) : PipelineOK cfg Sc w0 :=
  .of_check (fun _ _ => rfl) (by decide) Sc

theorem scope_all (sp : Bytes) (h : sp = [1] ∨ sp = [2]) : InScope cfg w0 [] sp :=
  inScope_all cfg (by rcases h with rfl | rfl <;> decide)

/-- **`commit_push_fetch_checkout_empty_partial` instantiated**: commit, push, fresh clone, fetch,
then `dud checkout` (either strategy) rebuilds the directory of stage A and the file of stage B. -/
theorem five_commands (strat2 : Strat) :
    ∃ v', cmdCheckout cfg strat2 false [] v1 = .ok v' ∧
      (∃ r, getPath v'.ws [[1]] = some r ∧ deref ctx v'.store r = treeA) ∧
      (∃ r, getPath v'.ws [[2]] = some r ∧ deref ctx v'.store r = .file (.raw "o")) := by
  obtain ⟨v', h1, h2⟩ := commit_push_fetch_checkout_empty_partial cfg good .link strat2 [] w0 w1 w2 v1
    (Consistent.nil _) (pipelineOK _)
    (stage_forall (by decide))
    (stage_forall (P := fun _ s => ∀ a ∈ s.outputs, a.isDir = true → a.noRec = false) (by decide))
    (stage_forall (by decide))
    run_ok.1 (run_ok.2.1 ▸ Consistent.nil _) run_ok.2.2.1 (kindsAgree_of_kindsOK run_ok.2.2.2.2) run_ok.2.2.2.1
  exact ⟨v', h1, h2 [1] stageA (scope_all _ (.inl rfl)) rfl outA List.mem_cons_self rfl,
    h2 [2] stageB (scope_all _ (.inr rfl)) rfl outB List.mem_cons_self rfl⟩

/-- the same by running the model: with the copy strategy the clone's workspace IS the original;
the fetched cache has as many objects as the committed one; lengths of the digests on the remote -/
def fiveExact : Bool × Nat × Nat × List Nat :=
  match cmdCheckout cfg .copy false [] v1 with
  | .ok v => (nodeBEq v.ws w0.ws, v1.store.length, w1.store.length, w2.remote.map (·.1.length))
  | .error _ => (false, 0, 0, [])

#eval fiveExact

end Example3

#print axioms cmdCommit_holds
#print axioms holds_transfer
#print axioms holdsList_transfer
#print axioms Re.roundTrip_of_holds
#print axioms checkoutInv_step_of_roundTrip
#print axioms cmdCheckout_restored
#print axioms cmdScope_iff_inScope
#print axioms commit_push_fetch_checkout_world_partial
#print axioms commit_push_fetch_checkout_empty_partial
#print axioms occurs_mem_storeKids
#print axioms kindsAgree_of_kindsOK
#print axioms Example3.run_ok
#print axioms Example3.pipelineOK
#print axioms Example3.scope_all
#print axioms Example3.five_commands

end Dud
