import DudModel.Lemmas.Twin
import DudModel.Props.C20
import DudModel.Props.C15world
/-!
# C20 at the world level — a cache with old-schema (or mixed) manifests behaves like its twin

`Props/C20.lean` shows, for ONE artifact whose tree the cache holds, that checkout and status do not
care which schema the manifests were written with.  This file lifts the statement to whole worlds
and to the commands `dud checkout` / `dud status`.

**The twin relation** (`TwinWorlds cfg wO wN`; vocabulary of `Lemmas/Twin.lean`):
* the same workspace;
* indexes with the same stage paths in the same order; twin stages have the same command, working
  directory and stage checksum, and pairwise *twin artifacts* (`Twin.TwinArt`): the same path and
  flags — only the recorded CHECKSUM may differ — and `Twin.TwinChild`: for a file artifact the
  same checksum under which both caches hold objects with the same bytes (or both nothing); for a
  directory artifact, manifests that both caches read without error into pairwise twin entry
  lists (the two directory checksums are unrelated, they are digests of different manifest
  bytes), or a manifest missing from both caches.
Nothing is assumed about schemas, the hash, consistency of the caches: `readManifest` is all the
relation looks at.  `twinChild_of_holds` / `twinChild_storeAs` connect it to `Props/C20.lean`: the
caches `storeAs ctx ch t nm` for ANY two schema choices (old, new, mixed) — and every cache above
them — make the two artifacts `⟨nm, digestAs …⟩` twins.

**Statements** (for ANY common workspace, any index, both strategies, any targets, `--single-stage`
or not; no non-overlap hypothesis):
* `twin_checkout`: `dud checkout` succeeds in the one world iff it succeeds in the other
  (`twin_checkout` + `TwinWorlds.symm`), the resulting workspaces are EQUAL, the results are twin
  worlds again, and if the links of the common workspace resolve alike in both caches
  (`Twin.LinksAgree`; trivially true of an empty or link-free workspace) the resulting workspace
  has the same logical content (`deref`) w.r.t. both caches;
* `twin_status`: `dud status` reports the same statuses (per stage: the recorded-checksum flags and
  the full status tree of every artifact) provided no link to a cache object sits where an artifact
  expects a directory (`Twin.WsDirPos`: `quickStatus` compares such a link with the — different —
  manifest checksums; dud never creates such links);
* `twin_checkout_then_status`: from an EMPTY workspace, `dud checkout` followed by `dud status` in
  the old-schema world and in its twin: same workspace, same logical content, same statuses.

Non-vacuity: `Example.old_vs_new_world` (a `Good` context; the caches are literally
`storeAs ctx ch tree "t"` of `Props/C20.lean` for an arbitrary schema choice `ch` vs. the current
schema; the premise is discharged by `old_schema_checkout`), and `C20Twin` (a two-stage world with
explicit old-schema manifest objects and its current-schema twin: checkout then status from an empty
workspace, both strategies; status over an edited workspace; the converse direction).

Not covered: `dud commit` in twin worlds (the recommit on old manifests is `old_schema_recommit*`,
artifact level); manifests nested deeper than `cfg.fuel` (then `TwinChild` is false).  The error
class of a failing command is the same in both worlds: `Twin.cmdCheckout_onto`, `Twin.cmdStatus_onto`
state the run in the twin world as the image of the run, value or error; the statements below are
their successful half.
-/
namespace Dud

open CI Twin

variable {κ : Type}

/-- see the header -/
structure TwinWorlds (cfg : Cfg κ) (wO wN : World κ) : Prop where
  idx : TwinIdx cfg.ctx wO.store wN.store cfg.fuel wO.idx wN.idx
  ws : wN.ws = wO.ws

theorem TwinArt.symm {ctx : Ctx κ} {sO sN : Store κ} {fuel : Nat} {aO aN : Art}
    (h : TwinArt ctx sO sN fuel aO aN) : TwinArt ctx sN sO fuel aN aO :=
  ⟨h.1.symm, TwinChild.symm fuel _ _ h.2⟩

theorem TwinStage.symm {ctx : Ctx κ} {sO sN : Store κ} {fuel : Nat} {stO stN : Stage}
    (h : TwinStage ctx sO sN fuel stO stN) : TwinStage ctx sN sO fuel stN stO :=
  ⟨h.1.symm, h.2.1.symm, h.2.2.1.symm, All2.flip (fun _ _ hab => TwinArt.symm hab) h.2.2.2.1,
    All2.flip (fun _ _ hab => TwinArt.symm hab) h.2.2.2.2⟩

theorem TwinWorlds.symm {cfg : Cfg κ} {wO wN : World κ} (h : TwinWorlds cfg wO wN) :
    TwinWorlds cfg wN wO :=
  ⟨All2.flip (fun _ _ hab => ⟨hab.1.symm, TwinStage.symm hab.2⟩) h.idx, h.ws.symm⟩

mutual
/-- two caches that hold the plain tree `t` — with whatever schema choices `chO`, `chN` — make the
artifacts recorded for them twins -/
theorem twinChild_of_holds {ctx : Ctx κ} (g : Good ctx) {sO sN : Store κ} : ∀ (t : Node κ)
    {chO chN : Choice} {nm : Bytes} {fuel : Nat}, HeldTree ctx sO chO nm t fuel →
    HeldTree ctx sN chN nm t fuel →
    TwinChild ctx sO sN fuel ⟨nm, digestAs ctx chO nm t, t.isDir⟩ ⟨nm, digestAs ctx chN nm t, t.isDir⟩
  | .file x, _, _, nm, _, hO, hN => by
    obtain ⟨k, rfl, oO, gO, bO⟩ := hO.file
    obtain ⟨_, _, oN, gN, bN⟩ := hN.file
    simp only [TwinChild, Node.isDir, digestAs, Bool.false_eq_true, if_false, true_and]
    exact .inr ⟨oO, oN, gO, gN, bO.trans bN.symm⟩
  | .dir es, chO, chN, nm, _, hO, hN => by
    obtain ⟨k, rfl, lO⟩ := hO.dir
    obtain ⟨_, hk, lN⟩ := hN.dir
    cases hk
    obtain ⟨_, rO⟩ := readManifest_holds g lO.sorted lO.names hO.holds
    obtain ⟨_, rN⟩ := readManifest_holds g lO.sorted lO.names hN.holds
    simp only [TwinChild, Node.isDir, if_true, true_and]
    exact .inr ⟨hasSum_digestAs_dir g chO nm es, hasSum_digestAs_dir g chN nm es, _, _, rO, rN,
      twinChildren_of_holds g es chO chN k lO.plain lO.sorted lO.names lO.holds lN.holds lO.depth⟩
  | .link _, _, _, _, _, h, _ => by simpa [Node.plain] using h.plain
  | .other, _, _, _, _, h, _ => by simpa [Node.plain] using h.plain
theorem twinChildren_of_holds {ctx : Ctx κ} (g : Good ctx) {sO sN : Store κ} :
    ∀ (es : List (Name × Node κ)) (chO chN : Choice) (fuel : Nat), plainList es = true →
    sortedList es = true → NamesOKList ctx es → HoldsList ctx sO chO es → HoldsList ctx sN chN es →
    depthList es ≤ fuel →
    All2 (TwinChild ctx sO sN fuel) (childrenAs ctx chO es) (childrenAs ctx chN es)
  | [], _, _, _, _, _, _, _, _, _ => by simp only [childrenAs]; exact .nil
  | (nm, n) :: r, chO, chN, fuel, hp, hs, hn, hO, hN, hf => by
    obtain ⟨dO, tO⟩ := (⟨hp, hs, hn, hO, hf⟩ : HeldList ctx sO chO ((nm, n) :: r) fuel).cons
    obtain ⟨dN, tN⟩ := (⟨hp, hs, hn, hN, hf⟩ : HeldList ctx sN chN ((nm, n) :: r) fuel).cons
    simp only [childrenAs]
    exact .cons (twinChild_of_holds g n dO dN)
      (twinChildren_of_holds g r chO chN fuel tO.plain tO.sorted tO.names tO.holds tN.holds tO.depth)
end

/-- **The caches of `Props/C20.lean` are twins**: `storeAs ctx chO t nm` and `storeAs ctx chN t nm`
(any two schema choices: old, current, mixed), and any caches above them, make the artifacts with
the checksums `(storeAs …).1` twins. -/
theorem twinChild_storeAs {ctx : Ctx κ} (g : Good ctx) (t : Node κ) (chO chN : Choice) (nm : Bytes)
    (hp : t.plain = true) (hs : t.sorted = true) (hn : NamesOK ctx t) {sO sN : Store κ}
    (hO : Store.le ctx (storeAs ctx chO t nm).2 sO) (hN : Store.le ctx (storeAs ctx chN t nm).2 sN)
    (fuel : Nat) (hf : depth t ≤ fuel) :
    TwinChild ctx sO sN fuel ⟨nm, (storeAs ctx chO t nm).1, t.isDir⟩
      ⟨nm, (storeAs ctx chN t nm).1, t.isDir⟩ :=
  twinChild_of_holds g t
    ⟨hp, hs, hn, HoldsNode.mono hO t chO nm (storeAs_holds g chO t nm).2, hf⟩
    ⟨hp, hs, hn, HoldsNode.mono hN t chN nm (storeAs_holds g chN t nm).2, hf⟩

/-- the artifact-level statements of `Props/C20.lean`, as corollaries of the twin relation:
checkout over ANY workspace entry (not only an absent one) computes the same from both caches … -/
theorem old_schema_checkout_any (ctx : Ctx κ) (g : Good ctx) (t : Node κ) (ch : Choice) (nm : Bytes)
    (hp : t.plain = true) (hs : t.sorted = true) (hn : NamesOK ctx t) (strat : Strat) (fuel : Nat)
    (hf : depth t ≤ fuel) (cur : Option (Node κ)) :
    checkoutNode ctx strat (storeAs ctx ch t nm).2 fuel cur ⟨nm, (storeAs ctx ch t nm).1, t.isDir⟩ =
      checkoutNode ctx strat (storeAs ctx newChoice t nm).2 fuel cur
        ⟨nm, (storeAs ctx newChoice t nm).1, t.isDir⟩ :=
  checkoutNode_twin fuel _ _
    (twinChild_storeAs g t ch newChoice nm hp hs hn (Store.le_refl _ _) (Store.le_refl _ _) fuel hf) cur

/-- … and so does the full status, over any entry that is not (and does not contain, at a directory
position) a link to a cache object -/
theorem old_schema_status_any [DecidableEq κ] (ctx : Ctx κ) (g : Good ctx) (es : List (Name × Node κ))
    (ch : Choice) (nm : Bytes) (hp : (Node.dir es).plain = true) (hs : (Node.dir es).sorted = true)
    (hn : NamesOK ctx (.dir es)) (fuel : Nat) (hf : depth (Node.dir es) ≤ fuel) (nr : Bool)
    (cur : Option (Node κ))
    (hpos : DirPos ctx (storeAs ctx ch (.dir es) nm).2 fuel cur ⟨nm, (storeAs ctx ch (.dir es) nm).1, true⟩) :
    dirStatus ctx (storeAs ctx ch (.dir es) nm).2 fuel nm nr (storeAs ctx ch (.dir es) nm).1 cur =
      dirStatus ctx (storeAs ctx newChoice (.dir es) nm).2 fuel nm nr
        (storeAs ctx newChoice (.dir es) nm).1 cur :=
  dirStatus_twin fuel ⟨nm, (storeAs ctx ch (.dir es) nm).1, true⟩
    ⟨nm, (storeAs ctx newChoice (.dir es) nm).1, true⟩
    (twinChild_storeAs g (.dir es) ch newChoice nm hp hs hn (Store.le_refl _ _) (Store.le_refl _ _)
      fuel hf) rfl nr cur hpos

/-- **C20, command level: `dud checkout` in twin worlds.**  If `dud checkout [--copy]
[--single-stage] [targets]` succeeds in the world `wO` (old-schema / mixed manifests), it succeeds
in every twin world `wN` (e.g. current-schema manifests) — and conversely, `TwinWorlds.symm` —
with the SAME resulting workspace and the same stages visited; cache and index are untouched, so the
results are twin worlds again; and when the links of the common workspace resolve alike in both
caches, the resulting workspace has the same logical content w.r.t. both caches. -/
theorem twin_checkout (cfg : Cfg κ) (strat : Strat) (single : Bool) (targets : List Bytes)
    (wO wN wO' : World κ) (ht : TwinWorlds cfg wO wN)
    (h : cmdCheckout cfg strat single targets wO = .ok wO') :
    ∃ wN', cmdCheckout cfg strat single targets wN = .ok wN' ∧ wN'.ws = wO'.ws ∧
      wN'.done = wO'.done ∧ TwinWorlds cfg wO' wN' ∧
      (LinksAgree cfg.ctx wO.store wN.store wO.ws →
        deref cfg.ctx wO'.store wO'.ws = deref cfg.ctx wN'.store wN'.ws) := by
  have hk : TwinOf cfg wN wO' ∧ wO'.store = wO.store :=
    cmdCheckout_invariant (fun x => TwinOf cfg wN x ∧ x.store = wO.store)
      (fun _ _ _ hs hx => by rw [checkoutAct_world hx]; exact hs) ⟨ht.idx, rfl⟩ h
  refine ⟨onto wN wO', (cmdCheckout_onto ht.idx ht.ws).symm.trans (congrArg _ h), rfl, rfl, ⟨hk.1, rfl⟩,
    fun hl => ?_⟩
  rw [hk.2]
  exact deref_agree _ (cmdCheckout_linksAgree ht.idx hl h)

/-- **C20, command level: `dud status` in twin worlds** reports the same statuses: the list
`stat` — per stage visited: stage path, "has a checksum", "checksum matches", and the full status
tree of every artifact — is the same, provided no link to a cache object sits where an artifact
expects a directory (`WsDirPos`; see `wsDirPos_of_checkedOut`). -/
theorem twin_status [DecidableEq κ] (cfg : Cfg κ) (targets : List Bytes) (wO wN wO' : World κ)
    (ht : TwinWorlds cfg wO wN) (hpos : WsDirPos cfg wO) (h : cmdStatus cfg targets wO = .ok wO') :
    ∃ wN', cmdStatus cfg targets wN = .ok wN' ∧ wN'.stat = wO'.stat ∧ wN'.done = wO'.done :=
  ⟨onto wN wO', (cmdStatus_onto ht.idx ht.ws hpos).symm.trans (congrArg _ h), rfl, rfl⟩

/-- `WsDirPos` holds when every artifact `dud status` looks at is a file artifact, or absent from
the workspace, or checked out (`CheckedOut`, e.g. by `cmdCheckout_checkedOut`) -/
theorem wsDirPos_of_checkedOut (cfg : Cfg κ) (strat : Strat) (w : World κ)
    (h : ∀ sp stg, alookup w.idx sp = some stg → ∀ x,
      x ∈ stg.inputs.filter (fun x => (findOwner cfg.walkAccumulates w.idx x.path).isNone) ++ stg.outputs →
      x.isDir = false ∨ getPath w.ws (Path.comps x.path) = none ∨
        (x.skip = false ∧ CheckedOut cfg strat w x)) : WsDirPos cfg w := by
  intro sp stg hl x hx
  rcases h sp stg hl x hx with hf | hnone | ⟨hsk, hco⟩
  · exact dirPos_file hf
  · rw [hnone]; exact dirPos_none
  · rcases hco with hco | ⟨m, hm, hc⟩
    · rw [hsk] at hco; cases hco
    · rw [hm]; exact dirPos_of_conf _ _ _ hc

/-- **C20, command level: checkout from an empty workspace, then status.**  In twin worlds with an
EMPTY workspace — the old-schema world `wO` and e.g. its current-schema twin `wN` — whose stages
have outputs with pairwise different paths, directory outputs that are not `skip-cache`, and whose
un-owned inputs are file artifacts: if `dud checkout` (all stages) and then `dud status` succeed in
`wO`, they succeed in `wN`, the checked-out workspaces are equal, have the same logical content
w.r.t. the two caches, and `dud status` reports the same statuses. -/
theorem twin_checkout_then_status [DecidableEq κ] (cfg : Cfg κ) (strat : Strat)
    (wO wN vO uO : World κ) (ht : TwinWorlds cfg wO wN) (hempty : wO.ws = .dir [])
    (hin : ∀ sp stg, alookup wO.idx sp = some stg → ∀ x, x ∈ stg.inputs →
      (findOwner cfg.walkAccumulates wO.idx x.path).isNone = true → x.isDir = false)
    (hout : ∀ sp stg, alookup wO.idx sp = some stg →
      stg.outputs.Pairwise (fun x y => x.path ≠ y.path) ∧
      ∀ x, x ∈ stg.outputs → x.isDir = true → x.skip = false)
    (hco : cmdCheckout cfg strat false [] wO = .ok vO) (hst : cmdStatus cfg [] vO = .ok uO) :
    ∃ vN uN, cmdCheckout cfg strat false [] wN = .ok vN ∧ vN.ws = vO.ws ∧
      deref cfg.ctx vO.store vO.ws = deref cfg.ctx vN.store vN.ws ∧
      cmdStatus cfg [] vN = .ok uN ∧ uN.stat = uO.stat := by
  obtain ⟨vN, h1, h2, _, htw, hd⟩ := twin_checkout cfg strat false [] wO wN vO ht hco
  obtain ⟨hidx, hstore, hchecked⟩ := cmdCheckout_checkedOut cfg strat false [] wO vO hco
  have hdone := cmdCheckout_targets_done cfg strat false [] wO vO hco
  have hpos : WsDirPos cfg vO := by
    refine wsDirPos_of_checkedOut cfg strat vO (fun sp stg hl x hx => ?_)
    rw [hidx] at hl
    rcases List.mem_append.1 hx with hx | hx
    · obtain ⟨hx1, hx2⟩ := List.mem_filter.1 hx
      rw [hidx] at hx2
      exact .inl (hin sp stg hl x hx1 hx2)
    · cases hd' : x.isDir with
      | false => exact .inl rfl
      | true =>
        right; right
        obtain ⟨hpw, hsk⟩ := hout sp stg hl
        have hsp : sp ∈ vO.done := hdone sp (by
          simp only [List.isEmpty_nil, if_true, allStages]
          exact List.mem_map.2 ⟨(sp, stg), alookup_mem hl, rfl⟩)
        exact ⟨hsk x hx hd', hchecked sp stg hsp hl x (mem_sortArts_of_mem hpw hx)⟩
  obtain ⟨uN, h3, h4, _⟩ := twin_status cfg [] vO vN uO htw hpos hst
  refine ⟨vN, uN, h1, h2, hd ?_, h3, h4⟩
  rw [hempty]
  simp only [LinksAgree, LinksAgreeList]

namespace Example
open Dud.Example

/-- **the bridge instantiated**: the all-old and the all-new cache of the example tree are twins -/
example : TwinChild ctx (storeAs ctx oldChoice tree [116]).2 (storeAs ctx newChoice tree [116]).2 3
    ⟨[116], (storeAs ctx oldChoice tree [116]).1, true⟩
    ⟨[116], (storeAs ctx newChoice tree [116]).1, true⟩ :=
  twinChild_storeAs good tree oldChoice newChoice [116] tree_plain tree_sorted tree_names
    (Store.le_refl _ _) (Store.le_refl _ _) 3 (Nat.le_of_eq tree_depth)

/-- checkout over ANY entry computes the same from the old-schema cache as from the current one
(`old_schema_checkout_same` is the case `cur = none`) -/
example (strat : Strat) (cur : Option (Node K)) :
    checkoutNode ctx strat (storeAs ctx mixedChoice tree [116]).2 3 cur
        ⟨[116], (storeAs ctx mixedChoice tree [116]).1, true⟩ =
      checkoutNode ctx strat (storeAs ctx newChoice tree [116]).2 3 cur
        ⟨[116], (storeAs ctx newChoice tree [116]).1, true⟩ :=
  old_schema_checkout_any ctx good tree mixedChoice [116] tree_plain tree_sorted tree_names strat 3
    (Nat.le_of_eq tree_depth) cur

/-- a one-stage world whose only output is the directory `nm`, recorded with the checksum `d` -/
def oneStage (s : Store K) (nm : Bytes) (d : Digest) : World K :=
  { store := s, idx := [([1], { cmd := [1], outputs := [{ path := nm, sum := d, isDir := true }] })] }

theorem cmdCheckout_oneStage (cfg : Cfg K) (strat : Strat) (s : Store K) (nm : Bytes) (d : Digest)
    (r : Node K) (hcomps : Path.comps nm = [nm])
    (h : checkoutNode cfg.ctx strat s cfg.fuel none ⟨nm, d, true⟩ = .ok r) :
    cmdCheckout cfg strat false [] (oneStage s nm d) =
      .ok { oneStage s nm d with ws := .dir [(nm, r)], done := [[1]] } := by
  simp [cmdCheckout, oneStage, allStages, perTarget, alookup, fresh, visit_succ, Except.bind, checkoutTrav, ownersOf,
      World.stage, sortArts, insertArt, visitAll, checkoutAct, checkoutArts, checkoutArtW, checkoutArt,
      hcomps, getPath, Art.child, h, setPath, setEntry]

/-- the world whose cache is exactly what an old (or mixed, or current) dud wrote for the example
tree: `storeAs ctx ch tree "t"`, and the stage records the checksum `(storeAs …).1` -/
def wAs (ch : Choice) : World K :=
  oneStage (storeAs ctx ch tree [116]).2 [116] (storeAs ctx ch tree [116]).1

theorem oneStage_twins {cfg : Cfg K} {sO sN : Store K} {nm : Bytes} {dO dN : Digest}
    (h : TwinChild cfg.ctx sO sN cfg.fuel ⟨nm, dO, true⟩ ⟨nm, dN, true⟩) :
    TwinWorlds cfg (oneStage sO nm dO) (oneStage sN nm dN) where
  ws := rfl
  idx := .cons ⟨rfl, rfl, rfl, rfl, .nil, .cons ⟨rfl, h⟩ .nil⟩ .nil

/-- such worlds are twins, whatever the two schema choices (via `twinChild_storeAs`, i.e. via
`storeAs_holds` of `Props/C20.lean`; the context is `Good`) -/
theorem wAs_twins (chO chN : Choice) : TwinWorlds Example2.cfg (wAs chO) (wAs chN) :=
  oneStage_twins (twinChild_storeAs good tree chO chN [116] tree_plain tree_sorted tree_names
    (Store.le_refl _ _) (Store.le_refl _ _) 8 (by rw [tree_depth]; decide))

/-- **`twin_checkout` instantiated with a `Good` context and the caches of `Props/C20.lean`**:
`dud checkout` (either strategy) in the world with old-schema (or mixed) manifests succeeds — by
`old_schema_checkout` — and so it does in the world with current-schema manifests, with the same
workspace, whose logical content is, w.r.t. both caches, the example tree. -/
theorem old_vs_new_world (ch : Choice) (strat : Strat) :
    ∃ vO vN, cmdCheckout Example2.cfg strat false [] (wAs ch) = .ok vO ∧
      cmdCheckout Example2.cfg strat false [] (wAs newChoice) = .ok vN ∧ vN.ws = vO.ws ∧
      deref ctx vO.store vO.ws = .dir [([116], tree)] ∧
      deref ctx vN.store vN.ws = .dir [([116], tree)] := by
  obtain ⟨r, hr, hd, _⟩ := old_schema_checkout ctx good ch tree [116] tree_plain tree_sorted tree_names
    _ (Store.le_refl _ _) strat 8 (by rw [tree_depth]; decide)
  have hco := cmdCheckout_oneStage Example2.cfg strat _ [116] _ r rfl hr
  obtain ⟨vN, h1, h2, _, _, h5⟩ := twin_checkout Example2.cfg strat false [] (wAs ch) (wAs newChoice) _
    (wAs_twins ch newChoice) hco
  have hdO : deref ctx (storeAs ctx ch tree [116]).2 (.dir [([116], r)]) = .dir [([116], tree)] := by
    simp only [deref, derefList, hd]
  refine ⟨_, vN, hco, h1, h2, hdO, ?_⟩
  have h5' := h5 (by simp only [wAs, oneStage, LinksAgree, LinksAgreeList])
  exact h5'.symm.trans hdO

/-- the two worlds really differ: the recorded checksums are not the same -/
example : (wAs oldChoice).idx ≠ (wAs newChoice).idx := by
  intro h
  have h' : (storeAs ctx oldChoice tree [116]).1 = (storeAs ctx newChoice tree [116]).1 := by
    simp only [wAs, oneStage, List.cons.injEq, Prod.mk.injEq, Stage.mk.injEq, Art.mk.injEq, and_true,
      true_and] at h
    exact h
  simp only [storeAs, tree, digestAs, Obj.digest, Obj.bytes] at h'
  have := good.inj _ _ h'
  simp [ctx, oldChoice, newChoice] at this

end Example

/-! ### a concrete two-stage world with an old-schema cache, and its current-schema twin -/

namespace C20Twin

/-- a toy context (the world-level statements need no `Good`): `H c = "h-" ++ c` -/
def ctx : Ctx String :=
  { H := fun c => "h-" ++ c, encMan := fun _ _ _ => "", decBlob := fun _ => none,
    reload := fun _ c => c, nameOK := fun _ => true }

def cfg : Cfg String :=
  { ctx := ctx, ofBytes := fun _ => "", toBytes := fun _ => [], walkAccumulates := true, fuel := 5 }

def blobs : Store String := [("h-x", .blob "x"), ("h-z", .blob "z"), ("h-o", .blob "o")]

/-- the directory `a/` = { x, y/ = { z } } with OLD-schema manifests … -/
def sOld : Store String :=
  ("oldA", .man .old [97] [⟨[120], "h-x", false⟩, ⟨[121], "oldY", true⟩]) ::
  ("oldY", .man .old [121] [⟨[122], "h-z", false⟩]) :: blobs

/-- … and with current-schema manifests, under other digests -/
def sNew : Store String :=
  ("newA", .man .new [97] [⟨[120], "h-x", false⟩, ⟨[121], "newY", true⟩]) ::
  ("newY", .man .new [121] [⟨[122], "h-z", false⟩]) :: blobs

/-- stage 1 owns `a/`; stage 2 reads `a/` and the un-owned file `i`, and owns `b` -/
def idxWith (dA : Digest) : Index :=
  [([1], { cmd := [1], outputs := [{ path := [97], sum := dA, isDir := true }] }),
   ([2], { cmd := [2], inputs := [{ path := [97], sum := dA, isDir := true },
                                  { path := [105], sum := "h-i", skip := true }],
           outputs := [{ path := [98], sum := "h-o" }] })]

def wOld : World String := { store := sOld, idx := idxWith "oldA" }
def wNew : World String := { store := sNew, idx := idxWith "newA" }

theorem twinA : TwinChild ctx sOld sNew 5 ⟨[97], "oldA", true⟩ ⟨[97], "newA", true⟩ :=
  .dir rfl rfl (csO := [⟨[120], "h-x", false⟩, ⟨[121], "oldY", true⟩])
    (csN := [⟨[120], "h-x", false⟩, ⟨[121], "newY", true⟩]) rfl rfl
    (.cons (.file rfl (.inr ⟨_, _, rfl, rfl, rfl⟩))
      (.cons (.dir rfl rfl (csO := [⟨[122], "h-z", false⟩]) (csN := [⟨[122], "h-z", false⟩]) rfl rfl
        (.cons (.file rfl (.inr ⟨_, _, rfl, rfl, rfl⟩)) .nil)) .nil))

/-- the two worlds are twins (the old-schema checksums `oldA`, `oldY` differ from `newA`, `newY`) -/
theorem twins : TwinWorlds cfg wOld wNew where
  ws := rfl
  idx :=
    .cons ⟨rfl, rfl, rfl, rfl, .nil, .cons ⟨rfl, twinA⟩ .nil⟩
      (.cons ⟨rfl, rfl, rfl, rfl,
          .cons ⟨rfl, twinA⟩ (.cons ⟨rfl, .file rfl (.inl ⟨rfl, rfl⟩)⟩ .nil),
          .cons ⟨rfl, .file rfl (.inr ⟨_, _, rfl, rfl, rfl⟩)⟩ .nil⟩ .nil)

/-- `dud checkout [--copy]` and then `dud status` in the old-schema world, computed by the model -/
def vOld (strat : Strat) : World String :=
  match cmdCheckout cfg strat false [] wOld with
  | .ok x => x
  | .error _ => default

def uOld (strat : Strat) : World String :=
  match cmdStatus cfg [] (vOld strat) with
  | .ok x => x
  | .error _ => default

/-- both commands succeed in the old-schema world (one evaluation per strategy) -/
theorem old_ok (strat : Strat) : cmdCheckout cfg strat false [] wOld = .ok (vOld strat) ∧
    cmdStatus cfg [] (vOld strat) = .ok (uOld strat) := by
  open Dud.WorldDec in cases strat <;> decide +kernel

/-- **`twin_checkout_then_status` instantiated** (both strategies): `dud checkout` then `dud status`
in the current-schema twin succeed, with the same workspace, the same logical content and the same
statuses as in the old-schema world. -/
theorem old_vs_new (strat : Strat) :
    ∃ vN uN, cmdCheckout cfg strat false [] wNew = .ok vN ∧ vN.ws = (vOld strat).ws ∧
      deref ctx sOld (vOld strat).ws = deref ctx sNew vN.ws ∧
      cmdStatus cfg [] vN = .ok uN ∧ uN.stat = (uOld strat).stat := by
  obtain ⟨vN, uN, h1, h2, h3, h4, h5⟩ := twin_checkout_then_status cfg strat wOld wNew (vOld strat)
    (uOld strat) twins rfl
    (lookup_forall (by decide)) (lookup_forall (by decide))
    (old_ok strat).1 (old_ok strat).2
  rw [(cmdCheckout_checkedOut cfg strat false [] wOld _ (old_ok strat).1).2.1,
    (cmdCheckout_checkedOut cfg strat false [] wNew vN h1).2.1] at h3
  exact ⟨vN, uN, h1, h2, h3, h4, h5⟩

/-- what was compared is not trivial: the link checkout built `a/x`, `a/y/z`, `b`, and the status
of stage 1 reports the directory `a` with two tracked children, contents matching -/
example : getPath (vOld .link).ws [[97], [121], [122]] = some (.link (.obj "h-z")) ∧
    getPath (vOld .link).ws [[98]] = some (.link (.obj "h-o")) := by
  open Dud.WorldDec in decide +kernel

example : (uOld .link).stat.map (fun e => (e.1, e.2.2.2.map (fun st => (st.name, st.cm, st.children.length)))) =
    [([1], [([97], true, 2)]), ([2], [([98], true, 0), ([105], false, 0)])] := by decide +kernel

/-- the converse direction (`TwinWorlds.symm`): from the current-schema world to the old one -/
example (strat : Strat) (vN : World String) (h : cmdCheckout cfg strat false [] wNew = .ok vN) :
    ∃ vO, cmdCheckout cfg strat false [] wOld = .ok vO ∧ vO.ws = vN.ws := by
  obtain ⟨vO, h1, h2, _⟩ := twin_checkout cfg strat false [] wNew wOld vN twins.symm h
  exact ⟨vO, h1, h2⟩

/-- a MODIFIED workspace: `a/x` edited, `a/y` replaced by a file, an untracked file added, `b` missing -/
def wsEdited : Node String :=
  .dir [([97], .dir [([120], .file "edited"), ([121], .file "not a dir"), ([117], .file "new")])]

/-- **`twin_status` instantiated on the modified workspace**: `dud status` in the two worlds reports the same -/
example : ∃ uO uN, cmdStatus cfg [] { wOld with ws := wsEdited } = .ok uO ∧
    cmdStatus cfg [] { wNew with ws := wsEdited } = .ok uN ∧ uN.stat = uO.stat := by
  have hO : cmdStatus cfg [] { wOld with ws := wsEdited } = .ok
      (match cmdStatus cfg [] { wOld with ws := wsEdited } with | .ok x => x | .error _ => default) := by
    open Dud.WorldDec in decide +kernel
  obtain ⟨uN, h1, h2, _⟩ := twin_status cfg [] { wOld with ws := wsEdited } { wNew with ws := wsEdited } _
    -- `WsDirPos`: `a` is a real directory whose entry `y` (a directory in the manifest) is a regular
    -- file, not a link; `b` is absent
    ⟨twins.idx, rfl⟩ (lookup_forall (by decide)) hO
  exact ⟨_, uN, hO, h1, h2⟩

end C20Twin

end Dud

#print axioms Dud.TwinWorlds.symm
#print axioms Dud.twinChild_of_holds
#print axioms Dud.twinChild_storeAs
#print axioms Dud.old_schema_checkout_any
#print axioms Dud.old_schema_status_any
#print axioms Dud.twin_checkout
#print axioms Dud.twin_status
#print axioms Dud.wsDirPos_of_checkedOut
#print axioms Dud.twin_checkout_then_status
#print axioms Dud.C20Twin.twins
#print axioms Dud.C20Twin.old_vs_new
#print axioms Dud.Example.old_vs_new_world
