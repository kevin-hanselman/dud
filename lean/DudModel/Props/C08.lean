import DudModel.Lemmas.Trav
import DudModel.Lemmas.Run
import DudModel.Lemmas.Shape
import DudModel.Lemmas.WorldDec
import DudModel.Lemmas.Checkout
import DudModel.Lemmas.Remote
/-!
# C08 — the index traversal acts on each stage once, owners first, and refuses cycles

Generic theorems about `visit` (first for `Trav.LawfulOn`, i.e. laws that hold on the states
satisfying an invariant the action preserves, then for `Trav.Lawful`, the case without invariant),
followed by the lawfulness of the six concrete traversals, the same theorems for whole commands
(`cmd_*`: one traversal per target; `cmd_run` says once what a successful command did, `runTargets_lift`
is the form the command-level invariants are proved with, `WR.runTargets_acted` the form for a
preorder the actions respect; `WR` is the namespace of `Lemmas/WorldRemote.lean`) and a non-vacuity
example.
-/
namespace Dud

variable {σ : Type}

/-- erasing the ghost log gives back the original traversal -/
theorem visit_logged_erase (T : Trav σ) (r : Bool) (fuel : Nat) (avail : List Bytes) (sp : Bytes) (st : σ) (l : List Bytes) :
    (visit T.logged r fuel avail sp (st, l)).map (·.1) = visit T r fuel avail sp st :=
  visit_erase T r fuel avail sp st l

/-- From a state in which nothing is done (for an arbitrary start state see `visit_trace`): the log
is duplicate-free, consists of available stages upstream of the target, contains the target, is
exactly the set of stages done afterwards, and (recursive traversal) lists owners before their
dependants. -/
theorem visit_spec_on (T : Trav σ) (own) (Inv : σ → Prop) (hT : T.LawfulOn own Inv) (r : Bool) (fuel : Nat)
    (avail : List Bytes) (sp : Bytes) (st st' : σ) (l' : List Bytes) (hi : Inv st)
    (h0 : ∀ x, T.isDone st x = false)
    (h : visit T.logged r fuel avail sp (st, []) = .ok (st', l')) :
    Inv st' ∧ l'.Nodup ∧ (∀ x, x ∈ l' → x ∈ avail ∧ Reach own sp x) ∧ sp ∈ l' ∧
      (∀ x, T.isDone st' x = l'.contains x) ∧
      (r = true → ∀ x, x ∈ l' → ∀ o, o ∈ own x → Before l' o x) := by
  obtain ⟨t, hd⟩ := visit_trace hT fuel avail sp (st, []) (st', l') hi h
  obtain ⟨h2, h3, h4, h5, h6⟩ := t.of_fresh h0
  exact ⟨h2, h3, h4, List.contains_iff_mem.1 ((h5 sp).symm.trans hd), h5, h6⟩

theorem visit_once_on (T : Trav σ) (own) (Inv : σ → Prop) (hT : T.LawfulOn own Inv) (r : Bool) (fuel : Nat)
    (avail : List Bytes) (sp : Bytes) (st st' : σ) (l' : List Bytes) (hi : Inv st)
    (h0 : ∀ x, T.isDone st x = false)
    (h : visit T.logged r fuel avail sp (st, []) = .ok (st', l')) : l'.Nodup :=
  (visit_spec_on T own Inv hT r fuel avail sp st st' l' hi h0 h).2.1

theorem visit_topological_on (T : Trav σ) (own) (Inv : σ → Prop) (hT : T.LawfulOn own Inv) (fuel : Nat)
    (avail : List Bytes) (sp : Bytes) (st st' : σ) (l' : List Bytes) (hi : Inv st)
    (h0 : ∀ x, T.isDone st x = false)
    (h : visit T.logged true fuel avail sp (st, []) = .ok (st', l')) :
    ∀ x, x ∈ l' → ∀ o, o ∈ own x → Before l' o x :=
  (visit_spec_on T own Inv hT true fuel avail sp st st' l' hi h0 h).2.2.2.2.2 rfl

theorem visit_single (T : Trav σ) (fuel : Nat) (avail : List Bytes) (sp : Bytes) (st st' : σ)
    (l l' : List Bytes) (h0 : T.isDone st sp = false)
    (h : visit T.logged false fuel avail sp (st, l) = .ok (st', l')) : l' = l ++ [sp] := by
  cases fuel with
  | zero => cases h
  | succ fuel =>
    rcases visit_logged_succ_inv h with ⟨hd, _⟩ | ⟨_, _, _, p1, _, hup, hact⟩
    · cases h0.symm.trans hd
    · obtain ⟨s, _, hp⟩ := logged_act_inv hact
      cases (show p1 = (st, l) from hup)
      exact congrArg Prod.snd hp

theorem visit_scope_on (T : Trav σ) (own) (Inv : σ → Prop) (hT : T.LawfulOn own Inv) (r : Bool) (fuel : Nat)
    (avail : List Bytes) (sp : Bytes) (st st' : σ) (l' : List Bytes) (hi : Inv st)
    (h0 : ∀ x, T.isDone st x = false)
    (h : visit T.logged r fuel avail sp (st, []) = .ok (st', l')) :
    (∀ x, x ∈ l' → Reach own sp x) ∧ (r = false → l' = [sp]) ∧ sp ∈ l' := by
  have hs := visit_spec_on T own Inv hT r fuel avail sp st st' l' hi h0 h
  refine ⟨fun x hx => (hs.2.2.1 x hx).2, ?_, hs.2.2.2.1⟩
  intro hr
  subst hr
  exact visit_single T fuel avail sp st st' [] l' (h0 sp) h

theorem visit_guard_irrelevant_on (T : Trav σ) (own) (Inv : σ → Prop) (hT : T.LawfulOn own Inv) (fuel : Nat)
    (avail : List Bytes) (sp : Bytes) (st : σ) (hi : Inv st) :
    visit (T.guarded (ownersDone T own)) true fuel avail sp st = visit T true fuel avail sp st :=
  visit_guarded_eq hT fuel avail sp st hi

/-- the same equation for the logged traversals: also the logs agree, and also when the result is an
error. So the action is only ever invoked in states where all owners of the stage are done. -/
theorem visit_guard_irrelevant_logged_on (T : Trav σ) (own) (Inv : σ → Prop) (hT : T.LawfulOn own Inv)
    (fuel : Nat) (avail : List Bytes) (sp : Bytes) (st : σ) (l : List Bytes) (hi : Inv st) :
    visit (T.logged.guarded (ownersDone T.logged own)) true fuel avail sp (st, l) =
      visit T.logged true fuel avail sp (st, l) :=
  visit_guarded_eq hT.logged fuel avail sp (st, l) hi

theorem cycle_no_act_on (T : Trav σ) (own) (Inv : σ → Prop) (hT : T.LawfulOn own Inv) (fuel : Nat)
    (avail : List Bytes) (sp : Bytes) (st st' : σ) (l' : List Bytes) (hi : Inv st)
    (h0 : ∀ x, T.isDone st x = false)
    (h : visit T.logged true fuel avail sp (st, []) = .ok (st', l')) :
    ∀ x, (∃ y, y ∈ own x ∧ Reach own y x) → x ∉ l' := by
  have hs := visit_spec_on T own Inv hT true fuel avail sp st st' l' hi h0 h
  intro x ⟨y, hxy, hyx⟩ hx
  exact no_cycle_in_log hs.2.1 (hs.2.2.2.2.2 rfl) hx hxy hyx

theorem cycle_refused_on (T : Trav σ) (own) (Inv : σ → Prop) (hT : T.LawfulOn own Inv) (fuel : Nat)
    (avail : List Bytes) (sp : Bytes) (st : σ) (hi : Inv st)
    (h0 : ∀ x, T.isDone st x = false) (x y : Bytes) (hx : Reach own sp x) (hxy : y ∈ own x)
    (hyx : Reach own y x) :
    ∃ e, visit T true fuel avail sp st = .error e := by
  cases hv : visit T true fuel avail sp st with
  | error e => exact ⟨e, rfl⟩
  | ok st' =>
    exfalso
    obtain ⟨l', hl⟩ := visit_ok_logged hv []
    have hs := visit_spec_on T own Inv hT true fuel avail sp st st' l' hi h0 hl
    have hxl := reach_mem_log hs.2.1 (hs.2.2.2.2.2 rfl) hx hs.2.2.2.1
    exact cycle_no_act_on T own Inv hT fuel avail sp st st' l' hi h0 hl x ⟨y, hxy, hyx⟩ hxl

/-- each stage is acted on at most once -/
theorem visit_once (T : Trav σ) (own) (hT : T.Lawful own) (r : Bool) (fuel : Nat) (avail : List Bytes) (sp : Bytes)
    (st st' : σ) (l' : List Bytes) (h0 : ∀ x, T.isDone st x = false)
    (h : visit T.logged r fuel avail sp (st, []) = .ok (st', l')) : l'.Nodup :=
  visit_once_on T own _ hT.lawfulOn r fuel avail sp st st' l' trivial h0 h

/-- a stage is acted on only after every stage owning one of its inputs (recursive traversal) -/
theorem visit_topological (T : Trav σ) (own) (hT : T.Lawful own) (fuel : Nat) (avail : List Bytes) (sp : Bytes)
    (st st' : σ) (l' : List Bytes) (h0 : ∀ x, T.isDone st x = false)
    (h : visit T.logged true fuel avail sp (st, []) = .ok (st', l')) :
    ∀ x, x ∈ l' → ∀ o, o ∈ own x → Before l' o x :=
  visit_topological_on T own _ hT.lawfulOn fuel avail sp st st' l' trivial h0 h

/-- only the requested stage and stages upstream of it are acted on; with `--single-stage` only the requested one -/
theorem visit_scope (T : Trav σ) (own) (hT : T.Lawful own) (r : Bool) (fuel : Nat) (avail : List Bytes) (sp : Bytes)
    (st st' : σ) (l' : List Bytes) (h0 : ∀ x, T.isDone st x = false)
    (h : visit T.logged r fuel avail sp (st, []) = .ok (st', l')) :
    (∀ x, x ∈ l' → Reach own sp x) ∧ (r = false → l' = [sp]) ∧ sp ∈ l' :=
  visit_scope_on T own _ hT.lawfulOn r fuel avail sp st st' l' trivial h0 h

/-- the precondition "all owners finished" never fails in a recursive traversal: the guard is irrelevant
(from any start state: nothing is assumed about what is done already) -/
theorem visit_guard_irrelevant (T : Trav σ) (own) (hT : T.Lawful own) (fuel : Nat) (avail : List Bytes) (sp : Bytes) (st : σ) :
    visit (T.guarded (ownersDone T own)) true fuel avail sp st = visit T true fuel avail sp st :=
  visit_guard_irrelevant_on T own _ hT.lawfulOn fuel avail sp st trivial

/-- the guard is irrelevant for the log as well, whatever the outcome -/
theorem visit_guard_irrelevant_logged (T : Trav σ) (own) (hT : T.Lawful own) (fuel : Nat) (avail : List Bytes)
    (sp : Bytes) (st : σ) (l : List Bytes) :
    visit (T.logged.guarded (ownersDone T.logged own)) true fuel avail sp (st, l) =
      visit T.logged true fuel avail sp (st, l) :=
  visit_guard_irrelevant_logged_on T own _ hT.lawfulOn fuel avail sp st l trivial

/-- a cycle upstream of the target makes the traversal fail -/
theorem cycle_refused (T : Trav σ) (own) (hT : T.Lawful own) (fuel : Nat) (avail : List Bytes) (sp : Bytes) (st : σ)
    (h0 : ∀ x, T.isDone st x = false) (x y : Bytes) (hx : Reach own sp x) (hxy : y ∈ own x) (hyx : Reach own y x) :
    ∃ e, visit T true fuel avail sp st = .error e :=
  cycle_refused_on T own _ hT.lawfulOn fuel avail sp st trivial h0 x y hx hxy hyx

/-- no stage on a cycle is ever acted on -/
theorem cycle_no_act (T : Trav σ) (own) (hT : T.Lawful own) (fuel : Nat) (avail : List Bytes) (sp : Bytes)
    (st st' : σ) (l' : List Bytes) (h0 : ∀ x, T.isDone st x = false)
    (h : visit T.logged true fuel avail sp (st, []) = .ok (st', l')) :
    ∀ x, (∃ y, y ∈ own x ∧ Reach own y x) → x ∉ l' :=
  cycle_no_act_on T own _ hT.lawfulOn fuel avail sp st st' l' trivial h0 h

/-- the fuel never decides the outcome once it exceeds the number of available stages (all uses pass
`idx.length + 1` and `allStages`): the `.error .cycle` of the fuel-0 case is unreachable -/
theorem visit_fuel_adequate (T : Trav σ) (r : Bool) (fuel fuel' : Nat) (avail : List Bytes) (sp : Bytes)
    (st : σ) (h : avail.length < fuel) (h' : avail.length < fuel') :
    visit T r fuel avail sp st = visit T r fuel' avail sp st :=
  visit_fuel_irrelevant T r fuel fuel' avail sp st h h'

section Concrete
variable {κ : Type}

/-- The interface the six concrete traversals share: the owners are `ownersOf`, the invariant fixes the
shape of the index, and the action keeps the invariant and marks exactly its stage done. -/
theorem lawfulOn_of_frame (cfg : Cfg κ) (T : Trav (World κ)) (idx0 : Index) (Inv : World κ → Prop)
    (howners : T.owners = ownersOf cfg) (hshape : ∀ w, Inv w → SameShape w.idx idx0)
    (hact : ∀ sp w w', Inv w → T.act sp w = .ok w' →
      Inv w' ∧ ∀ x, T.isDone w' x = (x == sp || T.isDone w x)) :
    T.LawfulOn (ownIdx cfg idx0) Inv where
  owners_eq := fun w sp os hi h x => by
    rw [howners] at h
    rw [ownersOf_eq cfg w sp os h]
    exact ownIdx_sim cfg (hshape w hi) sp x
  act_done := fun sp w w' hi h => (hact sp w w' hi h).2
  act_inv := fun sp w w' hi h => (hact sp w w' hi h).1

theorem lawfulOn_of_act (cfg : Cfg κ) (idx : Index) (act : Bytes → World κ → Except Err (World κ))
    (hact : ∀ sp w w', act sp w = .ok w' → w'.idx = w.idx ∧ w'.done = sp :: w.done) :
    Trav.LawfulOn { isDone := fun w sp => w.done.contains sp, owners := ownersOf cfg, act := act }
      (ownIdx cfg idx) (fun w => w.idx = idx) :=
  lawfulOn_of_frame cfg _ idx _ rfl (fun w hi => hi ▸ SameShape.refl _) fun sp w w' hi h =>
    ⟨(hact sp w w' h).1.trans hi, fun x => by
      show w'.done.contains x = _
      rw [(hact sp w w' h).2, List.contains_cons]⟩

theorem checkoutAct_frame (cfg : Cfg κ) (strat : Strat) (sp : Bytes) (w w' : World κ)
    (h : checkoutAct cfg strat sp w = .ok w') : w'.idx = w.idx ∧ w'.done = sp :: w.done := by
  rw [checkoutAct_world h]
  exact ⟨rfl, rfl⟩

theorem pushAct_frame (cfg : Cfg κ) (sp : Bytes) (w w' : World κ)
    (h : pushAct cfg sp w = .ok w') : w'.idx = w.idx ∧ w'.done = sp :: w.done := by
  obtain ⟨_, _, -, rfl, -⟩ := pushAct_post h
  exact ⟨rfl, rfl⟩

theorem fetchAct_frame (cfg : Cfg κ) (sp : Bytes) (w w' : World κ)
    (h : fetchAct cfg sp w = .ok w') : w'.idx = w.idx ∧ w'.done = sp :: w.done := by
  obtain ⟨_, _, -, rfl, -⟩ := fetchAct_post h
  exact ⟨rfl, rfl⟩

theorem statusAct_frame [DecidableEq κ] (cfg : Cfg κ) (sp : Bytes) (w w' : World κ)
    (h : statusAct cfg sp w = .ok w') : w'.idx = w.idx ∧ w'.done = sp :: w.done := by
  obtain ⟨_, _, -, -, rfl⟩ := statusAct_inv h
  exact ⟨rfl, rfl⟩

theorem checkoutTrav_lawfulOn (cfg : Cfg κ) (strat : Strat) (idx : Index) :
    (checkoutTrav cfg strat).LawfulOn (ownIdx cfg idx) (fun w => w.idx = idx) :=
  lawfulOn_of_act cfg idx _ (checkoutAct_frame cfg strat)

theorem pushTrav_lawfulOn (cfg : Cfg κ) (idx : Index) :
    (simpleTrav cfg (pushAct cfg)).LawfulOn (ownIdx cfg idx) (fun w => w.idx = idx) :=
  lawfulOn_of_act cfg idx _ (pushAct_frame cfg)

theorem fetchTrav_lawfulOn (cfg : Cfg κ) (idx : Index) :
    (simpleTrav cfg (fetchAct cfg)).LawfulOn (ownIdx cfg idx) (fun w => w.idx = idx) :=
  lawfulOn_of_act cfg idx _ (fetchAct_frame cfg)

theorem statusTrav_lawfulOn [DecidableEq κ] (cfg : Cfg κ) (idx : Index) :
    (statusTrav cfg).LawfulOn (ownIdx cfg idx) (fun w => w.idx = idx) :=
  lawfulOn_of_act cfg idx _ (statusAct_frame cfg)

/-- what the stage command must leave alone: `idx`, `ran`, `done` for the traversal laws to hold
(`runAct_frame`), `log` and `store` for `Props/C09.lean` -/
def ExecFrame (exec : Exec κ) : Prop :=
  ∀ stg w w', exec stg w = .ok w' →
    w'.idx = w.idx ∧ w'.ran = w.ran ∧ w'.log = w.log ∧ w'.done = w.done ∧ w'.store = w.store

theorem runAct_frame [DecidableEq κ] (cfg : Cfg κ) (exec : Exec κ) (hex : ExecFrame exec) (recursive : Bool) (sp : Bytes)
    (w w' : World κ) (h : runAct cfg exec recursive sp w = .ok w') :
    w'.idx = w.idx ∧ w'.done = w.done ∧ ∃ b, w'.ran = (sp, b) :: w.ran := by
  obtain ⟨w1, b, _, hw, rfl⟩ := runAct_cases h
  rcases hw with rfl | ⟨stg, he⟩
  · exact ⟨rfl, rfl, b, rfl⟩
  · obtain ⟨f1, f2, -, f4, -⟩ := hex stg w w1 he
    exact ⟨f1, f4, b, by rw [f2]⟩

/-- `dud run`: lawful as soon as the stage command leaves index, memo and `done` alone -/
theorem runTrav_lawfulOn [DecidableEq κ] (cfg : Cfg κ) (exec : Exec κ) (hex : ExecFrame exec)
    (recursive : Bool) (idx : Index) :
    (runTrav cfg exec recursive).LawfulOn (ownIdx cfg idx) (fun w => w.idx = idx) :=
  lawfulOn_of_frame cfg _ idx _ rfl (fun w hi => hi ▸ SameShape.refl _) fun sp w w' hi h => by
    obtain ⟨hidx, _, b, hr⟩ := runAct_frame cfg exec hex recursive sp w w' h
    refine ⟨hidx.trans hi, fun x => ?_⟩
    show (alookup w'.ran x).isSome = _
    rw [hr, isSome_alookup_cons]; rfl

/-- `dud commit` rewrites the index (checksums, `skip`, order of artifacts) but keeps its shape, on
which alone the owners depend. Needs distinct stage paths in the index (Go: a map), because
`setStage` rewrites every entry with that path. -/
theorem commitTrav_lawfulOn (cfg : Cfg κ) (strat : Strat) (idx0 : Index) (hk : (idx0.map (·.1)).Nodup) :
    (commitTrav cfg strat).LawfulOn (ownIdx cfg idx0) (fun w => SameShape w.idx idx0) :=
  lawfulOn_of_frame cfg _ idx0 _ rfl (fun _ hi => hi) fun sp w w' hi h => by
    obtain ⟨hs, hd⟩ := commitAct_frame cfg strat sp w w' (hi.keys ▸ hk) h
    refine ⟨hs.trans hi, fun x => ?_⟩
    show w'.done.contains x = _
    rw [hd, List.contains_cons]; rfl

/-- e.g. checkout from a fresh world: each stage checked out once, owners first, only upstream stages -/
theorem checkout_order (cfg : Cfg κ) (strat : Strat) (r : Bool) (sp : Bytes) (w w' : World κ) (l' : List Bytes)
    (h0 : w.done = [])
    (h : visit (checkoutTrav cfg strat).logged r (w.idx.length + 1) (allStages w) sp (w, []) = .ok (w', l')) :
    w'.idx = w.idx ∧ l'.Nodup ∧ (∀ x, x ∈ l' → x ∈ allStages w ∧ Reach (ownIdx cfg w.idx) sp x) ∧ sp ∈ l' ∧
      (∀ x, w'.done.contains x = l'.contains x) ∧
      (r = true → ∀ x, x ∈ l' → ∀ o, o ∈ ownIdx cfg w.idx x → Before l' o x) :=
  visit_spec_on (checkoutTrav cfg strat) (ownIdx cfg w.idx) _ (checkoutTrav_lawfulOn cfg strat w.idx) r _ _ sp
    w w' l' rfl (fun x => by simp [checkoutTrav, h0]) h

/-! ## whole commands: one traversal per target with a shared memo -/

/-- Everything at once for a command: `l'` is the list of stages acted on, in order, over all targets. -/
theorem cmd_spec_on (T : Trav (World κ)) (own) (Inv : World κ → Prop) (hT : T.LawfulOn own Inv) (r : Bool)
    (F : World κ → Nat) (A : World κ → List Bytes) (ts : List Bytes) (w w' : World κ) (l' : List Bytes)
    (hi : Inv w) (h0 : ∀ x, T.isDone w x = false)
    (h : perTargetLogged (fun t p => visit T.logged r (F p.1) (A p.1) t p) ts (w, []) = .ok (w', l')) :
    Inv w' ∧ l'.Nodup ∧ (∀ x, x ∈ l' → ∃ t, t ∈ ts ∧ Reach own t x) ∧ (∀ t, t ∈ ts → t ∈ l') ∧
      (∀ x, T.isDone w' x = l'.contains x) ∧
      (r = true → ∀ x, x ∈ l' → ∀ o, o ∈ own x → Before l' o x) := by
  obtain ⟨t, hd⟩ := (perTarget_run (Q := fun _ => True) hT F A ts (fun _ _ _ _ _ _ _ _ _ => trivial)
    (w, []) (w', l') hi h).1
  obtain ⟨h2, h3, h4, h5, h6⟩ := t.of_fresh h0
  exact ⟨h2, h3, fun x hx => (h4 x hx).2,
    fun t ht => List.contains_iff_mem.1 ((h5 t).symm.trans (hd t ht)), h5, h6⟩

/-- over a whole command each stage is acted on at most once -/
theorem cmd_once (T : Trav (World κ)) (own) (Inv : World κ → Prop) (hT : T.LawfulOn own Inv) (r : Bool)
    (F : World κ → Nat) (A : World κ → List Bytes) (ts : List Bytes) (w w' : World κ) (l' : List Bytes)
    (hi : Inv w) (h0 : ∀ x, T.isDone w x = false)
    (h : perTargetLogged (fun t p => visit T.logged r (F p.1) (A p.1) t p) ts (w, []) = .ok (w', l')) :
    l'.Nodup :=
  (cmd_spec_on T own Inv hT r F A ts w w' l' hi h0 h).2.1

/-- … owners first (recursive commands) -/
theorem cmd_topological (T : Trav (World κ)) (own) (Inv : World κ → Prop) (hT : T.LawfulOn own Inv)
    (F : World κ → Nat) (A : World κ → List Bytes) (ts : List Bytes) (w w' : World κ) (l' : List Bytes)
    (hi : Inv w) (h0 : ∀ x, T.isDone w x = false)
    (h : perTargetLogged (fun t p => visit T.logged true (F p.1) (A p.1) t p) ts (w, []) = .ok (w', l')) :
    ∀ x, x ∈ l' → ∀ o, o ∈ own x → Before l' o x :=
  (cmd_spec_on T own Inv hT true F A ts w w' l' hi h0 h).2.2.2.2.2 rfl

/-- … and only stages upstream of some target, all targets included -/
theorem cmd_scope (T : Trav (World κ)) (own) (Inv : World κ → Prop) (hT : T.LawfulOn own Inv) (r : Bool)
    (F : World κ → Nat) (A : World κ → List Bytes) (ts : List Bytes) (w w' : World κ) (l' : List Bytes)
    (hi : Inv w) (h0 : ∀ x, T.isDone w x = false)
    (h : perTargetLogged (fun t p => visit T.logged r (F p.1) (A p.1) t p) ts (w, []) = .ok (w', l')) :
    (∀ x, x ∈ l' → ∃ t, t ∈ ts ∧ Reach own t x) ∧ (∀ t, t ∈ ts → t ∈ l') :=
  let hs := cmd_spec_on T own Inv hT r F A ts w w' l' hi h0 h
  ⟨hs.2.2.1, hs.2.2.2.1⟩

/-- the stages a traversal with root list `ts` acts on: the roots, and (recursive traversal)
everything upstream of them -/
def WR.TravScope (own : Bytes → List Bytes) (r : Bool) (ts : List Bytes) (sp : Bytes) : Prop :=
  ∃ t, t ∈ ts ∧ (if r = true then Reach own t sp else sp = t)

theorem WR.TravScope.root {own : Bytes → List Bytes} {r : Bool} {ts : List Bytes} {t : Bytes}
    (h : t ∈ ts) : WR.TravScope own r ts t := by
  refine ⟨t, h, ?_⟩
  split
  · exact .refl _
  · rfl

theorem WR.TravScope.up {own : Bytes → List Bytes} {ts : List Bytes} {sp o : Bytes}
    (h : WR.TravScope own true ts sp) (ho : o ∈ own sp) : WR.TravScope own true ts o := by
  obtain ⟨t, ht, hr⟩ := h
  simp only [if_true] at hr
  exact ⟨t, ht, by simp only [if_true]; exact hr.trans (.step ho (.refl _))⟩

/-- **What a successful command did** (`runTargets T r targets w` is the case `ts := targets` or all
stages, from `fresh w`): it has a log `l'`, which is duplicate-free, lists stages upstream of the
roots, contains every stage in scope, is the set of stages done at the end and (recursive command)
lists owners first. (What the command keeps: `perTarget_preserves`.) -/
theorem cmd_run {T : Trav (World κ)} {own : Bytes → List Bytes} {Inv : World κ → Prop}
    (hT : T.LawfulOn own Inv) (r : Bool) (F : World κ → Nat) (A : World κ → List Bytes) (ts : List Bytes)
    (w w' : World κ) (hi : Inv w) (h0 : ∀ x, T.isDone w x = false)
    (h : perTarget (fun t w => visit T r (F w) (A w) t w) ts w = .ok w') :
    ∃ l', perTargetLogged (fun t p => visit T.logged r (F p.1) (A p.1) t p) ts (w, []) = .ok (w', l') ∧
      Inv w' ∧ l'.Nodup ∧ (∀ x, x ∈ l' → ∃ t, t ∈ ts ∧ Reach own t x) ∧
      (∀ x, WR.TravScope own r ts x → x ∈ l') ∧ (∀ x, T.isDone w' x = l'.contains x) ∧
      (r = true → ∀ x, x ∈ l' → ∀ o, o ∈ own x → Before l' o x) := by
  obtain ⟨l', hl⟩ := cmd_logged T r F A ts w w' h
  obtain ⟨h1, h2, h3, h4, h5, h6⟩ := cmd_spec_on T own Inv hT r F A ts w w' l' hi h0 hl
  refine ⟨l', hl, h1, h2, h3, ?_, h5, h6⟩
  rintro x ⟨t, ht, hsc⟩
  by_cases hr : r = true
  · rw [if_pos hr] at hsc
    exact reach_mem_log h2 (h6 hr) hsc (h4 t ht)
  · rw [if_neg hr] at hsc
    exact hsc ▸ h4 t ht

/-- **Lifting principle** for a command (`perTarget_preserves` and `cmd_run` without the log): if `I`
holds of the fresh world and every stage action keeps it — called, as it is, on a stage upstream of a
target that is not done, in a world satisfying the traversal's invariant, with all owners done when
the traversal is recursive — then after a successful command `I` and the invariant hold and every
stage in scope is done. -/
theorem runTargets_lift {T : Trav (World κ)} {own : Bytes → List Bytes} {Inv : World κ → Prop}
    (hT : T.LawfulOn own Inv) {r : Bool} {targets : List Bytes} {w w' : World κ} {I : World κ → Prop}
    (hi : Inv (fresh w)) (hd : ∀ x, T.isDone (fresh w) x = false) (h0 : I (fresh w))
    (hstep : T.ActKeeps own Inv r
      (fun sp => ∃ t, t ∈ (if targets.isEmpty then allStages w else targets) ∧ Reach own t sp) I)
    (h : runTargets T r targets w = .ok w') :
    Inv w' ∧ I w' ∧
      ∀ sp, WR.TravScope own r (if targets.isEmpty then allStages w else targets) sp → T.isDone w' sp = true := by
  obtain ⟨l', _, hinv, _, _, hsc, hdone, _⟩ := cmd_run hT r _ _ _ (fresh w) w' hi hd h
  exact ⟨hinv, perTarget_preserves hT _ _ _ hstep (fresh w) w' hi h0 h,
    fun sp hsp => (hdone sp).trans (List.contains_iff_mem.2 (hsc sp hsp))⟩

/-- **What a successful traversal did, for a preorder `le` on worlds that every action respects:**
the final world is above the initial one, every stage in scope is done, and every stage that is done
was acted on in a world `u` above the initial one, with a result `u'` below the final one.  So a
fact the action establishes holds at the end for every stage in scope as soon as it is monotone in
`le`; no invariant with a clause per finished stage is needed. -/
theorem WR.runTargets_acted {T : Trav (World κ)} {own : Bytes → List Bytes} {Inv : World κ → Prop}
    (hT : T.LawfulOn own Inv) {r : Bool} {targets : List Bytes} {w w' : World κ}
    {le : World κ → World κ → Prop} (hi : Inv (fresh w)) (hd : ∀ x, T.isDone (fresh w) x = false)
    (hrefl : ∀ u, le u u) (htrans : ∀ {a b c}, le a b → le b c → le a c)
    (hact : ∀ sp u u', Inv u → T.act sp u = .ok u' → le u u')
    (h : runTargets T r targets w = .ok w') :
    Inv w' ∧ le (fresh w) w' ∧
      (∀ sp, WR.TravScope own r (if targets.isEmpty then allStages w else targets) sp →
        T.isDone w' sp = true) ∧
      ∀ sp, T.isDone w' sp = true →
        ∃ u u', Inv u ∧ le (fresh w) u ∧ T.act sp u = .ok u' ∧ le u' w' := by
  obtain ⟨hi', ⟨hle, hdone⟩, hsc⟩ := runTargets_lift hT hi hd
    (I := fun v => le (fresh w) v ∧ ∀ sp, T.isDone v sp = true →
      ∃ u u', Inv u ∧ le (fresh w) u ∧ T.act sp u = .ok u' ∧ le u' v)
    ⟨hrefl _, fun sp hsp => by rw [hd] at hsp; cases hsp⟩
    (fun sp u u' _ hiu hI _ _ ha => by
      have hstep := hact sp u u' hiu ha
      refine ⟨htrans hI.1 hstep, fun x hx => ?_⟩
      rw [hT.act_done sp u u' hiu ha, Bool.or_eq_true, beq_iff_eq] at hx
      rcases hx with rfl | hx
      · exact ⟨u, u', hiu, hI.1, ha, hrefl _⟩
      · obtain ⟨a, a', h1, h2, h3, h4⟩ := hI.2 x hx
        exact ⟨a, a', h1, h2, h3, htrans h4 hstep⟩) h
  exact ⟨hi', hle, hsc, hdone⟩

theorem WR.simpleCmd_acted (cfg : Cfg κ) {act : Bytes → World κ → Except Err (World κ)}
    (hframe : ∀ sp w w', act sp w = .ok w' → w'.idx = w.idx ∧ w'.done = sp :: w.done)
    {r : Bool} {targets : List Bytes} {w w' : World κ} {le : World κ → World κ → Prop}
    (hrefl : ∀ u, le u u) (htrans : ∀ {a b c}, le a b → le b c → le a c)
    (hact : ∀ sp u u', act sp u = .ok u' → le u u')
    (h : runTargets (simpleTrav cfg act) r targets w = .ok w') :
    w'.idx = w.idx ∧ le (fresh w) w' ∧
      (∀ sp, WR.TravScope (ownIdx cfg w.idx) r (if targets.isEmpty then allStages w else targets) sp →
        w'.done.contains sp = true) ∧
      ∀ sp, w'.done.contains sp = true →
        ∃ u u', u.idx = w.idx ∧ le (fresh w) u ∧ act sp u = .ok u' ∧ le u' w' :=
  WR.runTargets_acted (lawfulOn_of_act cfg w.idx act hframe) rfl (fun _ => rfl) hrefl htrans
    (fun sp u u' _ => hact sp u u') h

/-- a cycle upstream of some target makes the command fail -/
theorem cmd_cycle_refused (T : Trav (World κ)) (own) (Inv : World κ → Prop) (hT : T.LawfulOn own Inv)
    (F : World κ → Nat) (A : World κ → List Bytes) (ts : List Bytes) (w : World κ)
    (hi : Inv w) (h0 : ∀ x, T.isDone w x = false) (t x y : Bytes) (ht : t ∈ ts) (hx : Reach own t x)
    (hxy : y ∈ own x) (hyx : Reach own y x) :
    ∃ e, perTarget (fun t w => visit T true (F w) (A w) t w) ts w = .error e := by
  cases hv : perTarget (fun t w => visit T true (F w) (A w) t w) ts w with
  | error e => exact ⟨e, rfl⟩
  | ok w' =>
    obtain ⟨l', _, _, hnd, _, hsc, _, htop⟩ := cmd_run hT true F A ts w w' hi h0 hv
    exact (no_cycle_in_log hnd (htop rfl) (hsc x ⟨t, ht, hx⟩) hxy hyx).elim

end Concrete

/-! ## non-vacuity: a diamond and a 2-cycle -/

section Example

/-- state = list of done stages, action = cons -/
def listTrav (own : Bytes → List Bytes) : Trav (List Bytes) :=
  { isDone := fun st sp => st.contains sp, owners := fun _ sp => .ok (own sp), act := fun sp st => .ok (sp :: st) }

theorem listTrav_lawful (own : Bytes → List Bytes) : (listTrav own).Lawful own where
  owners_eq := by intro st sp os h; cases h; rfl
  act_done := by
    intro sp st st' h x
    cases h
    simp only [listTrav, List.contains_cons]

/-- `[4]` needs `[2]` and `[3]`, both need `[1]` -/
def diamondOwn : Bytes → List Bytes := fun sp =>
  if sp = [4] then [[2], [3]] else if sp = [2] then [[1]] else if sp = [3] then [[1]] else []

/-- `[1]` and `[2]` need each other; `[3]` needs `[1]` -/
def cycleOwn : Bytes → List Bytes := fun sp =>
  if sp = [1] then [[2]] else if sp = [2] then [[1]] else if sp = [3] then [[1]] else []

#eval visit (listTrav diamondOwn).logged true 5 [[1], [2], [3], [4]] [4] ([], [])
#eval visit (listTrav diamondOwn).logged false 5 [[1], [2], [3], [4]] [4] ([], [])
#eval visit (listTrav cycleOwn) true 4 [[1], [2], [3]] [3] []

/-- the diamond: `[1]` is acted on once although reached twice, owners first -/
example : visit (listTrav diamondOwn).logged true 5 [[1], [2], [3], [4]] [4] ([], []) =
    .ok ([[4], [3], [2], [1]], [[1], [2], [3], [4]]) := by open Dud.WorldDec in decide +kernel

/-- `--single-stage` -/
example : visit (listTrav diamondOwn).logged false 5 [[1], [2], [3], [4]] [4] ([], []) =
    .ok ([[4]], [[4]]) := by open Dud.WorldDec in decide +kernel

/-- the 2-cycle upstream of `[3]` -/
example : visit (listTrav cycleOwn) true 4 [[1], [2], [3]] [3] [] = .error .cycle := by
  open Dud.WorldDec in decide +kernel

/-- … as predicted by `cycle_refused`, for any fuel and any `avail` -/
example (fuel : Nat) (avail : List Bytes) : ∃ e, visit (listTrav cycleOwn) true fuel avail [3] [] = .error e :=
  cycle_refused (listTrav cycleOwn) cycleOwn (listTrav_lawful _) fuel avail [3] [] (fun _ => rfl) [1] [2]
    (.step (b := [1]) (by decide) (.refl _)) (by decide) (.step (b := [1]) (by decide) (.refl _))

end Example

#print axioms visit_logged_erase
#print axioms visit_spec_on
#print axioms visit_once_on
#print axioms visit_topological_on
#print axioms visit_single
#print axioms visit_scope_on
#print axioms visit_guard_irrelevant_on
#print axioms visit_guard_irrelevant_logged_on
#print axioms cycle_no_act_on
#print axioms cycle_refused_on
#print axioms visit_once
#print axioms visit_topological
#print axioms visit_scope
#print axioms visit_guard_irrelevant
#print axioms visit_guard_irrelevant_logged
#print axioms cycle_refused
#print axioms cycle_no_act
#print axioms visit_fuel_adequate
#print axioms checkoutTrav_lawfulOn
#print axioms pushTrav_lawfulOn
#print axioms fetchTrav_lawfulOn
#print axioms statusTrav_lawfulOn
#print axioms runTrav_lawfulOn
#print axioms commitTrav_lawfulOn
#print axioms checkout_order
#print axioms cmd_spec_on
#print axioms cmd_once
#print axioms cmd_topological
#print axioms cmd_scope
#print axioms cmd_cycle_refused
#print axioms listTrav_lawful
#print axioms pushAct_frame
#print axioms fetchAct_frame

end Dud
