import DudModel.Lemmas.InterleaveTree
import DudModel.Props.C03inter
/-!
# C03 + C13 — crash safety of CONCURRENT workers: every schedule is safe at every prefix

In the Go code (`src/cache/commit.go`) the entries of a directory are committed by concurrent workers
(`startCommitWorkers` / `commitWorker`): worker i issues the calls of `commitFileArtifact` /
`commitDirArtifact` for ITS entries.  Different workers touch different workspace paths and use
different cache temp files (`os.CreateTemp`), but they may target the SAME cache object (two files with
identical bytes both `rename` onto `<cache>/<hh>/<rest>`: "we don't care who wins the race") and the
same shard directory (`mkdir`).  A worker that meets a sub-directory calls `commitDirArtifact` again,
which starts workers of its own: the concurrency is nested.  The manifest of a directory is written
after all its workers have returned (`errGroup.Wait`).

`Props/C03inter.lean` ENUMERATES the interleavings of two concrete two-file examples.  Here the
statements are about ALL schedules: `InterleavingN [t₁, …, tₙ] l` says that `l` is a shuffle of the
workers' traces, equivalently (`sched_iff_interleavingN`) a run of a scheduler that lets, at every step,
any worker with calls left issue its next call; the sequential loop of the model is one of them
(`commitEntriesT_is_schedule`).  Workers are independent in the sense of `Disciplined`
(`Lemmas/InterleaveN.lean`): each trace is an `AllowedTrace` when run ALONE, and acts on its own private
paths only, except `mkdir <shard>`, `rename <private> <object>`, `chmod <object>`.  A rename onto an
existing object carries the same bytes because the hash is collision-free (`Good ctx`); `mkdir` of an
existing directory changes nothing.

Three levels, each with prefix safety and the final state: the workers of one directory, each with a
given trace of its own — itself any nested concurrent commit (`ParTraces`), or the sequential
`commitNodeT` trace (`EntryWorkers`, the `*_fsOf` versions) — in any schedule (`commit_workers_*`; here
also: the final state does not depend on the schedule); workers in every directory of
a tree, nested (`ParTrace`, `parCommit_*`); the whole `LocalCache.Commit` of a directory artifact with
`MkdirAll`, rename probe, `DisableRecursion` and manifest (`ParArtTrace`, `parCommitArt_*`).  The
`*_fsOf` versions start from the abstraction of a workspace tree next to a consistent cache.  The
enumerated examples of `C03inter.lean` reappear as instances at the end, with a sub-directory and a
nested schedule that is not sequential.

## Hypotheses

* `Good ctx`: the hash is collision-free — used exactly where a `rename` lands on an object that is
  already there (put by another worker or by an earlier commit): same digest, hence same bytes.
* `hemp`: the "is empty" test of the trace generator is sound (as in `C03.lean`).
* `uniqList es` / `uniqNode nd`: entry names pairwise distinct in every directory — different workers
  own different workspace paths.
* `DisjointRanges rs`: the workers' temp numbers come from pairwise disjoint ranges (`os.CreateTemp`
  never hands the same name to two workers).
* `StartOK`: the start state is safe for the recorded contents, the regular files of the directory are
  in place, no cache temp file exists; `startOK_fsOf`: true of `fsOf ctx pre nd s` for a consistent store.
* every worker's commit succeeds (`commitNodeT … = .ok …`).  The calls of such a worker for an entry that
  is not a directory are a function of the entry, the strategy and the temp number, not of the cache the
  worker read (`commitNodeT_leaf_calls`: a regular file is always stored, a link issues no call).

## Not covered

* runs in which a worker fails (the model has traces of successful commits only; a failing run's real
  trace is a prefix of worker traces only up to the failing check), the `errgroup` cancellation;
* the lock and the metadata files around `LocalCache.Commit` (sequential; `C03cmd.lean`);
* system calls are atomic steps of the interleaving (a non-empty `write` is two steps: torn, then
  complete); two workers never share a temp name (hypothesis `DisjointRanges`).
-/
namespace Dud.Sys

open Dud

variable {κ : Type}

/-- the start state of a commit of the regular files `tr`: safe for the recorded contents, the files in
place, no cache temp file -/
structure StartOK (ctx : Ctx κ) (tracked : List (P × κ)) (tr : List (P × κ)) (fs : FS κ) : Prop where
  safe : Safe ctx tracked fs
  inPlace : ∀ p ∈ tr, ∃ m, fs.get p.1 = some (.file p.2 m)
  noTemp : ∀ k, fs.get (.ctmp k) = none

/-- the abstraction of a workspace tree with duplicate-free names next to a consistent cache -/
theorem startOK_fsOf (ctx : Ctx κ) (pre : List Name) (nd : Node κ) (s : Store κ) (hu : uniqNode nd)
    (hc : Consistent ctx s) : StartOK ctx (trackedOf pre nd) (trackedOf pre nd) (fsOf ctx pre nd s) :=
  ⟨fsOf_safe ctx pre nd s hu hc, fun p hp => ⟨_, fsOf_get_tracked ctx pre nd s hu p hp⟩,
   fun k => fsOf_get_ctmp ctx pre nd s k⟩

/-- **Rely/guarantee form of the file commit**: every call of `commitFileArtifact` (all three variants)
is allowed in EVERY state `f` that agrees with the worker's own expected state on the worker's private
paths (its workspace file, its temp file) and holds at least the expected objects — whatever other
workers have done to objects and shard directories in the meantime. -/
theorem commitFileT_allowed_under {t : TCfg κ} (g : Good t.ctx) {tracked : List (P × κ)}
    (htw : TrackedWs tracked) {emp : κ} (hemp : ∀ c, t.isEmp c = true → c = emp)
    {skip : Bool} {q : List Name} {nd : Option (Node κ)} {sum : Digest} {s : Store κ} {n : Nat}
    {res : Node κ × Digest × Store κ} {calls : List (Call κ)} {k : Nat}
    (h : commitFileT t skip (.ws q) nd sum s n = .ok (res, calls, k))
    {fs : FS κ} (hs : Safe t.ctx tracked fs)
    (hin : ∀ p ∈ trackedOpt q nd, ∃ m, fs.get p.1 = some (.file p.2 m))
    (hfr : fs.get (.ctmp n) = none) :
    AllowedTraceUnder t.ctx emp tracked (PrivOf (paths (trackedOpt q nd)) n k) fs calls :=
  (commitFileT_disciplined g htw hemp h hs hin hfr).under

/-- **Rely/guarantee form of the tree commit** (`commitNodeT`, any tree with duplicate-free names). -/
theorem commitNodeT_allowed_under {t : TCfg κ} (g : Good t.ctx) {tracked : List (P × κ)}
    (htw : TrackedWs tracked) {emp : κ} (hemp : ∀ c, t.isEmp c = true → c = emp)
    {nd : Node κ} {pre : List Name} {c : Child} {s : Store κ} {n : Nat}
    {res : Node κ × Child × Store κ} {calls : List (Call κ)} {n' : Nat}
    (hu : uniqNode nd) (h : commitNodeT t pre nd c s n = .ok (res, calls, n'))
    {fs : FS κ} (hs : Safe t.ctx tracked fs)
    (hin : ∀ p ∈ trackedOf pre nd, ∃ m, fs.get p.1 = some (.file p.2 m))
    (hfr : ∀ k, n ≤ k → fs.get (.ctmp k) = none) :
    AllowedTraceUnder t.ctx emp tracked (PrivOf (paths (trackedOf pre nd)) n n') fs calls :=
  (commitNodeT_disciplined g htw hemp hu h hs hin hfr).under

/-- the generic statement: workers that are each disciplined when run alone from the safe state
`fs0` (`Disciplined`: allowed + owned, private paths pairwise disjoint) — EVERY `InterleavingN` of their
traces is an `AllowedTrace` from `fs0`, hence safe after every prefix. -/
theorem disciplined_interleavingN_prefixSafe {ctx : Ctx κ} (g : Good ctx) {tracked : List (P × κ)}
    {emp : κ} {fs0 : FS κ} (hs0 : Safe ctx tracked fs0) {As : List (P → Prop)}
    {ts : List (List (Call κ))} (hw : Forall2 (Disciplined ctx emp tracked fs0) As ts)
    (hd : DisjointAll As) {l : List (Call κ)} (hi : InterleavingN ts l) :
    AllowedTrace ctx emp tracked fs0 l ∧ PrefixSafe ctx emp tracked fs0 l :=
  have h := (interleavingN_disciplined g emp hs0 hw hd hi).1.allowed
  ⟨h, h.prefixSafe g hs0⟩

/-- **Every schedule of the entry workers is safe after every prefix.**
Directory `pre` with pairwise distinct entry names (`uniqList es`); worker i commits entry i, its
trace `tsᵢ` is any trace of the concurrent commit of that entry (`ParTraces`; the `commitNodeT` traces of
`EntryWorkers` are the special case `EntryWorkers.parTraces`; all three strategy variants, files with
identical or different contents, sub-directories, links); temp numbers from pairwise disjoint ranges.
From any start state that is safe for the recorded contents `tracked` (any list of workspace
paths with contents), has the directory's regular files in place and no temp file: for EVERY
`InterleavingN ts l` and every `k`, the state after the first `k` calls of `l` is `Safe` — every
recorded content is retrievable and whatever sits under a digest name is complete with the right bytes. -/
theorem commit_workers_prefixSafe {t : TCfg κ} (g : Good t.ctx) {tracked : List (P × κ)}
    (htw : TrackedWs tracked) {emp : κ} (hemp : ∀ c, t.isEmp c = true → c = emp)
    {pre : List Name} {es : List (Name × Node κ)} {rs : List (Nat × Nat)} {ts : List (List (Call κ))}
    (hu : uniqList es) (hw : ParTraces t pre es rs ts) (hdr : DisjointRanges rs)
    {fs : FS κ} (h0 : StartOK t.ctx tracked (trackedList pre es) fs)
    {l : List (Call κ)} (hi : InterleavingN ts l) : PrefixSafe t.ctx emp tracked fs l :=
  (parTraces_interleavingN g htw hemp hu hw hdr h0.safe h0.inPlace h0.noTemp hi).1.allowed.prefixSafe
    g h0.safe

/-- the same in the rely/guarantee form: the schedule is an `AllowedTrace` (every call allowed in the
state it meets), and it is again `Disciplined` for the union of the workers' private paths -/
theorem commit_workers_disciplined {t : TCfg κ} (g : Good t.ctx) {tracked : List (P × κ)}
    (htw : TrackedWs tracked) {emp : κ} (hemp : ∀ c, t.isEmp c = true → c = emp)
    {pre : List Name} {es : List (Name × Node κ)} {rs : List (Nat × Nat)} {ts : List (List (Call κ))}
    (hu : uniqList es) (hw : ParTraces t pre es rs ts) (hdr : DisjointRanges rs)
    {fs : FS κ} (h0 : StartOK t.ctx tracked (trackedList pre es) fs)
    {l : List (Call κ)} (hi : InterleavingN ts l) :
    Disciplined t.ctx emp tracked fs (UnionOf (privsOf pre es rs)) l :=
  (parTraces_interleavingN g htw hemp hu hw hdr h0.safe h0.inPlace h0.noTemp hi).1

/-- **The final state of every schedule.**  Same hypotheses.  After the last call of ANY schedule:
the state is safe; for every regular file `(p, c)` of the directory the cache object `H c` holds exactly
`c`, and `p` is a link to that object (link strategy) or what it was (copy strategy); no temp file is
left; a workspace path that is not the path of a regular file of the directory is what it was. -/
theorem commit_workers_final {t : TCfg κ} (g : Good t.ctx) {tracked : List (P × κ)}
    (htw : TrackedWs tracked) {emp : κ} (hemp : ∀ c, t.isEmp c = true → c = emp)
    {pre : List Name} {es : List (Name × Node κ)} {rs : List (Nat × Nat)} {ts : List (List (Call κ))}
    (hu : uniqList es) (hw : ParTraces t pre es rs ts) (hdr : DisjointRanges rs)
    {fs : FS κ} (h0 : StartOK t.ctx tracked (trackedList pre es) fs)
    {l : List (Call κ)} (hi : InterleavingN ts l) :
    Safe t.ctx tracked (replay emp fs l) ∧
      Post t fs (replay emp fs l) (trackedList pre es) ∧
      (∀ k, (replay emp fs l).get (.ctmp k) = none) ∧
      (∀ q, P.ws q ∉ paths (trackedList pre es) → (replay emp fs l).get (.ws q) = fs.get (.ws q)) := by
  obtain ⟨dl, -, -, hpost, hct⟩ :=
    parTraces_interleavingN g htw hemp hu hw hdr h0.safe h0.inPlace h0.noTemp hi
  exact ⟨dl.safe_final g h0.safe, hpost, hct,
    fun q hq => dl.owned.replay_frame (fun h => hq (privsOf_ws pre h)) rfl emp fs⟩

/-- **All schedules end in the same state** as far as workspace paths, temp files, shard directories
(every path that is not an object) and the bytes of cache objects are concerned: who created an object
or a shard directory first does not matter.  (Permission bits of objects are not compared.) -/
theorem commit_workers_schedules_agree {t : TCfg κ} (g : Good t.ctx) {tracked : List (P × κ)}
    (htw : TrackedWs tracked) {emp : κ} (hemp : ∀ c, t.isEmp c = true → c = emp)
    {pre : List Name} {es : List (Name × Node κ)} {rs : List (Nat × Nat)} {ts : List (List (Call κ))}
    (hu : uniqList es) (hw : ParTraces t pre es rs ts) (hdr : DisjointRanges rs)
    {fs : FS κ} (h0 : StartOK t.ctx tracked (trackedList pre es) fs)
    {l l' : List (Call κ)} (hi : InterleavingN ts l) (hi' : InterleavingN ts l') :
    (∀ p, p.isObj = false → (replay emp fs l).get p = (replay emp fs l').get p) ∧
      ObjLe (replay emp fs l) (replay emp fs l') ∧ ObjLe (replay emp fs l') (replay emp fs l) := by
  obtain ⟨dl, m, hsols, -, -⟩ :=
    parTraces_interleavingN g htw hemp hu hw hdr h0.safe h0.inPlace h0.noTemp hi
  obtain ⟨dl', m', -, -, -⟩ :=
    parTraces_interleavingN g htw hemp hu hw hdr h0.safe h0.inPlace h0.noTemp hi'
  have hnt : ∀ s ∈ ts.map (replay emp fs), NoTorn t.ctx s := by
    intro s hs
    simp only [List.mem_map] at hs
    obtain ⟨tr, htr, rfl⟩ := hs
    exact (hsols tr htr).2
  have a := Merged.agree g h0.safe.2 hnt (dl.safe_final g h0.safe).2 m m'
  have a' := Merged.agree g h0.safe.2 hnt (dl'.safe_final g h0.safe).2 m' m
  exact ⟨a.1, a.2, a'.2⟩

/-- **No object is left writable**: if every complete object is read-only (0444) at the start, so it is
at the end of every schedule — each `rename` onto an object name is followed by the `chmod` of the same
worker, and nobody else changes the mode to anything but 0444. -/
theorem commit_workers_objects_readOnly {t : TCfg κ} (g : Good t.ctx) {tracked : List (P × κ)}
    (htw : TrackedWs tracked) {emp : κ} (hemp : ∀ c, t.isEmp c = true → c = emp)
    {pre : List Name} {es : List (Name × Node κ)} {rs : List (Nat × Nat)} {ts : List (List (Call κ))}
    (hu : uniqList es) (hw : ParTraces t pre es rs ts) (hdr : DisjointRanges rs)
    {fs : FS κ} (h0 : StartOK t.ctx tracked (trackedList pre es) fs) (hro : ObjsReadOnly fs)
    {l : List (Call κ)} (hi : InterleavingN ts l) : ObjsReadOnly (replay emp fs l) := by
  have dl := commit_workers_disciplined g htw hemp hu hw hdr h0 hi
  exact (ModeOK.interleavingN hi (parTraces_modeOK t es pre rs ts hw)).objsReadOnly dl.priv emp
    dl.owned hro

/-- **All schedules end in the same file system**: from a start whose objects are read-only, the
final states of any two schedules of the same workers agree at EVERY path (as finite maps: same
entries, same bytes, same permission bits). -/
theorem commit_workers_schedules_same {t : TCfg κ} (g : Good t.ctx) {tracked : List (P × κ)}
    (htw : TrackedWs tracked) {emp : κ} (hemp : ∀ c, t.isEmp c = true → c = emp)
    {pre : List Name} {es : List (Name × Node κ)} {rs : List (Nat × Nat)} {ts : List (List (Call κ))}
    (hu : uniqList es) (hw : ParTraces t pre es rs ts) (hdr : DisjointRanges rs)
    {fs : FS κ} (h0 : StartOK t.ctx tracked (trackedList pre es) fs) (hro : ObjsReadOnly fs)
    {l l' : List (Call κ)} (hi : InterleavingN ts l) (hi' : InterleavingN ts l') :
    ∀ p, (replay emp fs l).get p = (replay emp fs l').get p := by
  obtain ⟨hno, h1, h2⟩ := commit_workers_schedules_agree g htw hemp hu hw hdr h0 hi hi'
  have s1 := (commit_workers_final g htw hemp hu hw hdr h0 hi).1
  have s2 := (commit_workers_final g htw hemp hu hw hdr h0 hi').1
  have r1 := commit_workers_objects_readOnly g htw hemp hu hw hdr h0 hro hi
  have r2 := commit_workers_objects_readOnly g htw hemp hu hw hdr h0 hro hi'
  intro p
  cases hp : p.isObj with
  | false => exact hno p hp
  | true =>
    obtain ⟨d, rfl⟩ := P.isObj_true hp
    exact objs_eq_of_objLe s1.2 s2.2 r1 r2 h1 h2 d

/-- the sequential loop of the model is one of the schedules: the trace of `commitEntriesT` (no entry
skipped) is the concatenation of the traces of entry workers with disjoint temp ranges -/
theorem commitEntriesT_is_schedule (t : TCfg κ) {es : List (Name × Node κ)} {pre : List Name}
    {old : List Child} {s : Store κ} {n : Nat} {res : List (Name × Node κ) × List Child × Store κ}
    {calls : List (Call κ)} {n' : Nat} (h : commitEntriesT t pre false es old s n = .ok (res, calls, n')) :
    ∃ rs ts, EntryWorkers t pre es rs ts ∧ DisjointRanges rs ∧ InterleavingN ts calls := by
  obtain ⟨rs, ts, hw, rfl, -, -, hdr⟩ := commitEntriesT_entryWorkers t false es pre old s n res calls n' h
  exact ⟨rs, ts, hw, hdr, InterleavingN.flatten ts⟩

/-- Directory `.dir es` with pairwise distinct entry names, every entry committed by its own worker, temp
numbers from disjoint ranges — every interleaving of the workers' traces is prefix-safe from
`fsOf ctx pre (.dir es) s` for the tracked contents `trackedOf pre (.dir es)`. -/
theorem commit_workers_prefixSafe_fsOf {t : TCfg κ} (g : Good t.ctx) {emp : κ}
    (hemp : ∀ c, t.isEmp c = true → c = emp)
    {pre : List Name} {es : List (Name × Node κ)} {s : Store κ} {rs : List (Nat × Nat)}
    {ts : List (List (Call κ))} (hu : uniqList es) (hc : Consistent t.ctx s)
    (hw : EntryWorkers t pre es rs ts) (hdr : DisjointRanges rs)
    {l : List (Call κ)} (hi : InterleavingN ts l) :
    PrefixSafe t.ctx emp (trackedOf pre (.dir es)) (fsOf t.ctx pre (.dir es) s) l :=
  commit_workers_prefixSafe g (trackedOf_ws pre (.dir es)) hemp hu hw.parTraces hdr
    (startOK_fsOf t.ctx pre (.dir es) s hu hc) hi

/-- the final state of every schedule, from `fsOf` -/
theorem commit_workers_final_fsOf {t : TCfg κ} (g : Good t.ctx) {emp : κ}
    (hemp : ∀ c, t.isEmp c = true → c = emp)
    {pre : List Name} {es : List (Name × Node κ)} {s : Store κ} {rs : List (Nat × Nat)}
    {ts : List (List (Call κ))} (hu : uniqList es) (hc : Consistent t.ctx s)
    (hw : EntryWorkers t pre es rs ts) (hdr : DisjointRanges rs)
    {l : List (Call κ)} (hi : InterleavingN ts l) :
    (∀ p ∈ trackedOf pre (.dir es),
      (∃ m, (replay emp (fsOf t.ctx pre (.dir es) s) l).get (.obj (t.ctx.H p.2)) = some (.file p.2 m)) ∧
      (t.strat = .link →
        (replay emp (fsOf t.ctx pre (.dir es) s) l).get p.1 = some (.link (.obj (t.ctx.H p.2)))) ∧
      (t.strat = .copy →
        (replay emp (fsOf t.ctx pre (.dir es) s) l).get p.1 = some (.file p.2 0o644))) ∧
    (∀ k, (replay emp (fsOf t.ctx pre (.dir es) s) l).get (.ctmp k) = none) ∧
    (∀ q, P.ws q ∉ paths (trackedOf pre (.dir es)) →
      (replay emp (fsOf t.ctx pre (.dir es) s) l).get (.ws q) = (fsOf t.ctx pre (.dir es) s).get (.ws q)) := by
  have hu' : uniqNode (.dir es) := hu
  obtain ⟨-, hpost, hct, hfr⟩ := commit_workers_final g (trackedOf_ws pre (.dir es)) hemp hu hw.parTraces hdr
    (startOK_fsOf t.ctx pre (.dir es) s hu' hc) hi
  refine ⟨fun p hp => ⟨hpost.stored p hp, fun hl => hpost.wsLink hl p hp, fun hl => ?_⟩, hct, hfr⟩
  rw [hpost.wsCopy hl p hp]
  exact fsOf_get_tracked t.ctx pre (.dir es) s hu' p hp

theorem commit_workers_schedules_agree_fsOf {t : TCfg κ} (g : Good t.ctx) {emp : κ}
    (hemp : ∀ c, t.isEmp c = true → c = emp)
    {pre : List Name} {es : List (Name × Node κ)} {s : Store κ} {rs : List (Nat × Nat)}
    {ts : List (List (Call κ))} (hu : uniqList es) (hc : Consistent t.ctx s)
    (hw : EntryWorkers t pre es rs ts) (hdr : DisjointRanges rs)
    {l l' : List (Call κ)} (hi : InterleavingN ts l) (hi' : InterleavingN ts l') :
    (∀ p, p.isObj = false → (replay emp (fsOf t.ctx pre (.dir es) s) l).get p
        = (replay emp (fsOf t.ctx pre (.dir es) s) l').get p) ∧
      ObjLe (replay emp (fsOf t.ctx pre (.dir es) s) l) (replay emp (fsOf t.ctx pre (.dir es) s) l') ∧
      ObjLe (replay emp (fsOf t.ctx pre (.dir es) s) l') (replay emp (fsOf t.ctx pre (.dir es) s) l) :=
  commit_workers_schedules_agree g (trackedOf_ws pre (.dir es)) hemp hu hw.parTraces hdr
    (startOK_fsOf t.ctx pre (.dir es) s hu hc) hi hi'

theorem fsOf_objsReadOnly (ctx : Ctx κ) (pre : List Name) (nd : Node κ) (s : Store κ) :
    ObjsReadOnly (fsOf ctx pre nd s) := by
  intro d c m h
  rw [fsOf_get_obj] at h
  cases hg : s.get d with
  | none => simp [hg] at h
  | some o => simp [hg] at h; exact h.2.symm

/-- from `fsOf`: all schedules end in the same file system, all of whose objects are read-only -/
theorem commit_workers_schedules_same_fsOf {t : TCfg κ} (g : Good t.ctx) {emp : κ}
    (hemp : ∀ c, t.isEmp c = true → c = emp)
    {pre : List Name} {es : List (Name × Node κ)} {s : Store κ} {rs : List (Nat × Nat)}
    {ts : List (List (Call κ))} (hu : uniqList es) (hc : Consistent t.ctx s)
    (hw : EntryWorkers t pre es rs ts) (hdr : DisjointRanges rs)
    {l l' : List (Call κ)} (hi : InterleavingN ts l) (hi' : InterleavingN ts l') :
    (∀ p, (replay emp (fsOf t.ctx pre (.dir es) s) l).get p
        = (replay emp (fsOf t.ctx pre (.dir es) s) l').get p) ∧
      ObjsReadOnly (replay emp (fsOf t.ctx pre (.dir es) s) l) :=
  have h0 := startOK_fsOf t.ctx pre (.dir es) s hu hc
  ⟨commit_workers_schedules_same g (trackedOf_ws pre (.dir es)) hemp hu hw.parTraces hdr h0
      (fsOf_objsReadOnly _ _ _ _) hi hi',
   commit_workers_objects_readOnly g (trackedOf_ws pre (.dir es)) hemp hu hw.parTraces hdr h0
      (fsOf_objsReadOnly _ _ _ _) hi⟩

/-- **Every trace of the fully concurrent commit of a tree is safe after every prefix.**
`ParTrace t pre nd lo hi calls`: in every directory of the tree, at every depth, the entries are
committed by concurrent workers (any `InterleavingN` of their traces, themselves concurrent commits),
then the directory's manifest is stored; temp numbers within `[lo, hi)`, disjoint between workers. -/
theorem parCommit_prefixSafe {t : TCfg κ} (g : Good t.ctx) {tracked : List (P × κ)}
    (htw : TrackedWs tracked) {emp : κ} (hemp : ∀ c, t.isEmp c = true → c = emp)
    {nd : Node κ} {pre : List Name} {lo hi : Nat} {calls : List (Call κ)}
    (hu : uniqNode nd) (h : ParTrace t pre nd lo hi calls)
    {fs : FS κ} (h0 : StartOK t.ctx tracked (trackedOf pre nd) fs) :
    PrefixSafe t.ctx emp tracked fs calls :=
  (parTrace_spec g htw hemp nd pre lo hi calls hu h fs h0.safe h0.inPlace h0.noTemp).1.allowed.prefixSafe
    g h0.safe

/-- the final state of every trace of the concurrent commit of a tree -/
theorem parCommit_final {t : TCfg κ} (g : Good t.ctx) {tracked : List (P × κ)}
    (htw : TrackedWs tracked) {emp : κ} (hemp : ∀ c, t.isEmp c = true → c = emp)
    {nd : Node κ} {pre : List Name} {lo hi : Nat} {calls : List (Call κ)}
    (hu : uniqNode nd) (h : ParTrace t pre nd lo hi calls)
    {fs : FS κ} (h0 : StartOK t.ctx tracked (trackedOf pre nd) fs) :
    Safe t.ctx tracked (replay emp fs calls) ∧
      Post t fs (replay emp fs calls) (trackedOf pre nd) ∧
      (∀ k, (replay emp fs calls).get (.ctmp k) = none) ∧
      (∀ q, P.ws q ∉ paths (trackedOf pre nd) → (replay emp fs calls).get (.ws q) = fs.get (.ws q)) := by
  obtain ⟨d, hpost, hct⟩ := parTrace_spec g htw hemp nd pre lo hi calls hu h fs h0.safe h0.inPlace h0.noTemp
  exact ⟨d.safe_final g h0.safe, hpost, hct,
    fun q hq => d.owned.replay_frame (fun h => hq (privOf_ws h)) rfl emp fs⟩

/-- no object is left writable by any trace of the concurrent commit of a tree -/
theorem parCommit_objects_readOnly {t : TCfg κ} (g : Good t.ctx) {tracked : List (P × κ)}
    (htw : TrackedWs tracked) {emp : κ} (hemp : ∀ c, t.isEmp c = true → c = emp)
    {nd : Node κ} {pre : List Name} {lo hi : Nat} {calls : List (Call κ)}
    (hu : uniqNode nd) (h : ParTrace t pre nd lo hi calls)
    {fs : FS κ} (h0 : StartOK t.ctx tracked (trackedOf pre nd) fs) (hro : ObjsReadOnly fs) :
    ObjsReadOnly (replay emp fs calls) := by
  have d := (parTrace_spec g htw hemp nd pre lo hi calls hu h fs h0.safe h0.inPlace h0.noTemp).1
  exact (parTrace_modeOK t nd pre lo hi calls h).objsReadOnly d.priv emp d.owned hro

theorem parCommit_prefixSafe_fsOf {t : TCfg κ} (g : Good t.ctx) {emp : κ}
    (hemp : ∀ c, t.isEmp c = true → c = emp)
    {nd : Node κ} {pre : List Name} {s : Store κ} {lo hi : Nat} {calls : List (Call κ)}
    (hu : uniqNode nd) (hc : Consistent t.ctx s) (h : ParTrace t pre nd lo hi calls) :
    PrefixSafe t.ctx emp (trackedOf pre nd) (fsOf t.ctx pre nd s) calls :=
  parCommit_prefixSafe g (trackedOf_ws pre nd) hemp hu h (startOK_fsOf t.ctx pre nd s hu hc)

theorem parCommit_final_fsOf {t : TCfg κ} (g : Good t.ctx) {emp : κ}
    (hemp : ∀ c, t.isEmp c = true → c = emp)
    {nd : Node κ} {pre : List Name} {s : Store κ} {lo hi : Nat} {calls : List (Call κ)}
    (hu : uniqNode nd) (hc : Consistent t.ctx s) (h : ParTrace t pre nd lo hi calls) :
    (∀ p ∈ trackedOf pre nd,
      (∃ m, (replay emp (fsOf t.ctx pre nd s) calls).get (.obj (t.ctx.H p.2)) = some (.file p.2 m)) ∧
      (t.strat = .link →
        (replay emp (fsOf t.ctx pre nd s) calls).get p.1 = some (.link (.obj (t.ctx.H p.2)))) ∧
      (t.strat = .copy → (replay emp (fsOf t.ctx pre nd s) calls).get p.1 = some (.file p.2 0o644))) ∧
    (∀ k, (replay emp (fsOf t.ctx pre nd s) calls).get (.ctmp k) = none) ∧
    (∀ q, P.ws q ∉ paths (trackedOf pre nd) →
      (replay emp (fsOf t.ctx pre nd s) calls).get (.ws q) = (fsOf t.ctx pre nd s).get (.ws q)) := by
  obtain ⟨-, hpost, hct, hfr⟩ := parCommit_final g (trackedOf_ws pre nd) hemp hu h
    (startOK_fsOf t.ctx pre nd s hu hc)
  refine ⟨fun p hp => ⟨hpost.stored p hp, fun hl => hpost.wsLink hl p hp, fun hl => ?_⟩, hct, hfr⟩
  rw [hpost.wsCopy hl p hp]
  exact fsOf_get_tracked t.ctx pre nd s hu p hp

/-- one level of concurrency followed by the manifest is a trace of the concurrent commit of the directory -/
theorem entryWorkers_parTrace {t : TCfg κ} {pre : List Name} {es : List (Name × Node κ)}
    {rs : List (Nat × Nat)} {ts : List (List (Call κ))} (hw : EntryWorkers t pre es rs ts)
    (hdr : DisjointRanges rs) {lo hi : Nat} (hrng : ∀ r ∈ rs, lo ≤ r.1 ∧ r.2 ≤ hi)
    {l : List (Call κ)} (hi' : InterleavingN ts l) {n : Nat} (hlo : lo ≤ n) (hhi : n < hi) (mb : κ) :
    ParTrace t pre (.dir es) lo hi (l ++ copyIntoCache t.isEmp n mb (t.ctx.H mb)) :=
  ⟨rs, ts, l, n, mb, hw.parTraces, hdr, hrng, hlo, hhi, hi', rfl⟩

/-- **`LocalCache.Commit` on a directory with concurrent workers is safe after every prefix.**
`ParArtTrace t a pre es calls`: `MkdirAll(cache)`, the rename probe, ANY schedule of the (nested
concurrent) workers of the entries — sub-directories left out under `DisableRecursion` — and the
manifest.  The recorded contents `tracked` may be those of the whole tree (including the
sub-directories that are left out). -/
theorem parCommitArt_prefixSafe {t : TCfg κ} (g : Good t.ctx) {tracked : List (P × κ)}
    (htw : TrackedWs tracked) {emp : κ} (hemp : ∀ c, t.isEmp c = true → c = emp)
    {a : Art} {pre : List Name} {es : List (Name × Node κ)} {calls : List (Call κ)}
    (hu : uniqList es) (h : ParArtTrace t a pre es calls)
    {fs : FS κ} (h0 : StartOK t.ctx tracked (trackedList pre es) fs) :
    PrefixSafe t.ctx emp tracked fs calls :=
  (parArtTrace_spec g htw hemp hu h h0.safe h0.inPlace h0.noTemp).1.prefixSafe g h0.safe

/-- its final state: the committed entries' files are stored and linked / kept, no temp file is left,
objects stay read-only -/
theorem parCommitArt_final {t : TCfg κ} (g : Good t.ctx) {tracked : List (P × κ)}
    (htw : TrackedWs tracked) {emp : κ} (hemp : ∀ c, t.isEmp c = true → c = emp)
    {a : Art} {pre : List Name} {es : List (Name × Node κ)} {calls : List (Call κ)}
    (hu : uniqList es) (h : ParArtTrace t a pre es calls)
    {fs : FS κ} (h0 : StartOK t.ctx tracked (trackedList pre es) fs) :
    Post t fs (replay emp fs calls) (trackedList pre (skipFilter a.noRec es)) ∧
      (∀ k, (replay emp fs calls).get (.ctmp k) = none) ∧
      (ObjsReadOnly fs → ObjsReadOnly (replay emp fs calls)) :=
  (parArtTrace_spec g htw hemp hu h h0.safe h0.inPlace h0.noTemp).2

theorem parCommitArt_prefixSafe_fsOf {t : TCfg κ} (g : Good t.ctx) {emp : κ}
    (hemp : ∀ c, t.isEmp c = true → c = emp)
    {a : Art} {pre : List Name} {es : List (Name × Node κ)} {s : Store κ} {calls : List (Call κ)}
    (hu : uniqList es) (hc : Consistent t.ctx s) (h : ParArtTrace t a pre es calls) :
    PrefixSafe t.ctx emp (trackedOf pre (.dir es)) (fsOf t.ctx pre (.dir es) s) calls :=
  parCommitArt_prefixSafe g (trackedOf_ws pre (.dir es)) hemp hu h
    (startOK_fsOf t.ctx pre (.dir es) s hu hc)

/-- the sequential trace of the model's `LocalCache.Commit` (`commitArtT`) is one of these traces -/
theorem commitArtT_is_parArtTrace {t : TCfg κ} {a : Art} {pre : List Name} {es : List (Name × Node κ)}
    {s : Store κ} {res : Node κ × Digest × Store κ} {calls : List (Call κ)}
    (h : commitArtT t a pre (some (.dir es)) s = .ok (res, calls)) : ParArtTrace t a pre es calls := by
  rcases commitArtT_ok_inv h with ⟨es', old, res1, calls1, n1, mb, hes, hT, rfl, -⟩ | ⟨calls1, k, hT, rfl, -⟩
  · cases hes
    obtain ⟨rs, ts, hw, rfl, -, -, hdr⟩ := commitEntriesT_entryWorkers t a.noRec es pre old s 1 _ _ _ hT
    exact ⟨rs, ts, ts.flatten, n1, mb, hw.parTraces, hdr, InterleavingN.flatten ts, rfl⟩
  · cases (commitFile_dir ..).symm.trans (commitFileT_ok_inv hT).1

/-- **Two workers committing two regular files** (`commitFileArtifact`, all three variants: link +
rename, link + copy, copy), contents identical (`c1 = c2`: both rename onto the same object) or
different, different workspace paths, different temp names: every interleaving of the two call
sequences is safe after every prefix. -/
theorem two_files_interleaving_prefixSafe {ctx : Ctx κ} (g : Good ctx) {tracked : List (P × κ)}
    (htw : TrackedWs tracked) {emp : κ} {isEmp : κ → Bool} (hemp : ∀ c, isEmp c = true → c = emp)
    {fs : FS κ} (hs : Safe ctx tracked fs) {q1 q2 : List Name} (hq : q1 ≠ q2) {c1 c2 : κ} {m1 m2 : Nat}
    (h1 : fs.get (.ws q1) = some (.file c1 m1)) (h2 : fs.get (.ws q2) = some (.file c2 m2))
    {n1 n2 : Nat} (hn : n1 ≠ n2) (hf1 : fs.get (.ctmp n1) = none) (hf2 : fs.get (.ctmp n2) = none)
    (strat : Strat) (canRename : Bool) {l : List (Call κ)}
    (hi : Interleaving (commitFileCalls isEmp strat canRename (.ws q1) n1 c1 (ctx.H c1))
      (commitFileCalls isEmp strat canRename (.ws q2) n2 c2 (ctx.H c2)) l) :
    PrefixSafe ctx emp tracked fs l := by
  have o1 : OwnedAll (PrivOf [.ws q1] n1 (n1 + 1)) _ :=
    (commitFileCalls_owned isEmp strat canRename q1 n1 c1 (ctx.H c1)).mono
      (fun p hp => hp.mono (fun _ h => h) (Nat.le_refl _) (by split <;> omega))
  have o2 : OwnedAll (PrivOf [.ws q2] n2 (n2 + 1)) _ :=
    (commitFileCalls_owned isEmp strat canRename q2 n2 c2 (ctx.H c2)).mono
      (fun p hp => hp.mono (fun _ h => h) (Nat.le_refl _) (by split <;> omega))
  have hdisj : ∀ p, PrivOf [.ws q1] n1 (n1 + 1) p → ¬ PrivOf [.ws q2] n2 (n2 + 1) p :=
    PrivOf.disjoint (by simpa using hq) (by omega)
  exact (interleaving_sim g emp (privOf_priv _ _ _) (privOf_priv _ _ _) hdisj hi fs fs fs hs
    (Sim.refl _ _ _) (commitFileCalls_spec g htw hemp hs h1 hf1 strat canRename).1
    (commitFileCalls_spec g htw hemp hs h2 hf2 strat canRename).1 o1 o2).1.prefixSafe g hs

namespace Example
open Dud.Example

theorem interleavings_eq_shuffles {α : Type} (l1 l2 : List α) : interleavings l1 l2 = shuffles l1 l2 := by
  induction l1 generalizing l2 with
  | nil => cases l2 <;> simp [interleavings, shuffles_nil_left]
  | cons a l1 ih1 =>
    induction l2 with
    | nil => simp [interleavings, shuffles_cons_nil]
    | cons b l2 ih2 => rw [shuffles_cons_cons, ← ih1, ← ih2, interleavings]

/-- the enumeration of `C03inter.lean` lists exactly the interleavings -/
theorem mem_interleavings {α : Type} (l1 l2 l : List α) : l ∈ interleavings l1 l2 ↔ Interleaving l1 l2 l := by
  rw [interleavings_eq_shuffles, mem_shuffles]
  exact shuffle_iff_interleaving

theorem twoFiles_uniq : uniqList [(([97] : Name), (Node.file (K.raw "alpha"))), ([98], .file (.raw "alpha"))] := by
  simp [uniqNode, uniqList]

/-- the two workers of `interReport`: entries `a` and `b` of `twoFiles`, same content — they race for
the same object name and the same shard directory -/
theorem twoFiles_workers (strat : Strat) (canRename : Bool) :
    EntryWorkers (tc strat canRename) [[116]]
      [([97], .file (.raw "alpha")), ([98], .file (.raw "alpha"))]
      [(1, if strat == .link && canRename then 1 else 2), (2, if strat == .link && canRename then 2 else 3)]
      [trace1 strat canRename, trace2 strat canRename] :=
  .cons (trace_commit strat canRename [97] 1) (.cons (trace_commit strat canRename [98] 2) .nil)

theorem twoFiles_ranges (strat : Strat) (canRename : Bool) :
    DisjointRanges [(1, if strat == .link && canRename then 1 else 2),
      (2, if strat == .link && canRename then 2 else 3)] :=
  disjointRanges_pair (.inl (by show (if _ then 1 else 2) ≤ 2; split <;> decide))

/-- **`interReport strat canRename` as a theorem** (first enumerated example, all strategy variants):
every prefix of every enumerated interleaving of the two workers' traces is safe. -/
theorem interReport_proved (strat : Strat) (canRename : Bool) :
    ∀ l ∈ interleavings (trace1 strat canRename) (trace2 strat canRename), ∀ k,
      Safe ctx (trackedOf [[116]] twoFiles) (replay emp (fsOf ctx [[116]] twoFiles []) (l.take k)) := by
  intro l hl
  exact commit_workers_prefixSafe_fsOf (t := tc strat canRename) good hemp twoFiles_uniq empty_consistent
    (twoFiles_workers strat canRename) (twoFiles_ranges strat canRename)
    (InterleavingN.two.2 ((mem_interleavings _ _ _).1 hl))

/-- … and all of them end in the expected state: the object holds "alpha", both workspace paths are
links to it (link strategy), no temp file is left -/
example (canRename : Bool) (l : List (Call K))
    (hl : l ∈ interleavings (trace1 .link canRename) (trace2 .link canRename)) :
    (∃ m, (replay emp (fsOf ctx [[116]] twoFiles []) l).get (.obj (ctx.H (.raw "alpha")))
        = some (.file (.raw "alpha") m)) ∧
    (replay emp (fsOf ctx [[116]] twoFiles []) l).get (.ws [[116], [97]])
        = some (.link (.obj (ctx.H (.raw "alpha")))) ∧
    (replay emp (fsOf ctx [[116]] twoFiles []) l).get (.ws [[116], [98]])
        = some (.link (.obj (ctx.H (.raw "alpha")))) ∧
    ∀ k, (replay emp (fsOf ctx [[116]] twoFiles []) l).get (.ctmp k) = none := by
  obtain ⟨h1, h2, -⟩ := commit_workers_final_fsOf (t := tc .link canRename) good hemp twoFiles_uniq
    empty_consistent (twoFiles_workers .link canRename) (twoFiles_ranges .link canRename)
    (InterleavingN.two.2 ((mem_interleavings _ _ _).1 hl))
  have ha := h1 (.ws [[116], [97]], K.raw "alpha") (by simp [trackedOf, trackedList])
  have hb := h1 (.ws [[116], [98]], K.raw "alpha") (by simp [trackedOf, trackedList])
  exact ⟨ha.1, ha.2.1 rfl, hb.2.1 rfl, h2⟩

/-- the two workers of `interReportE`: two empty files, link strategy without rename -/
theorem twoEmpty_workers :
    EntryWorkers (tc .link false) [[116]] [([97], .file (.raw "")), ([98], .file (.raw ""))]
      [(1, 2), (2, 3)] [traceE [97] 1, traceE [98] 2] := by
  have hc1 : commitNodeT (tc .link false) ([[116]] ++ [[97]]) (.file (.raw "")) ⟨[97], "", false⟩ [] 1
      = .ok ((.link (.obj (ctx.H (.raw ""))), ⟨[97], ctx.H (.raw ""), false⟩,
              [(ctx.H (.raw ""), .blob (.raw ""))]), traceE [97] 1, 2) := rfl
  have hc2 : commitNodeT (tc .link false) ([[116]] ++ [[98]]) (.file (.raw "")) ⟨[98], "", false⟩ [] 2
      = .ok ((.link (.obj (ctx.H (.raw ""))), ⟨[98], ctx.H (.raw ""), false⟩,
              [(ctx.H (.raw ""), .blob (.raw ""))]), traceE [98] 2, 3) := rfl
  exact .cons hc1 (.cons hc2 .nil)

/-- **`interReportE` as a theorem** (second enumerated example) -/
theorem interReportE_proved :
    ∀ l ∈ interleavings (traceE [97] 1) (traceE [98] 2), ∀ k,
      Safe ctx (trackedOf [[116]] twoEmpty) (replay emp (fsOf ctx [[116]] twoEmpty []) (l.take k)) := by
  intro l hl
  exact commit_workers_prefixSafe_fsOf (t := tc .link false) good hemp (by simp [uniqNode, uniqList]) empty_consistent
    twoEmpty_workers (disjointRanges_pair (.inl (Nat.le_refl 2))) (InterleavingN.two.2 ((mem_interleavings _ _ _).1 hl))

/-- the direct two-file statement on the same instance, different contents, different temp names -/
example (strat : Strat) (canRename : Bool) (l : List (Call K))
    (hi : Interleaving
      (commitFileCalls isEmp strat canRename (.ws [[102]]) 7 (.raw "data") (ctx.H (.raw "data")))
      (commitFileCalls isEmp strat canRename (.ws [[103]]) 9 (.raw "") (ctx.H (.raw ""))) l) (k : Nat) :
    Safe ctx [(.ws [[102]], .raw "data"), (.ws [[103]], .raw "")]
      (replay emp [(.ws [[102]], .file (.raw "data") 0o644), (.ws [[103]], .file (.raw "") 0o600)]
        (l.take k)) := by
  have hs : Safe ctx [(.ws [[102]], K.raw "data"), (.ws [[103]], K.raw "")]
      [(.ws [[102]], .file (.raw "data") 0o644), (.ws [[103]], .file (.raw "") 0o600)] := by
    refine ⟨fun p hp => ?_, fun d e he => ?_⟩
    · simp at hp
      rcases hp with rfl | rfl
      · exact Or.inl ⟨0o644, by simp [FS.get, alookup]⟩
      · exact Or.inl ⟨0o600, by simp [FS.get, alookup]⟩
    · simp [FS.get, alookup] at he
  exact two_files_interleaving_prefixSafe good
    (fun p hp => by simp at hp; rcases hp with rfl | rfl <;> exact ⟨_, rfl⟩) hemp hs
    (by decide) (m1 := 0o644) (m2 := 0o600) (by simp [FS.get, alookup]) (by simp [FS.get, alookup])
    (by decide) (by simp [FS.get, alookup]) (by simp [FS.get, alookup]) strat canRename hi k

/-- file `a`, sub-directory `d` with files `b` (same bytes as `a`) and `c` -/
def subDir : Node K := .dir [([98], .file (.raw "alpha")), ([99], .file (.raw "beta"))]
def withSub : Node K := .dir [([97], .file (.raw "alpha")), ([100], subDir)]

theorem withSub_uniq : uniqList [(([97] : Name), (Node.file (K.raw "alpha"))), ([100], subDir)] := by
  simp [subDir, uniqNode, uniqList]

/-- worker 1 commits the file `a` (temp 1), worker 2 commits the sub-directory `d` sequentially (temps
from 2 on: its two files, then its manifest) -/
theorem withSub_workers (strat : Strat) (canRename : Bool) :
    ∃ calls2, EntryWorkers (tc strat canRename) [[116]] [([97], .file (.raw "alpha")), ([100], subDir)]
      [(1, if strat == .link && canRename then 1 else 2), (2, if strat == .link && canRename then 3 else 5)]
      [trace1 strat canRename, calls2] ∧ calls2.length = (if strat == .link && canRename then 14 else
        if strat == .link then 22 else 18) := by
  have hc2 : ∃ r calls2, commitNodeT (tc strat canRename) ([[116]] ++ [[100]]) subDir ⟨[100], "", true⟩ [] 2
      = .ok (r, calls2, if strat == .link && canRename then 3 else 5) ∧
      calls2.length = (if strat == .link && canRename then 14 else if strat == .link then 22 else 18) := by
    cases strat <;> cases canRename <;> exact ⟨_, _, rfl, rfl⟩
  obtain ⟨r, calls2, hc2, hlen⟩ := hc2
  exact ⟨calls2, .cons (trace_commit strat canRename [97] 1) (.cons hc2 .nil), hlen⟩

/-- **Sub-directory example**: every schedule of the two workers (a file against a whole
sub-directory commit, including its manifest) is safe after every prefix, for every strategy variant. -/
example (strat : Strat) (canRename : Bool) :
    ∃ calls2, calls2 ≠ [] ∧ ∀ l, Interleaving (trace1 strat canRename) calls2 l → ∀ k,
      Safe ctx (trackedOf [[116]] withSub) (replay emp (fsOf ctx [[116]] withSub []) (l.take k)) := by
  obtain ⟨calls2, hw, hlen⟩ := withSub_workers strat canRename
  refine ⟨calls2, ?_, fun l hi => ?_⟩
  · intro h; rw [h] at hlen; cases strat <;> cases canRename <;> simp at hlen
  · exact commit_workers_prefixSafe_fsOf (t := tc strat canRename) good hemp withSub_uniq empty_consistent
      hw (disjointRanges_pair (.inl (by show (if _ then 1 else 2) ≤ 2; split <;> decide))) (InterleavingN.two.2 hi)

/-- traces of the three file workers of `withSub` (copy strategy): `a` with temp 1, `b` with temp 2,
`c` with temp 3 -/
def trA : List (Call K) :=
  commitFileCalls isEmp .copy false (.ws [[116], [97]]) 1 (.raw "alpha") (ctx.H (.raw "alpha"))
def trB : List (Call K) :=
  commitFileCalls isEmp .copy false (.ws [[116], [100], [98]]) 2 (.raw "alpha") (ctx.H (.raw "alpha"))
def trC : List (Call K) :=
  commitFileCalls isEmp .copy false (.ws [[116], [100], [99]]) 3 (.raw "beta") (ctx.H (.raw "beta"))

/-- a nested concurrent trace: in `d`, worker `c` runs BEFORE worker `b`; at the top, the first call of
`a` comes first, then the whole commit of `d` (with its manifest, temp 4), then the rest of `a`; finally
the top manifest (temp 5).  It is a `ParTrace`, it is not the sequential trace, and it is safe after
every prefix. -/
example (mbD mbTop : K) :
    let inner := trC ++ trB ++ copyIntoCache isEmp 4 mbD (ctx.H mbD)
    let calls := (trA.take 1 ++ inner ++ trA.drop 1) ++ copyIntoCache isEmp 5 mbTop (ctx.H mbTop)
    ParTrace (tc .copy false) [[116]] withSub 1 6 calls ∧
      ∀ k, Safe ctx (trackedOf [[116]] withSub) (replay emp (fsOf ctx [[116]] withSub []) (calls.take k)) := by
  intro inner calls
  have hA : ParTrace (tc .copy false) ([[116]] ++ [[97]]) (.file (.raw "alpha")) 1 2 trA :=
    ⟨⟨[97], "", false⟩, [], 1, _, 2, Nat.le_refl _, Nat.le_refl _, rfl⟩
  have hB : ParTrace (tc .copy false) ([[116]] ++ [[100]] ++ [[98]]) (.file (.raw "alpha")) 2 3 trB :=
    ⟨⟨[98], "", false⟩, [], 2, _, 3, Nat.le_refl _, Nat.le_refl _, rfl⟩
  have hC : ParTrace (tc .copy false) ([[116]] ++ [[100]] ++ [[99]]) (.file (.raw "beta")) 3 4 trC :=
    ⟨⟨[99], "", false⟩, [], 3, _, 4, Nat.le_refl _, Nat.le_refl _, rfl⟩
  have hinner : ParTrace (tc .copy false) ([[116]] ++ [[100]]) subDir 2 5 inner :=
    parTrace_dir.2 ⟨[(2, 3), (3, 4)], [trB, trC], trC ++ trB, 4, mbD, .cons hB (.cons hC .nil),
      disjointRanges_pair (.inl (Nat.le_refl 3)), by simp, by omega, by omega,
      InterleavingN.two.2 (Interleaving.append trC trB).symm, rfl⟩
  have hsplit : Interleaving trA inner (trA.take 1 ++ inner ++ trA.drop 1) := by
    have h1 : Interleaving (trA.take 1) [] (trA.take 1) := Interleaving.nil_right _
    have h2 : Interleaving (trA.drop 1) inner (inner ++ trA.drop 1) := (Interleaving.append _ _).symm
    have := Interleaving.append_both h1 h2
    rw [List.take_append_drop 1 trA] at this
    simp only [List.nil_append, List.append_assoc] at this ⊢
    exact this
  have hpt : ParTrace (tc .copy false) [[116]] withSub 1 6 calls :=
    parTrace_dir.2 ⟨[(1, 2), (2, 5)], [trA, inner], _, 5, mbTop, .cons hA (.cons hinner .nil),
      disjointRanges_pair (.inl (Nat.le_refl 2)), by simp, by omega, by omega, InterleavingN.two.2 hsplit, rfl⟩
  exact ⟨hpt, parCommit_prefixSafe_fsOf (t := tc .copy false) good hemp
    (by simp [withSub, subDir, uniqNode, uniqList]) empty_consistent hpt⟩

/-- the concurrent `LocalCache.Commit` has traces on a non-trivial tree (two levels, an empty file, an
empty directory, equal contents), and each of them is safe after every prefix -/
example (strat : Strat) (canRename : Bool) :
    ∃ calls, calls ≠ [] ∧
      ParArtTrace (tc strat canRename) art [[116]]
        [([97], .file (.raw "alpha")), ([98], .dir [([99], .file (.raw "")), ([100], .dir [])]),
         ([101], .file (.raw "alpha"))] calls := by
  have hok := commit_ok strat canRename
  cases h : commitArtT (tc strat canRename) art [[116]] (some tree) [] with
  | error e => rw [h] at hok; cases hok
  | ok v => exact ⟨v.2, (commitArtT_is_parArtTrace h).ne_nil, commitArtT_is_parArtTrace h⟩

example (strat : Strat) (canRename : Bool) (calls : List (Call K))
    (h : ParArtTrace (tc strat canRename) art [[116]]
        [([97], .file (.raw "alpha")), ([98], .dir [([99], .file (.raw "")), ([100], .dir [])]),
         ([101], .file (.raw "alpha"))] calls) (k : Nat) :
    Safe ctx (trackedOf [[116]] tree) (replay emp (fsOf ctx [[116]] tree []) (calls.take k)) :=
  parCommitArt_prefixSafe_fsOf (t := tc strat canRename) good hemp
    (by simpa [tree, uniqNode] using tree_uniq) empty_consistent h k

end Example

#print axioms sched_iff_interleavingN
#print axioms shuffleN_iff_interleavingN
#print axioms shuffleN_iff_sched
#print axioms all2_iff_forall2
#print axioms interleaving_sim
#print axioms interleavingN_disciplined
#print axioms Merged.agree
#print axioms Disciplined.under
#print axioms commitNodeT_parTrace
#print axioms parTrace_spec
#print axioms commitFileT_allowed_under
#print axioms commitNodeT_allowed_under
#print axioms disciplined_interleavingN_prefixSafe
#print axioms commit_workers_prefixSafe
#print axioms commit_workers_disciplined
#print axioms commit_workers_final
#print axioms commit_workers_schedules_agree
#print axioms commit_workers_objects_readOnly
#print axioms commit_workers_schedules_same
#print axioms commit_workers_schedules_same_fsOf
#print axioms parCommit_objects_readOnly
#print axioms commitEntriesT_is_schedule
#print axioms commit_workers_prefixSafe_fsOf
#print axioms commit_workers_final_fsOf
#print axioms commit_workers_schedules_agree_fsOf
#print axioms parCommit_prefixSafe
#print axioms parCommit_final
#print axioms parCommit_prefixSafe_fsOf
#print axioms parCommit_final_fsOf
#print axioms parCommitArt_prefixSafe
#print axioms parCommitArt_final
#print axioms parCommitArt_prefixSafe_fsOf
#print axioms commitArtT_is_parArtTrace
#print axioms entryWorkers_parTrace
#print axioms two_files_interleaving_prefixSafe
#print axioms Example.mem_interleavings
#print axioms Example.interReport_proved
#print axioms Example.interReportE_proved
#print axioms Example.withSub_workers

end Dud.Sys
