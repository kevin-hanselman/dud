import DudModel.Props.C07
import DudModel.Lemmas.WorldDec
/-!
# C07 at the world level — what `dud commit` leaves alone

`Props/C07.lean` shows for ONE stage that `commitAct` touches only the stage's outputs and its
un-owned directory inputs (`commitAct_elsewhere`).  This file lifts the statement to the command:

  `cmdCommit_elsewhere` — after a successful `dud commit [--copy] [targets]`, for every index
  (cyclic ones are an error), every target list and both strategies: whatever is found at a path
  `q` that parts ways (`Diverge`) with every output of every stage and with every directory input
  of every stage is literally unchanged.

Corollary: a plain FILE input is never modified, moved or replaced by commit
(`cmdCommit_keeps_plain_file_input`), nor is anything outside the artifacts.  A skip-cache FILE
output is covered at the stage level only (`WT.commitArtW_skip`).  Directory inputs / skip-cache
directories are the known finding of C07 (`commit_moves_directory_input`): they are excluded by the
hypothesis, not by accident.

The proof carries the shape of the index (`ArtsApartFrom`) through the traversal: a commit
rewrites checksums in the index, never paths or the `is-dir` flag.
-/
namespace Dud

variable {κ : Type}

/-- every output of every stage, and every directory input of every stage, parts ways with `q` -/
def ArtsApartFrom (idx : Index) (q : List Name) : Prop :=
  ∀ sp stg, alookup idx sp = some stg →
    (∀ b, b ∈ stg.outputs → Diverge (Path.comps b.path) q) ∧
    (∀ b, b ∈ stg.inputs → b.isDir = true → Diverge (Path.comps b.path) q)

/-- **one stage.**  `commitAct` keeps `q` and the shape of the index. -/
theorem commitAct_apart (cfg : Cfg κ) (strat : Strat) (sp : Bytes) (w w' : World κ) (q : List Name)
    (hq : ArtsApartFrom w.idx q) (h : commitAct cfg strat sp w = .ok w') :
    ArtsApartFrom w'.idx q ∧ getPath w'.ws q = getPath w.ws q := by
  obtain ⟨stg, hstg⟩ := WStat.commitAct_stage h
  obtain ⟨houts, hdirs⟩ := hq sp stg hstg
  refine ⟨?_, commitAct_elsewhere cfg strat sp w w' stg q (World.stage_eq_ok.2 hstg) h
    (fun b hb hd _ => hdirs b hb hd) houts⟩
  obtain ⟨pl, w1, outs, w2, h1, h2, rfl⟩ := WStat.commitAct_inv hstg h
  obtain ⟨i1, -, n1⟩ := commitArts_frame cfg strat _ _ _ _ h1
  obtain ⟨i2, -, n2⟩ := commitArts_frame cfg strat _ _ _ _ h2
  intro x stg' hx
  have hx : alookup (setStage w.idx sp _) x = some stg' := (i2.trans i1) ▸ hx
  by_cases hxs : x = sp
  · subst hxs
    rw [alookup_setStage_self _ _ hstg] at hx
    cases hx
    refine ⟨fun b hb => ?_, fun b hb hd => ?_⟩
    · obtain ⟨b0, hb0, e⟩ := WStat.mem_of_noSum n2 hb
      rw [show b.path = b0.path from (congrArg Art.path e :)]
      exact houts b0 (mem_of_mem_sortArts hb0)
    · obtain ⟨b0, hin, ep, ed⟩ := WStat.mem_newInputs n1 hb
      rw [ep]
      exact hdirs b0 hin (ed ▸ hd)
  · rw [alookup_setStage_ne _ _ hxs] at hx
    exact hq x stg' hx

/-- **C07, the command.**  `dud commit` leaves every path alone that parts ways with all outputs and
all directory inputs of the index. -/
theorem cmdCommit_elsewhere (cfg : Cfg κ) (strat : Strat) (targets : List Bytes) (w w' : World κ)
    (q : List Name) (hq : ArtsApartFrom w.idx q) (h : cmdCommit cfg strat targets w = .ok w') :
    getPath w'.ws q = getPath w.ws q :=
  (runTargets_keeps (fun x : World κ => ArtsApartFrom x.idx q ∧ getPath x.ws q = getPath w.ws q)
    (fun sp a b hp hb =>
      have ⟨h1, h2⟩ := commitAct_apart cfg strat sp a b q hp.1 hb
      ⟨h1, h2.trans hp.2⟩) ⟨hq, rfl⟩ (cmdCommit_ok_iff.1 h).2).2

/-- how the hypothesis `Diverge` is met: a path that is not a prefix of `q` and of which `q` is not a
prefix parts ways with it (the forward direction of `WT.apart_iff_diverge`) -/
theorem diverge_of_not_prefix : ∀ (p q : List Name), ¬ p <+: q → ¬ q <+: p → Diverge p q
  | _, _, h1, h2 => WT.apart_iff_diverge.1 ⟨h1, h2⟩

/-- **a plain file input is never modified, moved or replaced by `dud commit`**: if the path of the
input `a` overlaps no output and no directory input of any stage (in particular `a` is a file, not
below an un-owned directory input), the node found there is literally the same afterwards. -/
theorem cmdCommit_keeps_plain_file_input (cfg : Cfg κ) (strat : Strat) (targets : List Bytes) (w w' : World κ)
    (a : Art) (hq : ArtsApartFrom w.idx (Path.comps a.path))
    (h : cmdCommit cfg strat targets w = .ok w') :
    getPath w'.ws (Path.comps a.path) = getPath w.ws (Path.comps a.path) :=
  cmdCommit_elsewhere cfg strat targets w w' _ hq h

/-! ## Non-vacuity: a stage with a plain file input next to its output -/
namespace C07Example
open ToyGood

/-- stage 1 reads the plain file `s` (115) and owns the file `d` (100) -/
def w : World String :=
  { ws := .dir [([115], .file "source"), ([100], .file "data")],
    idx := [([1], { cmd := [1], inputs := [{ path := [115] }], outputs := [{ path := [100] }] })] }

theorem apart : ArtsApartFrom w.idx (Path.comps [115]) := by
  intro sp stg hs
  simp only [w, alookup] at hs
  split at hs
  · simp only [Option.some.injEq] at hs; subst hs
    constructor
    · intro b hb
      simp only [List.mem_cons, List.not_mem_nil, or_false] at hb; subst hb
      exact ⟨[], [100], [115], [], [], by decide, rfl, rfl⟩
    · intro b hb hd
      simp only [List.mem_cons, List.not_mem_nil, or_false] at hb; subst hb
      cases hd
  · cases hs

def w' : World String :=
  match cmdCommit cfg .link [] w with
  | .ok x => x
  | .error _ => default

/-- the world after the commit: the output is a link into the cache, the stage file has its checksums -/
def w1 : World String :=
  { w with
    ws := .dir [([115], .file "source"), ([100], .link (.obj "abcdata"))],
    store := [("abcdata", .blob "data")],
    idx := [([1], {
      sum := "abc", cmd := [1],
      inputs := [{ path := [115], sum := "abcsource", skip := true }],
      outputs := [{ path := [100], sum := "abcdata" }] })],
    done := [[1]] }

/-- the one evaluation of the command that the statements below share -/
theorem run_eq : cmdCommit cfg .link [] w = .ok w1 := by open Dud.WorldDec in decide +kernel

theorem w'_eq : w' = w1 := by
  have h := run_eq
  unfold w'
  -- with the run abstracted, the kernel does not evaluate it again
  generalize cmdCommit cfg .link [] w = r at h
  subst h
  rfl

theorem commit_ok : cmdCommit cfg .link [] w = .ok w' := w'_eq ▸ run_eq

/-- the output became a link into the cache, the input is what it was -/
example : getPath w'.ws [[100]] = some (.link (.obj "abcdata")) ∧ getPath w'.ws [[115]] = some (.file "source") :=
  w'_eq ▸ ⟨rfl, rfl⟩

example : getPath w'.ws (Path.comps [115]) = getPath w.ws (Path.comps [115]) :=
  cmdCommit_keeps_plain_file_input cfg .link [] w w' { path := [115] } apart commit_ok

end C07Example

end Dud

#print axioms Dud.commitAct_apart
#print axioms Dud.cmdCommit_elsewhere
#print axioms Dud.cmdCommit_keeps_plain_file_input
#print axioms Dud.diverge_of_not_prefix
