import DudModel.Lemmas.Run
import DudModel.Props.C08
import DudModel.Lemmas.WorldDec
/-!
# C09 — after a pipeline run, outputs are consistent with inputs (what holds, and what does not)

* `runAct_inv` (`Lemmas/Run.lean`), `runAct_skips`, `runAct_runs`, `runAct_uptodate`: exactly when
  `Index.Run` executes the stage command (six reasons, among them "an owned input's recorded checksum
  differs from what its owner records");
* `run_sound`, `cmdRun_sound`, `run_sound_owned`: a stage that did not run is, in the final state,
  exactly as recorded — definition, plain inputs, outputs and (transitively) owned inputs;
* `second_run_idle_stage`, `second_run_idle`: an up-to-date pipeline without input-less command
  stages does not run;
* witnesses over a toy configuration: `stale_downstream_now_reruns`, `consistent_pipeline_idle`,
  `noinput_upstream_reruns_downstream`.
-/
namespace Dud

variable {κ : Type}

variable [DecidableEq κ]

theorem runAct_skips (cfg : Cfg κ) (exec : Exec κ) (recursive : Bool) (sp : Bytes) (w : World κ)
    (stg : Stage) (d : Bool) (hs : alookup w.idx sp = some stg)
    (hd : runDecision cfg recursive w stg = .ok d) (hx : (d && stg.hasCmd) = false) :
    runAct cfg exec recursive sp w = .ok { w with ran := (sp, d) :: w.ran } := by
  rw [runAct_eq, World.stage_eq_ok.2 hs]
  simp only [hd, hx, Bool.false_eq_true, if_false]

theorem runAct_runs (cfg : Cfg κ) (exec : Exec κ) (recursive : Bool) (sp : Bytes) (w : World κ)
    (stg : Stage) (hs : alookup w.idx sp = some stg)
    (hd : runDecision cfg recursive w stg = .ok true) (hc : stg.hasCmd = true) :
    runAct cfg exec recursive sp w =
      match exec stg w with
      | .error e => .error e
      | .ok w1 => .ok { w1 with ran := (sp, true) :: w1.ran, log := w1.log ++ [sp] } := by
  rw [runAct_eq, World.stage_eq_ok.2 hs]
  simp only [hd, hc, Bool.and_self, if_true]
  rfl

/-- the six reasons, with `allMatch` spelled out -/
theorem runDecision_true (cfg : Cfg κ) (recursive : Bool) (w : World κ) (stg : Stage)
    (h : runDecision cfg recursive w stg = .ok true) :
    stg.noInputs = true ∨ stg.sumOk cfg = false ∨
      (∃ a, a ∈ sortArts (plainInputs cfg w.idx stg) ∧ matchShort cfg w a = .ok false) ∨
      upRan cfg recursive w stg = true ∨ ownedStale cfg w.idx stg = true ∨
      (∃ a, a ∈ sortArts stg.outputs ∧ matchShort cfg w a = .ok false) := by
  obtain ⟨plainOk, hp, h⟩ := (runDecision_eq_true_iff cfg recursive w stg).1 h
  rcases h with h | h | h | h | h | h
  · exact .inl h
  · exact .inr (.inl h)
  · subst h
    obtain ⟨l1, a, l2, hl, _, ha⟩ := (allMatch_eq_false_iff cfg w _).1 hp
    exact .inr (.inr (.inl ⟨a, by rw [hl]; simp, ha⟩))
  · exact .inr (.inr (.inr (.inl h)))
  · exact .inr (.inr (.inr (.inr (.inl h))))
  · obtain ⟨l1, a, l2, hl, _, ha⟩ := (allMatch_eq_false_iff cfg w _).1 h
    exact .inr (.inr (.inr (.inr (.inr ⟨a, by rw [hl]; simp, ha⟩))))

/-- "up to date" means: inputs or no command, definition checksum current, every plain input and
every output matches its recorded checksum, no upstream stage ran, and every input owned by another
stage carries the checksum that owner records now -/
theorem runDecision_false (cfg : Cfg κ) (recursive : Bool) (w : World κ) (stg : Stage) :
    runDecision cfg recursive w stg = .ok false ↔
      stg.noInputs = false ∧ stg.sumOk cfg = true ∧
      (∀ a, a ∈ sortArts (plainInputs cfg w.idx stg) → matchShort cfg w a = .ok true) ∧
      upRan cfg recursive w stg = false ∧
      (∀ a, a ∈ stg.inputs → ∀ sp' oa, findOwner cfg.walkAccumulates w.idx a.path = some (sp', oa) → a.sum = oa.sum) ∧
      (∀ a, a ∈ sortArts stg.outputs → matchShort cfg w a = .ok true) := by
  rw [runDecision_eq_false_iff, allMatch_eq_true_iff, allMatch_eq_true_iff, ownedStale_eq_false_iff]

/-- a stage recorded as "did not run" was up to date in the state it was looked at -/
theorem runAct_uptodate (cfg : Cfg κ) (exec : Exec κ) (recursive : Bool) (sp : Bytes) (w w' : World κ)
    (h : runAct cfg exec recursive sp w = .ok w') (hr : didRun w' sp = false) :
    ∃ stg, alookup w.idx sp = some stg ∧ w' = { w with ran := (sp, false) :: w.ran } ∧
      stg.noInputs = false ∧ stg.sumOk cfg = true ∧
      (∀ a, a ∈ sortArts (plainInputs cfg w.idx stg) → matchShort cfg w a = .ok true) ∧
      upRan cfg recursive w stg = false ∧
      (∀ a, a ∈ stg.inputs → ∀ sp' oa, findOwner cfg.walkAccumulates w.idx a.path = some (sp', oa) → a.sum = oa.sum) ∧
      (∀ a, a ∈ sortArts stg.outputs → matchShort cfg w a = .ok true) := by
  obtain ⟨stg, d, hs, hd, h1, h2⟩ := runAct_inv cfg exec recursive sp w w' h
  cases hx : (d && stg.hasCmd) with
  | true =>
    obtain ⟨w1, _, hw⟩ := h1 hx
    rw [hw, didRun, alookup_cons_self] at hr
    cases hr
  | false =>
    have hw := h2 hx
    subst hw
    rw [didRun, alookup_cons_self] at hr
    cases (hr : d = false)
    exact ⟨stg, hs, rfl, (runDecision_false cfg recursive w stg).1 hd⟩

/-- If a stage has inputs (or no command), its definition checksum is current, all its plain inputs
and its outputs match, no upstream stage ran and its owned inputs carry their owners' current
checksums, `Index.Run` leaves it alone. -/
theorem second_run_idle_stage (cfg : Cfg κ) (exec : Exec κ) (recursive : Bool) (sp : Bytes) (w : World κ)
    (stg : Stage) (hs : alookup w.idx sp = some stg)
    (hin : stg.noInputs = false) (hsum : stg.sumOk cfg = true)
    (hplain : ∀ a, a ∈ sortArts (plainInputs cfg w.idx stg) → matchShort cfg w a = .ok true)
    (hup : upRan cfg recursive w stg = false)
    (howned : ∀ a, a ∈ stg.inputs → ∀ sp' oa,
      findOwner cfg.walkAccumulates w.idx a.path = some (sp', oa) → a.sum = oa.sum)
    (houts : ∀ a, a ∈ sortArts stg.outputs → matchShort cfg w a = .ok true) :
    runAct cfg exec recursive sp w = .ok { w with ran := (sp, false) :: w.ran } :=
  runAct_skips cfg exec recursive sp w stg false hs
    ((runDecision_false cfg recursive w stg).2 ⟨hin, hsum, hplain, hup, howned, houts⟩) rfl

/-- conversely a command stage without inputs always runs -/
theorem noInputs_always_runs (cfg : Cfg κ) (exec : Exec κ) (recursive : Bool) (sp : Bytes) (w : World κ)
    (stg : Stage) (hs : alookup w.idx sp = some stg) (hin : stg.noInputs = true) :
    runAct cfg exec recursive sp w =
      match exec stg w with
      | .error e => .error e
      | .ok w1 => .ok { w1 with ran := (sp, true) :: w1.ran, log := w1.log ++ [sp] } := by
  have hplain : plainInputs cfg w.idx stg = [] := by
    simp only [Stage.noInputs, Bool.and_eq_true, List.isEmpty_iff] at hin
    simp [plainInputs, hin.2]
  refine runAct_runs cfg exec recursive sp w stg hs ?_ (by
    simp only [Stage.noInputs, Bool.and_eq_true] at hin; exact hin.1)
  rw [runDecision_eq_true_iff]
  exact ⟨true, by rw [hplain]; rfl, .inl hin⟩

/-- the stage command leaves index, memo, log, `done` and cache alone, and does not change the status
of the outputs and plain inputs of any OTHER stage of the index.  Trap: the condition ranges over
ALL worlds, also those whose index lists an output of `stg` under a second stage, so no `exec` that
changes the status of its own output meets it; such an `exec` meets `ExecFrameOn` for the indexes
whose outputs do not overlap (`ExecIs.frameOn`, `Lemmas/PipeRun.lean`). -/
def ExecFrame' (cfg : Cfg κ) (exec : Exec κ) : Prop :=
  ExecFrame exec ∧
  ∀ stg w w1, exec stg w = .ok w1 → ∀ sp' stg', alookup w.idx sp' = some stg' → stg' ≠ stg →
    ∀ a, (a ∈ sortArts stg'.outputs ∨ a ∈ sortArts (plainInputs cfg w.idx stg')) →
      matchShort cfg w1 a = matchShort cfg w a

/-- `ExecFrame'` for the stages of the index `idx` only, and with "another stage" read as "a stage
with another stage path" -/
def ExecFrameOn (cfg : Cfg κ) (exec : Exec κ) (idx : Index) : Prop :=
  ExecFrame exec ∧
  ∀ sp stg w w1, w.idx = idx → alookup idx sp = some stg → exec stg w = .ok w1 →
    ∀ sp' stg', sp' ≠ sp → alookup idx sp' = some stg' →
    ∀ a, (a ∈ sortArts stg'.outputs ∨ a ∈ sortArts (plainInputs cfg idx stg')) →
      matchShort cfg w1 a = matchShort cfg w a

theorem ExecFrame'.on {cfg : Cfg κ} {exec : Exec κ} (hex : ExecFrame' cfg exec) (idx : Index)
    (hinj : ∀ x y s, alookup idx x = some s → alookup idx y = some s → x = y) :
    ExecFrameOn cfg exec idx := by
  refine ⟨hex.1, fun sp stg w w1 hi hs he sp' stg' hne hs' a ha => ?_⟩
  subst hi
  exact hex.2 stg w w1 he sp' stg' hs' (fun e => hne (hinj sp' sp stg (e ▸ hs') hs)) a ha

/-- Everything the stage recorded is current: definition checksum; every plain input and every output
matches its recorded checksum in the workspace; every input owned by another stage carries the
checksum that owner records (now) for the owning artifact. -/
def UpToDate (cfg : Cfg κ) (w : World κ) (stg : Stage) : Prop :=
  stg.sumOk cfg = true ∧
  (∀ a, a ∈ sortArts (plainInputs cfg w.idx stg) → matchShort cfg w a = .ok true) ∧
  (∀ a, a ∈ sortArts stg.outputs → matchShort cfg w a = .ok true) ∧
  (∀ a, a ∈ stg.inputs → ∀ sp' oa, findOwner cfg.walkAccumulates w.idx a.path = some (sp', oa) →
    a.sum = oa.sum)

omit [DecidableEq κ] in
theorem ownIdx_subset_upOwners (cfg : Cfg κ) (idx : Index) (sp : Bytes) (stg : Stage)
    (hs : alookup idx sp = some stg) (o : Bytes) (ho : o ∈ ownIdx cfg idx sp) :
    o ∈ upOwners cfg idx stg := by
  simp only [ownIdx, hs, List.mem_filterMap] at ho
  obtain ⟨a, ha, h⟩ := ho
  simp only [upOwners, List.mem_filterMap]
  exact ⟨a, mem_of_mem_sortArts ha, h⟩

omit [DecidableEq κ] in
theorem didRun_isSome {w : World κ} {x : Bytes} (h : didRun w x = true) : (alookup w.ran x).isSome = true := by
  simp only [didRun] at h
  cases hl : alookup w.ran x with
  | none => rw [hl] at h; cases h
  | some b => rfl

/-- The conclusion of `run_sound` for one stage `x` (with definition `stg`) of the memo, in the final
world `w'`: either its memo entry is `true` — and then, if it has a command, the command was executed
in this run — or its memo entry is `false`, it was not executed, it has inputs (or no command), it is
up to date in the FINAL state, and all its owners are in the memo with entry `false` (so the same
holds for them, transitively). -/
def RunSound (cfg : Cfg κ) (idx : Index) (w' : World κ) (x : Bytes) (stg : Stage) : Prop :=
  (didRun w' x = true ∧ (stg.hasCmd = true → x ∈ w'.log)) ∨
  (didRun w' x = false ∧ x ∉ w'.log ∧ stg.noInputs = false ∧ UpToDate cfg w' stg ∧
    ∀ o, o ∈ ownIdx cfg idx x → (alookup w'.ran o).isSome = true ∧ didRun w' o = false)

/-- the invariant of `run_sound` (the memo `w.ran` says which stages were looked at): the memo is closed
under owners; the command log lists only stages whose memo entry is `true`; and `RunSound` itself, of
every stage of the memo: what it says of a stage stays true when other stages are acted on. -/
structure RunInv (cfg : Cfg κ) (idx : Index) (w : World κ) : Prop where
  owners : ∀ x, (alookup w.ran x).isSome = true → ∀ o, o ∈ ownIdx cfg idx x → (alookup w.ran o).isSome = true
  logged : ∀ x, x ∈ w.log → didRun w x = true
  sound : ∀ x stg, (alookup w.ran x).isSome = true → alookup idx x = some stg → RunSound cfg idx w x stg

/-- What one action of a recursive `dud run` does: it adds `(sp, b)` to the memo and either leaves
the command log and every status alone (then `b = true` only for a stage without command, and
`b = false` means the decision was "up to date"), or executes the command, logs it, and leaves the
stages with another path up to date if they were. -/
theorem runAct_effect (cfg : Cfg κ) (exec : Exec κ) (idx : Index) (hex : ExecFrameOn cfg exec idx)
    {sp : Bytes} {w s : World κ} (hi : w.idx = idx) (h : runAct cfg exec true sp w = .ok s) :
    ∃ stg b, alookup idx sp = some stg ∧ s.ran = (sp, b) :: w.ran ∧
      ((s.log = w.log ∧ (b = true → stg.hasCmd = false) ∧
          (b = false → runDecision cfg true w stg = .ok false) ∧
          ∀ st', UpToDate cfg s st' = UpToDate cfg w st') ∨
        (s.log = w.log ++ [sp] ∧ b = true ∧
          ∀ x stgx, x ≠ sp → alookup idx x = some stgx → UpToDate cfg w stgx → UpToDate cfg s stgx)) := by
  obtain ⟨stg, d, hs, hd, h1, h2⟩ := runAct_inv cfg exec true sp w s h
  subst hi
  cases hx : (d && stg.hasCmd) with
  | false =>
    cases h2 hx
    exact ⟨stg, d, hs, rfl, .inl ⟨rfl, fun hb => by rw [hb] at hx; exact hx,
      fun hb => hb ▸ hd, fun _ => rfl⟩⟩
  | true =>
    obtain ⟨w1, he, hw⟩ := h1 hx
    obtain ⟨f1, f2, f3, _, _⟩ := hex.1 stg w w1 he
    subst hw
    refine ⟨stg, true, hs, congrArg _ f2, .inr ⟨congrArg (· ++ [sp]) f3, rfl,
      fun x stgx hne hsx ⟨u1, u2, u3, u4⟩ => ?_⟩⟩
    have hm : ∀ a, (a ∈ sortArts stgx.outputs ∨ a ∈ sortArts (plainInputs cfg w.idx stgx)) →
        matchShort cfg { w1 with ran := (sp, true) :: w1.ran, log := w1.log ++ [sp] } a =
          matchShort cfg w a :=
      fun a ha => hex.2 sp stg w w1 rfl hs he x stgx hne hsx a ha
    refine ⟨u1, fun a ha => ?_, fun a ha => (hm a (.inl ha)).trans (u3 a ha), ?_⟩
    · rw [show ({ w1 with ran := (sp, true) :: w1.ran, log := w1.log ++ [sp] } : World κ).idx = w.idx
        from f1] at ha
      exact (hm a (.inr ha)).trans (u2 a ha)
    · rw [show ({ w1 with ran := (sp, true) :: w1.ran, log := w1.log ++ [sp] } : World κ).idx = w.idx
        from f1]
      exact u4

theorem runInv_step (cfg : Cfg κ) (exec : Exec κ) (idx : Index) (hex : ExecFrameOn cfg exec idx)
    (sp : Bytes) (w s : World κ) (hi : w.idx = idx) (hq : RunInv cfg idx w)
    (hnd : (alookup w.ran sp).isSome = false)
    (hown : ∀ o, o ∈ ownIdx cfg idx sp → (alookup w.ran o).isSome = true)
    (hact : runAct cfg exec true sp w = .ok s) : RunInv cfg idx s := by
  obtain ⟨stg, b, hs, hran, hcase⟩ := runAct_effect cfg exec idx hex hi hact
  have hne : ∀ x, (alookup w.ran x).isSome = true → x ≠ sp :=
    fun x hx hxs => Bool.noConfusion ((hxs ▸ hx).symm.trans hnd)
  have hmono : ∀ x, (alookup w.ran x).isSome = true → (alookup s.ran x).isSome = true :=
    fun x hx => by rw [hran, isSome_alookup_cons, hx, Bool.or_true]
  -- the memo of `s`: `sp` and the memo of `w`
  have hmemo : ∀ x, x ≠ sp → (alookup s.ran x).isSome = true → (alookup w.ran x).isSome = true :=
    fun x hx h => by rwa [hran, isSome_alookup_cons, beq_false_of_ne hx, Bool.false_or] at h
  have hdid : ∀ x, x ≠ sp → didRun s x = didRun w x :=
    fun x hx => by rw [didRun, didRun, hran, alookup_cons_ne _ _ (Ne.symm hx)]
  have hdidsp : didRun s sp = b := by rw [didRun, hran, alookup_cons_self]; rfl
  -- the command log: that of `w`, with `sp` at its end if `sp` was executed
  have hlog : ∀ x, x ≠ sp → (x ∈ s.log ↔ x ∈ w.log) := by
    rcases hcase with ⟨hlog, _⟩ | ⟨hlog, _⟩ <;> rw [hlog]
    · exact fun _ _ => Iff.rfl
    · exact fun x hx => by rw [List.mem_append, List.mem_singleton, or_iff_left hx]
  have hlogne : ∀ x, x ∈ w.log → x ≠ sp := fun x hx => hne x (didRun_isSome (hq.logged x hx))
  refine ⟨fun x hx o ho => ?_, fun x hx => ?_, fun x stgx hx hsx => ?_⟩
  · by_cases hxs : x = sp
    · exact hmono o (hown o (hxs ▸ ho))
    · exact hmono o (hq.owners x (hmemo x hxs hx) o ho)
  · -- everything in the command log has memo entry `true`
    by_cases hxs : x = sp
    · rcases hcase with ⟨hlog, _⟩ | ⟨_, hb, _⟩
      · exact absurd hxs (hlogne x (hlog ▸ hx))
      · rw [hxs, hdidsp, hb]
    · rw [hdid x hxs]; exact hq.logged x ((hlog x hxs).1 hx)
  · by_cases hxs : x = sp
    · -- `sp` itself: executed, or without command, or the decision was "up to date"
      subst hxs
      cases Option.some.inj (hsx.symm.trans hs)
      rw [RunSound, hdidsp]
      rcases hcase with ⟨hl, hb, hdec, hup⟩ | ⟨hl, hb, _⟩
      · cases b with
        | true => exact .inl ⟨rfl, fun hc => by rw [hb rfl] at hc; cases hc⟩
        | false =>
          obtain ⟨g1, g2, g3, g4, g5, g6⟩ := (runDecision_false cfg true w stg).1 (hdec rfl)
          refine .inr ⟨rfl, fun h => hlogne x (hl ▸ h) rfl, g1, by rw [hup]; exact ⟨g2, hi ▸ g3, g6, hi ▸ g5⟩,
            fun o ho => ⟨hmono o (hown o ho), ?_⟩⟩
          rw [hdid o (hne o (hown o ho))]
          rw [upRan, Bool.true_and, List.any_eq_false] at g4
          exact Bool.eq_false_iff.2
            (g4 o (ownIdx_subset_upOwners cfg w.idx x stg (hi ▸ hs) o (hi ▸ ho)))
      · exact .inl ⟨hb, fun _ => by rw [hl]; exact List.mem_append_right _ (List.mem_singleton.2 rfl)⟩
    · -- looked at earlier: its memo entry, its place in the log and its owners' memo entries stay
      rw [RunSound, hdid x hxs, hlog x hxs]
      rcases hq.sound x stgx (hmemo x hxs hx) hsx with h1 | ⟨hd, hl, g0, g1, g2⟩
      · exact .inl h1
      · refine .inr ⟨hd, hl, g0, ?_, fun o ho => ⟨hmono o (g2 o ho).1, by
          rw [hdid o (hne o (g2 o ho).1)]; exact (g2 o ho).2⟩⟩
        rcases hcase with ⟨_, _, _, hup⟩ | ⟨_, _, hup⟩
        · rw [hup]; exact g1
        · exact hup x stgx hxs hsx g1

theorem RunInv.nil {cfg : Cfg κ} {idx : Index} {w : World κ} (hran : w.ran = [])
    (hlog : w.log = []) : RunInv cfg idx w :=
  ⟨by simp [hran, alookup], by simp [hlog], by simp [hran, alookup]⟩

/-- **What `dud run` guarantees.** After a successful recursive traversal from a world where nothing
ran, every stage of the memo either has memo entry `true` (and, if it has a command, executed), or was
not executed and is, in the FINAL state, exactly as recorded: definition checksum current, plain
inputs and outputs match their recorded checksums, every owned input carries the checksum its owner
records, and no owner executed — transitively, since the owners are in the memo with entry `false`.

Hypotheses: the frame condition `ExecFrame'` on the commands (in particular `exec` does not change
the index, so recorded checksums are stable during the run) and `hinj` (distinct stage paths carry
distinct definitions — `exec` only sees the definition). See `run_sound_owned` for what the owned-input
clause means in the workspace. -/
theorem run_sound (cfg : Cfg κ) (exec : Exec κ) (hex : ExecFrame' cfg exec) (idx : Index)
    (hinj : ∀ x y s, alookup idx x = some s → alookup idx y = some s → x = y)
    (fuel : Nat) (avail : List Bytes) (sp : Bytes) (w w' : World κ) (l' : List Bytes)
    (hi : w.idx = idx) (h0 : w.ran = []) (hlog : w.log = [])
    (h : visit (runTrav cfg exec true).logged true fuel avail sp (w, []) = .ok (w', l')) :
    ∀ x stg, (alookup w'.ran x).isSome = true → alookup idx x = some stg → RunSound cfg idx w' x stg := by
  exact (visit_preserves (runTrav_lawfulOn cfg exec hex.1 true idx)
    (fun sp u u' hi hq hnd hown ha => runInv_step cfg exec idx (hex.on idx hinj) sp u u' hi hq hnd (hown rfl) ha)
    fuel avail sp w w' hi (.nil h0 hlog)
    ((visit_erase _ true fuel avail sp w []).symm.trans (congrArg (Except.map (·.1)) h))).sound

theorem cmdRun_runInv (cfg : Cfg κ) (exec : Exec κ) (targets : List Bytes) (w w' : World κ)
    (hex : ExecFrameOn cfg exec w.idx) (h : cmdRun cfg exec false targets w = .ok w') :
    w'.idx = w.idx ∧ RunInv cfg w.idx w' :=
  let ⟨hidx, hq, _⟩ := runTargets_lift (runTrav_lawfulOn cfg exec hex.1 true w.idx) rfl (fun _ => rfl)
    (.nil rfl rfl)
    (fun sp u u' _ hi hq hnd hown ha => runInv_step cfg exec w.idx hex sp u u' hi hq hnd (hown rfl) ha)
    (cmdRun_ok_iff.1 h).2
  ⟨hidx, hq⟩

/-- `run_sound` for the whole command `dud run` (recursive, any targets) -/
theorem cmdRun_sound (cfg : Cfg κ) (exec : Exec κ) (hex : ExecFrame' cfg exec)
    (targets : List Bytes) (w w' : World κ)
    (hinj : ∀ x y s, alookup w.idx x = some s → alookup w.idx y = some s → x = y)
    (h : cmdRun cfg exec false targets w = .ok w') :
    w'.idx = w.idx ∧
    ∀ x stg, (alookup w'.ran x).isSome = true → alookup w.idx x = some stg → RunSound cfg w.idx w' x stg :=
  let ⟨hidx, hq⟩ := cmdRun_runInv cfg exec targets w w' (hex.on w.idx hinj) h
  ⟨hidx, hq.sound⟩

theorem pairwise_mem_symm {α : Type} {R : α → α → Prop} (hs : ∀ a b, R a b → R b a) {l : List α}
    (h : l.Pairwise R) {a b : α} (ha : a ∈ l) (hb : b ∈ l) : a = b ∨ R a b :=
  List.Pairwise.forall_of_forall_of_flip (R := fun a b => a = b ∨ R a b)
    (fun _ _ => .inl rfl) (h.imp .inr) (h.imp fun e => .inr (hs _ _ e)) ha hb

omit [DecidableEq κ] in
/-- distinct stage paths carry distinct definitions as soon as no definition occurs twice -/
theorem alookup_inj_of_nodup {idx : Index} (hn : (idx.map (·.2)).Nodup) :
    ∀ x y s, alookup idx x = some s → alookup idx y = some s → x = y := fun _ _ _ hx hy =>
  (pairwise_mem_symm (fun _ _ => Ne.symm) (List.pairwise_map.1 hn) (alookup_mem hx) (alookup_mem hy)).elim
    (congrArg Prod.fst) (fun h => absurd rfl h)

/-- index well-formedness (Go: the index and the artifacts of a stage are maps): distinct stage paths,
and within a stage distinct output paths -/
def IdxWF (idx : Index) : Prop :=
  (idx.map (·.1)).Nodup ∧ ∀ sp stg, (sp, stg) ∈ idx → stg.outputs.Pairwise (fun a b => a.path ≠ b.path)

omit [DecidableEq κ] in
theorem owner_lookup {wa : Bool} {idx : Index} (hk : (idx.map (·.1)).Nodup) {p o : Bytes} {oa : Art}
    (h : findOwner wa idx p = some (o, oa)) : ∃ stgo, alookup idx o = some stgo ∧ oa ∈ stgo.outputs :=
  let ⟨stgo, hm, hoa⟩ := findOwner_mem _ _ _ _ _ h
  ⟨stgo, alookup_of_mem_nodup hk hm, hoa⟩

omit [DecidableEq κ] in
theorem owner_mem_ownIdx {cfg : Cfg κ} {idx : Index} {x : Bytes} {stgx : Stage}
    (hsx : alookup idx x = some stgx) {b : Art} (hb : b ∈ stgx.inputs) {o : Bytes} {oa : Art}
    (h : findOwner cfg.walkAccumulates idx b.path = some (o, oa)) : o ∈ ownIdx cfg idx x := by
  rw [mem_ownIdx]
  exact ⟨stgx, hsx, b.path, List.mem_map.2 ⟨b, hb, rfl⟩, by rw [h]; rfl⟩

/-- **The owned inputs of a stage that did not run.** In the situation of `run_sound`, for a stage `x`
with memo entry `false` and any of its inputs `a` owned by stage `o` through the output artifact `oa`:
`o` is a stage of the index, was looked at and did not run either, `a` carries the checksum recorded in
`oa`, and `oa` matches the workspace. So what `x` recorded about its owned input is what is there. -/
theorem run_sound_owned (cfg : Cfg κ) (idx : Index) (hwf : IdxWF idx) (w' : World κ) (hi : w'.idx = idx)
    (hall : ∀ x stg, (alookup w'.ran x).isSome = true → alookup idx x = some stg → RunSound cfg idx w' x stg)
    (x : Bytes) (stg : Stage) (hx : (alookup w'.ran x).isSome = true) (hsx : alookup idx x = some stg)
    (hd : didRun w' x = false) (a : Art) (ha : a ∈ stg.inputs) (o : Bytes) (oa : Art)
    (ho : findOwner cfg.walkAccumulates idx a.path = some (o, oa)) :
    ∃ stgo, alookup idx o = some stgo ∧ oa ∈ stgo.outputs ∧ didRun w' o = false ∧
      a.sum = oa.sum ∧ matchShort cfg w' oa = .ok true := by
  rcases hall x stg hx hsx with ⟨h, _⟩ | ⟨_, _, _, ⟨_, _, _, u4⟩, hown⟩
  · rw [hd] at h; cases h
  obtain ⟨stgo, hso, hoa⟩ := owner_lookup hwf.1 ho
  obtain ⟨hos, hod⟩ := hown o (owner_mem_ownIdx hsx ha ho)
  refine ⟨stgo, hso, hoa, hod, u4 a ha o oa (by rw [hi]; exact ho), ?_⟩
  rcases hall o stgo hos hso with ⟨h, _⟩ | ⟨_, _, _, ⟨_, _, v3, _⟩, _⟩
  · rw [hod] at h; cases h
  · exact v3 oa (mem_sortArts_of_mem (hwf.2 o stgo (alookup_mem hso)) hoa)

theorem matchShort_congr (cfg : Cfg κ) (w1 w2 : World κ) (a : Art)
    (h1 : getPath w1.ws (Path.comps a.path) = getPath w2.ws (Path.comps a.path))
    (h2 : w1.store = w2.store) : matchShort cfg w1 a = matchShort cfg w2 a := by
  simp only [matchShort, h1, h2]

/-- **A second `dud run` is idle.** If no command stage without inputs is upstream of a target and
every stage upstream of a target is up to date (definition, plain inputs, outputs, and owned inputs
carrying their owners' checksums), `dud run` executes nothing: empty command log, workspace and cache
untouched, every memo entry `false`. The hypothesis on input-less command stages cannot be dropped
(`Toy.noinput_upstream_reruns_downstream`). -/
theorem second_run_idle (cfg : Cfg κ) (exec : Exec κ) (hex : ExecFrame exec) (single : Bool)
    (targets : List Bytes) (w w' : World κ)
    (hni : ∀ x stg, (∃ t, t ∈ (if targets.isEmpty then allStages w else targets) ∧
        Reach (ownIdx cfg w.idx) t x) → alookup w.idx x = some stg → stg.noInputs = false)
    (hup : ∀ x stg, (∃ t, t ∈ (if targets.isEmpty then allStages w else targets) ∧
        Reach (ownIdx cfg w.idx) t x) → alookup w.idx x = some stg → UpToDate cfg w stg)
    (h : cmdRun cfg exec single targets w = .ok w') :
    w'.log = [] ∧ w'.ws = w.ws ∧ w'.store = w.store ∧ w'.idx = w.idx ∧ ∀ x, didRun w' x = false := by
  suffices hstep : _ from
    have ⟨hidx, hQ, _⟩ := runTargets_lift
      (I := fun u => u.log = [] ∧ u.ws = w.ws ∧ u.store = w.store ∧ ∀ x, didRun u x = false)
      (runTrav_lawfulOn cfg exec hex (!single) w.idx) rfl (fun _ => rfl)
      ⟨rfl, rfl, rfl, fun x => by simp [didRun, fresh, alookup]⟩ hstep (cmdRun_ok_iff.1 h).2
    ⟨hQ.1, hQ.2.1, hQ.2.2.1, hidx, hQ.2.2.2⟩
  intro sp v s hR hi ⟨q1, q2, q3, q4⟩ _ _ hact
  have hi : v.idx = w.idx := hi
  obtain ⟨stg, _, hs, _⟩ := runAct_inv cfg exec (!single) sp v s hact
  have hs' : alookup w.idx sp = some stg := hi ▸ hs
  obtain ⟨u1, u2, u3, u4⟩ := hup sp stg hR hs'
  rw [← hi] at u2 u4
  have hidle := second_run_idle_stage cfg exec (!single) sp v stg hs (hni sp stg hR hs') u1
    (fun a ha => (matchShort_congr cfg v w a (by rw [q2]) q3).trans (u2 a ha))
    (by rw [upRan, Bool.and_eq_false_iff, List.any_eq_false]
        exact .inr fun o _ => by rw [q4 o]; exact Bool.false_ne_true)
    u4 (fun a ha => (matchShort_congr cfg v w a (by rw [q2]) q3).trans (u3 a ha))
  cases Except.ok.inj (hact.symm.trans hidle)
  refine ⟨q1, q2, q3, fun x => ?_⟩
  by_cases hx : sp = x
  · rw [didRun, hx, alookup_cons_self]; rfl
  · rw [didRun, alookup_cons_ne _ _ hx]; exact q4 x

/-! ## witnesses over a toy pipeline -/

namespace Toy

/-- toy hash on contents `Nat` -/
def H : Nat → Digest
  | 0 => "aaa" | 1 => "bbb" | 2 => "ccc" | 5 => "eee" | _ => "ddd"

def ctx : Ctx Nat :=
  { H := H, encMan := fun _ _ _ => 99, decBlob := fun _ => none, reload := fun _ c => c, nameOK := fun _ => true }

/-- the toy configuration hashes every stage definition to the same value (the kernel cannot evaluate
`GoJson.str`); definitions never change in the witnesses, so this is immaterial -/
def cfg : Cfg Nat :=
  { ctx := ctx, ofBytes := fun _ => 7, toBytes := fun _ => [], walkAccumulates := true, fuel := 8 }

/-- the stage command does nothing -/
def exec0 : Exec Nat := fun _ w => .ok w

def pa : Bytes := [97]
def pb : Bytes := [98]
def psrc : Bytes := [115]
def spA : Bytes := [65]
def spB : Bytes := [66]

/-- record the current definition checksum -/
def withSum (s : Stage) : Stage := { s with sum := s.defSum cfg }

/-- A: `src ↦ a`; the recorded checksum of `a` is that of its current content `1` -/
def stA : Stage :=
  withSum { cmd := [120], inputs := [{ path := psrc, sum := "eee" }], outputs := [{ path := pa, sum := "bbb" }] }
/-- B: `a ↦ b`; B still records the checksum of the OLD content `0` of `a` -/
def stB : Stage :=
  withSum { cmd := [121], inputs := [{ path := pa, sum := "aaa" }], outputs := [{ path := pb, sum := "ccc" }] }

/-- `a` was regenerated (content 1) and A committed; `b` is what B recorded -/
def w1 : World Nat :=
  { ws := .dir [(psrc, .file 5), (pa, .file 1), (pb, .file 2)]
    store := [("eee", .blob 5), ("bbb", .blob 1), ("aaa", .blob 0), ("ccc", .blob 2)]
    idx := [(spA, stA), (spB, stB)] }

#eval (cmdRun cfg exec0 false [] w1).map (fun w => (w.log, w.ran))

/-- **The stale downstream stage re-runs.** B's output `b` was made from the old `a`; `a` has been
regenerated and committed by A (A records `"bbb"`), B still records `"aaa"` for its input `a`.
`dud run` leaves A alone and executes B (Go's reason: "input out-of-date", from the comparison of an
owned input with the owner's record in `Index.Run`; that comparison is the repair 042d085 of `/repo`,
without it nothing runs here). -/
theorem stale_downstream_now_reruns :
    (cmdRun cfg exec0 false [] w1).map (fun w => (w.log, w.ran)) = .ok ([spB], [(spB, true), (spA, false)]) ∧
    ownersOf cfg w1 spB = .ok [spA] ∧
    (findArt stB.inputs pa).map (·.sum) = some "aaa" ∧ (findArt stA.outputs pa).map (·.sum) = some "bbb" ∧
    ownedStale cfg w1.idx stB = true ∧ ownedStale cfg w1.idx stA = false := by
  open Dud.WorldDec in decide +kernel

/-- the check does not depend on `--single-stage` -/
example : (cmdRun cfg exec0 true [spB] w1).map (fun w => (w.log, w.ran)) = .ok ([spB], [(spB, true)]) := by
  open Dud.WorldDec in decide +kernel

/-- B as it is after re-running and committing: it records A's current checksum for `a` -/
def stB3 : Stage :=
  withSum { cmd := [121], inputs := [{ path := pa, sum := "bbb" }], outputs := [{ path := pb, sum := "ccc" }] }

/-- a consistent pipeline -/
def w3 : World Nat := { w1 with idx := [(spA, stA), (spB, stB3)] }

#eval (cmdRun cfg exec0 false [] w3).map (fun w => (w.log, w.ran))

/-- stated with the whole final world, so that the run is evaluated once for the two uses below -/
theorem w3_run : cmdRun cfg exec0 false [] w3 = .ok { w3 with ran := [(spB, false), (spA, false)] } := by
  open Dud.WorldDec in decide +kernel

/-- on the consistent pipeline nothing runs -/
theorem consistent_pipeline_idle :
    (cmdRun cfg exec0 false [] w3).map (fun w => (w.log, w.ran)) = .ok ([], [(spB, false), (spA, false)]) := by
  rw [w3_run]; rfl

def stA2 : Stage := withSum { cmd := [120], inputs := [], outputs := [{ path := pa, sum := "bbb" }] }
def stB2 : Stage :=
  withSum { cmd := [121], inputs := [{ path := pa, sum := "bbb" }], outputs := [{ path := pb, sum := "ccc" }] }

/-- everything committed and up to date -/
def w2 : World Nat :=
  { ws := .dir [(pa, .file 1), (pb, .file 2)]
    store := [("bbb", .blob 1), ("ccc", .blob 2)]
    idx := [(spA, stA2), (spB, stB2)] }

#eval (cmdRun cfg exec0 false [] w2).map (fun w => (w.log, w.ran))

/-- **A command stage without inputs re-runs, and drags its dependants along**, although every
artifact matches its recorded checksum and every definition checksum is current. -/
theorem noinput_upstream_reruns_downstream :
    (cmdRun cfg exec0 false [] w2).map (fun w => (w.log, w.ran)) = .ok ([spA, spB], [(spB, true), (spA, true)]) ∧
    stA2.sumOk cfg = true ∧ stB2.sumOk cfg = true ∧
    matchShort cfg w2 { path := pa, sum := "bbb" } = .ok true ∧
    matchShort cfg w2 { path := pb, sum := "ccc" } = .ok true := by
  open Dud.WorldDec in decide +kernel

/-- … and with `--single-stage B` nothing runs: the same world is "up to date" for B alone -/
example : (cmdRun cfg exec0 true [spB] w2).map (fun w => (w.log, w.ran)) = .ok ([], [(spB, false)]) := by
  open Dud.WorldDec in decide +kernel

/-! ### non-vacuity of the hypotheses of the positive theorems -/

theorem exec0_frame : ExecFrame' cfg exec0 := by
  refine ⟨?_, ?_⟩
  · intro stg w w' h; cases h; exact ⟨rfl, rfl, rfl, rfl, rfl⟩
  · intro stg w w1 h; cases h; intros; rfl

theorem w1_inj : ∀ x y s, alookup w1.idx x = some s → alookup w1.idx y = some s → x = y :=
  alookup_inj_of_nodup (by decide)

theorem w3_inj : ∀ x y s, alookup w3.idx x = some s → alookup w3.idx y = some s → x = y :=
  alookup_inj_of_nodup (by decide)

/-- `cmdRun_sound` on the consistent pipeline: B did not run, is up to date in the final state — in
particular records for `a` what A records — and its owner A did not run either -/
example : UpToDate cfg w3 stB3 ∧
    ∀ o, o ∈ ownIdx cfg w3.idx spB → (alookup [(spB, false), (spA, false)] o).isSome = true ∧
      didRun { w3 with ran := [(spB, false), (spA, false)] } o = false := by
  have := (cmdRun_sound cfg exec0 exec0_frame [] w3 _ w3_inj w3_run).2 spB stB3 (by rfl) (by rfl)
  rcases this with ⟨h, _⟩ | ⟨_, _, _, h1, h2⟩
  · cases h
  · exact ⟨h1, h2⟩

/-- the well-formedness hypothesis of `run_sound_owned` is satisfiable -/
example : IdxWF w3.idx := by
  refine ⟨by decide, ?_⟩
  intro sp stg h
  simp only [w3, List.mem_cons, Prod.mk.injEq, List.not_mem_nil, or_false] at h
  rcases h with ⟨_, rfl⟩ | ⟨_, rfl⟩ <;> simp [stA, stB3, withSum]

/-- `dud commit` on the toy pipeline: both stages, owner first -/
example : (cmdCommit cfg .copy [] w1).map (·.done) = .ok [spB, spA] := by open Dud.WorldDec in decide +kernel

end Toy

#print axioms runAct_skips
#print axioms runAct_runs
#print axioms runDecision_true
#print axioms runDecision_false
#print axioms runAct_uptodate
#print axioms second_run_idle_stage
#print axioms run_sound
#print axioms cmdRun_sound
#print axioms run_sound_owned
#print axioms second_run_idle
#print axioms noInputs_always_runs
#print axioms Toy.stale_downstream_now_reruns
#print axioms Toy.consistent_pipeline_idle
#print axioms Toy.noinput_upstream_reruns_downstream

end Dud
