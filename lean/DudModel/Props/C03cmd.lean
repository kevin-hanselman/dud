import DudModel.Lemmas.CrashCmdGo
import DudModel.Props.C03meta
/-!
# C03 at the level of the whole command: killing `dud commit` at any instant

`DudModel/SysCmd.lean` defines `cmdCommitT`: the logical `cmdCommit` TOGETHER WITH the list of
file-system mutating calls of the whole command (lock, one `LocalCache.Commit` trace per plain input and
per output of every stage in traversal order, the stage-file rewrites, unlock).  This file proves, for
EVERY prefix of that list (the process is killed after the k-th call, for every k):

* `cmdCommitT_refines` — erasing the trace gives exactly `cmdCommit` (nothing about the logical result
  changes, so every theorem about `cmdCommit` applies);
* `cmdCommitT_crash_safe` — **no data is lost and no object is torn**: every byte sequence that was in
  a regular file of the workspace before the command (ALL of them, in particular those below the
  outputs of the stages in scope: `cmdCommitT_crash_safe_below`) is still retrievable — at its path,
  through a link at its path, or as the cache object named by its digest — and whatever sits under a
  digest name is a complete file with exactly those bytes;
* `cmdCommitT_crash_safe_from` — the same from ANY safe state related to the logical workspace (not only
  the canonical abstraction `fsOfWorld`); `commitActT_crash_safe` — the artifact phase of ONE stage;
* `cmdCommitT_stage_files_atomic` — **stage files are never torn**: every stage file holds either what
  it held before the command or the complete encoding of the stage in the final index;
* `cmdCommitT_lock_window` — the lock file exists exactly strictly between the first and the last call;
* `cmdCommitT_final`, `cmdCommitT_stage_files_final` — after the complete trace the regular files of the
  final logical workspace are in place, no temp file is left (cache temp names, stage temp names), the lock
  is gone, and the stage file of every committed stage holds the complete new encoding.

Hypotheses (all explicit):
* `Good c.cfg.ctx` — collision-free hash (used where a rename lands on an existing object);
* `hemp` — the trace generator's "is empty" test is sound;
* `uniqNode w.ws` — entry names are pairwise distinct in every directory of the workspace (true of any
  real directory tree; follows from `Node.sorted`, `uniqNode_of_sorted`);
* `Consistent c.cfg.ctx w.store` — every object of the cache sits under the digest of its bytes;
* the regenerated fact `stage_write_fact` (`stage.ToFile` = temp file + rename) for the stage files;
* a successful run (`cmdCommitT … = .ok …`): a run that fails at the logical level has no trace in this
  model (its real trace is a prefix of the calls before the failing check).
NO hypothesis on the index is needed: outputs may overlap, a path may be committed twice, the same
plain input may belong to several stages — the argument re-establishes after every artifact the relation
`Rel` between the CURRENT logical workspace and the file system, whatever was committed before.

Not covered here: the position of the stage-file writes with several targets (see `SysCmd.lean` and
`Props/C03cmdGo.lean`; the theorems hold for any position: both traces are segments of artifact commits
and stage-file rewrites between lock and unlock, `CmdInv`, `stageSegs` of `Lemmas/CrashCmdGo.lean`); stage files
and `.dud` live in path classes of their own (`P.stageFile`, `P.lock` …), i.e. no artifact contains a
stage file; one worker (calls of one artifact are sequential; `C03inter.lean` treats interleavings
inside one artifact); failing runs; `fsync`-level durability.
-/
namespace Dud.Sys
open Dud
variable {κ : Type}

/-- **Erasing the trace of the traced command gives the logical command**, segmented form. -/
theorem cmdCommitSegs_refines (c : CmdCfg κ) (strat : Strat) (targets : List Bytes) (w : World κ) :
    (cmdCommitSegs c strat targets w).map (·.1) = cmdCommit c.cfg strat targets w := by
  unfold cmdCommitSegs cmdCommit
  simp only
  generalize (if targets.isEmpty then allStages w else targets) = ts
  by_cases hts : ts.isEmpty = true
  · rw [if_pos hts, if_pos hts]; rfl
  · rw [if_neg hts, if_neg hts, ← perTargetP_lift
      (f' := fun t (p : World κ × List (List (Call κ))) =>
        visit (commitTravT c strat) true (p.1.idx.length + 1) (allStages p.1) t p)
      (fun t p => visit_commitTravT_refines c strat true _ _ t p) ts (fresh w, [])]
    cases perTargetP _ ts (fresh w, []) <;> rfl

/-- **Erasing the trace of `cmdCommitT` gives exactly `cmdCommit`.** -/
theorem cmdCommitT_refines (c : CmdCfg κ) (strat : Strat) (targets : List Bytes) (w : World κ) :
    (cmdCommitT c strat targets w).map (·.1) = cmdCommit c.cfg strat targets w := by
  rw [← cmdCommitSegs_refines]
  unfold cmdCommitT
  cases cmdCommitSegs c strat targets w <;> rfl

/-- in particular: same success, same final world -/
theorem cmdCommitT_ok {c : CmdCfg κ} {strat : Strat} {targets : List Bytes} {w w' : World κ}
    {calls : List (Call κ)} (h : cmdCommitT c strat targets w = .ok (w', calls)) :
    cmdCommit c.cfg strat targets w = .ok w' :=
  (map_fst_eq (cmdCommitT_refines c strat targets w)).2 _ _ h

/-- … and conversely a successful logical command has a trace -/
theorem cmdCommitT_of_ok {c : CmdCfg κ} {strat : Strat} {targets : List Bytes} {w w' : World κ}
    (h : cmdCommit c.cfg strat targets w = .ok w') :
    ∃ calls, cmdCommitT c strat targets w = .ok (w', calls) :=
  ok_of_map_fst ((cmdCommitT_refines c strat targets w).trans h)

/-- the flat trace is the segmented one, flattened -/
theorem cmdCommitT_eq_segs (c : CmdCfg κ) (strat : Strat) (targets : List Bytes) (w : World κ) :
    cmdCommitT c strat targets w = (cmdCommitSegs c strat targets w).map (fun p => (p.1, p.2.calls)) := by
  unfold cmdCommitT
  cases cmdCommitSegs c strat targets w with
  | error e => rfl
  | ok v => rfl

/-- the obligation on the Go code: `stage.ToFile` goes through a temp file and `os.Rename`
(the same fact as `meta_write_fact` of `C03meta.lean`) -/
theorem stage_write_fact : stageAtomic = true := meta_write_fact.1

/-- A successful run FROM ANY safe state `fs0` related to the logical workspace (regular files in place,
cache temp names free); `tracked` is any list of recorded (workspace path, bytes) for which `fs0` is safe.
The stage files rewritten are those of the final index. -/
theorem cmdCommitT_run_from {c : CmdCfg κ} {strat : Strat} (g : Good c.cfg.ctx) {emp : κ}
    (hemp : ∀ x, c.isEmp x = true → x = emp) {targets : List Bytes} {w w' : World κ}
    {calls : List (Call κ)} {tracked : List (P × κ)} (htw : TrackedWs tracked) {fs0 : FS κ}
    (hs0 : Safe c.cfg.ctx tracked fs0) (hr0 : Rel w.ws fs0)
    (h : cmdCommitT c strat targets w = .ok (w', calls)) :
    ∃ segs, calls = [.createExcl .lock] ++ flatSegs segs ++ [.unlink .lock] ∧
      CmdInv c emp tracked (replay emp fs0 [.createExcl .lock]) (w', segs) :=
  cmdCommitT_cmdInv g htw hemp (lock_safe g htw hs0) (lock_rel hr0) h

/-- … from the abstraction `fsOfWorld` of the world, recording ALL regular files of the workspace -/
theorem cmdCommitT_run {c : CmdCfg κ} {strat : Strat} (g : Good c.cfg.ctx) {emp : κ}
    (hemp : ∀ x, c.isEmp x = true → x = emp) {targets : List Bytes} {w w' : World κ}
    {calls : List (Call κ)} (hu : uniqNode w.ws) (hc : Consistent c.cfg.ctx w.store)
    (h : cmdCommitT c strat targets w = .ok (w', calls)) :
    ∃ segs, calls = [.createExcl .lock] ++ flatSegs segs ++ [.unlink .lock] ∧
      CmdInv c emp (trackedOf [] w.ws) (replay emp (fsOfWorld c w) [.createExcl .lock]) (w', segs) :=
  cmdCommitT_run_from g hemp (trackedOf_ws [] w.ws) (fsOfWorld_safe c w hu hc) (Rel.init c w hu) h

/-- **Command-level crash safety from ANY safe state.**  `fs0` is any file system that is `Safe` for the
recorded list `tracked` (workspace paths) and in which the regular files of the logical workspace are in
place and the cache temp names free (`Rel`) — stale temp files elsewhere and objects the logical cache does not
hold (complete, under the digest of their bytes: `NoTorn`) are allowed; so is an existing lock file, a state
in which `lockProject` (`cmd/root.go`) refuses to start: the model's `createExcl` leaves it in place.  After
every prefix of the calls the state is `Safe` for `tracked`. -/
theorem cmdCommitT_crash_safe_from {c : CmdCfg κ} {strat : Strat} (g : Good c.cfg.ctx) {emp : κ}
    (hemp : ∀ x, c.isEmp x = true → x = emp) {targets : List Bytes} {w w' : World κ}
    {calls : List (Call κ)} {tracked : List (P × κ)} (htw : TrackedWs tracked) {fs0 : FS κ}
    (hs0 : Safe c.cfg.ctx tracked fs0) (hr0 : Rel w.ws fs0)
    (h : cmdCommitT c strat targets w = .ok (w', calls)) :
    ∀ k, Safe c.cfg.ctx tracked (replay emp fs0 (calls.take k)) := by
  obtain ⟨segs, rfl, hi⟩ := cmdCommitT_run_from g hemp htw hs0 hr0 h
  exact (hi.allowed_cmd htw).prefixSafe g hs0

/-- **The artifacts of ONE stage** (plain inputs with `skip`, then all outputs — overlapping or not), from
any safe state related to the logical workspace: every prefix is safe, and afterwards the state is related
to the new logical workspace, so the next stage can go on. -/
theorem commitActT_crash_safe {c : CmdCfg κ} {strat : Strat} (g : Good c.cfg.ctx) {emp : κ}
    (hemp : ∀ x, c.isEmp x = true → x = emp) {tracked : List (P × κ)} (htw : TrackedWs tracked)
    {sp : Bytes} {w w' : World κ} {segs : List (List (Call κ))}
    (h : commitActT c strat sp w = .ok (w', segs))
    {fs : FS κ} (hs : Safe c.cfg.ctx tracked fs) (hr : Rel w.ws fs) :
    (∀ k, Safe c.cfg.ctx tracked (replay emp fs (segs.flatten.take k))) ∧
      Rel w'.ws (replay emp fs segs.flatten) := by
  have hi := commitActT_segs (Q := fun w sg => CmdInv c emp tracked fs (w, sg))
    (CmdInv.art g htw hemp hs) CmdInv.stage (CmdInv.init hr) h
  simp only [List.nil_append] at hi
  exact ⟨flatSegs_arts segs ▸ hi.allowed.prefixSafe g hs, flatSegs_arts segs ▸ hi.rel⟩

/-- **Command-level crash safety of `dud commit`.**  For every world with duplicate-free entry names and
a consistent cache, if the traced command succeeds with the call list `calls`, then after EVERY prefix
of `calls` (kill after the k-th call) the file system — starting from the abstraction `fsOfWorld` of the
world — is `Safe` for ALL regular files the workspace held before the command: each recorded byte
sequence is retrievable at its path, through a link at its path, or as the cache object named by its
digest, and nothing incomplete or foreign sits under a digest name. -/
theorem cmdCommitT_crash_safe {c : CmdCfg κ} {strat : Strat} (g : Good c.cfg.ctx) {emp : κ}
    (hemp : ∀ x, c.isEmp x = true → x = emp) {targets : List Bytes} {w w' : World κ}
    {calls : List (Call κ)} (hu : uniqNode w.ws) (hc : Consistent c.cfg.ctx w.store)
    (h : cmdCommitT c strat targets w = .ok (w', calls)) :
    ∀ k, Safe c.cfg.ctx (trackedOf [] w.ws) (replay emp (fsOfWorld c w) (calls.take k)) :=
  cmdCommitT_crash_safe_from g hemp (trackedOf_ws [] w.ws) (fsOfWorld_safe c w hu hc) (Rel.init c w hu) h

theorem Safe.mono {ctx : Ctx κ} {t t' : List (P × κ)} {fs : FS κ} (h : Safe ctx t fs)
    (hsub : ∀ p ∈ t', p ∈ t) : Safe ctx t' fs :=
  ⟨fun p hp => h.1 p (hsub p hp), h.2⟩

theorem trackedOpt_sub_tracked {ws : Node κ} (hu : uniqNode ws) (pre : List Name) :
    ∀ p ∈ trackedOpt pre (getPath ws pre), p ∈ trackedOf [] ws := by
  intro p hp
  obtain ⟨q, hq, hg⟩ := getPath_of_trackedOpt hu pre p hp
  have := tracked_of_getPath q ws [] p.2 hg
  rwa [List.nil_append, ← hq] at this

/-- the recorded files in the terms of the property: (path, bytes) of the regular files below the given
artifact paths (e.g. the outputs of the stages in scope) -/
def trackedBelow (ws : Node κ) (arts : List Art) : List (P × κ) :=
  arts.flatMap (fun a => trackedOpt (Path.comps a.path) (getPath ws (Path.comps a.path)))

theorem trackedBelow_sub {ws : Node κ} (hu : uniqNode ws) (arts : List Art) :
    ∀ p ∈ trackedBelow ws arts, p ∈ trackedOf [] ws := by
  intro p hp
  simp only [trackedBelow, List.mem_flatMap] at hp
  obtain ⟨a, -, hpa⟩ := hp
  exact trackedOpt_sub_tracked hu _ p hpa

/-- **… in the terms of the property**: `tracked` = the regular files below any list of artifacts, e.g. the
outputs of the stages in scope. -/
theorem cmdCommitT_crash_safe_below {c : CmdCfg κ} {strat : Strat} (g : Good c.cfg.ctx) {emp : κ}
    (hemp : ∀ x, c.isEmp x = true → x = emp) {targets : List Bytes} {w w' : World κ}
    {calls : List (Call κ)} (hu : uniqNode w.ws) (hc : Consistent c.cfg.ctx w.store)
    (h : cmdCommitT c strat targets w = .ok (w', calls)) (arts : List Art) :
    ∀ k, Safe c.cfg.ctx (trackedBelow w.ws arts) (replay emp (fsOfWorld c w) (calls.take k)) :=
  fun k => (cmdCommitT_crash_safe g hemp hu hc h k).mono (trackedBelow_sub hu arts)

/-- **Stage files are never torn.**  After every prefix of the calls of a successful `dud commit`, every
stage file holds either exactly what it held before the command (for a stage `sp` of the index: the
encoding of the stage the index held, `fsOfWorld_get_stageFile`; nothing for a path outside the index) or
the complete encoding of the stage the FINAL index holds. -/
theorem cmdCommitT_stage_files_atomic {c : CmdCfg κ} {strat : Strat} (g : Good c.cfg.ctx) {emp : κ}
    (hemp : ∀ x, c.isEmp x = true → x = emp) {targets : List Bytes} {w w' : World κ}
    {calls : List (Call κ)} (hu : uniqNode w.ws) (hc : Consistent c.cfg.ctx w.store)
    (h : cmdCommitT c strat targets w = .ok (w', calls)) (sp : Bytes) :
    ∀ k, (replay emp (fsOfWorld c w) (calls.take k)).get (.stageFile sp)
          = (fsOfWorld c w).get (.stageFile sp) ∨
      ∃ stg m, alookup w'.idx sp = some stg ∧
        (replay emp (fsOfWorld c w) (calls.take k)).get (.stageFile sp)
          = some (.file (c.encStage stg) m) := by
  obtain ⟨arts, rfl, hF⟩ := cmdCommitT_segOK h
  exact (stageSegs_cmd stage_write_fact hemp hF (fsOfWorld_get_stageTmp c w)).2 sp

/-- **The lock file exists exactly strictly between the first and the last call**: absent before the
command and after its last call, present (a regular file created exclusively) after every other
prefix. -/
theorem cmdCommitT_lock_window {c : CmdCfg κ} {strat : Strat} (g : Good c.cfg.ctx) {emp : κ}
    (hemp : ∀ x, c.isEmp x = true → x = emp) {targets : List Bytes} {w w' : World κ}
    {calls : List (Call κ)} (hu : uniqNode w.ws) (hc : Consistent c.cfg.ctx w.store)
    (h : cmdCommitT c strat targets w = .ok (w', calls)) :
    2 ≤ calls.length ∧ calls.head? = some (.createExcl .lock) ∧ calls.getLast? = some (.unlink .lock) ∧
    ∀ k, (replay emp (fsOfWorld c w) (calls.take k)).get .lock =
      if 0 < k ∧ k < calls.length then some (.file emp 0o600) else none := by
  obtain ⟨segs, rfl, hi⟩ := cmdCommitT_run g hemp hu hc h
  exact lock_window_cmd emp rfl (fsOfWorld_get_lock c w) hi.noLock

/-- **After the last call**: every regular file of the final logical workspace is in place (with its
bytes), the cache temp names and the stage temp names are free, the lock is gone — the file system is
again related to the (new) world as `fsOfWorld` relates them, as far as the next command is concerned. -/
theorem cmdCommitT_final {c : CmdCfg κ} {strat : Strat} (g : Good c.cfg.ctx) {emp : κ}
    (hemp : ∀ x, c.isEmp x = true → x = emp) {targets : List Bytes} {w w' : World κ}
    {calls : List (Call κ)} (hu : uniqNode w.ws) (hc : Consistent c.cfg.ctx w.store)
    (h : cmdCommitT c strat targets w = .ok (w', calls)) :
    Rel w'.ws (replay emp (fsOfWorld c w) calls) ∧
      StageTmpFree (replay emp (fsOfWorld c w) calls) ∧
      (replay emp (fsOfWorld c w) calls).get .lock = none := by
  obtain ⟨segs, rfl, hi⟩ := cmdCommitT_run g hemp hu hc h
  exact hi.final stage_write_fact hemp (fsOfWorld_get_stageTmp c w)

/-- **After the last call the stage file of every committed stage holds the complete encoding of the
stage in the final index** (`cmdCommitT_stage_files_atomic` says that before that it held the old or this
new version, never anything else). -/
theorem cmdCommitT_stage_files_final {c : CmdCfg κ} {strat : Strat} (g : Good c.cfg.ctx) {emp : κ}
    (hemp : ∀ x, c.isEmp x = true → x = emp) {targets : List Bytes} {w w' : World κ}
    {calls : List (Call κ)} (hu : uniqNode w.ws) (hc : Consistent c.cfg.ctx w.store)
    (h : cmdCommitT c strat targets w = .ok (w', calls)) {sp : Bytes} {stg : Stage}
    (hd : sp ∈ w'.done) (hst : alookup w'.idx sp = some stg) :
    ∃ m, (replay emp (fsOfWorld c w) calls).get (.stageFile sp) = some (.file (c.encStage stg) m) := by
  obtain ⟨arts, rfl, hF⟩ := cmdCommitT_segOK h
  obtain ⟨l1, l2, hl⟩ := List.append_of_mem (List.mem_reverse.2 hd)
  obtain ⟨stg', m, hg, hm⟩ := stageSegs_written stage_write_fact hemp
    (L1 := [Call.createExcl P.lock] :: (arts ++ l1.map (stageWriteCalls c w'.idx)))
    (L2 := l2.map (stageWriteCalls c w'.idx) ++ [[Call.unlink P.lock]])
    (by simp [hl, Function.comp_def]) (segOK_cmd hF) hst hst (fsOfWorld_get_stageTmp c w)
  rw [flatten_cmd] at hm
  rw [hst] at hg
  cases hg
  exact ⟨m, hm⟩

namespace ExampleCmd
open Dud Dud.Sys Dud.Example

def cfg : Cfg K :=
  { ctx := ctx, ofBytes := fun _ => .raw "", toBytes := fun _ => [], walkAccumulates := true, fuel := 8 }

/-- stand-in for the YAML encoder: the recorded output checksums -/
def encStage (stg : Stage) : K := .raw (String.join (stg.outputs.map (·.sum)))

def cc (canRename : Bool) : CmdCfg K :=
  { cfg := cfg, isEmp := Example.isEmp, canRename := canRename, encStage := encStage }

/-- output of stage A: a directory `a/` with a regular and an empty file -/
def treeA : Node K := .dir [([120], .file (.raw "x")), ([121], .file (.raw ""))]
def stageA : Stage := { cmd := [1], outputs := [{ path := [97], isDir := true }] }
/-- stage B reads `a/` (owned by stage A) and the plain file `c`, writes the file `b` -/
def stageB : Stage :=
  { cmd := [2], inputs := [{ path := [97], isDir := true }, { path := [99] }], outputs := [{ path := [98] }] }
def w0 : World K :=
  { ws := .dir [([97], treeA), ([98], .file (.raw "o")), ([99], .file (.raw "i"))],
    idx := [([1], stageA), ([2], stageB)] }

theorem w0_uniq : uniqNode w0.ws := by
  simp [w0, treeA, uniqNode, uniqList]

theorem w0_consistent (cr : Bool) : Consistent (cc cr).cfg.ctx w0.store := Consistent.nil _

/-- the calls of the whole command (empty on failure) -/
def callsOf (strat : Strat) (cr : Bool) (ts : List Bytes) : List (Call K) :=
  match cmdCommitT (cc cr) strat ts w0 with
  | .ok (_, calls) => calls
  | .error _ => []

theorem callsOf_ok {strat : Strat} {cr : Bool} {ts : List Bytes} (h : callsOf strat cr ts ≠ []) :
    ∃ w', cmdCommitT (cc cr) strat ts w0 = .ok (w', callsOf strat cr ts) := by
  unfold callsOf at h ⊢
  cases hT : cmdCommitT (cc cr) strat ts w0 with
  | error e => rw [hT] at h; exact absurd rfl h
  | ok v => exact ⟨v.1, rfl⟩

theorem callsOf_link_length : (callsOf .link true []).length = 46 := by decide +kernel

/-- the traced command succeeds on the two-stage world and issues well over 10 calls: all stages, link
strategy, rename-able cache; the same on another device; copy strategy with the downstream stage as
target (kernel evaluation) -/
example : (callsOf .link true []).length = 46 := callsOf_link_length
example : (callsOf .link false []).length = 56 := by decide +kernel
example : (callsOf .copy false [[2]]).length = 50 := by decide +kernel

theorem callsOf_ne_nil : callsOf .link true [] ≠ [] :=
  fun h => absurd (h ▸ callsOf_link_length) (by decide)

/-- **All hypotheses of the command-level theorems are satisfiable together** on a two-stage world
(stage B consumes the output directory of stage A and a plain input), the traced command succeeds with
46 calls, and the four conclusions hold for it. -/
example :
    ∃ w' calls, cmdCommitT (cc true) .link [] w0 = .ok (w', calls) ∧ calls.length = 46 ∧
      cmdCommit cfg .link [] w0 = .ok w' ∧
      (∀ k, Safe ctx (trackedOf [] w0.ws) (replay Example.emp (fsOfWorld (cc true) w0) (calls.take k))) ∧
      (∀ sp k, (replay Example.emp (fsOfWorld (cc true) w0) (calls.take k)).get (.stageFile sp)
            = (fsOfWorld (cc true) w0).get (.stageFile sp) ∨
          ∃ stg m, alookup w'.idx sp = some stg ∧
            (replay Example.emp (fsOfWorld (cc true) w0) (calls.take k)).get (.stageFile sp)
              = some (.file (encStage stg) m)) ∧
      (∀ k, (replay Example.emp (fsOfWorld (cc true) w0) (calls.take k)).get .lock =
        if 0 < k ∧ k < calls.length then some (.file Example.emp 0o600) else none) := by
  obtain ⟨w', h⟩ := callsOf_ok callsOf_ne_nil
  -- stated without expected type: against `cmdCommit cfg …` the unifier cannot find `c` from `c.cfg` and
  -- unfolds the run
  have h1 := cmdCommitT_ok h
  exact ⟨w', _, h, callsOf_link_length, h1,
    cmdCommitT_crash_safe (c := cc true) good Example.hemp w0_uniq (w0_consistent true) h,
    cmdCommitT_stage_files_atomic (c := cc true) good Example.hemp w0_uniq (w0_consistent true) h,
    (cmdCommitT_lock_window (c := cc true) good Example.hemp w0_uniq (w0_consistent true) h).2.2.2⟩

/-! executable evidence on a deeper world: Boolean checkers run on every prefix -/

def treeA' : Node K :=
  .dir [([120], .file (.raw "x")), ([121], .dir [([122], .file (.raw "z")), ([119], .file (.raw ""))])]
def w0' : World K := { w0 with ws := .dir [([97], treeA'), ([98], .file (.raw "out")), ([99], .file (.raw "in"))] }

def stageOk (fs0 fs : FS K) (idx' : Index) (sp : Bytes) : Bool :=
  match fs.get (.stageFile sp), fs0.get (.stageFile sp) with
  | some (.file a _), some (.file b _) => a == b || (match alookup idx' sp with
      | some stg => a == encStage stg
      | none => false)
  | _, _ => false

def lockOk (fs : FS K) (k n : Nat) : Bool :=
  match fs.get .lock with
  | some (.file _ _) => decide (0 < k ∧ k < n)
  | none => !decide (0 < k ∧ k < n)
  | _ => false

/-- number of calls; whether every crash prefix is `Safe`, shows both stage files old-or-new and the lock
exactly inside the window; the calls -/
def report (strat : Strat) (cr : Bool) (ts : List Bytes) : String :=
  match cmdCommitT (cc cr) strat ts w0' with
  | .error e => s!"error {e}"
  | .ok (w', calls) =>
    let fs0 := fsOfWorld (cc cr) w0'
    let tracked := trackedOf [] w0'.ws
    let ok := (List.range (calls.length + 1)).all fun k =>
      let fs := replay Example.emp fs0 (calls.take k)
      Example.safeB tracked fs && stageOk fs0 fs w'.idx [1] && stageOk fs0 fs w'.idx [2] &&
        lockOk fs k calls.length
    s!"{calls.length} calls, every prefix ok: {ok}; " ++ "; ".intercalate (calls.map Example.showCall)

#eval report .link true []
#eval report .link false []
#eval report .copy false [[2]]

end ExampleCmd

#print axioms cmdCommitSegs_refines
#print axioms cmdCommitT_refines
#print axioms cmdCommitT_ok
#print axioms cmdCommitT_of_ok
#print axioms stage_write_fact
#print axioms cmdCommitT_run_from
#print axioms cmdCommitT_run
#print axioms cmdCommitT_crash_safe_from
#print axioms commitActT_crash_safe
#print axioms cmdCommitT_crash_safe
#print axioms cmdCommitT_crash_safe_below
#print axioms cmdCommitT_stage_files_atomic
#print axioms cmdCommitT_lock_window
#print axioms cmdCommitT_final
#print axioms cmdCommitT_stage_files_final
#print axioms ExampleCmd.callsOf_ne_nil

end Dud.Sys
