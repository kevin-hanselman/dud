import DudModel.Props.C15
/-!
# C15, full sequence theorem — commits, checkouts and workspace deletion

`Props/C15.lean` ends with `commit_checkout_sequence_partial`, where the workspace entry is always
present.  Here the state is `Option (Node κ) × Child × Store κ` and there is a third command, `wipe`
(the user removes the artifact, `rm -r data`, or works in a fresh clone).  A commit of an absent
entry fails (dud: "file does not exist"); `runCmds3` logs that and goes on.

The run simulates an abstract machine on `Option Strat` (absent / all links / all copies,
`Cmd3.absStep`); `LogOK` states the simulation record by record.
`commit_checkout_wipe_sequence`: after a first commit no list of commands aborts and `LogOK` holds,
hence the invariant `SeqInv3` at every point; `wipe_then_checkout_restores`: `wipe; checkout`
always puts the tree back.
-/
namespace Dud

variable {κ : Type}

/-- the commands on the workspace entry and the recorded child artifact; `wipe`: the workspace
entry is removed -/
inductive Cmd3 where
  | commit (strat : Strat)
  | checkout (strat : Strat)
  | wipe
deriving DecidableEq, Repr

def Cmd3.isCommit : Cmd3 → Bool
  | .commit _ => true
  | _ => false

def Cmd3.isCheckout : Cmd3 → Bool
  | .checkout _ => true
  | _ => false

/-- (workspace entry or absent, recorded child, cache) -/
abbrev St3 (κ : Type) := Option (Node κ) × Child × Store κ

/-- one command.  Commit of an absent entry is an error (dud: "file does not exist"). -/
def runCmd3 (ctx : Ctx κ) (fuel : Nat) : Cmd3 → St3 κ → Except Err (St3 κ)
  | .wipe, (_, c, s) => .ok (none, c, s)
  | .checkout strat, (cur, c, s) =>
    match checkoutNode ctx strat s fuel cur c with
    | .error e => .error e
    | .ok r => .ok (some r, c, s)
  | .commit _, (none, _, _) => .error .missing
  | .commit strat, (some w, c, s) =>
    match commitNode ctx strat w c s with
    | .error e => .error e
    | .ok (w', c', s') => .ok (some w', c', s')

def Cmd3.fails (cmd : Cmd3) (present : Bool) : Bool := cmd.isCommit && !present

/-- A sequence of commands.  A commit of an absent entry fails (`runCmd3_absent`): it is logged
as `false`, the state stays, the run goes on.  Any other error aborts.  Result: the final state
and the log (succeeded?, state after the command), one record per command. -/
def runCmds3 (ctx : Ctx κ) (fuel : Nat) : List Cmd3 → St3 κ →
    Except Err (St3 κ × List (Bool × St3 κ))
  | [], st => .ok (st, [])
  | cmd :: r, st =>
    if cmd.fails st.1.isSome then
      match runCmds3 ctx fuel r st with
      | .error e => .error e
      | .ok (fin, log) => .ok (fin, (false, st) :: log)
    else
      match runCmd3 ctx fuel cmd st with
      | .error e => .error e
      | .ok st' =>
        match runCmds3 ctx fuel r st' with
        | .error e => .error e
        | .ok (fin, log) => .ok (fin, (true, st') :: log)

/-- the commands `runCmds3` logs as failed and skips are exactly those on which `runCmd3` gives the
error `.missing` because the entry is absent -/
theorem runCmd3_absent (ctx : Ctx κ) (fuel : Nat) (cmd : Cmd3) (st : St3 κ)
    (h : cmd.fails st.1.isSome = true) : runCmd3 ctx fuel cmd st = .error .missing := by
  obtain ⟨o, c, s⟩ := st
  cases cmd <;> cases o <;> simp [Cmd3.fails, Cmd3.isCommit] at h
  rfl

theorem Cmd3.fails_iff (cmd : Cmd3) (o : Option (Node κ)) :
    cmd.fails o.isSome = true ↔ cmd.isCommit = true ∧ o = none := by
  cases cmd <;> cases o <;> simp [Cmd3.fails, Cmd3.isCommit]

/-- the state the last record of the log holds (the start state for an empty log) -/
def lastSt : St3 κ → List (Bool × St3 κ) → St3 κ
  | st, [] => st
  | _, (_, st') :: log => lastSt st' log

/-- abstract state: the entry is absent, all links, or all copies.  A checkout into an absent
entry produces its strategy's form; over an existing one copies stay copies; a commit keeps links
and turns copies into its strategy's form; a commit of an absent entry (fails and) changes
nothing. -/
def Cmd3.absStep : Cmd3 → Option Strat → Option Strat
  | .wipe, _ => none
  | .checkout strat, none => some strat
  | .checkout strat, some σ => some (coStrat σ strat)
  | .commit _, none => none
  | .commit _, some .link => some .link
  | .commit strat, some .copy => some strat

def absRun (cmds : List Cmd3) (a : Option Strat) : Option Strat :=
  cmds.foldl (fun a cmd => cmd.absStep a) a

/-- (succeeded?, abstract state after) per command -/
def absLog : List Cmd3 → Option Strat → List (Bool × Option Strat)
  | [], _ => []
  | cmd :: r, a => (!cmd.fails a.isSome, cmd.absStep a) :: absLog r (cmd.absStep a)

/-- is the entry present after the command: after a wipe no, after a checkout yes, a commit does
not change it -/
def Cmd3.presence : Cmd3 → Bool → Bool
  | .wipe, _ => false
  | .checkout _, _ => true
  | .commit _, b => b

theorem Cmd3.absStep_isSome (cmd : Cmd3) (a : Option Strat) :
    (cmd.absStep a).isSome = cmd.presence a.isSome := by
  cases cmd <;> cases a <;> try rfl
  rename_i strat σ; cases σ <;> rfl

/-- the workspace entry is the form `a` says (absent / all links / all copies), the child is the
one first recorded, the store is consistent and holds the tree -/
def SeqInvA (ctx : Ctx κ) (t : Node κ) (nm : Bytes) (a : Option Strat) (st : St3 κ) : Prop :=
  st.1 = a.map (fun σ => wsAfter ctx σ t) ∧ st.2.1 = ⟨nm, treeDigest ctx nm t, t.isDir⟩ ∧
    Consistent ctx st.2.2 ∧ HoldsNode ctx st.2.2 newChoice nm t

/-- the workspace entry is absent or all links or all copies, the child is the one first
recorded, the store is consistent and holds the tree -/
def SeqInv3 (ctx : Ctx κ) (t : Node κ) (nm : Bytes) (st : St3 κ) : Prop :=
  (st.1 = none ∨ ∃ σ, st.1 = some (wsAfter ctx σ t)) ∧
    st.2.1 = ⟨nm, treeDigest ctx nm t, t.isDir⟩ ∧
    Consistent ctx st.2.2 ∧ HoldsNode ctx st.2.2 newChoice nm t

theorem SeqInvA.inv3 {ctx : Ctx κ} {t : Node κ} {nm : Bytes} {a : Option Strat} {st : St3 κ}
    (h : SeqInvA ctx t nm a st) : SeqInv3 ctx t nm st := by
  obtain ⟨hw, hrest⟩ := h
  refine ⟨?_, hrest⟩
  cases a with
  | none => exact .inl hw
  | some σ => exact .inr ⟨σ, hw⟩

theorem SeqInv3.invA {ctx : Ctx κ} {t : Node κ} {nm : Bytes} {st : St3 κ}
    (h : SeqInv3 ctx t nm st) : ∃ a, SeqInvA ctx t nm a st := by
  obtain ⟨hw | ⟨σ, hw⟩, hrest⟩ := h
  · exact ⟨none, hw, hrest⟩
  · exact ⟨some σ, hw, hrest⟩

theorem SeqInvA.isSome {ctx : Ctx κ} {t : Node κ} {nm : Bytes} {a : Option Strat} {st : St3 κ}
    (h : SeqInvA ctx t nm a st) : st.1.isSome = a.isSome := by
  rw [h.1]; cases a <;> rfl

theorem SeqInv3.deref {ctx : Ctx κ} {t : Node κ} {nm : Bytes} {st : St3 κ}
    (hp : t.plain = true) (h : SeqInv3 ctx t nm st) {w : Node κ} (hw : st.1 = some w) :
    deref ctx st.2.2 w = t := by
  obtain ⟨hw' | ⟨σ, hw'⟩, _, _, hh⟩ := h
  · rw [hw] at hw'; cases hw'
  · rw [hw] at hw'; cases hw'
    exact deref_wsAfter hp hh σ

theorem Cmd3.absStep_fails (cmd : Cmd3) (a : Option Strat) (h : cmd.fails a.isSome = true) :
    cmd.absStep a = a := by
  cases cmd <;> cases a <;> simp [Cmd3.fails, Cmd3.isCommit] at h
  rfl

/-- **One command under the invariant.**  Unless it is a commit of an absent entry the command
succeeds and the new state has the invariant for the abstract successor. -/
theorem runCmd3_inv (ctx : Ctx κ) (g : Good ctx) (t : Node κ) (nm : Bytes)
    (hp : t.plain = true) (hs : t.sorted = true) (hn : NamesOK ctx t) (fuel : Nat)
    (hf : depth t ≤ fuel) (cmd : Cmd3) (a : Option Strat) (st : St3 κ)
    (hinv : SeqInvA ctx t nm a st) (hok : cmd.fails st.1.isSome = false) :
    ∃ st', runCmd3 ctx fuel cmd st = .ok st' ∧ SeqInvA ctx t nm (cmd.absStep a) st' := by
  obtain ⟨o, c, s⟩ := st
  obtain ⟨hw, hc, hcons, hh⟩ := hinv
  simp only at hw hc hcons hh hok
  subst hw hc
  cases cmd with
  | wipe => exact ⟨(none, _, s), rfl, rfl, rfl, hcons, hh⟩
  | checkout strat =>
    have h := checkoutNode_ws g s a strat t (ch := newChoice) (nm := nm) ⟨hp, hs, hn, hh, hf⟩
    rw [digestAs_new] at h
    refine ⟨(some (wsAfter ctx (coForm a strat) t), ⟨nm, treeDigest ctx nm t, t.isDir⟩, s),
      by simp [runCmd3, h], ?_, rfl, hcons, hh⟩
    cases a <;> rfl
  | commit strat =>
    cases a with
    | none => simp [Cmd3.fails, Cmd3.isCommit] at hok
    | some σ =>
      obtain ⟨s', h, hc', _, _, hh', _⟩ :=
        commit_idem_holding ctx g t nm hp hs hn s hcons hh σ strat
      refine ⟨(some (wsAfter2 ctx σ strat t), ⟨nm, treeDigest ctx nm t, t.isDir⟩, s'),
        by simp [runCmd3, h], ?_, rfl, hc', hh'⟩
      cases σ <;> rfl

/-- **The log of a run, record by record.**  For the command `cmd` run in state `st` (abstractly
`a`) the record `(ok, st')` says: `ok` is false iff `cmd` is a commit and the entry is absent in
`st`; a failed command leaves the state alone; `st'` has the invariant for the abstract successor
`cmd.absStep a`; and the rest of the log is the log of the rest of the run from `st'`. -/
def LogOK (ctx : Ctx κ) (t : Node κ) (nm : Bytes) :
    Option Strat → St3 κ → List Cmd3 → List (Bool × St3 κ) → Prop
  | _, _, [], [] => True
  | a, st, cmd :: r, (ok, st') :: log =>
    (ok = false ↔ (cmd.isCommit = true ∧ st.1 = none)) ∧ (ok = false → st' = st) ∧
      SeqInvA ctx t nm (cmd.absStep a) st' ∧ LogOK ctx t nm (cmd.absStep a) st' r log
  | _, _, _, _ => False

theorem runCmds3_inv (ctx : Ctx κ) (g : Good ctx) (t : Node κ) (nm : Bytes)
    (hp : t.plain = true) (hs : t.sorted = true) (hn : NamesOK ctx t) (fuel : Nat)
    (hf : depth t ≤ fuel) : ∀ (cmds : List Cmd3) (a : Option Strat) (st : St3 κ),
    SeqInvA ctx t nm a st → ∃ log, runCmds3 ctx fuel cmds st = .ok (lastSt st log, log) ∧
      SeqInvA ctx t nm (absRun cmds a) (lastSt st log) ∧ LogOK ctx t nm a st cmds log := by
  intro cmds
  induction cmds with
  | nil => exact fun a st hinv => ⟨[], rfl, hinv, trivial⟩
  | cons cmd r ih =>
    intro a st hinv
    cases hfail : cmd.fails st.1.isSome with
    | true =>
      have ha : cmd.absStep a = a := cmd.absStep_fails a (by rw [← hinv.isSome]; exact hfail)
      obtain ⟨log, hrun, hfin, hlog⟩ := ih a st hinv
      refine ⟨(false, st) :: log, by simp [runCmds3, hfail, hrun, lastSt], ?_, ?_⟩
      · simpa [absRun, ha, lastSt] using hfin
      · refine ⟨⟨fun _ => (Cmd3.fails_iff cmd st.1).1 hfail, fun _ => rfl⟩, fun _ => rfl, ?_, ?_⟩
        · rw [ha]; exact hinv
        · rw [ha]; exact hlog
    | false =>
      obtain ⟨st', h1, hinv'⟩ := runCmd3_inv ctx g t nm hp hs hn fuel hf cmd a st hinv hfail
      obtain ⟨log, hrun, hfin, hlog⟩ := ih (cmd.absStep a) st' hinv'
      refine ⟨(true, st') :: log, by simp [runCmds3, hfail, h1, hrun, lastSt], ?_, ?_⟩
      · simpa [absRun, lastSt] using hfin
      · refine ⟨⟨fun h => (by cases h), fun h => ?_⟩, fun h => (by cases h), hinv', hlog⟩
        rw [(Cmd3.fails_iff cmd st.1).2 h] at hfail
        cases hfail

theorem LogOK.length {ctx : Ctx κ} {t : Node κ} {nm : Bytes} : ∀ {a : Option Strat} {st : St3 κ}
    {cmds : List Cmd3} {log : List (Bool × St3 κ)}, LogOK ctx t nm a st cmds log →
    log.length = cmds.length
  | _, _, [], [], _ => rfl
  | _, _, _ :: _, (_, _) :: _, h => by simp [LogOK.length h.2.2.2]
  | _, _, [], _ :: _, h => by simp [LogOK] at h
  | _, _, _ :: _, [], h => by simp [LogOK] at h

/-- **the invariant holds at every point of the run** -/
theorem LogOK.inv {ctx : Ctx κ} {t : Node κ} {nm : Bytes} : ∀ {a : Option Strat} {st : St3 κ}
    {cmds : List Cmd3} {log : List (Bool × St3 κ)}, LogOK ctx t nm a st cmds log →
    ∀ e ∈ log, SeqInv3 ctx t nm e.2 := by
  intro a st cmds
  induction cmds generalizing a st with
  | nil => intro log h; cases log with
    | nil => simp
    | cons _ _ => simp [LogOK] at h
  | cons _ _ ih => intro log h; cases log with
    | nil => simp [LogOK] at h
    | cons _ _ =>
      intro e he
      rcases List.mem_cons.1 he with rfl | he
      · exact h.2.2.1.inv3
      · exact ih h.2.2.2 e he

/-- the run simulates the abstract machine: flags and workspace forms of the log are those of
`absLog` -/
theorem LogOK.abs {ctx : Ctx κ} {t : Node κ} {nm : Bytes} : ∀ {a : Option Strat} {st : St3 κ}
    {cmds : List Cmd3} {log : List (Bool × St3 κ)}, SeqInvA ctx t nm a st →
    LogOK ctx t nm a st cmds log →
    log.map (fun e => (e.1, e.2.1)) =
      (absLog cmds a).map (fun e => (e.1, e.2.map (fun σ => wsAfter ctx σ t))) := by
  intro a st cmds
  induction cmds generalizing a st with
  | nil => intro log _ h; cases log with
    | nil => rfl
    | cons _ _ => simp [LogOK] at h
  | cons cmd r ih => intro log hinv h; cases log with
    | nil => simp [LogOK] at h
    | cons e log =>
      obtain ⟨ok, st'⟩ := e
      obtain ⟨hok, _, hinv', hlog⟩ := h
      simp only [List.map, absLog, List.cons.injEq, Prod.mk.injEq]
      refine ⟨⟨?_, hinv'.1⟩, ih hinv' hlog⟩
      rw [← hinv.isSome]
      cases ok with
      | false =>
        have := (Cmd3.fails_iff cmd st.1).2 (hok.1 rfl)
        simp [this]
      | true =>
        cases hf : cmd.fails st.1.isSome with
        | false => rfl
        | true => exact absurd (hok.2 ((Cmd3.fails_iff cmd st.1).1 hf)) (by simp)

/-- after a checkout the entry is present, after a wipe absent, a commit does not change that -/
theorem LogOK.present {ctx : Ctx κ} {t : Node κ} {nm : Bytes} {a : Option Strat} {st : St3 κ}
    {cmd : Cmd3} {r : List Cmd3} {ok : Bool} {st' : St3 κ} {log : List (Bool × St3 κ)}
    (hinv : SeqInvA ctx t nm a st) (h : LogOK ctx t nm a st (cmd :: r) ((ok, st') :: log)) :
    st'.1.isSome = cmd.presence st.1.isSome := by
  rw [h.2.2.1.isSome, cmd.absStep_isSome, hinv.isSome]

/-- **Any sequence of commits, checkouts (either strategy each) and deletions of the workspace
entry after a first commit** of a plain sorted tree.  The run never aborts.  At every point
(`LogOK`, `LogOK.inv`) and at the end the invariant `SeqInv3` holds: the entry is absent or
`wsAfter ctx σ t` for some `σ` (so its logical content is `t`), the recorded child is
`⟨nm, treeDigest ctx nm t, t.isDir⟩`, the store is consistent and holds the tree.  A command fails
iff it is a commit and the entry is absent at that moment, and then nothing changes; after any
checkout the entry is present. -/
theorem commit_checkout_wipe_sequence (ctx : Ctx κ) (g : Good ctx) (t : Node κ) (nm : Bytes)
    (hp : t.plain = true) (hs : t.sorted = true) (hn : NamesOK ctx t)
    (s : Store κ) (hc : Consistent ctx s) (strat : Strat) (fuel : Nat) (hf : depth t ≤ fuel) :
    ∃ t' c' s', commitNode ctx strat t ⟨nm, "", t.isDir⟩ s = .ok (t', c', s') ∧
      t' = wsAfter ctx strat t ∧ c' = ⟨nm, treeDigest ctx nm t, t.isDir⟩ ∧
      ∀ cmds : List Cmd3, ∃ fin log, runCmds3 ctx fuel cmds (some t', c', s') = .ok (fin, log) ∧
        -- at the end
        SeqInv3 ctx t nm fin ∧ SeqInvA ctx t nm (absRun cmds (some strat)) fin ∧
        (∀ w, fin.1 = some w → deref ctx fin.2.2 w = t) ∧
        -- at every point
        fin = lastSt (some t', c', s') log ∧ log.length = cmds.length ∧
        LogOK ctx t nm (some strat) (some t', c', s') cmds log ∧
        (∀ e ∈ log, SeqInv3 ctx t nm e.2 ∧ ∀ w, e.2.1 = some w → deref ctx e.2.2.2 w = t) ∧
        log.map (fun e => (e.1, e.2.1)) =
          (absLog cmds (some strat)).map (fun e => (e.1, e.2.map (fun σ => wsAfter ctx σ t))) := by
  obtain ⟨s', h, hc', _, hh⟩ := commitNode_fresh g t hp hn nm s strat hc
  refine ⟨_, _, s', h, rfl, rfl, ?_⟩
  intro cmds
  have hinv : SeqInvA ctx t nm (some strat)
      (some (wsAfter ctx strat t), ⟨nm, treeDigest ctx nm t, t.isDir⟩, s') := ⟨rfl, rfl, hc', hh⟩
  obtain ⟨log, hrun, hfin, hlog⟩ := runCmds3_inv ctx g t nm hp hs hn fuel hf cmds _ _ hinv
  exact ⟨_, log, hrun, hfin.inv3, hfin, fun w hw => hfin.inv3.deref hp hw, rfl, hlog.length, hlog,
    fun e he => ⟨hlog.inv e he, fun w hw => (hlog.inv e he).deref hp hw⟩, hlog.abs hinv⟩

/-- **`wipe; checkout` restores the tree**, from any state with the invariant (so from any point
of any run of `commit_checkout_wipe_sequence`): both commands succeed and the entry is the
`strat`-form of `t`, whose logical content is `t`. -/
theorem wipe_then_checkout_restores (ctx : Ctx κ) (g : Good ctx) (t : Node κ) (nm : Bytes)
    (hp : t.plain = true) (hs : t.sorted = true) (hn : NamesOK ctx t) (fuel : Nat)
    (hf : depth t ≤ fuel) (st : St3 κ) (hinv : SeqInv3 ctx t nm st) (strat : Strat) :
    runCmds3 ctx fuel [.wipe, .checkout strat] st =
        .ok ((some (wsAfter ctx strat t), st.2.1, st.2.2),
          [(true, (none, st.2.1, st.2.2)), (true, (some (wsAfter ctx strat t), st.2.1, st.2.2))]) ∧
      deref ctx st.2.2 (wsAfter ctx strat t) = t ∧
      SeqInv3 ctx t nm (some (wsAfter ctx strat t), st.2.1, st.2.2) := by
  obtain ⟨o, c, s⟩ := st
  obtain ⟨_, hc, hcons, hh⟩ := hinv
  simp only at hc hcons hh
  subst hc
  have h := checkoutNode_holds g s strat t newChoice nm fuel hp hs hn hh hf
  rw [digestAs_new] at h
  refine ⟨?_, deref_wsAfter hp hh strat, .inr ⟨strat, rfl⟩, rfl, hcons, hh⟩
  simp [runCmds3, runCmd3, Cmd3.fails, Cmd3.isCommit, h]

/-- the same from the first commit: whatever was run in between, `wipe; checkout strat2` ends with
the `strat2`-form of the tree in the workspace -/
theorem commit_wipe_checkout_restores (ctx : Ctx κ) (g : Good ctx) (t : Node κ) (nm : Bytes)
    (hp : t.plain = true) (hs : t.sorted = true) (hn : NamesOK ctx t)
    (s : Store κ) (hc : Consistent ctx s) (strat : Strat) (fuel : Nat) (hf : depth t ≤ fuel) :
    ∃ t' c' s', commitNode ctx strat t ⟨nm, "", t.isDir⟩ s = .ok (t', c', s') ∧
      ∀ (cmds : List Cmd3) (strat2 : Strat), ∃ s'' log,
        runCmds3 ctx fuel (cmds ++ [.wipe, .checkout strat2]) (some t', c', s') =
          .ok ((some (wsAfter ctx strat2 t), c', s''), log) ∧
        deref ctx s'' (wsAfter ctx strat2 t) = t ∧ Consistent ctx s'' := by
  obtain ⟨t', c', s', h, _, rfl, hall⟩ :=
    commit_checkout_wipe_sequence ctx g t nm hp hs hn s hc strat fuel hf
  refine ⟨t', _, s', h, ?_⟩
  intro cmds strat2
  -- the abstract run ends with `wipe; checkout strat2`, so it ends in `some strat2`
  obtain ⟨⟨w, c, s''⟩, log, hrun, _, ⟨hw, hc', hcons, hh⟩, _⟩ := hall (cmds ++ [.wipe, .checkout strat2])
  rw [absRun, List.foldl_append] at hw
  cases hw
  cases hc'
  exact ⟨s'', log, hrun, deref_wsAfter hp hh strat2, hcons⟩

/-- the wipe-free case is `commit_checkout_sequence_partial` of `Props/C15.lean`, restated: on the
two-command machine `runCmds` the entry is present throughout, so no command fails -/
theorem commit_checkout_sequence_of_wipe (ctx : Ctx κ) (g : Good ctx) (t : Node κ) (nm : Bytes)
    (hp : t.plain = true) (hs : t.sorted = true) (hn : NamesOK ctx t)
    (s : Store κ) (hc : Consistent ctx s) (strat : Strat) (cmds : List Cmd) (fuel : Nat)
    (hf : depth t ≤ fuel) :
    ∃ t' c' s', commitNode ctx strat t ⟨nm, "", t.isDir⟩ s = .ok (t', c', s') ∧
      ∃ w s'', runCmds ctx fuel cmds (t', c', s') = .ok (w, c', s'') ∧
        deref ctx s'' w = t ∧ (∃ σ, w = wsAfter ctx σ t) ∧ Consistent ctx s'' ∧
        c'.sum = treeDigest ctx nm t :=
  commit_checkout_sequence_partial ctx g t nm hp hs hn s hc strat cmds fuel hf

namespace Example

/-- delete, commit (fails: nothing there), check out copies, commit them into links, delete,
check out links -/
def demoCmds : List Cmd3 :=
  [.wipe, .commit .link, .checkout .copy, .commit .link, .wipe, .checkout .link]

/-- the abstract run of `demoCmds`, by evaluation -/
example : absLog demoCmds (some .copy) =
    [(true, none), (false, none), (true, some .copy), (true, some .link), (true, none),
      (true, some .link)] := by decide

/-- All hypotheses of `commit_checkout_wipe_sequence` are satisfiable together; on the example
tree the run of `demoCmds` does not abort, exactly the second command fails, and the workspace
entries after the six commands are: absent, absent, the tree, its all-links form, absent, the
all-links form. -/
theorem demo_run :
    ∃ t' c' s', commitNode ctx .copy tree ⟨[116], "", true⟩ [] = .ok (t', c', s') ∧
      ∃ fin log, runCmds3 ctx 3 demoCmds (some t', c', s') = .ok (fin, log) ∧
        log.map (fun e => (e.1, e.2.1)) =
          [(true, none), (false, none), (true, some tree), (true, some (linked ctx tree)),
            (true, none), (true, some (linked ctx tree))] ∧
        fin.1 = some (linked ctx tree) ∧ fin.2.1 = c' ∧
        deref ctx fin.2.2 (linked ctx tree) = tree := by
  obtain ⟨t', c', s', h, _, hc', hall⟩ :=
    commit_checkout_wipe_sequence ctx good tree [116] tree_plain tree_sorted tree_names []
      empty_consistent .copy 3 (Nat.le_of_eq tree_depth)
  obtain ⟨fin, log, hrun, hfin, hfinA, hd, _, _, _, _, habs⟩ := hall demoCmds
  have hw : fin.1 = some (linked ctx tree) := hfinA.1
  exact ⟨t', c', s', h, fin, log, hrun, habs, hw, by rw [hfin.2.1, hc'], hd _ hw⟩

/-- executable evidence: the whole run evaluated -/
def seq3Demo (strat : Strat) (cmds : List Cmd3) : String :=
  match commitNode ctx strat tree ⟨[116], "", true⟩ [] with
  | .error e => s!"commit error {e}"
  | .ok (t', c', s') =>
    match runCmds3 ctx 3 cmds (some t', c', s') with
    | .error e => s!"aborted: {e}"
    | .ok (fin, log) =>
      let showSt : St3 K → String := fun st =>
        match st.1 with
        | none => "absent"
        | some w => s!"present, logical content = tree: {nodeBEq (deref ctx st.2.2 w) tree}, " ++
            s!"all links: {nodeBEq w (linked ctx tree)}"
      s!"flags {log.map (·.1)}; child kept at every point: {log.all (fun e => e.2.2.1 == c')}; " ++
      s!"entries: {log.map (fun e => showSt e.2)}; end: {showSt fin}"

#eval seq3Demo .copy demoCmds
#eval seq3Demo .link [.commit .copy, .wipe, .wipe, .commit .copy, .commit .link, .checkout .link,
  .checkout .copy, .commit .link, .wipe, .checkout .copy, .checkout .link, .commit .link]

end Example

#print axioms runCmd3_absent
#print axioms Cmd3.fails_iff
#print axioms Cmd3.absStep_isSome
#print axioms SeqInvA.inv3
#print axioms SeqInv3.invA
#print axioms SeqInvA.isSome
#print axioms SeqInv3.deref
#print axioms Cmd3.absStep_fails
#print axioms runCmd3_inv
#print axioms runCmds3_inv
#print axioms LogOK.length
#print axioms LogOK.inv
#print axioms LogOK.abs
#print axioms LogOK.present
#print axioms commit_checkout_wipe_sequence
#print axioms wipe_then_checkout_restores
#print axioms commit_wipe_checkout_restores
#print axioms commit_checkout_sequence_of_wipe
#print axioms Example.demo_run

end Dud
