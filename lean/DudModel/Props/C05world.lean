import DudModel.Lemmas.WorldStatus
import DudModel.Lemmas.RetryWorld
/-!
# C05 and C15 at the world level — `dud commit`, then `dud status` / `dud commit` again

Hypotheses are those of `commit_checkout_world_roundtrip` (`Props/C01world.lean`): `Good cfg.ctx`,
`Consistent cfg.ctx w0.store`, `PipelineOK cfg (InScope cfg w0 targets) w0`, a successful
`cmdCommit cfg strat targets w0 = .ok w'`, plus

* `PlainInputsFiles`: the inputs (of the stages in scope) that no stage owns are *file* artifacts.
  `commitAct` commits such inputs itself with `skip-cache`; for a directory the flag is ignored
  (C07), and nothing is assumed about such a directory in `PipelineOK`, so neither the success of
  `dud status` on it nor that of a second commit could be derived.

Main statements

1. `status_after_commit_world` (C05): `dud status [targets]` in the committed world succeeds, changes
   neither workspace, caches nor index, and reports, for every stage in scope, an entry
   `(stage, hasChecksum = true, checksumMatches = true, statuses)` in which the status of every
   OUTPUT has `ContentsMatch = true`, no status has an "incorrect file type", and — if the un-owned
   inputs of the stage overlap no output in scope — EVERY status has `ContentsMatch = true`.
2. `commit_idem_world` (C15): a second `dud commit [targets]` (either strategy) succeeds and leaves
   the index unchanged (`w2.idx = w'.idx`), the cache unchanged up to bytes (`Store.le` both ways),
   the logical content of every output, and every path apart from the outputs.  Additional
   hypotheses: the un-owned file inputs overlap no output (`PlainInputsApartAll`), and no directory
   output has `DisableRecursion` (`Recursive`; the artifact-level theory of recommits, `Props/C15.lean`
   and `Props/C16.lean`, is about `commitNode`, which has no such mode).
3. `Example2.status_after_commit`, `Example2.commit_twice`: the two-stage example of
   `Props/C01world.lean` satisfies all hypotheses, so both theorems apply to it.  (They are obtained
   by instantiation and not by `decide`: with the string "hash" of `Example.ctx` the kernel needs
   more than 200 s to evaluate `cmdStatus` / the second `cmdCommit`; the `#eval`s below run the same
   computations in compiled code.)  `Example3.status_after_commit`: the same for a stage with an
   un-owned file input, a non-recursive directory output and a skip-cache output (the branches the
   two-stage example does not reach).

What the statements do NOT cover: everything listed in `Props/C01world.lean`; for C15 moreover
non-recursive directory outputs, and un-owned inputs that are directories or lie inside an output.
The proofs live in `Lemmas/WorldStatus.lean` (C05; `Held`, `StatusOK`, `CommitInvRec`, `StatusInv`) and
`Lemmas/RetryWorld.lean` (C15: the committed world is a resumption point of its
own commit, and the second commit is the retry from it, `Retry.commit_retry_world`).
-/
namespace Dud

open WT WStat

variable {κ : Type} [DecidableEq κ]

/-- **C05, command level.** After a successful `dud commit [targets]` of a first-commit pipeline whose
un-owned inputs are files, `dud status [targets]` succeeds, changes neither workspace, caches nor
index, and reports every stage in scope with a recorded, matching stage checksum, no wrong file
type, every output up to date, and every artifact up to date when its un-owned inputs overlap no
output in scope. -/
theorem status_after_commit_world (cfg : Cfg κ) (g : Good cfg.ctx) (strat : Strat)
    (targets : List Bytes) (w0 w' : World κ) (hc : Consistent cfg.ctx w0.store)
    (hok : PipelineOK cfg (InScope cfg w0 targets) w0)
    (hfiles : PlainInputsFiles cfg (InScope cfg w0 targets) w0)
    (h : cmdCommit cfg strat targets w0 = .ok w') :
    ∃ w'', cmdStatus cfg targets w' = .ok w'' ∧
      w''.ws = w'.ws ∧ w''.store = w'.store ∧ w''.remote = w'.remote ∧ w''.idx = w'.idx ∧
      ∀ sp stg, InScope cfg w0 targets sp → alookup w0.idx sp = some stg →
        ∃ sts, (sp, true, true, sts) ∈ w''.stat ∧
          (∀ st, st ∈ sts → st.typed = true) ∧
          (∀ a, a ∈ stg.outputs → ∃ st, st ∈ sts ∧ st.name = a.path ∧ st.cm = true) ∧
          ((∀ b, b ∈ stg.inputs → (findOwner cfg.walkAccumulates w0.idx b.path).isNone = true →
              ApartFromOutputs (InScope cfg w0 targets) w0 b.path) →
            ∀ st, st ∈ sts → st.cm = true) := by
  obtain ⟨hsh, hall⟩ := cmdCommit_scope_done hok.keys h
  -- what the commit left: `Held` at every output, and what every stage records for its inputs
  have hci := cmdCommit_invRec g strat targets w0 w' hc hok hfiles h
  have hstage : ∀ sp, InScope cfg w0 targets sp → ∃ stg S, alookup w0.idx sp = some stg ∧
      alookup w'.idx sp = some S ∧
      S.outputs = (sortArts stg.outputs).map (committedArt cfg.ctx w0.ws) := by
    intro sp hsp
    obtain ⟨stg, S, e0, e1, e2, _⟩ := hci.base.finished sp hsp (hall sp hsp)
    exact ⟨stg, S, e0, e1, e2⟩
  -- `dud status` runs stage by stage where the commit ended, keeping `StatusInv`
  obtain ⟨w'', hrun, hi', hq', hne, _, hdn⟩ := runTargets_after_commit hok.keys h
    (act := statusAct cfg) (Q := StatusInv cfg (InScope cfg w0 targets) w0 w')
    (lawfulOn_congr_own (statusTrav_lawfulOn cfg w'.idx) (fun sp x => ownIdx_sim cfg hsh sp x))
    (fun u hi => (show u.idx = w'.idx from hi) ▸ hsh)
    (fun u sp hi hq hsp _ _ => statusInv_step cfg g _ w0 w' hok hsh hci hall sp u hsp hi hq)
    w' rfl { ws := rfl, store := rfl, remote := rfl, fin := fun sp _ hd => by simp [fresh] at hd }
  have hcmd : cmdStatus cfg targets w' = .ok w'' :=
    cmdStatus_ok_iff.2 ⟨hne, hrun⟩
  refine ⟨w'', hcmd, hq'.ws, hq'.store, hq'.remote, hi', ?_⟩
  intro sp stg hsp hs
  have hdn := hdn sp hsp
  -- the entry of the stage: its statuses `sts` are related one by one (`GoodSt`) to the artifacts
  -- `artsOf` of the recorded stage `S`; the three claims are read off that relation
  obtain ⟨S, sts, e1, hmem, hf⟩ := hq'.fin sp hsp hdn
  obtain ⟨stg0, S0, e0, e1', e2⟩ := hstage sp hsp
  rw [hs] at e0
  cases e0
  rw [e1] at e1'
  cases e1'
  have hap := hok.apart_in sp stg hsp hs
  have hapS : ApartArts S.outputs := by
    rw [e2]
    exact hap.sortArts.of_paths (committedArt_paths cfg.ctx w0.ws _)
  refine ⟨sts, hmem, ?_, ?_, ?_⟩
  · intro st hst
    obtain ⟨x, _, hg⟩ := All₂.mem_right hf st hst
    exact hg.2.1
  · intro a ha
    have hx : committedArt cfg.ctx w0.ws a ∈ S.outputs := by
      rw [e2]
      exact List.mem_map.2 ⟨a, mem_sortArts_of_mem hap.paths_ne ha, rfl⟩
    -- the committed output is among the artifacts reported on: no un-owned input has its path
    have hx' : committedArt cfg.ctx w0.ws a ∈ artsOf cfg w'.idx S := by
      refine mem_sortArts_append_right _ (fun b hb hbp => ?_) hapS.paths_ne hx
      obtain ⟨_, hun⟩ := List.mem_filter.1 hb
      have := findOwner_isSome_of_output cfg.walkAccumulates w'.idx (alookup_mem e1) hx
      rw [← hbp] at this
      rw [Option.isNone_iff_eq_none] at hun
      rw [hun] at this
      cases this
    obtain ⟨st, hst, hg⟩ := All₂.mem_left hf _ hx'
    exact ⟨st, hst, hg.1, hg.2.2 (.inl hx)⟩
  · intro hapo st hst
    obtain ⟨x, hx, hg⟩ := All₂.mem_right hf st hst
    refine hg.2.2 ?_
    rcases List.mem_append.1 (mem_of_mem_sortArts hx) with hp | ho
    · right
      obtain ⟨hxin, hun⟩ := List.mem_filter.1 hp
      have hun0 : (findOwner cfg.walkAccumulates w0.idx x.path).isNone = true := by
        rw [← findOwner_isNone_sim _ hsh]; exact hun
      have hsim : StageSim S stg := stageSim_of_alookup hsh e1 hs
      obtain ⟨b, hb, hbp⟩ := List.mem_map.1 ((hsim.1 x.path).1 (List.mem_map.2 ⟨x, hxin, rfl⟩))
      have := hapo b hb (by rw [hbp]; exact hun0)
      rw [hbp] at this
      exact this
    · exact .inl ho

/-- **C15, command level: `dud commit` twice.**  Under the hypotheses of
`commit_checkout_world_roundtrip`, and if moreover (for the stages in scope)
* the inputs no stage owns are file artifacts (`PlainInputsFiles`) whose paths overlap no output
  (`PlainInputsApartAll`), and
* every directory output is recursive (`Recursive`: no `DisableRecursion`),

a second `dud commit [targets]` in the committed world `w'`, with either strategy, succeeds in a
world `w2` such that
* the index is UNCHANGED (`w2.idx = w'.idx`: every recorded checksum — stage, inputs, outputs — is
  the same);
* the cache is unchanged up to bytes (`Store.le` both ways: the same digests are bound, to objects
  with the same bytes), and consistent;
* every output of every stage in scope has, before and after, the logical content (`deref`) of the
  original workspace;
* every path apart from all outputs in scope is untouched. -/
theorem commit_idem_world (cfg : Cfg κ) (g : Good cfg.ctx) (strat strat2 : Strat)
    (targets : List Bytes) (w0 w' : World κ) (hc : Consistent cfg.ctx w0.store)
    (hok : PipelineOK cfg (InScope cfg w0 targets) w0)
    (hfiles : PlainInputsFiles cfg (InScope cfg w0 targets) w0)
    (hapart : PlainInputsApartAll cfg (InScope cfg w0 targets) w0)
    (hrec : ∀ sp stg, InScope cfg w0 targets sp → alookup w0.idx sp = some stg →
      ∀ a, a ∈ stg.outputs → Recursive a)
    (h : cmdCommit cfg strat targets w0 = .ok w') :
    ∃ w2, cmdCommit cfg strat2 targets w' = .ok w2 ∧ w2.idx = w'.idx ∧
      Consistent cfg.ctx w2.store ∧ Store.le cfg.ctx w'.store w2.store ∧
      Store.le cfg.ctx w2.store w'.store ∧
      (∀ sp stg, InScope cfg w0 targets sp → alookup w0.idx sp = some stg →
        ∀ a, a ∈ stg.outputs → ∃ t1 t2, getPath w'.ws (Path.comps a.path) = some t1 ∧
          getPath w2.ws (Path.comps a.path) = some t2 ∧
          deref cfg.ctx w'.store t1 = origAt w0.ws a ∧ deref cfg.ctx w2.store t2 = origAt w0.ws a) ∧
      (∀ q, (∀ sp stg, InScope cfg w0 targets sp → alookup w0.idx sp = some stg →
          ∀ a, a ∈ stg.outputs → Apart (Path.comps a.path) q) →
        getPath w2.ws q = getPath w'.ws q) := by
  have hstd : Retry.Base cfg (InScope cfg w0 targets) w0 := ⟨g, hc, hok, hfiles, hapart, hrec⟩
  obtain ⟨hq, -, hin⟩ := Retry.commit_canon cfg strat targets w0 w' hstd h
  exact Retry.commit_retry_world cfg strat strat2 targets w0 w' w' hstd h hq hin

/-! ## non-vacuity: the two-stage pipeline of `Props/C01world.lean` -/

namespace Example2
open Dud.Example

theorem plainInputsFiles (Sc : Bytes → Prop) : PlainInputsFiles cfg Sc w0 := stage_forall (by decide)

/-- **C05 instantiated**: after `dud commit` of the two-stage pipeline, `dud status` succeeds and
reports, for stage A and for stage B, a recorded and matching stage checksum and every artifact
(`a/`, resp. `b`; the input `a/` of stage B is owned by stage A and not reported) up to date. -/
theorem status_after_commit :
    ∃ w'', cmdStatus cfg [] w1 = .ok w'' ∧ w''.ws = w1.ws ∧ w''.store = w1.store ∧ w''.idx = w1.idx ∧
      (∃ sts, ([1], true, true, sts) ∈ w''.stat ∧ (∀ st, st ∈ sts → st.cm = true) ∧
        ∃ st, st ∈ sts ∧ st.name = [97] ∧ st.cm = true) ∧
      (∃ sts, ([2], true, true, sts) ∈ w''.stat ∧ (∀ st, st ∈ sts → st.cm = true) ∧
        ∃ st, st ∈ sts ∧ st.name = [98] ∧ st.cm = true) := by
  obtain ⟨w'', h1, h2, h3, _, h5, h6⟩ := status_after_commit_world cfg good .link [] w0 w1
    (Consistent.nil _) (pipelineOK _) (plainInputsFiles _) commit_ok
  refine ⟨w'', h1, h2, h3, h5, ?_, ?_⟩
  · obtain ⟨sts, m, _, o, i⟩ := h6 [1] stageA (scope_all _ (.inl rfl)) rfl
    refine ⟨sts, m, i (fun b hb => by simp [stageA] at hb), ?_⟩
    exact o outA (by simp [stageA])
  · obtain ⟨sts, m, _, o, i⟩ := h6 [2] stageB (scope_all _ (.inr rfl)) rfl
    refine ⟨sts, m, i (fun b hb hn => ?_), o outB (by simp [stageB])⟩
    rw [inputs_owned (fun _ => True) [2] _ trivial rfl b hb] at hn
    cases hn

theorem plainInputsApartAll (Sc : Bytes → Prop) : PlainInputsApartAll cfg Sc w0 := by
  intro sp stg hsc hs b hb hn
  rw [inputs_owned Sc sp stg hsc hs b hb] at hn
  cases hn

theorem outputsRecursive {sp : Bytes} {stg : Stage} (hs : alookup w0.idx sp = some stg) :
    ∀ a, a ∈ stg.outputs → Recursive a :=
  stage_forall (Sc := fun _ => True) (P := fun _ s => ∀ a ∈ s.outputs, a.isDir = true → a.noRec = false)
    (by decide) sp stg trivial hs

/-- **C15 instantiated**: a second `dud commit` (either strategy) of the two-stage pipeline succeeds,
leaves the index — every recorded checksum — unchanged, the cache unchanged up to bytes, and the
directory `a/` and the file `b` with their original logical content. -/
theorem commit_twice (strat2 : Strat) :
    ∃ w2, cmdCommit cfg strat2 [] w1 = .ok w2 ∧ w2.idx = w1.idx ∧
      Store.le ctx w1.store w2.store ∧ Store.le ctx w2.store w1.store ∧
      (∃ t2, getPath w2.ws [[97]] = some t2 ∧ deref ctx w2.store t2 = treeA) ∧
      (∃ t2, getPath w2.ws [[98]] = some t2 ∧ deref ctx w2.store t2 = .file (.raw "out")) := by
  obtain ⟨w2, h1, h2, _, h4, h5, h6, _⟩ := commit_idem_world cfg good .link strat2 [] w0 w1
    (Consistent.nil _) (pipelineOK _) (plainInputsFiles _)
    (plainInputsApartAll _) (fun _ _ _ hs => outputsRecursive hs) commit_ok
  refine ⟨w2, h1, h2, h4, h5, ?_, ?_⟩
  · obtain ⟨_, t2, _, g2, _, d2⟩ := h6 [1] stageA (scope_all _ (.inl rfl)) rfl outA (by simp [stageA])
    exact ⟨t2, g2, d2⟩
  · obtain ⟨_, t2, _, g2, _, d2⟩ := h6 [2] stageB (scope_all _ (.inr rfl)) rfl outB (by simp [stageB])
    exact ⟨t2, g2, d2⟩

/-- the report of `dud status` after `dud commit`, computed by the model:
(stage, has checksum, checksum matches, [(artifact, ContentsMatch)]) -/
def statusSummary : List (Bytes × Bool × Bool × List (Bytes × Bool)) :=
  match cmdStatus cfg [] w1 with
  | .ok w => w.stat.map (fun e => (e.1, e.2.1, e.2.2.1, e.2.2.2.map (fun s => (s.name, s.cm))))
  | .error _ => []

/-- the second commit leaves the index as it is, computed by the model -/
def recommitSameIdx (strat2 : Strat) : Bool :=
  match cmdCommit cfg strat2 [] w1 with
  | .ok w => w.idx == w1.idx
  | .error _ => false

-- [([1], true, true, [([97], true)]), ([2], true, true, [([98], true)])]
#eval statusSummary
-- (true, true)
#eval (recommitSameIdx .link, recommitSameIdx .copy)

end Example2

/-! ## non-vacuity, second example: the branches the two-stage pipeline does not exercise

One stage with an un-owned file input `i`, a non-recursive directory output `d/` (which contains a
sub-directory) and a skip-cache file output `s`. -/

namespace Example3
open Dud.Example Dud.Example2

def treeD : Node K := .dir [([120], .file (.raw "x")), ([121], .dir [([122], .file (.raw "z"))])]
def inI : Art := { path := [105] }
def outD : Art := { path := [100], isDir := true, noRec := true }
def outS : Art := { path := [115], skip := true }
def stage : Stage := { cmd := [1], inputs := [inI], outputs := [outD, outS] }

def w0 : World K :=
  { ws := .dir [([100], treeD), ([105], .file (.raw "in")), ([115], .file (.raw "s"))],
    idx := [([1], stage)] }

def w1 : World K :=
  match cmdCommit cfg .copy [] w0 with
  | .ok w => w
  | .error _ => default

theorem commit_ok : cmdCommit cfg .copy [] w0 = .ok w1 := rfl

theorem pipelineOK (Sc : Bytes → Prop) : PipelineOK cfg Sc w0 :=
  .of_check (fun _ _ => rfl) (by decide) Sc

theorem plainInputsFiles (Sc : Bytes → Prop) : PlainInputsFiles cfg Sc w0 := stage_forall (by decide)

theorem inputApart (Sc : Bytes → Prop) : ApartFromOutputs Sc w0 inI.path := stage_forall (by decide)

theorem scope : InScope cfg w0 [] [1] := ⟨[1], by decide, .refl _⟩

/-- **C05 instantiated** on a stage with an un-owned file input, a non-recursive directory output
and a skip-cache output: `dud status` after `dud commit` reports all three up to date. -/
theorem status_after_commit :
    ∃ w'', cmdStatus cfg [] w1 = .ok w'' ∧
      ∃ sts, ([1], true, true, sts) ∈ w''.stat ∧ (∀ st, st ∈ sts → st.cm = true) ∧
        (∃ st, st ∈ sts ∧ st.name = [100] ∧ st.cm = true) ∧
        (∃ st, st ∈ sts ∧ st.name = [115] ∧ st.cm = true) := by
  obtain ⟨w'', h1, _, _, _, _, h6⟩ := status_after_commit_world cfg good .copy [] w0 w1
    (Consistent.nil _) (pipelineOK _) (plainInputsFiles _) commit_ok
  obtain ⟨sts, m, _, o, i⟩ := h6 [1] stage scope rfl
  refine ⟨w'', h1, sts, m, i (fun b hb _ => ?_), o outD (by simp [stage]), o outS (by simp [stage])⟩
  simp only [stage, List.mem_singleton] at hb
  subst hb
  exact inputApart _

end Example3

#print axioms status_after_commit_world
#print axioms commit_idem_world
#print axioms Example2.plainInputsFiles
#print axioms Example2.status_after_commit
#print axioms Example2.plainInputsApartAll
#print axioms Example2.outputsRecursive
#print axioms Example2.commit_twice
#print axioms Example3.commit_ok
#print axioms Example3.pipelineOK
#print axioms Example3.plainInputsFiles
#print axioms Example3.inputApart
#print axioms Example3.scope
#print axioms Example3.status_after_commit

end Dud
