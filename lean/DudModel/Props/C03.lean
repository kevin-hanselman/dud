import DudModel.Lemmas.CrashTree
import DudModel.Lemmas.Codec
/-!
# C03 — killing dud at any instant loses no data and tears no metadata

Crash model: the process is killed after the k-th file-system mutating call, for every k; the state
is `replay emp fs (calls.take k)` (`DudModel/Sys.lean`).

`Safe ctx tracked fs` (`Lemmas/Crash.lean`): every recorded (path, bytes) is retrievable (`Retr`) and
nothing incomplete or foreign sits under a digest name (`NoTorn`); `Allowed` is the per-call
discipline that preserves it.  Erasing the trace of the traced commit gives exactly the logical commit
of `Model.lean` (`commitNodeT_refines`, `commitEntriesT_refines`, `commitArtT_refines` in
`Lemmas/CrashTree.lean`).

* file level: `copyIntoCache_crash_safe`, `commitFile_crash_safe` (all three variants).
* tree level: `commitNodeT_crash_safe`, `commitEntriesT_crash_safe`, `commitArtT_crash_safe` for ANY
  tree (not only plain ones) with duplicate-free entry names, from any safe state in which the
  regular files are in place and the temp names unused; `…_fsOf` instantiate the state with the
  abstraction `fsOf` of a workspace tree and a consistent store.
* metadata: `meta_atomic` (temp + rename) and the negative witness `meta_torn_in_place`
  (create-truncate).  The obligation that the Go code uses the atomic variant is in `C03meta.lean`.
* checkout: `checkoutFileCalls_crash_safe`.

Hypotheses worth knowing:
* `Good ctx` (collision-free hash) — used exactly where a rename lands on an existing object.
* `hemp : ∀ c, isEmp c = true → c = emp`: the "is empty" test of the trace generator is sound
  (an empty file gets no `write` call, it holds `emp` right after `createExcl`).
* `TrackedWs tracked`: the recorded paths are workspace paths (so temp files, shard directories …
  carry no recorded content).
* a successful run: the traced functions return `.ok`; a run that fails at the logical level has no
  trace in this model (its real trace is a prefix of the calls before the failing check).
-/
namespace Dud.Sys

open Dud

variable {κ : Type}

/-- **`commitBytes(reader, "")`** (also used for manifests): tee into a fresh temp file, rename onto
the digest name, chmod.  Safe after every prefix. -/
theorem copyIntoCache_crash_safe {ctx : Ctx κ} (g : Good ctx) {tracked : List (P × κ)}
    (htw : TrackedWs tracked) {emp : κ} {isEmp : κ → Bool} (hemp : ∀ c, isEmp c = true → c = emp)
    {fs : FS κ} (hs : Safe ctx tracked fs) {n : Nat} (hfresh : fs.get (.ctmp n) = none) (c : κ) :
    ∀ k, Safe ctx tracked (replay emp fs ((copyIntoCache isEmp n c (ctx.H c)).take k)) :=
  (copyIntoCache_spec htw hemp hfresh c).1.prefixSafe g hs

/-- … and afterwards the bytes are in the cache under their digest, read-only. -/
theorem copyIntoCache_stores {ctx : Ctx κ} {tracked : List (P × κ)}
    (htw : TrackedWs tracked) {emp : κ} {isEmp : κ → Bool} (hemp : ∀ c, isEmp c = true → c = emp)
    {fs : FS κ} {n : Nat} (hfresh : fs.get (.ctmp n) = none) (c : κ) :
    (replay emp fs (copyIntoCache isEmp n c (ctx.H c))).get (.obj (ctx.H c)) = some (.file c 0o444) :=
  (copyIntoCache_spec (ctx := ctx) htw hemp hfresh c).2

/-- `commitFileArtifact` on a file at ANY path `w` that is not an object name (nor a shard directory):
from any safe state in which the file holds `c` and the temp name is unused, the state after every
prefix is safe. -/
theorem commitFile_crash_safe_gen {ctx : Ctx κ} (g : Good ctx) {tracked : List (P × κ)}
    (htw : TrackedWs tracked) {emp : κ} {isEmp : κ → Bool} (hemp : ∀ c, isEmp c = true → c = emp)
    {fs : FS κ} (hs : Safe ctx tracked fs) {w : P} (hwo : ∀ d, w ≠ .obj d) (hwsh : ∀ h, w ≠ .shard h)
    {c : κ} {m : Nat} (hw : fs.get w = some (.file c m)) {n : Nat} (hfresh : fs.get (.ctmp n) = none)
    (strat : Strat) (canRename : Bool) :
    ∀ k, Safe ctx tracked
      (replay emp fs ((commitFileCalls isEmp strat canRename w n c (ctx.H c)).take k)) := by
  have hwo' : w.isObj = false := by
    cases hb : w.isObj with
    | false => rfl
    | true => obtain ⟨d, hd⟩ := P.isObj_true hb; exact absurd hd (hwo d)
  exact (commitFileCalls_spec_gen g htw hemp hs hwo' hwsh hw hfresh strat canRename).1.prefixSafe g hs

/-- **`commitFileArtifact`**, all three variants (`.link, true`: mkdir + rename + chmod + symlink;
`.link, false`: copy + unlink + symlink; `.copy, _`: copy): the case of a workspace file. -/
theorem commitFile_crash_safe {ctx : Ctx κ} (g : Good ctx) {tracked : List (P × κ)}
    (htw : TrackedWs tracked) {emp : κ} {isEmp : κ → Bool} (hemp : ∀ c, isEmp c = true → c = emp)
    {fs : FS κ} (hs : Safe ctx tracked fs) {q : List Name} {c : κ} {m : Nat}
    (hw : fs.get (.ws q) = some (.file c m)) {n : Nat} (hfresh : fs.get (.ctmp n) = none)
    (strat : Strat) (canRename : Bool) :
    ∀ k, Safe ctx tracked
      (replay emp fs ((commitFileCalls isEmp strat canRename (.ws q) n c (ctx.H c)).take k)) :=
  commitFile_crash_safe_gen g htw hemp hs (by simp) (by simp) hw hfresh strat canRename

theorem commitFile_stores {ctx : Ctx κ} (g : Good ctx) {tracked : List (P × κ)}
    (htw : TrackedWs tracked) {emp : κ} {isEmp : κ → Bool} (hemp : ∀ c, isEmp c = true → c = emp)
    {fs : FS κ} (hs : Safe ctx tracked fs) {q : List Name} {c : κ} {m : Nat}
    (hw : fs.get (.ws q) = some (.file c m)) {n : Nat} (hfresh : fs.get (.ctmp n) = none)
    (strat : Strat) (canRename : Bool) :
    (replay emp fs (commitFileCalls isEmp strat canRename (.ws q) n c (ctx.H c))).get (.obj (ctx.H c))
      = some (.file c 0o444) :=
  (commitFileCalls_spec g htw hemp hs hw hfresh strat canRename).2

/-- **Traced commit of a tree**: from any safe state in which the regular files of the tree are in
place and the temp names from `n` on are unused, the state after every prefix of the trace is safe. -/
theorem commitNodeT_crash_safe {t : TCfg κ} (g : Good t.ctx) {tracked : List (P × κ)}
    (htw : TrackedWs tracked) {emp : κ} (hemp : ∀ c, t.isEmp c = true → c = emp)
    {nd : Node κ} {pre : List Name} {c : Child} {s : Store κ} {n : Nat}
    {res : Node κ × Child × Store κ} {calls : List (Call κ)} {n' : Nat}
    (hu : uniqNode nd) (h : commitNodeT t pre nd c s n = .ok (res, calls, n'))
    {fs : FS κ} (hs : Safe t.ctx tracked fs)
    (hin : ∀ p ∈ trackedOf pre nd, ∃ m, fs.get p.1 = some (.file p.2 m))
    (hfr : ∀ k, n ≤ k → fs.get (.ctmp k) = none) :
    ∀ k, Safe t.ctx tracked (replay emp fs (calls.take k)) :=
  ((commitNodeT_trace t nd h).allowed g htw hemp hu hs hin hfr).prefixSafe g hs

theorem commitEntriesT_crash_safe {t : TCfg κ} (g : Good t.ctx) {tracked : List (P × κ)}
    (htw : TrackedWs tracked) {emp : κ} (hemp : ∀ c, t.isEmp c = true → c = emp)
    {es : List (Name × Node κ)} {pre : List Name} {skipDirs : Bool} {old : List Child} {s : Store κ}
    {n : Nat} {res : List (Name × Node κ) × List Child × Store κ} {calls : List (Call κ)} {n' : Nat}
    (hu : uniqList es) (h : commitEntriesT t pre skipDirs es old s n = .ok (res, calls, n'))
    {fs : FS κ} (hs : Safe t.ctx tracked fs)
    (hin : ∀ p ∈ trackedList pre es, ∃ m, fs.get p.1 = some (.file p.2 m))
    (hfr : ∀ k, n ≤ k → fs.get (.ctmp k) = none) :
    ∀ k, Safe t.ctx tracked (replay emp fs (calls.take k)) :=
  ((commitEntriesT_trace t es h).allowed g htw hemp hu hs hin hfr).prefixSafe g hs

/-- **The whole `LocalCache.Commit`** (MkdirAll, rename probe, artifact, manifest). -/
theorem commitArtT_crash_safe {t : TCfg κ} (g : Good t.ctx) {tracked : List (P × κ)}
    (htw : TrackedWs tracked) {emp : κ} (hemp : ∀ c, t.isEmp c = true → c = emp)
    {a : Art} {pre : List Name} {nd : Option (Node κ)} {s : Store κ}
    {res : Node κ × Digest × Store κ} {calls : List (Call κ)}
    (hu : uniqOpt nd) (h : commitArtT t a pre nd s = .ok (res, calls))
    {fs : FS κ} (hs : Safe t.ctx tracked fs)
    (hin : ∀ p ∈ trackedOpt pre nd, ∃ m, fs.get p.1 = some (.file p.2 m))
    (hfr : ∀ k, 1 ≤ k → fs.get (.ctmp k) = none) :
    ∀ k, Safe t.ctx tracked (replay emp fs (calls.take k)) :=
  (commitArtT_allowed g htw hemp hu h hs hin hfr).prefixSafe g hs

/-- Instance: the state is the abstraction of the workspace tree next to a consistent cache, the
recorded contents are the regular files of the tree. -/
theorem commitNodeT_crash_safe_fsOf {t : TCfg κ} (g : Good t.ctx) {emp : κ}
    (hemp : ∀ c, t.isEmp c = true → c = emp)
    {nd : Node κ} {pre : List Name} {c : Child} {s : Store κ} {n : Nat}
    {res : Node κ × Child × Store κ} {calls : List (Call κ)} {n' : Nat}
    (hu : uniqNode nd) (hc : Consistent t.ctx s)
    (h : commitNodeT t pre nd c s n = .ok (res, calls, n')) :
    ∀ k, Safe t.ctx (trackedOf pre nd) (replay emp (fsOf t.ctx pre nd s) (calls.take k)) :=
  commitNodeT_crash_safe g (trackedOf_ws pre nd) hemp hu h (fsOf_safe t.ctx pre nd s hu hc)
    (fun p hp => ⟨_, fsOf_get_tracked t.ctx pre nd s hu p hp⟩)
    (fun k _ => fsOf_get_ctmp t.ctx pre nd s k)

theorem commitArtT_crash_safe_fsOf {t : TCfg κ} (g : Good t.ctx) {emp : κ}
    (hemp : ∀ c, t.isEmp c = true → c = emp)
    {a : Art} {nd : Node κ} {pre : List Name} {s : Store κ}
    {res : Node κ × Digest × Store κ} {calls : List (Call κ)}
    (hu : uniqNode nd) (hc : Consistent t.ctx s)
    (h : commitArtT t a pre (some nd) s = .ok (res, calls)) :
    ∀ k, Safe t.ctx (trackedOf pre nd) (replay emp (fsOf t.ctx pre nd s) (calls.take k)) :=
  commitArtT_crash_safe (nd := some nd) g (trackedOf_ws pre nd) hemp hu h
    (fsOf_safe t.ctx pre nd s hu hc)
    (fun p hp => ⟨_, fsOf_get_tracked t.ctx pre nd s hu p hp⟩)
    (fun k _ => fsOf_get_ctmp t.ctx pre nd s k)

/-- sorted trees (the canonical representation used by C01 …) have duplicate-free names -/
theorem commitNodeT_crash_safe_sorted {t : TCfg κ} (g : Good t.ctx) {emp : κ}
    (hemp : ∀ c, t.isEmp c = true → c = emp)
    {nd : Node κ} {pre : List Name} {c : Child} {s : Store κ} {n : Nat}
    {res : Node κ × Child × Store κ} {calls : List (Call κ)} {n' : Nat}
    (hsrt : nd.sorted = true) (hc : Consistent t.ctx s)
    (h : commitNodeT t pre nd c s n = .ok (res, calls, n')) :
    ∀ k, Safe t.ctx (trackedOf pre nd) (replay emp (fsOf t.ctx pre nd s) (calls.take k)) :=
  commitNodeT_crash_safe_fsOf g hemp (uniqNode_of_sorted nd hsrt) hc h


/-- the calls of the atomic variant before the rename leave the complete new version in the temp file -/
theorem metaWrite_tmp_filled (emp : κ) (isEmp : κ → Bool) (hemp : ∀ c, isEmp c = true → c = emp)
    (fs : FS κ) (tmp : P) (habs : fs.get tmp = none) (x : κ) :
    (replay emp fs ([.createExcl tmp] ++ (if isEmp x then [] else [.writePart tmp, .write tmp x]))).get tmp
      = some (.file x 0o600) := by
  cases he : isEmp x with
  | true => obtain rfl := hemp x he; simp [replay, get_apply, habs]
  | false => simp [replay, get_apply, habs, Entry.tear, Entry.fill]

/-- **temp + rename is atomic**: after every prefix of the calls the metadata file is either exactly
what it was or the complete new version. -/
theorem meta_atomic (emp : κ) (isEmp : κ → Bool) (hemp : ∀ c, isEmp c = true → c = emp)
    (fs : FS κ) (p tmp : P) (hne : tmp ≠ p) (habs : fs.get tmp = none) (new : κ) :
    ∀ k, (replay emp fs ((metaWriteCalls true p tmp isEmp new).take k)).get p = fs.get p ∨
      ∃ m, (replay emp fs ((metaWriteCalls true p tmp isEmp new).take k)).get p = some (.file new m) := by
  -- the calls before the rename only touch `tmp` and leave the complete new version there
  let body : List (Call κ) :=
    [.createExcl tmp] ++ (if isEmp new then [] else [.writePart tmp, .write tmp new])
  have hcalls : metaWriteCalls true p tmp isEmp new = body ++ [.rename tmp p] := by
    simp [metaWriteCalls, body]
  have hbody : ∀ c ∈ body, p ∉ callWrites c := by
    intro c hc
    cases he : isEmp new <;> simp [body, he] at hc
    · rcases hc with rfl | rfl | rfl <;> simp [callWrites, callPaths, hne.symm]
    · subst hc; simp [callWrites, callPaths, hne.symm]
  rw [hcalls]
  refine Pref.append (Q := fun fs' => fs'.get p = fs.get p ∨ ∃ m, fs'.get p = some (.file new m))
    (fun k => .inl ?_) (Pref.cons (.inl ?_) (Pref.nil (.inr ⟨0o600, ?_⟩)))
  · exact replay_get_frame emp _ p fs (fun c hc => hbody c (List.mem_of_mem_take hc))
  · exact replay_get_frame emp _ p fs hbody
  · exact get_rename_dst (metaWrite_tmp_filled emp isEmp hemp fs tmp habs new)

/-- **create-truncate is not**: killed right after the first call (`os.Create`), the file is neither
the old nor the new version — it is empty. -/
theorem meta_torn_in_place (emp : κ) (isEmp : κ → Bool) (fs : FS κ) (p tmp : P) (old new : κ) (m : Nat)
    (hold : fs.get p = some (.file old m)) (ho : old ≠ emp) (hn : new ≠ emp) :
    ∃ k, (replay emp fs ((metaWriteCalls false p tmp isEmp new).take k)).get p ≠ fs.get p ∧
      ∀ m', (replay emp fs ((metaWriteCalls false p tmp isEmp new).take k)).get p
        ≠ some (.file new m') := by
  refine ⟨1, ?_, ?_⟩
  · simp [metaWriteCalls, replay, apply, FS.get_set, hold, Ne.symm ho]
  · intro m'
    simp [metaWriteCalls, replay, apply, FS.get_set, Ne.symm hn]

/-- with a non-empty new version there is a second bad instant: the partially written file -/
theorem meta_torn_in_place_partial_write (emp : κ) (isEmp : κ → Bool) (fs : FS κ) (p tmp : P) (new : κ)
    (he : isEmp new = false) :
    (replay emp fs ((metaWriteCalls false p tmp isEmp new).take 2)).get p = some (.torn 0o644) := by
  simp [metaWriteCalls, he, replay, apply, FS.get_set]

/-- **`checkoutFile`**, both strategies.  `wasExactLink = true`: the workspace path is a link to the
very object being checked out (the only case in which something is removed); otherwise the path is
absent.  The state after every prefix is safe: every recorded content stays retrievable through the
cache object, the partially written copy sits at a NEW path. -/
theorem checkoutFileCalls_crash_safe {ctx : Ctx κ} (g : Good ctx) {tracked : List (P × κ)} {emp : κ}
    (isEmp : κ → Bool) {fs : FS κ} (hs : Safe ctx tracked fs) (strat : Strat) {w : P}
    (hwo : w.isObj = false) (wasExactLink : Bool) (c : κ) (d : Digest)
    (hpre : if wasExactLink then fs.get w = some (.link (.obj d)) else fs.get w = none) :
    ∀ k, Safe ctx tracked
      (replay emp fs ((checkoutFileCalls isEmp strat w wasExactLink c d).take k)) := by
  -- every call writes `w` only, and what is recorded for `w` is in the cache: the path is absent or a link into it
  refine AllowedTrace.prefixSafe g hs (allowedTrace_at emp hwo _ ?_ fun call hc p hp => ?_)
  · cases wasExactLink with
    | true => exact backed_of_link hs hpre
    | false => exact backed_of_absent hs (by simpa using hpre)
  · rcases checkoutFileCalls_mem _ _ _ _ _ _ call hc with rfl | rfl | rfl | rfl | rfl <;>
      simpa [callWrites, callPaths] using hp

/-- the copy is written to a path that does not exist at that moment -/
theorem checkout_copy_new_path (emp : κ) (fs : FS κ) (w : P) :
    (apply emp fs (.unlink w)).get w = none := get_unlink_self


namespace Example
open Dud Dud.Sys Dud.Example

def emp : K := .raw ""
def isEmp (k : K) : Bool := k == .raw ""
theorem hemp : ∀ c, isEmp c = true → c = emp := by
  intro c h; simpa [isEmp, emp] using h

def tc (strat : Strat) (canRename : Bool) : TCfg K :=
  { ctx := ctx, isEmp := isEmp, strat := strat, canRename := canRename }

/-- two levels, an empty file, an empty directory, the same content twice -/
def tree : Node K :=
  .dir [([97], .file (.raw "alpha")),
        ([98], .dir [([99], .file (.raw "")), ([100], .dir [])]),
        ([101], .file (.raw "alpha"))]

def art : Art := { path := [116], isDir := true }

theorem tree_uniq : uniqNode tree := by
  simp [tree, uniqNode, uniqList]

theorem empty_consistent : Consistent ctx ([] : Store K) := by
  intro d o h; simp [Store.get, alookup] at h

theorem commit_ok (strat : Strat) (canRename : Bool) :
    (commitArtT (tc strat canRename) art [[116]] (some tree) []).isOk = true := by
  cases strat <;> cases canRename <;> decide +kernel

/-- All hypotheses of the tree-level theorem are satisfiable together, the traced commit succeeds
(for every strategy / rename capability), and every crash prefix is safe. -/
example (strat : Strat) (canRename : Bool) :
    ∃ res calls, commitArtT (tc strat canRename) art [[116]] (some tree) [] = .ok (res, calls) ∧
      ∀ k, Safe ctx (trackedOf [[116]] tree) (replay emp (fsOf ctx [[116]] tree []) (calls.take k)) := by
  have hok := commit_ok strat canRename
  cases h : commitArtT (tc strat canRename) art [[116]] (some tree) [] with
  | error e => rw [h] at hok; cases hok
  | ok v =>
    exact ⟨v.1, v.2, rfl, commitArtT_crash_safe_fsOf (t := tc strat canRename) good hemp tree_uniq
      empty_consistent h⟩

/-- the file-level theorem on a concrete state -/
example (strat : Strat) (canRename : Bool) (k : Nat) :
    Safe ctx [(.ws [[102]], .raw "data")]
      (replay emp [(.ws [[102]], .file (.raw "data") 0o644)]
        ((commitFileCalls isEmp strat canRename (.ws [[102]]) 7 (.raw "data") (ctx.H (.raw "data"))).take k)) := by
  have hs : Safe ctx [(.ws [[102]], K.raw "data")] [(.ws [[102]], .file (.raw "data") 0o644)] := by
    refine ⟨fun p hp => ?_, fun d e he => ?_⟩
    · simp at hp; subst hp; exact Or.inl ⟨0o644, by simp [FS.get, alookup]⟩
    · simp [FS.get, alookup] at he
  exact commitFile_crash_safe good (fun p hp => by simp at hp; subst hp; exact ⟨_, rfl⟩) hemp hs
    (m := 0o644) (by simp [FS.get, alookup]) (by simp [FS.get, alookup]) strat canRename k

/-! executable evidence: a Boolean checker of `Safe` run on every prefix -/

def fileAt (fs : FS K) (p : P) (c : K) : Bool :=
  match fs.get p with
  | some (.file c' _) => c' == c
  | _ => false

def retrB (fs : FS K) (w : P) (c : K) : Bool :=
  fileAt fs w c ||
  (match fs.get w with
   | some (.link (.obj d)) => fileAt fs (.obj d) c
   | _ => false) ||
  fileAt fs (.obj (ctx.H c)) c

def noTornB (fs : FS K) : Bool :=
  fs.all (fun e => match e.1 with
    | .obj d => (match fs.get (.obj d) with
      | some (.file c _) => ctx.H c == d
      | some _ => false
      | none => true)
    | _ => true)

def safeB (tracked : List (P × K)) (fs : FS K) : Bool :=
  tracked.all (fun p => retrB fs p.1 p.2) && noTornB fs

def showP : P → String
  | .ws rel => "ws:" ++ "/".intercalate (rel.map (fun n => String.ofList (n.map (fun b => Char.ofNat b.toNat))))
  | .obj d => s!"obj#{d.length}"
  | .shard h => s!"shard:{h}"
  | .ctmp n => s!"ctmp{n}"
  | .wtmp n => s!"wtmp{n}"
  | .cacheRoot => "cache"
  | .lock => "lock"
  | .stageFile _ => "stage"
  | .stageTmp _ => "stageTmp"
  | .index => "index"
  | .indexTmp => "indexTmp"

def showCall : Call K → String
  | .mkdir p => s!"mkdir {showP p}"
  | .createExcl p => s!"createExcl {showP p}"
  | .createTrunc p => s!"createTrunc {showP p}"
  | .writePart p => s!"writePart {showP p}"
  | .write p _ => s!"write {showP p}"
  | .rename s d => s!"rename {showP s} {showP d}"
  | .chmod p m => s!"chmod {showP p} {m}"
  | .unlink p => s!"unlink {showP p}"
  | .symlink t p => s!"symlink {showP t} {showP p}"

/-- trace of the whole commit, and whether every crash prefix passes the Boolean checker -/
def report (strat : Strat) (canRename : Bool) : String :=
  match commitArtT (tc strat canRename) art [[116]] (some tree) [] with
  | .error e => s!"error {e}"
  | .ok (_, calls) =>
    let fs0 := fsOf ctx [[116]] tree []
    let tracked := trackedOf [[116]] tree
    let ok := (List.range (calls.length + 1)).all (fun k => safeB tracked (replay emp fs0 (calls.take k)))
    s!"{calls.length} calls, every prefix safe: {ok}; " ++ "; ".intercalate (calls.map showCall)

#eval report .link true
#eval report .link false
#eval report .copy false

-- the checker does reject bad traces: removing a tracked file that is not in the cache
#eval safeB (trackedOf [[116]] tree) (replay emp (fsOf ctx [[116]] tree []) [.unlink (.ws [[116], [97]])])
-- … and a torn object: writing in place under a digest name
#eval safeB (trackedOf [[116]] tree)
  (replay emp (fsOf ctx [[116]] tree []) [.createExcl (.obj "xxx00"), .writePart (.obj "xxx00")])

/-- metadata: every prefix of the atomic variant shows the old or the new version; the in-place
variant shows an empty file after its first call -/
def metaReport (atomic : Bool) : List String :=
  let fs0 : FS K := [(.index, .file (.raw "old") 0o644)]
  let calls := metaWriteCalls atomic .index .indexTmp isEmp (K.raw "new")
  (List.range (calls.length + 1)).map (fun k =>
    match (replay emp fs0 (calls.take k)).get .index with
    | some (.file (.raw s) _) => s!"k={k}: \"{s}\""
    | some (.torn _) => s!"k={k}: TORN"
    | _ => s!"k={k}: ?")

#eval metaReport true
#eval metaReport false

example : ∀ k, (replay emp [(.index, .file (.raw "old") 0o644)]
      ((metaWriteCalls true .index .indexTmp isEmp (K.raw "new")).take k)).get .index
        = some (.file (.raw "old") 0o644) ∨
    ∃ m, (replay emp [(.index, .file (.raw "old") 0o644)]
      ((metaWriteCalls true .index .indexTmp isEmp (K.raw "new")).take k)).get .index
        = some (.file (.raw "new") m) :=
  meta_atomic emp isEmp hemp _ .index .indexTmp (by decide) (by simp [FS.get, alookup]) (.raw "new")

example : ∃ k, (replay emp [(.index, .file (.raw "old") 0o644)]
      ((metaWriteCalls false .index .indexTmp isEmp (K.raw "new")).take k)).get .index
        ≠ some (.file (.raw "old") 0o644) ∧
    ∀ m', (replay emp [(.index, .file (.raw "old") 0o644)]
      ((metaWriteCalls false .index .indexTmp isEmp (K.raw "new")).take k)).get .index
        ≠ some (.file (.raw "new") m') :=
  meta_torn_in_place emp isEmp [(.index, .file (.raw "old") 0o644)] .index .indexTmp (.raw "old")
    (.raw "new") 0o644 (by simp [FS.get, alookup]) (by simp [emp]) (by simp [emp])

/-- checkout by copy over a link to the very object: every prefix safe -/
example (k : Nat) :
    Safe ctx [(.ws [[102]], .raw "data")]
      (replay emp [(.ws [[102]], .link (.obj (ctx.H (.raw "data")))),
                   (.obj (ctx.H (.raw "data")), .file (.raw "data") 0o444)]
        ((checkoutFileCalls isEmp .copy (.ws [[102]]) true (.raw "data") (ctx.H (.raw "data"))).take k)) := by
  refine checkoutFileCalls_crash_safe good isEmp ?_ .copy rfl true _ _ (by simp [FS.get, alookup]) k
  refine ⟨fun p hp => ?_, fun d e he => ?_⟩
  · simp at hp; subst hp
    exact Or.inr (Or.inr ⟨0o444, by simp [FS.get, alookup]⟩)
  · simp [FS.get, alookup] at he
    obtain ⟨hd, rfl⟩ := he
    exact ⟨_, _, rfl, hd⟩

end Example

#print axioms commitFileT_refines
#print axioms commitNodeT_refines
#print axioms commitEntriesT_refines
#print axioms commitArtT_refines
#print axioms Safe.apply
#print axioms AllowedTrace.prefixSafe
#print axioms AllowedTrace.append
#print axioms PrefixSafe.append
#print axioms copyIntoCache_crash_safe
#print axioms copyIntoCache_stores
#print axioms commitFile_crash_safe
#print axioms commitFile_crash_safe_gen
#print axioms commitFile_stores
#print axioms CommitTrace.foot
#print axioms CommitTrace.allowed
#print axioms commitNodeT_trace
#print axioms commitArtT_allowed
#print axioms commitNodeT_crash_safe
#print axioms commitEntriesT_crash_safe
#print axioms commitArtT_crash_safe
#print axioms fsOf_safe
#print axioms commitNodeT_crash_safe_fsOf
#print axioms commitArtT_crash_safe_fsOf
#print axioms commitNodeT_crash_safe_sorted
#print axioms meta_atomic
#print axioms meta_torn_in_place
#print axioms meta_torn_in_place_partial_write
#print axioms checkoutFileCalls_crash_safe
#print axioms checkout_copy_new_path
#print axioms Example.hemp
#print axioms Example.tree_uniq

end Dud.Sys
