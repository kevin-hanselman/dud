import DudModel.Lemmas.CheckoutIdem
import DudModel.Lemmas.CheckoutEq
import DudModel.Generated.Facts
import DudModel.Lemmas.WorldDec
/-!
# C19: a copy checkout never succeeds with corrupted bytes

`Verified ctx s fuel c n`: the node `n` is a faithful materialisation of the manifest entry `c`:
a file entry is a regular file whose bytes hash to `c.sum` (created from the cache object, or
pre-existing and accepted by the skip branch `upToDateCopy`); a directory entry is a directory in
which every entry of the manifest stored under `c.sum` is present and (recursively) verified.  A
successful copy checkout always returns a verified node, whatever was in the workspace before
(`checkoutNode_copy_verified`).  Together with
`checkoutNode_copy_position` (every position of the result is either named by the manifest, hence
verified, or untouched) this is the "every file created by this call hashes to the checksum its
manifest entry records" statement.  With the link strategy nothing is verified
(`link_checkout_does_not_verify`).  `ProvP` says where the regular files of a result come from
(`checkoutNode_prov`: from the node before, or, copying, from the cache object under their own digest);
with `Verified.reach` it is why a corrupted object anywhere below makes a copy checkout into an
absent place fail (`corrupt_reachable_never_ok`).
-/
namespace Dud

variable {κ : Type}

def Verified (ctx : Ctx κ) (s : Store κ) : Nat → Child → Node κ → Prop
  | 0, _, _ => False
  | fuel + 1, c, n =>
    if c.isDir then
      ∃ es cs, n = .dir es ∧ readManifest ctx s c.sum = .ok cs ∧
        ∀ k ∈ cs, ∃ nk, alookup es k.name = some nk ∧ Verified ctx s fuel k nk
    else ∃ b, n = .file b ∧ ctx.H b = c.sum

/-- **checkoutFile, copy: files created by the call.**  When the path is absent, or holds the
matching link, or anything the skip branch does not accept, a successful copy leaves a regular file
with the bytes of the object under `sum`, and these bytes hash to `sum`. -/
theorem checkoutFile_copy_ok {ctx : Ctx κ} {cur : Option (Node κ)} {sum : Digest} {s : Store κ}
    {n' : Node κ} (hup : upToDateCopy ctx cur sum = false)
    (h : checkoutFile ctx .copy cur sum s = .ok n') :
    ∃ o, s.get sum = some o ∧ n' = .file (o.bytes ctx) ∧ ctx.H (o.bytes ctx) = sum := by
  obtain ⟨-, -, o, ho, ⟨c, rfl, hH, -⟩ | ⟨-, -, ⟨hs, -⟩ | ⟨-, hn, hH⟩⟩⟩ := checkoutFile_ok h
  · cases hup.symm.trans (beq_iff_eq.2 hH)
  · cases hs
  · exact ⟨o, ho, hn, hH⟩

/-- **the skip branch.**  A pre-existing regular file that `checkoutFile` accepts (either strategy)
is kept as is and hashes to the recorded checksum. -/
theorem uptodate_copy_is_verified {ctx : Ctx κ} {strat : Strat} {n n' : Node κ} {sum : Digest}
    {s : Store κ} (hup : upToDateCopy ctx (some n) sum = true)
    (h : checkoutFile ctx strat (some n) sum s = .ok n') :
    ∃ c, n = .file c ∧ n' = .file c ∧ ctx.H c = sum := by
  obtain ⟨c, rfl, hH⟩ := upToDateCopy_some hup
  obtain ⟨-, -, -, -, ⟨_, hc, -, rfl⟩ | ⟨hup', -⟩⟩ := checkoutFile_ok h
  · cases hc
    exact ⟨c, rfl, rfl, hH⟩
  · rw [hup] at hup'; cases hup'

/-- **checkoutFile, copy.**  Whatever was at the path, a successful copy checkout leaves a regular
file hashing to the recorded checksum — created from the cache object or pre-existing and accepted. -/
theorem checkoutFile_copy_verified {ctx : Ctx κ} {cur : Option (Node κ)} {sum : Digest}
    {s : Store κ} {n' : Node κ} (h : checkoutFile ctx .copy cur sum s = .ok n') :
    ∃ b, n' = .file b ∧ ctx.H b = sum := by
  obtain ⟨-, -, o, -, ⟨c, -, hH, rfl⟩ | ⟨-, -, ⟨hs, -⟩ | ⟨-, hn, hH⟩⟩⟩ := checkoutFile_ok h
  · exact ⟨c, rfl, hH⟩
  · cases hs
  · exact ⟨_, hn, hH⟩

/-- what checkout leaves alone under the copy strategy (`CI.Conf`) is verified: `Verified` is `Conf`
for the copy strategy without the presence of the objects in the cache -/
theorem Verified.of_conf {ctx : Ctx κ} {s : Store κ} :
    ∀ (fuel : Nat) (c : Child) (n : Node κ), CI.Conf ctx .copy s fuel n c → Verified ctx s fuel c n := by
  intro fuel
  induction fuel with
  | zero => intro _ _ h; exact h.elim
  | succ fuel ih =>
    intro c n h
    unfold Verified
    cases hc : c.isDir with
    | false =>
      obtain ⟨-, -, hup | ⟨hs, -⟩⟩ := (CI.conf_succ_file hc).1 h
      · simpa using upToDateCopy_some hup
      · cases hs
    | true =>
      obtain ⟨-, -, es, cs, rfl, hm, hall⟩ := (CI.conf_succ_dir hc).1 h
      simp only [if_true]
      exact ⟨es, cs, rfl, hm, fun k hk => (hall k hk).imp fun m hm => ⟨hm.1, ih k m hm.2⟩⟩

/-- **checkoutNode, copy.**  For every fuel, every workspace state and every manifest nesting. -/
theorem checkoutNode_copy_verified {ctx : Ctx κ} {s : Store κ} :
    ∀ (fuel : Nat) (cur : Option (Node κ)) (c : Child) (n' : Node κ),
      checkoutNode ctx .copy s fuel cur c = .ok n' → Verified ctx s fuel c n' :=
  fun fuel cur c n' h => .of_conf fuel c n' (CI.conf_of_checkout fuel cur c n' h)

/-- every position of the resulting directory is either named by the manifest (then verified) or
exactly what it was before: the files this call created are precisely verified ones -/
theorem checkoutNode_copy_position {ctx : Ctx κ} {s : Store κ} {fuel : Nat}
    {es es' : List (Name × Node κ)} {c : Child} {cs : List Child}
    (hm : readManifest ctx s c.sum = .ok cs) (hc : c.isDir = true)
    (h : checkoutNode ctx .copy s (fuel + 1) (some (.dir es)) c = .ok (.dir es')) (nm : Name) :
    (∃ k ∈ cs, k.name = nm ∧ ∃ nk, alookup es' nm = some nk ∧ Verified ctx s fuel k nk) ∨
      alookup es' nm = alookup es nm := by
  by_cases hex : ∃ k ∈ cs, k.name = nm
  · obtain ⟨k, hk, rfl⟩ := hex
    obtain ⟨-, -, _, _, he, hm', hall⟩ := (CI.conf_succ_dir hc).1 (CI.conf_of_checkout _ _ _ _ h)
    cases he
    cases hm.symm.trans hm'
    obtain ⟨nk, hnk, hcf⟩ := hall k hk
    exact .inl ⟨k, hk, rfl, nk, hnk, .of_conf fuel k nk hcf⟩
  · exact .inr (checkoutChildren_untracked cs es es' nm (checkoutNode_dir_ok hm hc h)
      fun k hk hn => hex ⟨k, hk, hn⟩)

/-- **corrupt object, file.**  No injectivity of the hash is assumed. -/
theorem corrupt_object_detected {ctx : Ctx κ} {s : Store κ} {sum : Digest} {o : Obj κ}
    (hs : hasSum sum = true) (ho : s.get sum = some o) (hbad : ctx.H (o.bytes ctx) ≠ sum) :
    checkoutFile ctx .copy none sum s = .error .sumMismatch := by
  rw [checkoutFile_copy hs ho (.inl rfl), if_neg (by simpa using hbad)]

/-- whenever the object has to be copied (the path does not already hold a regular file hashing to
`sum`) and whether or not the checksum is well formed: never a success -/
theorem corrupt_object_never_ok {ctx : Ctx κ} {s : Store κ} {sum : Digest} {o : Obj κ}
    {cur : Option (Node κ)} {n' : Node κ} (hup : upToDateCopy ctx cur sum = false)
    (ho : s.get sum = some o) (hbad : ctx.H (o.bytes ctx) ≠ sum)
    (h : checkoutFile ctx .copy cur sum s = .ok n') : False := by
  obtain ⟨o', ho', _, hH⟩ := checkoutFile_copy_ok hup h
  rw [ho] at ho'; cases ho'; exact hbad hH

/-- the bytes `x` are exactly the bytes of the cache object stored under their own digest -/
def FromCache (ctx : Ctx κ) (s : Store κ) (x : κ) : Prop :=
  ∃ o, s.get (ctx.H x) = some o ∧ o.bytes ctx = x

/-- every regular file below `new` either sits at the same relative path below `old` with the same
bytes, or comes from the cache.  An absent path is read as the empty directory, as `setPath` does. -/
def ProvP (ctx : Ctx κ) (s : Store κ) (strat : Strat) (old new : Node κ) : Prop :=
  ∀ p x, getPath new p = some (.file x) →
    getPath old p = some (.file x) ∨ (strat = .copy ∧ FromCache ctx s x)

theorem ProvP.refl (ctx : Ctx κ) (s : Store κ) (strat : Strat) (n : Node κ) : ProvP ctx s strat n n :=
  fun _ _ h => .inl h

theorem ProvP.trans {ctx : Ctx κ} {s : Store κ} {strat : Strat} {a b c : Node κ}
    (h1 : ProvP ctx s strat a b) (h2 : ProvP ctx s strat b c) : ProvP ctx s strat a c :=
  fun p x hp => (h2 p x hp).elim (h1 p x) .inr

def DirProv (ctx : Ctx κ) (s : Store κ) (strat : Strat) (es es' : List (Name × Node κ)) : Prop :=
  ∀ nm n', alookup es' nm = some n' → ProvP ctx s strat ((alookup es nm).getD (.dir [])) n'

theorem DirProv.toProvP {ctx : Ctx κ} {s : Store κ} {strat : Strat} {es es' : List (Name × Node κ)}
    (h : DirProv ctx s strat es es') : ProvP ctx s strat (.dir es) (.dir es') := by
  intro p x hp
  cases p with
  | nil => cases hp
  | cons nm r =>
    simp only [getPath] at hp
    split at hp
    · rename_i n1 hn1
      refine (h nm n1 hn1 r x hp).imp_left fun hg => ?_
      cases hl : alookup es nm with
      | some m => simpa only [getPath, hl, Option.getD_some] using hg
      | none =>
        rw [hl, Option.getD_none] at hg
        rcases getPath_nil_dir_cases (κ := κ) r with e | e <;> rw [e] at hg <;> cases hg
    · cases hp

theorem checkoutChildren_prov {ctx : Ctx κ} {s : Store κ} {strat : Strat}
    {f : Option (Node κ) → Child → Except Err (Node κ)}
    (hf : ∀ cur c n, f cur c = .ok n → ProvP ctx s strat (cur.getD (.dir [])) n) :
    ∀ (cs : List Child) (es es' : List (Name × Node κ)),
      checkoutChildren f es cs = .ok es' → DirProv ctx s strat es es' := by
  intro cs
  induction cs with
  | nil =>
    intro es es' h
    cases h
    exact fun nm n' hn' => hn' ▸ .refl ctx s strat n'
  | cons c cs ih =>
    intro es es' h
    obtain ⟨n, hn, h⟩ := checkoutChildren_cons_inv h
    intro nm n' hn'
    have := ih _ _ h nm n' hn'
    by_cases he : c.name = nm
    · subst he
      rw [alookup_setEntry_self] at this
      exact (hf _ _ _ hn).trans this
    · rw [alookup_setEntry_ne es n he] at this
      exact this

theorem checkoutFile_prov {ctx : Ctx κ} {strat : Strat} {cur : Option (Node κ)} {sum : Digest}
    {s : Store κ} {n' : Node κ} (h : checkoutFile ctx strat cur sum s = .ok n') :
    ProvP ctx s strat (cur.getD (.dir [])) n' := by
  obtain ⟨-, -, o, ho, ⟨c, rfl, -, rfl⟩ | ⟨-, -, ⟨-, rfl⟩ | ⟨hs, rfl, hH⟩⟩⟩ := checkoutFile_ok h
  · exact .refl ctx s strat _
  · -- a link is no regular file and has nothing below it
    intro p x hp
    cases p <;> cases hp
  · intro p x hp
    cases p with
    | nil => cases hp; exact .inr ⟨hs, o, hH.symm ▸ ho, rfl⟩
    | cons y q => cases hp

theorem checkoutNode_prov {ctx : Ctx κ} {strat : Strat} {s : Store κ} :
    ∀ (fuel : Nat) (cur : Option (Node κ)) (c : Child) (n' : Node κ),
      checkoutNode ctx strat s fuel cur c = .ok n' → ProvP ctx s strat (cur.getD (.dir [])) n' := by
  intro fuel
  induction fuel with
  | zero => intro _ _ _ h; cases h
  | succ fuel ih =>
    intro cur c n' h
    rcases checkoutNode_ok h with ⟨-, h⟩ | ⟨-, -, -, es, cs, es', hcur, -, hes, rfl⟩
    · exact checkoutFile_prov h
    · have : cur.getD (.dir []) = .dir es := by rcases hcur with rfl | ⟨rfl, rfl⟩ <;> rfl
      exact this ▸ (checkoutChildren_prov ih cs es es' hes).toProvP

/-- `f` is a file entry reachable from `c` through the manifests of the store -/
inductive ReachFile (ctx : Ctx κ) (s : Store κ) : Child → Child → Prop
  | here {c : Child} : c.isDir = false → ReachFile ctx s c c
  | step {c k f : Child} {cs : List Child} : c.isDir = true → readManifest ctx s c.sum = .ok cs →
      k ∈ cs → ReachFile ctx s k f → ReachFile ctx s c f

/-- what `Verified` says, entry by entry: every file entry reachable through the manifests is found
in the node as a regular file hashing to the entry's checksum -/
theorem Verified.reach {ctx : Ctx κ} {s : Store κ} {c f : Child} (hr : ReachFile ctx s c f) :
    ∀ (fuel : Nat) (n : Node κ), Verified ctx s fuel c n →
      ∃ p b, getPath n p = some (.file b) ∧ ctx.H b = f.sum := by
  induction hr with
  | here hc =>
    intro fuel n h
    cases fuel with
    | zero => exact h.elim
    | succ fuel =>
      unfold Verified at h
      simp only [hc] at h
      obtain ⟨b, rfl, hH⟩ := h
      exact ⟨[], b, rfl, hH⟩
  | @step _ k _ _ hc hm hk _ ih =>
    intro fuel n h
    cases fuel with
    | zero => exact h.elim
    | succ fuel =>
      unfold Verified at h
      simp only [hc, if_true] at h
      obtain ⟨es, cs', rfl, hm', hall⟩ := h
      cases hm.symm.trans hm'
      obtain ⟨m, hmk, hv⟩ := hall k hk
      obtain ⟨p, b, hp, hH⟩ := ih fuel m hv
      exact ⟨k.name :: p, b, by simp only [getPath, hmk]; exact hp, hH⟩

/-- **corrupt object, tree.**  If ANY file entry reachable through the manifests has a corrupted
object, a copy checkout into an absent workspace fails, for every fuel: the result would hold a file
hashing to the entry's checksum (`Verified.reach`) that comes from the cache (`checkoutNode_prov`), and
the only candidate is the corrupted object. -/
theorem corrupt_reachable_never_ok {ctx : Ctx κ} {s : Store κ} {c f : Child} {o : Obj κ}
    (hr : ReachFile ctx s c f) (ho : s.get f.sum = some o) (hbad : ctx.H (o.bytes ctx) ≠ f.sum)
    (fuel : Nat) (n' : Node κ) (h : checkoutNode ctx .copy s fuel none c = .ok n') : False := by
  obtain ⟨p, b, hp, hH⟩ := Verified.reach hr fuel n' (checkoutNode_copy_verified _ _ _ _ h)
  rcases checkoutNode_prov fuel none c n' h p b hp with hold | ⟨-, o', ho', hb⟩
  · rcases getPath_nil_dir_cases (κ := κ) p with e | e <;> rw [Option.getD_none, e] at hold <;> cases hold
  · rw [hH, ho] at ho'
    cases ho'
    exact hbad (hb ▸ hH)

theorem corrupt_reachable_detected {ctx : Ctx κ} {s : Store κ} (hnd : ManifestsNodup ctx s)
    {c f : Child} {o : Obj κ}
    (hr : ReachFile ctx s c f) (ho : s.get f.sum = some o) (hbad : ctx.H (o.bytes ctx) ≠ f.sum)
    (fuel : Nat) : ∃ e, checkoutNode ctx .copy s fuel none c = .error e := by
  have _ := hnd  -- not needed: `Verified.reach` asks nothing of the manifests
  cases h : checkoutNode ctx .copy s fuel none c with
  | error e => exact ⟨e, rfl⟩
  | ok n' => exact (corrupt_reachable_never_ok hr ho hbad fuel n' h).elim

/-- **Regenerated-fact obligation.**  `checkoutFile`'s copy branch compares the checksum computed
while copying with `art.Checksum`. -/
theorem copy_verifies_fact : Dud.Facts.copyVerifies = true := by decide

/-- the calls behind one hashed value: the destination is opened, and the reader that is hashed tees
into it (or one copy feeds hasher and destination through an `io.MultiWriter`) -/
def singlePass (l : List String) : Bool :=
  l.contains "call:os.OpenFile" && (l.contains "call:io.TeeReader" || l.contains "call:io.MultiWriter")

/-- **Regenerated-fact obligation: what is verified is what is written.** In the copy branch of
`checkoutFile` (helpers of the package looked through) every value compared with the recorded
checksum derives from `checksum.Checksum` applied to a reader that tees the opened cache object into
the exclusively created destination (`io.TeeReader` … `os.OpenFile`; or a copy into an
`io.MultiWriter` over hasher and destination), and no other copy writes into the destination: the
bytes that reach the workspace file are the bytes that were hashed, in ONE pass over the object —
the copy branch of the model's `checkoutFile` hashes the very byte string it places. A verification
pass followed by a separate copy pass (the object can change in between) does not satisfy this. -/
theorem copy_single_pass_fact :
    Dud.Facts.copyHashedSources ≠ [] ∧ Dud.Facts.copyHashedSources.all singlePass = true ∧
      Dud.Facts.copyUnhashedWriters = 0 := by decide +kernel

/-! ## Negative witness and non-vacuity -/

def C19.ctx : Ctx Nat :=
  { H := fun n => if n = 0 then "aaa" else if n = 1 then "bbb" else "ccc"
    encMan := fun _ _ _ => 99, decBlob := fun _ => none, reload := fun _ c => c
    nameOK := fun _ => true }
/-- `aaa` is fine, the object under `bbb` is corrupted (bytes 7 hash to `ccc`);
`mmm` = {x ↦ aaa, sub/ ↦ nnn}, `nnn` = {z ↦ bbb}; `ggg` = {x ↦ aaa} is entirely good -/
def C19.store : Store Nat :=
  [("aaa", .blob 0), ("bbb", .blob 7),
   ("mmm", .man .new [] [⟨[120], "aaa", false⟩, ⟨[115], "nnn", true⟩]),
   ("nnn", .man .new [115] [⟨[122], "bbb", false⟩]),
   ("ggg", .man .new [] [⟨[120], "aaa", false⟩])]

open C19 in
/-- **Negative witness.**  The link strategy happily links to a corrupted object. -/
theorem link_checkout_does_not_verify :
    ∃ o, store.get "bbb" = some o ∧ ctx.H (o.bytes ctx) ≠ "bbb" ∧
      checkoutFile ctx .link none "bbb" store = .ok (.link (.obj "bbb")) :=
  ⟨.blob 7, rfl, by decide, rfl⟩

open C19 in
example : checkoutFile ctx .copy none "bbb" store = .error .sumMismatch :=
  corrupt_object_detected (by decide) (o := .blob 7) rfl (by decide)
open C19 in
-- the skip branch: a workspace file hashing to `bbb` is accepted although the OBJECT under `bbb` is
-- corrupted (it is never read); the kept file does hash to the recorded checksum
example : checkoutFile ctx .copy (some (.file 1)) "bbb" store = .ok (.file 1) ∧ ctx.H 1 = "bbb" :=
  ⟨rfl, rfl⟩
open C19 in
example : upToDateCopy ctx (some (.file 1)) "bbb" = true := rfl
open C19 in
theorem C19.store_nodup : ManifestsNodup ctx store :=
  manifestsNodup_of_check (by decide)
open C19 in
-- the corrupted object sits two manifests deep
theorem C19.reach : ReachFile ctx store ⟨[], "mmm", true⟩ ⟨[122], "bbb", false⟩ :=
  .step (k := ⟨[115], "nnn", true⟩) (cs := [⟨[120], "aaa", false⟩, ⟨[115], "nnn", true⟩])
    rfl rfl (by decide)
    (.step (k := ⟨[122], "bbb", false⟩) (cs := [⟨[122], "bbb", false⟩]) rfl rfl (by decide)
      (.here rfl))
open C19 in
-- all hypotheses of `corrupt_reachable_detected` hold together
example : ∃ e, checkoutNode ctx .copy store 3 none ⟨[], "mmm", true⟩ = .error e :=
  corrupt_reachable_detected store_nodup reach (o := .blob 7) rfl (by decide) 3
open C19 in
example : checkoutNode ctx .copy store 3 none ⟨[], "mmm", true⟩ = .error .sumMismatch := by open Dud.WorldDec in decide +kernel
open C19 in
example : checkoutNode ctx .link store 3 none ⟨[], "mmm", true⟩
    = .ok (.dir [([120], .link (.obj "aaa")), ([115], .dir [([122], .link (.obj "bbb"))])]) := by open Dud.WorldDec in decide +kernel
open C19 in
-- a successful copy checkout (hypothesis of `checkoutNode_copy_verified` satisfiable)
example : checkoutNode ctx .copy store 3 (some (.dir [([121], .file 5)])) ⟨[], "ggg", true⟩
    = .ok (.dir [([121], .file 5), ([120], .file 0)]) := by open Dud.WorldDec in decide +kernel
open C19 in
example : Verified ctx store 3 ⟨[], "ggg", true⟩ (.dir [([121], .file 5), ([120], .file 0)]) :=
  checkoutNode_copy_verified 3 (some (.dir [([121], .file 5)])) _ _ rfl

end Dud

#print axioms Dud.checkoutFile_copy_ok
#print axioms Dud.uptodate_copy_is_verified
#print axioms Dud.checkoutFile_copy_verified
#print axioms Dud.checkoutNode_copy_verified
#print axioms Dud.checkoutNode_copy_position
#print axioms Dud.corrupt_object_detected
#print axioms Dud.corrupt_object_never_ok
#print axioms Dud.corrupt_reachable_never_ok
#print axioms Dud.corrupt_reachable_detected
#print axioms Dud.copy_verifies_fact
#print axioms Dud.copy_single_pass_fact
#print axioms Dud.link_checkout_does_not_verify
