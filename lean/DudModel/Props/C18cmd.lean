import DudModel.Lemmas.ConfineCmd
import DudModel.Props.C18stage
import DudModel.Props.C06cmd
/-!
# C18 at the level of the whole command: `dud commit` and `dud checkout` of a validated index never
name a path outside the project, its cache and its `.dud` directory

`Props/C18.lean` confines the paths of ONE traced commit / checkout below a safe artifact path,
`Props/C18stage.lean` derives the safety of the artifact paths from `Stage.validate`.  This file lifts both
to the traces of the WHOLE commands (`cmdCommitGoT`, `cmdCommitT` of `SysCmd.lean`; `cmdCheckoutT` of
`SysCheckout.lean`):

* `IndexValidated wa idx`: every stage the index holds passes `Stage.validate` under its own path — what
  `index.FromFile` guarantees (`loadIndex_validated`: every index `loadIndex` returns is validated);
* `cmdCommitGoT_confined` (Go's order of the stage-file writes), `cmdCommitT_confined` (all stage files
  last): for a validated index and a workspace whose entry names are single safe components (what directory
  listings return: a hypothesis on `w.ws`), EVERY path of EVERY call of the trace is `Confined` — a
  workspace path that is a safe relative path below the project root (no empty, `.`, `..` component, no
  `/` inside a component), or a cache / temp / lock / stage-file class;
* `cmdCheckoutT_confined`: for a validated index, every path of every call of the checkout trace is
  `Confined` — WHATEVER the workspace holds and WHATEVER the manifests of the cache contain (entry names
  are validated when a manifest is read, `readManifest_safe`; the `MkdirAll` of the ancestors of an
  artifact names prefixes of its validated path);
* `ExampleC18cmd`: a validated two-stage index (commit and checkout traces are confined, also checked
  call by call by evaluation); a cache whose manifest has an entry `../../x` makes the whole
  `cmdCheckoutT` fail with `badManifest` — after the harmless first stage, and without any call naming
  `t/../../x` (a failing run has no trace in the model; the failing check, `readManifest`, precedes every
  call of the artifact: `checkout_rejects_entry_name`).

Hypotheses: the index is validated; for commit the entry names of the workspace are safe components; a
successful run.  NOT covered: where a stage file lies — `.stageFile sp` / `.stageTmp sp` are `Confined`
whatever the index key `sp`, which `IndexValidated` does not restrict (head comment of `Props/C18.lean`);
what a stage's command does when `dud run` executes it; symlinked
directories inside the workspace (a path below the root is resolved by the kernel, `Confined` is about the
path strings dud passes); the index held by the world during a commit changes (checksums are recorded) but
its artifact paths do not (`PathsSafe` is the invariant, not `IndexValidated`).
-/
namespace Dud.Sys
open Dud Dud.Path
variable {κ : Type}

def IndexValidated (wa : Bool) (idx : Index) : Prop :=
  ∀ sp stg, alookup idx sp = some stg → stg.validate wa sp = true

theorem indexValidated_nil (wa : Bool) : IndexValidated wa [] := by
  intro sp stg h; simp [alookup] at h

/-- **`index.FromFile` returns validated indexes**: whatever `loadIndex` accepts, starting from a validated
index (e.g. the empty one), is validated -/
theorem loadIndex_validated {wa rev : Bool} : ∀ (l : List (Bytes × Stage)) (idx0 idx : Index),
    loadIndex wa rev l idx0 = .ok idx → IndexValidated wa idx0 → IndexValidated wa idx := by
  intro l idx0 idx h h0 sp stg hl
  rw [loadIndex_ok_eq wa rev l idx0 idx h, alookup_append] at hl
  cases h1 : alookup idx0 sp with
  | some b => rw [h1] at hl; exact h0 sp stg (h1.trans hl)
  | none => rw [h1] at hl; exact loadIndex_ok_validates wa rev l idx0 idx h (sp, stg) (alookup_mem hl)

theorem loadIndex_validated' {wa rev : Bool} {l : List (Bytes × Stage)} {idx : Index}
    (h : loadIndex wa rev l [] = .ok idx) : IndexValidated wa idx :=
  loadIndex_validated l [] idx h (indexValidated_nil wa)

theorem IndexValidated.pathsSafe {wa : Bool} {idx : Index} (h : IndexValidated wa idx) : PathsSafe idx :=
  fun sp stg hl a ha => ((validate_paths_safe wa stg sp (h sp stg hl)).1 a ha).1

/-- a decidable sufficient condition, for concrete indexes -/
theorem indexValidated_of_all {wa : Bool} {idx : Index}
    (h : idx.all (fun e => e.2.validate wa e.1) = true) : IndexValidated wa idx :=
  fun sp stg hl => List.all_eq_true.1 h (sp, stg) (alookup_mem hl)

theorem stageWriteCalls_confined (c : CmdCfg κ) (idx : Index) (sp : Bytes) :
    ∀ call ∈ stageWriteCalls c idx sp, CallConfined call := by
  intro call hc p hp
  rcases stageWriteCalls_paths c idx sp call hc p hp with rfl | rfl <;> trivial

theorem lockCalls_confined :
    CallConfined (Call.createExcl (κ := κ) .lock) ∧ CallConfined (Call.unlink (κ := κ) .lock) := by
  constructor <;> intro p hp <;> simp [callPaths] at hp <;> subst hp <;> trivial

/-- what every step of `dud commit` keeps: safe artifact paths in the index, safe entry names in the
workspace, every call so far confined -/
def ConfInv (w : World κ) (sg : List (Bool × List (Call κ))) : Prop :=
  PathsSafe w.idx ∧ NamesSafe w.ws ∧ ∀ seg ∈ sg, ∀ call ∈ seg.2, CallConfined call

theorem ConfInv.art {c : CmdCfg κ} {strat : Strat} (a a' : Art) (w1 w2 : World κ) (seg : List (Call κ))
    (sg : List (Bool × List (Call κ))) (ha : StageArt w1.idx a)
    (hq : ConfInv w1 sg) (h : commitArtWT c strat a w1 = .ok ((a', w2), seg)) :
    ConfInv w2 (sg ++ [(true, seg)]) := by
  have hp : SafeRel (comps a.path) := by
    obtain ⟨sp, stg, hl, ha | ⟨b, hb, rfl⟩⟩ := ha
    · exact hq.1 sp stg hl a (List.mem_append_left _ ha)
    · exact hq.1 sp stg hl b (List.mem_append_right _ hb)
  obtain ⟨hc, hn⟩ := commitArtWT_confined h hp hq.2.1
  obtain ⟨n, d, s, ws', -, -, -, rfl⟩ := commitArtWT_inv h
  exact ⟨hq.1, hn, List.forall_mem_append.2 ⟨hq.2.2, List.forall_mem_singleton.2 hc⟩⟩

theorem ConfInv.stage {c : CmdCfg κ} {strat : Strat} (sp : Bytes) (w w' : World κ)
    (segs : List (List (Call κ))) (w2 : World κ) (sg : List (Bool × List (Call κ)))
    (h : commitActT c strat sp w = .ok (w', segs)) (hi : w2.idx = w.idx) (hws : w'.ws = w2.ws)
    (hq : ConfInv w2 sg) : ConfInv w' sg :=
  ⟨commitAct_pathsSafe ((map_fst_eq (commitActT_refines c strat sp w)).2 _ _ h) (hi ▸ hq.1), hws ▸ hq.2.1, hq.2.2⟩

theorem ConfInv.meta {c : CmdCfg κ} (w : World κ) (sp : Bytes) (sg : List (Bool × List (Call κ)))
    (hq : ConfInv w sg) : ConfInv w (sg ++ [(false, stageWriteCalls c w.idx sp)]) :=
  ⟨hq.1, hq.2.1, List.forall_mem_append.2 ⟨hq.2.2, List.forall_mem_singleton.2 (stageWriteCalls_confined c w.idx sp)⟩⟩

theorem goCalls_confined {segs : List (Bool × List (Call κ))}
    (h : ∀ seg ∈ segs, ∀ call ∈ seg.2, CallConfined call) : ∀ call ∈ goCalls segs, CallConfined call := by
  intro call hcall
  simp only [goCalls, List.mem_append, List.mem_singleton, List.mem_flatten, List.mem_map] at hcall
  rcases hcall with (rfl | ⟨l, ⟨seg, hseg, rfl⟩, hcl⟩) | rfl
  · exact lockCalls_confined.1
  · exact h seg hseg call hcl
  · exact lockCalls_confined.2

/-- **C18, the whole `dud commit` (stage files written after each target, Go's order).**  For a validated
index and a workspace whose entry names are single safe components, every path of every call of the
trace of `cmdCommitGoT` is confined. -/
theorem cmdCommitGoT_confined {c : CmdCfg κ} {strat : Strat} {targets : List Bytes} {w w' : World κ}
    {calls : List (Call κ)} (hv : IndexValidated c.cfg.walkAccumulates w.idx)
    (hn : ∀ x ∈ allNames w.ws, SafeComp x)
    (h : cmdCommitGoT c strat targets w = .ok (w', calls)) :
    ∀ call ∈ calls, ∀ p ∈ callPaths call, Confined p := by
  obtain ⟨segs, hgo, rfl⟩ := cmdCommitGoT_ok_inv h
  exact goCalls_confined (goTargets_segs ConfInv.art ConfInv.stage ConfInv.meta
    (p := (fresh w, [])) ⟨hv.pathsSafe, hn, by simp⟩ hgo).2.2

/-- **C18, the whole `dud commit` (all stage files after all artifacts).** -/
theorem cmdCommitT_confined {c : CmdCfg κ} {strat : Strat} {targets : List Bytes} {w w' : World κ}
    {calls : List (Call κ)} (hv : IndexValidated c.cfg.walkAccumulates w.idx)
    (hn : ∀ x ∈ allNames w.ws, SafeComp x)
    (h : cmdCommitT c strat targets w = .ok (w', calls)) :
    ∀ call ∈ calls, ∀ p ∈ callPaths call, Confined p := by
  obtain ⟨arts, hpt, rfl⟩ := cmdCommitT_ok_inv h
  exact goCalls_confined (cmdCommitT_segs ConfInv.art ConfInv.stage ConfInv.meta hpt
    (show ConfInv (fresh w) [] from ⟨hv.pathsSafe, hn, by simp⟩)).2.2

/-- **C18, the whole `dud checkout`.**  For a validated index, every path of every call of the trace of
`cmdCheckoutT` is confined — whatever the workspace holds and whatever the manifests of the cache
contain. -/
theorem cmdCheckoutT_confined {c : CmdCfg κ} {strat : Strat} {single : Bool} {targets : List Bytes}
    {w w' : World κ} {calls : List (Call κ)} (hv : IndexValidated c.cfg.walkAccumulates w.idx)
    (h : cmdCheckoutT c strat single targets w = .ok (w', calls)) :
    ∀ call ∈ calls, ∀ p ∈ callPaths call, Confined p := by
  obtain ⟨segs, hs, rfl⟩ := cmdCheckoutT_ok_segs h
  have hg := (cmdCheckoutSegs_induct (Q := fun _ sg => ∀ call ∈ sg.flatten, CallConfined call)
    (fun a ⟨sp, stg, hl, ha⟩ w1 w2 seg sg _ hq h1 call hcall => by
      simp only [List.flatten_append, List.flatten_cons, List.flatten_nil, List.append_nil,
        List.mem_append] at hcall
      exact hcall.elim (hq call) (checkoutArtWT_confined h1
        (hv.pathsSafe sp stg hl a (List.mem_append_left _ ha)) call))
    hs (by simp)).1
  intro call hcall
  simp only [coCalls, List.mem_append, List.mem_singleton] at hcall
  rcases hcall with (rfl | hcall) | rfl
  · exact lockCalls_confined.1
  · exact hg call hcall
  · exact lockCalls_confined.2

/-- … for an index as `index.FromFile` returns it -/
theorem cmdCheckoutT_confined_loaded {c : CmdCfg κ} {strat : Strat} {single : Bool} {targets : List Bytes}
    {w w' : World κ} {calls : List (Call κ)} {rev : Bool} {l : List (Bytes × Stage)}
    (hl : loadIndex c.cfg.walkAccumulates rev l [] = .ok w.idx)
    (h : cmdCheckoutT c strat single targets w = .ok (w', calls)) :
    ∀ call ∈ calls, ∀ p ∈ callPaths call, Confined p :=
  cmdCheckoutT_confined (loadIndex_validated' hl) h

theorem cmdCommitGoT_confined_loaded {c : CmdCfg κ} {strat : Strat} {targets : List Bytes} {w w' : World κ}
    {calls : List (Call κ)} {rev : Bool} {l : List (Bytes × Stage)}
    (hl : loadIndex c.cfg.walkAccumulates rev l [] = .ok w.idx) (hn : ∀ x ∈ allNames w.ws, SafeComp x)
    (h : cmdCommitGoT c strat targets w = .ok (w', calls)) :
    ∀ call ∈ calls, ∀ p ∈ callPaths call, Confined p :=
  cmdCommitGoT_confined (loadIndex_validated' hl) hn h

namespace ExampleC18cmd
open Dud Dud.Sys Dud.Example ExampleCmd ExampleCheckout

/-- Boolean form of `Confined` -/
def confinedB : P → Bool
  | .ws rel => rel.all (fun c => decide (SafeComp c))
  | _ => true

/-- the committed two-stage index of `ExampleCheckout` (outputs `a/` and `p/q/f`, the input `a/` of stage B
owned by stage A, a plain input `c`) passes validation -/
theorem wc_validated : IndexValidated ccS.cfg.walkAccumulates wc.idx :=
  indexValidated_of_all (by decide +kernel)

theorem wfresh_validated : IndexValidated ccS.cfg.walkAccumulates wfresh.idx := wc_validated

theorem checkoutCalls_checked :
    (callsOf .link wfresh []).all (fun call => (callPaths call).all confinedB) = true ∧
    (callsOf .copy wc []).all (fun call => (callPaths call).all confinedB) = true := by decide +kernel

/-- the hypothesis of `cmdCheckoutT_confined` holds, the command succeeds (8 calls, among them the
`MkdirAll` of `p` and `p/q`), every path is confined -/
example : (callsOf .link wfresh []).length = 8 ∧
    ∀ call ∈ callsOf .link wfresh [], ∀ p ∈ callPaths call, Confined p := by
  obtain ⟨w', h⟩ := ExampleCheckout.callsOf_ok callsOf_link_ne_nil
  exact ⟨callsOf_link_length, cmdCheckoutT_confined (c := ccS) wfresh_validated h⟩

/-- the same by evaluation, call by call, for link and copy -/
example : (callsOf .link wfresh []).all (fun call => (callPaths call).all confinedB) = true ∧
    (callsOf .copy wc []).all (fun call => (callPaths call).all confinedB) = true := checkoutCalls_checked

/-- the two-stage project before its first commit (same stages, regular files in place) -/
def w0c : World K :=
  { ws := .dir [([97], treeA), ([112], .dir [([113], .dir [([102], .file (.raw "deep"))])]),
                ([99], .file (.raw "i"))],
    idx := [([1], stageA), ([2], stageB2)] }

theorem w0c_names : ∀ x ∈ allNames w0c.ws, SafeComp x := by decide +kernel

theorem w0c_validated : IndexValidated (cc true).cfg.walkAccumulates w0c.idx :=
  indexValidated_of_all (by decide +kernel)

/-- the calls of the whole `dud commit` in Go's order (empty on failure) -/
def commitCalls : List (Call K) :=
  match cmdCommitGoT (cc true) .link [] w0c with
  | .ok (_, calls) => calls
  | .error _ => []

theorem commitCalls_checked : commitCalls.length = 46 ∧
    commitCalls.all (fun call => (callPaths call).all confinedB) = true := by decide +kernel

theorem commitCalls_ne_nil : commitCalls ≠ [] :=
  fun h => absurd (h ▸ commitCalls_checked.1) (by decide)

/-- the hypotheses of `cmdCommitGoT_confined` hold together, the command succeeds with 46 calls, every
path is confined — by the theorem, and once more by evaluation -/
example : commitCalls.length = 46 ∧ (∀ call ∈ commitCalls, ∀ p ∈ callPaths call, Confined p) ∧
    commitCalls.all (fun call => (callPaths call).all confinedB) = true := by
  have h : ∃ w', cmdCommitGoT (cc true) .link [] w0c = .ok (w', commitCalls) := by
    have hne := commitCalls_ne_nil
    unfold commitCalls at hne ⊢
    cases hT : cmdCommitGoT (cc true) .link [] w0c with
    | error e => rw [hT] at hne; exact absurd rfl hne
    | ok v => exact ⟨v.1, rfl⟩
  obtain ⟨w', h⟩ := h
  exact ⟨commitCalls_checked.1, cmdCommitGoT_confined (c := cc true) w0c_validated w0c_names h,
    commitCalls_checked.2⟩

def goodObj : K := .raw "good"

/-- a consistent cache in which the manifest of directory `t` has the single entry `../../x` (as an
attacker, or a buggy third-party tool, could place it in a shared cache or a remote) -/
def evilStore : Store K := escStore ctxS [116] Escape.evilName Escape.payload

def evilSum : Digest :=
  (Obj.man .new [116] [⟨Escape.evilName, ctxS.H Escape.payload, false⟩] : Obj K).digest ctxS

/-- two stages: the first checks out a harmless file `g`, the second the directory `t` with the hostile
manifest; empty workspace -/
def wEvil : World K :=
  { ws := .dir [],
    store := (ctxS.H goodObj, .blob goodObj) :: evilStore,
    idx := [([1], { cmd := [1], outputs := [{ path := [103], sum := ctxS.H goodObj }] }),
            ([2], { cmd := [2], outputs := [{ path := [116], isDir := true, sum := evilSum }] })] }

/-- the index is validated (the artifact paths `g`, `t` are fine) and the cache is consistent: neither
check is what stops the attack -/
theorem wEvil_validated : IndexValidated true wEvil.idx := indexValidated_of_all (by decide +kernel)
theorem wEvil_consistent : Consistent ctxS wEvil.store := consistent_of_consistentB (by decide +kernel)

/-- **The hostile manifest entry makes the whole command fail with `badManifest`**, with either strategy:
the first stage is harmless (alone it succeeds with 3 confined calls), the second stage fails when the
manifest is read — before the `MkdirAll` of `t` and before any call of the artifact, in particular
nothing names `t/../../x`.  (A failing run has no trace in the model; `checkout_rejects_entry_name` of
`Props/C18.lean` is the general statement about the failing check.) -/
theorem hostile_manifest_rejected :
    (match cmdCheckoutT ccS .link false [] wEvil with
      | .error .badManifest => true
      | _ => false) = true ∧
    (match cmdCheckoutT ccS .copy false [] wEvil with
      | .error .badManifest => true
      | _ => false) = true ∧
    (match cmdCheckoutT ccS .link false [[1]] wEvil with
      | .ok (_, calls) => calls.length == 3 && calls.all (fun call => (callPaths call).all confinedB)
      | .error _ => false) = true := by decide +kernel

/-- the entry name is not a safe component, the path it would have produced is not confined -/
example : ¬ Confined (.ws ([[116]] ++ [Escape.evilName])) := Escape.evil_not_safe

#eval match cmdCheckoutT ccS .link false [] wEvil with
  | .ok (_, calls) => "; ".intercalate (calls.map Example.showCall)
  | .error e => s!"error {e}"
#eval match cmdCheckoutT ccS .link false [[1]] wEvil with
  | .ok (_, calls) => "; ".intercalate (calls.map Example.showCall)
  | .error e => s!"error {e}"

end ExampleC18cmd

#print axioms loadIndex_validated
#print axioms IndexValidated.pathsSafe
#print axioms cmdCommitGoT_confined
#print axioms cmdCommitT_confined
#print axioms cmdCheckoutT_confined
#print axioms cmdCheckoutT_confined_loaded
#print axioms cmdCommitGoT_confined_loaded
#print axioms ExampleC18cmd.wc_validated
#print axioms ExampleC18cmd.w0c_names
#print axioms ExampleC18cmd.w0c_validated
#print axioms ExampleC18cmd.wEvil_validated
#print axioms ExampleC18cmd.wEvil_consistent
#print axioms ExampleC18cmd.hostile_manifest_rejected

end Dud.Sys
