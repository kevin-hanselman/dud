import DudModel.Lemmas.SysConc
import DudModel.Lemmas.SysConcCmd
import DudModel.Props.C03cmdGo
import DudModel.Props.C06cmd
import DudModel.Lock
/-!
# C12 at the level of the system-call model: any interleaving of any number of dud commands is serial

`Props/C12.lean` proves mutual exclusion for an ABSTRACT model (program counters and a Boolean).  This file
proves it for the concurrent small-step semantics of `SysConc.lean` over the real `FS` / `Call` / `apply`,
and adds what the abstract model cannot say: **the shared file system after ANY schedule is the one the
winners of the lock produce when run one after the other** (`serializable`).

Setting, for all theorems: any number `n` of processes; process `i` has the plan `planOf plans i` (an
arbitrary function from the file system it sees right after locking to the calls of its body; processes
beyond `plans.length` have the empty body); every plan is `BodyOK` (no call of the body writes the lock
path — hypothesis `hb`; proved for the real traces of `dud commit` and `dud checkout`, for every
configuration and every world: `commit_plan_bodyOK`, `checkout_plan_bodyOK`); the initial file system has no
lock (`h0`); `evs` is ANY list of events: `step i` (one system call of process `i`) or `retry i` (the user
starts the command of an exited process again).  No fairness: a process that is never scheduled again is a
killed (or stuck) process.  `run` is the special case of steps only.

`run_refines_lock`: the abstract model of `Lock.lean` is an abstraction of this one.  What fails without
`O_EXCL`: `…_fails_without_excl`, `no_serial_run_has_both` (plans and schedule in namespace `NoExcl`).
Non-vacuity: `Demo` (three toy processes whose plans read the file system),
`DemoCmd` (a real `dud commit`, a real `dud checkout`, a failing commit).

NOT covered: liveness (nobody is promised the lock); commands that do not take the lock (`dud init`,
`--version`); a process killed while holding leaves the lock file behind for ever (`lock_busy_refuses`:
everybody is refused until it is removed by hand) — the theorems still hold for such runs, the killed
process simply stays `holding`; a command that locks `<root>/.dud/lock` and unlocks relative to another
working directory (`Lock.config_subdir_leaves_lock`: what `Lock.lean` says of a `config` sub-command without
the `os.Chdir`; the extracted fact `Facts.configChdirs` decides whether the sources are such) — this model,
whose `P.lock` is one canonical path, does not see path resolution; processes other than dud writing the
project; how a command reads the logical world off the file system (`worldOf` in `commitPlan` and
`checkoutPlan` is a parameter; `hworld` in `commit_block_final` is the only tie); a body is planned in one
go from the file system at lock time (sound because nobody else writes until the unlock: that is the
theorem) and each call is atomic; a command that fails at the LOGICAL level has the empty body
(`commitBody`: such a run has no trace in `cmdCommitGoT`) — `failing plan k` covers failures after `k` calls
of a successful plan.
-/
namespace Dud.Sys.Conc

open Dud Dud.Sys

variable {κ : Type}

/-- the state reached from `n` idle processes on `fs0` -/
def reach (emp : κ) (plans : List (Plan κ)) (fs0 : FS κ) (n : Nat) (evs : List Ev) : State κ :=
  runE emp plans (init fs0 n) evs

theorem reach_run (emp : κ) (plans : List (Plan κ)) (fs0 : FS κ) (n : Nat) (sched : List Nat) :
    reach emp plans fs0 n (sched.map .step) = run emp plans (init fs0 n) sched :=
  (run_eq_runE emp plans _ sched).symm

theorem reach_inv {emp : κ} {plans : List (Plan κ)} (hb : ∀ pl ∈ plans, BodyOK pl) {fs0 : FS κ}
    (h0 : fs0.get .lock = none) (n : Nat) (evs : List Ev) :
    Inv emp plans fs0 (reach emp plans fs0 n evs) (serialOf emp plans fs0 n evs) := by
  have := runH_inv (planOf_bodyOK hb) evs (init fs0 n, Hist.empty) (inv_init emp plans fs0 h0 n)
  rw [runH_fst] at this
  exact this

theorem reach_length (emp : κ) (plans : List (Plan κ)) (fs0 : FS κ) (n : Nat) (evs : List Ev) :
    (reach emp plans fs0 n evs).procs.length = n := by
  unfold reach; rw [runE_length]; simp [init]

/-- **Two processes never hold at once** (index form). -/
theorem mutex_sys_index {emp : κ} {plans : List (Plan κ)} (hb : ∀ pl ∈ plans, BodyOK pl) {fs0 : FS κ}
    (h0 : fs0.get .lock = none) (n : Nat) (evs : List Ev) {i j : Nat} {r r' : List (Call κ)}
    (hi : (reach emp plans fs0 n evs).procs[i]? = some (.holding r))
    (hj : (reach emp plans fs0 n evs).procs[j]? = some (.holding r')) : i = j :=
  (reach_inv hb h0 n evs).holder_unique hi hj

/-- **Mutual exclusion**: for every number of processes, all plans, every schedule, at most one process is
`holding`. -/
theorem mutex_sys {emp : κ} {plans : List (Plan κ)} (hb : ∀ pl ∈ plans, BodyOK pl) {fs0 : FS κ}
    (h0 : fs0.get .lock = none) (n : Nat) (evs : List Ev) :
    (reach emp plans fs0 n evs).holdingCount ≤ 1 :=
  (reach_inv hb h0 n evs).holdingCount_le_one

/-- **The lock file exists iff some process is holding**; and then exactly one is, and the file is the
empty 0600 file `createExcl` made. -/
theorem lock_iff_holder_sys {emp : κ} {plans : List (Plan κ)} (hb : ∀ pl ∈ plans, BodyOK pl) {fs0 : FS κ}
    (h0 : fs0.get .lock = none) (n : Nat) (evs : List Ev) :
    (((reach emp plans fs0 n evs).fs.get .lock).isSome = true ↔
      ∃ (i : Nat) (r : List (Call κ)), (reach emp plans fs0 n evs).procs[i]? = some (.holding r)) ∧
    (((reach emp plans fs0 n evs).fs.get .lock).isSome = true ↔
      (reach emp plans fs0 n evs).holdingCount = 1) ∧
    ((reach emp plans fs0 n evs).fs.get .lock = none ∨
      (reach emp plans fs0 n evs).fs.get .lock = some (.file emp 0o600)) := by
  have inv := reach_inv (emp := emp) hb h0 n evs
  refine ⟨inv.lock_iff_holder, ?_, inv.lock_cases⟩
  rw [inv.lock_iff_holder, ← holdingCount_pos_iff]
  have := inv.holdingCount_le_one
  omega

/-- Whatever the outcome, the file system after the `lockProject` step of an idle process is
`apply … (createExcl lock)`: the model's success test agrees with `apply`. -/
theorem step_idle_fs (emp : κ) (plans : List (Plan κ)) (st : State κ) (i : Nat)
    (hi : st.procs[i]? = some .idle) :
    (step emp plans st i).fs = apply emp st.fs (.createExcl .lock) ∧
    ((step emp plans st i).procs[i]? = some .refused ↔ lockFree st.fs = false) := by
  cases hf : lockFree st.fs with
  | true => rw [step_idle_free hi hf]; exact ⟨rfl, by rw [get_set_self hi]; simp⟩
  | false =>
    rw [step_idle_busy hi hf, createExcl_lock_busy emp _ hf]; exact ⟨rfl, by rw [get_set_self hi]; simp⟩

/-- A process that has been refused never issues another call: its steps are no-ops (for both variants of
the lock call). -/
theorem refused_never_acts (excl : Bool) (emp : κ) (plans : List (Plan κ)) (st : State κ) (i : Nat)
    (hi : st.procs[i]? = some .refused) : stepX excl emp plans st i = st := by
  unfold stepX; simp only [hi]

/-- **The step that gets a process refused changes nothing but that process's own state**: the file system
is unchanged (in particular the holder's lock is still there), every other process is as before, and the
refused process never acts again.  No hypothesis on the state. -/
theorem refused_changes_nothing (emp : κ) (plans : List (Plan κ)) (st : State κ) (i : Nat)
    (hi : st.procs[i]? = some .idle) (hbusy : lockFree st.fs = false) :
    (step emp plans st i).fs = st.fs ∧
    (step emp plans st i).fs.get .lock = st.fs.get .lock ∧
    (step emp plans st i).procs = st.procs.set i .refused ∧
    (∀ j, j ≠ i → (step emp plans st i).procs[j]? = st.procs[j]?) ∧
    (∀ k, run emp plans (step emp plans st i) (List.replicate k i) = step emp plans st i) := by
  rw [step_idle_busy hi hbusy]
  refine ⟨rfl, rfl, rfl, fun j hj => List.getElem?_set_ne (fun e => hj e.symm), fun k => ?_⟩
  induction k with
  | zero => rfl
  | succ k ih =>
    rw [List.replicate_succ, run, List.foldl_cons, step, refused_never_acts true emp plans _ i (get_set_self hi _)]
    exact ih

/-- Once refused, a process stays refused whatever the others do (until the user retries). -/
theorem refused_stays (emp : κ) (plans : List (Plan κ)) (i : Nat) :
    ∀ (sched : List Nat) (st : State κ), st.procs[i]? = some .refused →
      (run emp plans st sched).procs[i]? = some .refused
  | sched, _, h =>
    List.foldlRecOn (motive := fun s : State κ => s.procs[i]? = some .refused) sched _ h fun s hs j _ => by
      by_cases hj : j = i
      · rw [hj, step, refused_never_acts true emp plans s i hs]; exact hs
      · exact (stepX_other true emp plans s j i hj).trans hs

/-- **Any interleaving is a serial execution.**  After ANY list of events, with `h` the history (the blocks
of calls executed under the lock, in the order the lock was acquired):
1. the shared file system is the replay, from the initial one, of the calls of the history in order;
2. every completed block is a complete command — `createExcl lock`, the body planned on the file system
   with the lock THAT THE SERIAL EXECUTION OF THE EARLIER BLOCKS PRODUCES, `unlink lock` (`Complete`) —, so
   the replay of the completed blocks is `serialRun` of their owners in acquisition order;
3. if nobody holds, the file system IS that serial result;
4. if process `i` holds, the block in progress is `createExcl lock` plus the prefix `pre` of its body executed
   so far, the body being planned on the serial result with the lock, `rest` being what `i` still has to do;
   the file system is the serial result plus that prefix. -/
theorem serializable {emp : κ} {plans : List (Plan κ)} (hb : ∀ pl ∈ plans, BodyOK pl) {fs0 : FS κ}
    (h0 : fs0.get .lock = none) (n : Nat) (evs : List Ev) :
    (reach emp plans fs0 n evs).fs = replay emp fs0 (serialOf emp plans fs0 n evs).calls ∧
    Complete emp plans fs0 (serialOf emp plans fs0 n evs).done ∧
    replay emp fs0 (flatBlocks (serialOf emp plans fs0 n evs).done)
      = serialRun emp plans fs0 (serialOf emp plans fs0 n evs).order ∧
    ((serialOf emp plans fs0 n evs).cur = none →
      (∀ (j : Nat) (r : List (Call κ)), (reach emp plans fs0 n evs).procs[j]? ≠ some (.holding r)) ∧
      (reach emp plans fs0 n evs).fs = serialRun emp plans fs0 (serialOf emp plans fs0 n evs).order) ∧
    (∀ (i : Nat) (cs : List (Call κ)), (serialOf emp plans fs0 n evs).cur = some (i, cs) →
      ∃ (pre rest : List (Call κ)), (reach emp plans fs0 n evs).procs[i]? = some (.holding rest) ∧
        cs = .createExcl .lock :: pre ∧
        pre ++ rest = planOf plans i
          (apply emp (serialRun emp plans fs0 (serialOf emp plans fs0 n evs).order) (.createExcl .lock)) ∧
        (reach emp plans fs0 n evs).fs
          = replay emp (serialRun emp plans fs0 (serialOf emp plans fs0 n evs).order) cs) := by
  have inv := reach_inv (emp := emp) hb h0 n evs
  have hser := complete_serial emp plans _ fs0 inv.complete
  refine ⟨inv.fsEq, inv.complete, hser, fun hc => ⟨(inv.idleH hc).2, ?_⟩, fun i cs hc => ?_⟩
  · rw [inv.fsEq, Hist.calls_idle hc]; exact hser
  · obtain ⟨-, -, pre, rest, hp, hcs, hpl⟩ := inv.busyH i cs hc
    refine ⟨pre, rest, hp, hcs, ?_, ?_⟩
    · rw [hpl, hser]; rfl
    · rw [inv.fsEq, Hist.calls_busy hc, replay_append, hser]; rfl

/-- **Quiescent form**: whenever nobody holds the lock, the file system is exactly what the commands that
got the lock produce when run one after the other, each to completion, in the order they got it. -/
theorem serializable_quiescent {emp : κ} {plans : List (Plan κ)} (hb : ∀ pl ∈ plans, BodyOK pl) {fs0 : FS κ}
    (h0 : fs0.get .lock = none) (n : Nat) (evs : List Ev)
    (hq : ∀ (j : Nat) (r : List (Call κ)), (reach emp plans fs0 n evs).procs[j]? ≠ some (.holding r)) :
    (reach emp plans fs0 n evs).fs = serialRun emp plans fs0 (serialOf emp plans fs0 n evs).order := by
  have inv := reach_inv (emp := emp) hb h0 n evs
  rw [inv.fsEq, Hist.calls_idle (inv.cur_none hq)]
  exact complete_serial emp plans _ fs0 inv.complete

/-- **The history names exactly the processes that completed**: for a schedule of steps (no retries), a
process is `done` iff it owns a completed block, it owns at most one, and the refused ones own none. -/
theorem history_sound {emp : κ} {plans : List (Plan κ)} (hb : ∀ pl ∈ plans, BodyOK pl) {fs0 : FS κ}
    (h0 : fs0.get .lock = none) (n : Nat) (sched : List Nat) :
    (∀ i, (run emp plans (init fs0 n) sched).procs[i]? = some .done ↔
      i ∈ (serialOf emp plans fs0 n (sched.map .step)).order) ∧
    (serialOf emp plans fs0 n (sched.map .step)).order.Nodup := by
  -- both invariants along the instrumented run
  have H := List.foldlRecOn
    (motive := fun p : State κ × Hist κ => Inv emp plans fs0 p.1 p.2 ∧ HistOK p.1 p.2) sched
    (fun p i => execH emp plans p (.step i)) (b := (init fs0 n, Hist.empty))
    ⟨inv_init emp plans fs0 h0 n, histOK_init fs0 n⟩
    fun p hp i _ => ⟨step_inv (planOf_bodyOK hb) hp.1 i, histOK_step hp.1 hp.2 i⟩
  rw [← List.foldl_map] at H
  rw [run_eq_runH _ _ _ Hist.empty]
  exact ⟨H.2.doneIff, H.2.nodup⟩

/-- **Every command that exits on its own leaves the project unlocked**: when every process is `done` or
`refused`, the lock file does not exist — and the file system is the serial result. -/
theorem all_exited_unlocked {emp : κ} {plans : List (Plan κ)} (hb : ∀ pl ∈ plans, BodyOK pl) {fs0 : FS κ}
    (h0 : fs0.get .lock = none) (n : Nat) (evs : List Ev)
    (hex : ∀ i, i < n → ∃ b, (reach emp plans fs0 n evs).procs[i]? = some b ∧ b.exited = true) :
    (reach emp plans fs0 n evs).fs.get .lock = none ∧
    (reach emp plans fs0 n evs).fs = serialRun emp plans fs0 (serialOf emp plans fs0 n evs).order := by
  have inv := reach_inv (emp := emp) hb h0 n evs
  have hq : ∀ (j : Nat) (r : List (Call κ)), (reach emp plans fs0 n evs).procs[j]? ≠ some (.holding r) := by
    intro j r hj
    obtain ⟨b, hb1, hb2⟩ := hex j (reach_length emp plans fs0 n evs ▸ (List.getElem?_eq_some_iff.1 hj).1)
    cases hj.symm.trans hb1
    cases hb2
  exact ⟨(inv.idleH (inv.cur_none hq)).1, serializable_quiescent hb h0 n evs hq⟩

/-- **A refused (or finished) command can be run again, and gets the lock if nobody holds it**: in any
reachable state without a holder, after `retry i` the next step of `i` takes the lock and plans its body on
the file system with the lock.  (Liveness is NOT claimed: if somebody holds, it is refused again.) -/
theorem retry_acquires {emp : κ} {plans : List (Plan κ)} (hb : ∀ pl ∈ plans, BodyOK pl) {fs0 : FS κ}
    (h0 : fs0.get .lock = none) (n : Nat) (evs : List Ev) (i : Nat)
    (hq : ∀ (j : Nat) (r : List (Call κ)), (reach emp plans fs0 n evs).procs[j]? ≠ some (.holding r))
    {b : PSt κ} (hi : (reach emp plans fs0 n evs).procs[i]? = some b) (hex : b.exited = true) :
    (reach emp plans fs0 n (evs ++ [.retry i, .step i])).procs[i]? =
      some (.holding (planOf plans i (apply emp (reach emp plans fs0 n evs).fs (.createExcl .lock)))) ∧
    (reach emp plans fs0 n (evs ++ [.retry i, .step i])).fs
      = apply emp (reach emp plans fs0 n evs).fs (.createExcl .lock) ∧
    (reach emp plans fs0 n (evs ++ [.retry i, .step i])).fs.get .lock = some (.file emp 0o600) := by
  have inv := reach_inv (emp := emp) hb h0 n evs
  have hfree : lockFree (reach emp plans fs0 n evs).fs = true :=
    (lockFree_iff _).2 (inv.idleH (inv.cur_none hq)).1
  have hsplit : reach emp plans fs0 n (evs ++ [.retry i, .step i])
      = step emp plans (retry (reach emp plans fs0 n evs) i) i := by
    simp only [reach, runE, List.foldl_append, List.foldl_cons, List.foldl_nil, exec]
  rw [hsplit]
  generalize reach emp plans fs0 n evs = st at hi hfree
  have hr : retry st i = { st with procs := st.procs.set i .idle } := by
    unfold retry
    cases b <;> cases hex <;> simp only [hi]
  have hidle : (retry st i).procs[i]? = some .idle := by rw [hr]; exact get_set_self hi _
  have hfs : (retry st i).fs = st.fs := by rw [hr]
  rw [step_idle_free hidle (hfs.symm ▸ hfree), hfs]
  exact ⟨get_set_self hidle _, rfl, createExcl_lock_get emp _ hfree⟩

/-- While the lock file exists — in particular for ever after its holder was killed — every command that
starts is refused. -/
theorem lock_busy_refuses (emp : κ) (plans : List (Plan κ)) (st : State κ) (j : Nat)
    (hj : st.procs[j]? = some .idle) (hbusy : lockFree st.fs = false) :
    (step emp plans st j).procs[j]? = some .refused :=
  (step_idle_fs emp plans st j hj).2.2 hbusy

/-- the plan of a `dud commit`: `worldOf` is what the process reads — the logical world (workspace tree,
cache, index) as a function of the file system it sees right after locking; the body is the body of the
trace of `cmdCommitGoT` on that world -/
def commitPlan (c : CmdCfg κ) (strat : Strat) (targets : List Bytes) (worldOf : FS κ → World κ) : Plan κ :=
  fun fs => commitBody c strat targets (worldOf fs)

def checkoutPlan (c : CmdCfg κ) (strat : Strat) (single : Bool) (targets : List Bytes)
    (worldOf : FS κ → World κ) : Plan κ :=
  fun fs => checkoutBody c strat single targets (worldOf fs)

/-- **The body of `dud commit` satisfies `BodyOK`** — for every configuration, strategy, target list and
every `worldOf` (NO hypothesis on the worlds: the fact is syntactic, `commitBody_noLock`). -/
theorem commit_plan_bodyOK (c : CmdCfg κ) (strat : Strat) (targets : List Bytes) (worldOf : FS κ → World κ) :
    BodyOK (commitPlan c strat targets worldOf) :=
  fun fs => commitBody_noLock c strat targets (worldOf fs)

/-- **The body of `dud checkout` satisfies `BodyOK`**, likewise without hypotheses. -/
theorem checkout_plan_bodyOK (c : CmdCfg κ) (strat : Strat) (single : Bool) (targets : List Bytes)
    (worldOf : FS κ → World κ) : BodyOK (checkoutPlan c strat single targets worldOf) :=
  fun fs => checkoutBody_noLock c strat single targets (worldOf fs)

/-- a dud command: a commit, a checkout (any configuration, any way of reading the world), or one of them
failing after `k` calls of its body -/
inductive DudPlan : Plan κ → Prop
  | commit (c : CmdCfg κ) (strat : Strat) (targets : List Bytes) (worldOf : FS κ → World κ) :
      DudPlan (commitPlan c strat targets worldOf)
  | checkout (c : CmdCfg κ) (strat : Strat) (single : Bool) (targets : List Bytes)
      (worldOf : FS κ → World κ) : DudPlan (checkoutPlan c strat single targets worldOf)
  | failing {pl : Plan κ} (k : Nat) : DudPlan pl → DudPlan (failing pl k)

theorem dudPlan_bodyOK {pl : Plan κ} (h : DudPlan pl) : BodyOK pl := by
  induction h with
  | commit c strat targets worldOf => exact commit_plan_bodyOK c strat targets worldOf
  | checkout c strat single targets worldOf => exact checkout_plan_bodyOK c strat single targets worldOf
  | failing k _ ih => exact failing_bodyOK ih k

/-- **Any mix of concurrent `dud commit` and `dud checkout` commands** (complete or failing in the middle),
any number of them, any schedule with retries: at most one holds; the lock exists iff one holds; the file
system is the replay of the history, whose completed blocks are complete commands planned on the serial
file system; whenever nobody holds — in particular when all have exited — the project is unlocked and the
file system is the serial execution, in lock order, of the commands that got the lock. -/
theorem concurrent_dud_commands {emp : κ} {plans : List (Plan κ)} (hd : ∀ pl ∈ plans, DudPlan pl)
    {fs0 : FS κ} (h0 : fs0.get .lock = none) (n : Nat) (evs : List Ev) :
    (reach emp plans fs0 n evs).holdingCount ≤ 1 ∧
    (((reach emp plans fs0 n evs).fs.get .lock).isSome = true ↔
      ∃ (i : Nat) (r : List (Call κ)), (reach emp plans fs0 n evs).procs[i]? = some (.holding r)) ∧
    (reach emp plans fs0 n evs).fs = replay emp fs0 (serialOf emp plans fs0 n evs).calls ∧
    Complete emp plans fs0 (serialOf emp plans fs0 n evs).done ∧
    ((reach emp plans fs0 n evs).holdingCount = 0 →
      (reach emp plans fs0 n evs).fs.get .lock = none ∧
      (reach emp plans fs0 n evs).fs = serialRun emp plans fs0 (serialOf emp plans fs0 n evs).order) := by
  have hb : ∀ pl ∈ plans, BodyOK pl := fun pl h => dudPlan_bodyOK (hd pl h)
  have inv := reach_inv (emp := emp) hb h0 n evs
  refine ⟨inv.holdingCount_le_one, inv.lock_iff_holder, inv.fsEq, inv.complete, fun hz => ?_⟩
  have hq := (no_holder_iff _).1 hz
  exact ⟨(inv.idleH (inv.cur_none hq)).1, serializable_quiescent hb h0 n evs hq⟩

/-- **A completed block of a commit process IS the call trace of the command**: if the process, started on
`fs`, read the world `w` and `cmdCommitGoT` succeeds on it with trace `calls`, its block is `calls`. -/
theorem commit_block_is_command {c : CmdCfg κ} {strat : Strat} {targets : List Bytes}
    {worldOf : FS κ → World κ} {emp : κ} {fs : FS κ} {w' : World κ} {calls : List (Call κ)}
    (h : cmdCommitGoT c strat targets (worldOf (apply emp fs (.createExcl .lock))) = .ok (w', calls)) :
    fullBlock emp (commitPlan c strat targets worldOf) fs = calls := by
  rw [commitBody_trace h]; rfl

theorem checkout_block_is_command {c : CmdCfg κ} {strat : Strat} {single : Bool} {targets : List Bytes}
    {worldOf : FS κ → World κ} {emp : κ} {fs : FS κ} {w' : World κ} {calls : List (Call κ)}
    (h : cmdCheckoutT c strat single targets (worldOf (apply emp fs (.createExcl .lock))) = .ok (w', calls)) :
    fullBlock emp (checkoutPlan c strat single targets worldOf) fs = calls := by
  rw [checkoutBody_trace h]; rfl

/-- … so every single-command theorem applies to the block inside any concurrent run.  Example: when the
world the process read describes the file system it started on (`hworld`), the block leaves the logical
result of `dud commit` in place and the project unlocked (`cmdCommitGoT_final`). -/
theorem commit_block_final {c : CmdCfg κ} {strat : Strat} (g : Good c.cfg.ctx) {emp : κ}
    (hemp : ∀ x, c.isEmp x = true → x = emp) {targets : List Bytes} {worldOf : FS κ → World κ}
    {fs : FS κ} {w' : World κ} {calls : List (Call κ)}
    (hworld : fsOfWorld c (worldOf (apply emp fs (.createExcl .lock))) = fs)
    (hu : uniqNode (worldOf (apply emp fs (.createExcl .lock))).ws)
    (hc : Consistent c.cfg.ctx (worldOf (apply emp fs (.createExcl .lock))).store)
    (h : cmdCommitGoT c strat targets (worldOf (apply emp fs (.createExcl .lock))) = .ok (w', calls)) :
    Rel w'.ws (replay emp fs (fullBlock emp (commitPlan c strat targets worldOf) fs)) ∧
    (replay emp fs (fullBlock emp (commitPlan c strat targets worldOf) fs)).get .lock = none := by
  rw [commit_block_is_command h]
  have := cmdCommitGoT_final g hemp hu hc h
  rw [hworld] at this
  exact ⟨this.1, this.2.2⟩

/-- the same for `dud checkout` (`cmdCheckoutT_final`): the file system after the block is the abstraction
of the logical result at every path -/
theorem checkout_block_final {c : CmdCfg κ} {strat : Strat} {emp : κ}
    (hemp : ∀ x, c.isEmp x = true → x = emp) {single : Bool} {targets : List Bytes}
    {worldOf : FS κ → World κ} {fs : FS κ} {w' : World κ} {calls : List (Call κ)}
    (hworld : fsOfWorld c (worldOf (apply emp fs (.createExcl .lock))) = fs)
    (hu : uniqNode (worldOf (apply emp fs (.createExcl .lock))).ws)
    (h : cmdCheckoutT c strat single targets (worldOf (apply emp fs (.createExcl .lock))) = .ok (w', calls)) :
    AbsAt [] (some w'.ws) (replay emp fs (fullBlock emp (checkoutPlan c strat single targets worldOf) fs)) ∧
    (replay emp fs (fullBlock emp (checkoutPlan c strat single targets worldOf) fs)).get .lock = none := by
  rw [checkout_block_is_command h]
  have := cmdCheckoutT_final hemp hu h
  rw [hworld] at this
  exact ⟨this.2.1, this.2.2.2.1⟩

namespace DemoCmd
open Dud.Sys.ExampleCmd Dud.Sys.ExampleCheckout

/-- process 0: `dud commit` (link strategy, no target) reading the two-stage world `w2` of
`Props/C03cmdGo.lean`; process 1: `dud checkout` reading the fresh clone `wfresh` of `Props/C06cmd.lean`;
process 2: a commit that fails after 3 calls of its body -/
def plans : List (Plan Example.K) :=
  [commitPlan (cc true) .link [] (fun _ => w2),
   checkoutPlan ccS .link false [] (fun _ => wfresh),
   failing (commitPlan (cc true) .link [] (fun _ => w2)) 3]

theorem plans_dud : ∀ pl ∈ plans, DudPlan pl := by
  intro pl hpl
  simp only [plans, List.mem_cons, List.not_mem_nil, or_false] at hpl
  rcases hpl with rfl | rfl | rfl
  · exact .commit _ _ _ _
  · exact .checkout _ _ _ _ _
  · exact .failing 3 (.commit _ _ _ _)

/-- the bodies are the real ones: 28 calls for the commit (30 with lock and unlock), 6 for the checkout -/
example : (planOf plans 0 []).length = 28 := by decide +kernel
example : (planOf plans 1 []).length = 6 := by decide +kernel
example : (planOf plans 2 []).length = 3 := by decide +kernel

/-- the first block of process 0 is the trace of `cmdCommitGoT` on `w2`, which describes the initial file
system `fsOfWorld (cc true) w2` -/
example : ∃ w' calls, cmdCommitGoT (cc true) .link [] w2 = .ok (w', calls) ∧
    fullBlock Example.emp (planOf plans 0) (fsOfWorld (cc true) w2) = calls := by
  -- exposes `commitPlan` syntactically; unifying through `planOf` makes the elaborator run the command
  rw [planOf, plans, List.getD_cons_zero]
  cases hT : cmdCommitGoT (cc true) .link [] w2 with
  | error e => exact absurd (show goCallsOf w2 .link true [] = [] by rw [goCallsOf, hT]) goCallsOf_ne_nil
  | ok v => exact ⟨v.1, v.2, rfl, commit_block_is_command hT⟩

/-- the theorems apply to every schedule of the three -/
example (evs : List Ev) :
    (reach Example.emp plans (fsOfWorld (cc true) w2) 3 evs).holdingCount ≤ 1 :=
  (concurrent_dud_commands plans_dud (fsOfWorld_get_lock _ _) 3 evs).1

/-- a concrete schedule: 0 locks, 1 is refused, 0 issues its 28 body calls and unlocks; then 2 locks, makes 3
calls, fails and unlocks (1, having exited, does nothing in between) -/
def sched : List Nat := [0, 1, 0] ++ List.replicate 28 0 ++ [2, 1, 2, 2, 2, 2]

/-- one kernel evaluation of the instrumented run, shared by the examples -/
theorem sched_run :
    (serialOf Example.emp plans (fsOfWorld (cc true) w2) 3 (sched.map .step)).order = [0, 2] ∧
    (serialOf Example.emp plans (fsOfWorld (cc true) w2) 3 (sched.map .step)).done.map (·.2.length)
      = [30, 5] ∧
    (run Example.emp plans (init (fsOfWorld (cc true) w2) 3) sched).procs.map PSt.exited
      = [true, true, true] ∧
    (run Example.emp plans (init (fsOfWorld (cc true) w2) 3) sched).holdingCount = 0 := by
  rw [run_eq_runH _ _ _ Hist.empty]; decide +kernel

example : (serialOf Example.emp plans (fsOfWorld (cc true) w2) 3 (sched.map .step)).order = [0, 2] :=
  sched_run.1
/-- the block of 0 is the whole `dud commit` (30 calls), the block of 2 is lock + 3 calls + unlock -/
example : (serialOf Example.emp plans (fsOfWorld (cc true) w2) 3 (sched.map .step)).done.map (·.2.length)
    = [30, 5] := sched_run.2.1
example : (run Example.emp plans (init (fsOfWorld (cc true) w2) 3) sched).procs.map PSt.exited
    = [true, true, true] := sched_run.2.2.1
/-- hence (by `serializable_quiescent`) the file system is: the commit, then the failing commit -/
example : (run Example.emp plans (init (fsOfWorld (cc true) w2) 3) sched).fs
    = serialRun Example.emp plans (fsOfWorld (cc true) w2) [0, 2] := by
  have h := serializable_quiescent (emp := Example.emp) (fun pl hpl => dudPlan_bodyOK (plans_dud pl hpl))
    (fsOfWorld_get_lock (cc true) w2) 3 (sched.map .step)
  rw [reach_run, sched_run.1] at h
  exact h ((no_holder_iff _).1 sched_run.2.2.2)

end DemoCmd

def PSt.toPC : PSt κ → Dud.Lock.PC
  | .idle => .idle
  | .holding _ => .holding
  | .refused => .refused
  | .done => .finished

/-- forget the file system except "the lock file exists", and the remaining calls of the holder -/
def State.abs (st : State κ) : Dud.Lock.State :=
  { pcs := st.procs.map PSt.toPC, lockExists := !lockFree st.fs }

/-- **Every step of the system-call model is a step of the abstract lock model, or a stutter** (a body call
of the holder: the abstract model does not see the body). -/
theorem step_refines_lock {emp : κ} {plans : List (Plan κ)} (hb : ∀ pl ∈ plans, BodyOK pl) {fs0 : FS κ}
    {st : State κ} {h : Hist κ} (inv : Inv emp plans fs0 st h) (i : Nat) :
    (step emp plans st i).abs = Dud.Lock.step st.abs i ∨
    ((∃ c r, st.procs[i]? = some (.holding (c :: r))) ∧ (step emp plans st i).abs = st.abs) := by
  have hget : st.abs.pcs[i]? = (st.procs[i]?).map PSt.toPC := List.getElem?_map
  unfold step Dud.Lock.step stepX Dud.Lock.stepX
  rw [hget]
  cases hp : st.procs[i]? with
  | none => exact .inl rfl
  | some b =>
    cases b with
    | refused => exact .inl rfl
    | done => exact .inl rfl
    | idle =>
      left
      cases hf : lockFree st.fs with
      | true =>
        simp only [State.abs, hf, lockCall, lockFree_createExcl emp _ hf, List.map_set, Option.map_some,
          PSt.toPC, Bool.not_true, Bool.and_false, Bool.false_eq_true, if_false, if_true, Bool.not_false]
      | false =>
        simp only [State.abs, hf, List.map_set, Option.map_some, PSt.toPC, Bool.not_false, Bool.and_true,
          if_true]
    | holding rest =>
      cases rest with
      | nil =>
        left
        simp only [State.abs, lockFree_unlink, List.map_set, Option.map_some, PSt.toPC, Bool.not_true]
      | cons c r =>
        refine .inr ⟨⟨c, r, rfl⟩, ?_⟩
        -- a body call does not write the lock, and the holder stays `holding`
        have hl : lockFree (apply emp st.fs c) = lockFree st.fs := by
          unfold lockFree; rw [apply_get_frame emp _ c _ (inv.next_call (planOf_bodyOK hb) hp)]
        simp only [State.abs, hl, List.map_set, PSt.toPC]
        rw [set_same (by rw [List.getElem?_map, hp]; rfl)]

theorem abs_init (fs0 : FS κ) (h0 : fs0.get .lock = none) (n : Nat) :
    (init fs0 n).abs = Dud.Lock.init n := by
  simp [State.abs, init, Dud.Lock.init, PSt.toPC, lockFree, h0]

/-- **Every run of the system-call model projects to a run of the abstract model** over a sub-schedule (the
body steps dropped): everything `Props/C12.lean` proves about all abstract runs holds of the projection of
all concrete runs. -/
theorem run_refines_lock {emp : κ} {plans : List (Plan κ)} (hb : ∀ pl ∈ plans, BodyOK pl) {fs0 : FS κ}
    (h0 : fs0.get .lock = none) (n : Nat) (sched : List Nat) :
    ∃ sched', sched'.Sublist sched ∧
      (run emp plans (init fs0 n) sched).abs = Dud.Lock.run (Dud.Lock.init n) sched' := by
  suffices H : ∀ (sched : List Nat) (st : State κ) (h : Hist κ), Inv emp plans fs0 st h →
      ∃ sched', sched'.Sublist sched ∧ (run emp plans st sched).abs = Dud.Lock.run st.abs sched' by
    obtain ⟨s', hs, he⟩ := H sched (init fs0 n) Hist.empty (inv_init emp plans fs0 h0 n)
    exact ⟨s', hs, by rw [he, abs_init fs0 h0]⟩
  intro sched
  induction sched with
  | nil => intro st h _; exact ⟨[], List.Sublist.refl _, rfl⟩
  | cons i sched ih =>
    intro st h inv
    obtain ⟨s', hs, he⟩ := ih _ _ (step_inv (planOf_bodyOK hb) inv i)
    simp only [run, List.foldl_cons] at he ⊢
    rcases step_refines_lock hb inv i with h1 | ⟨-, h1⟩
    · exact ⟨i :: s', hs.cons_cons i, by rw [he, h1]; rfl⟩
    · exact ⟨s', hs.cons i, by rw [he, h1]⟩

namespace NoExcl

def x : P := .ws [[120]]
def y : P := .ws [[121]]

/-- "create `x` unless `y` is there" / "create `y` unless `x` is there": serially, at most one of the two
files ever exists -/
def planX : Plan Nat := fun fs => if (fs.get y).isNone then [.createExcl x] else []
def planY : Plan Nat := fun fs => if (fs.get x).isNone then [.createExcl y] else []
def plans : List (Plan Nat) := [planX, planY]

theorem plans_bodyOK : ∀ pl ∈ plans, BodyOK pl := by
  intro pl hpl fs
  simp only [plans, List.mem_cons, List.not_mem_nil, or_false] at hpl
  rcases hpl with rfl | rfl
  · unfold planX; split <;> decide
  · unfold planY; split <;> decide

/-- both lock, both plan (neither file exists yet), both act, both unlock -/
def sched : List Nat := [0, 1, 0, 1, 0, 1]

end NoExcl

/-- **Without `O_EXCL` mutual exclusion fails**: two processes hold at once, mirroring
`Lock.mutex_fails_without_excl`. -/
theorem mutex_sys_fails_without_excl :
    (runX false 0 NoExcl.plans (init [] 2) [0, 1]).holdingCount = 2 := by decide +kernel

/-- … the first unlock removes the lock under the second holder … -/
theorem lock_iff_holder_sys_fails_without_excl :
    (runX false 0 NoExcl.plans (init [] 2) [0, 1, 0, 0]).holdingCount = 1 ∧
    ((runX false 0 NoExcl.plans (init [] 2) [0, 1, 0, 0]).fs.get .lock).isSome = false := by decide +kernel

/-- **… and serializability fails**: the schedule ends with BOTH files, which no serial execution of these
two commands — in either order, of both or of one — produces. -/
theorem serializable_fails_without_excl :
    let fin := (runX false 0 NoExcl.plans (init [] 2) NoExcl.sched).fs
    ((fin.get NoExcl.x).isSome = true ∧ (fin.get NoExcl.y).isSome = true) ∧
    ∀ order ∈ [[], [0], [1], [0, 1], [1, 0]],
      ¬ (((serialRun 0 NoExcl.plans [] order).get NoExcl.x).isSome = true ∧
         ((serialRun 0 NoExcl.plans [] order).get NoExcl.y).isSome = true) := by decide +kernel

/-- **… and NO serial execution whatsoever** — any sequence of these commands, with repetitions, of any
length — ever has both files. -/
theorem no_serial_run_has_both (order : List Nat) :
    (serialRun 0 NoExcl.plans [] order).get NoExcl.x = none ∨
    (serialRun 0 NoExcl.plans [] order).get NoExcl.y = none := by
  refine List.foldlRecOn (motive := fun fs : FS Nat => fs.get NoExcl.x = none ∨ fs.get NoExcl.y = none)
    order _ (.inl rfl) fun fs hq i _ => ?_
  · -- one complete block keeps "not both": lock and unlock write neither file, and a body creates one of
    -- them only when the other is absent
    have hx := apply_get_frame 0 fs (.createExcl .lock) NoExcl.x (by decide)
    have hy := apply_get_frame 0 fs (.createExcl .lock) NoExcl.y (by decide)
    simp only [fullBlock, replay_cons, replay_append, replay_nil]
    generalize apply 0 fs (.createExcl .lock) = fs' at hx hy ⊢
    rw [apply_get_frame 0 _ (.unlink .lock) NoExcl.x (by decide),
      apply_get_frame 0 _ (.unlink .lock) NoExcl.y (by decide)]
    match i with
    | 0 =>
      show (replay 0 fs' (NoExcl.planX fs')).get NoExcl.x = none ∨ (replay 0 fs' (NoExcl.planX fs')).get NoExcl.y = none
      unfold NoExcl.planX
      by_cases hyy : (fs'.get NoExcl.y).isNone = true
      · rw [if_pos hyy, replay_get_frame 0 _ NoExcl.y _ (by decide)]
        exact .inr (Option.isNone_iff_eq_none.1 hyy)
      · rw [if_neg hyy, replay_nil, hx, hy]; exact hq
    | 1 =>
      show (replay 0 fs' (NoExcl.planY fs')).get NoExcl.x = none ∨ (replay 0 fs' (NoExcl.planY fs')).get NoExcl.y = none
      unfold NoExcl.planY
      by_cases hxx : (fs'.get NoExcl.x).isNone = true
      · rw [if_pos hxx, replay_get_frame 0 _ NoExcl.x _ (by decide)]
        exact .inl (Option.isNone_iff_eq_none.1 hxx)
      · rw [if_neg hxx, replay_nil, hx, hy]; exact hq
    | k + 2 =>
      show (replay 0 fs' []).get NoExcl.x = none ∨ (replay 0 fs' []).get NoExcl.y = none
      rw [replay_nil, hx, hy]; exact hq

/-- with `O_EXCL` the same schedule is serial: process 1 is refused, only `x` is created -/
example :
    ((run 0 NoExcl.plans (init [] 2) NoExcl.sched).fs.get NoExcl.x).isSome = true ∧
    ((run 0 NoExcl.plans (init [] 2) NoExcl.sched).fs.get NoExcl.y).isSome = false ∧
    (run 0 NoExcl.plans (init [] 2) NoExcl.sched).fs = serialRun 0 NoExcl.plans [] [0] :=
  ⟨by decide +kernel, by decide +kernel, rfl⟩

namespace Demo

def a : P := .ws [[97]]
def b : P := .ws [[98]]
def d : P := .ws [[100]]

/-- READS `a`: writes 7 into a new file `a`; if `a` is already there, only makes it read-only -/
def planA : Plan Nat := fun fs =>
  if (fs.get a).isNone then [.createExcl a, .writePart a, .write a 7] else [.chmod a 0o444]
/-- READS `a`: writes its content plus one into a new file `b` (an empty `b` if `a` is not a file) -/
def planB : Plan Nat := fun fs =>
  match fs.get a with
  | some (.file c _) => [.createExcl b, .write b (c + 1)]
  | _ => [.createExcl b]
def planD : Plan Nat := fun _ => [.mkdir d]

def plans : List (Plan Nat) := [planA, planB, planD]

theorem plans_bodyOK : ∀ pl ∈ plans, BodyOK pl := by
  intro pl hpl fs c hc
  simp only [plans, List.mem_cons, List.not_mem_nil, or_false] at hpl
  rcases hpl with rfl | rfl | rfl
  · simp only [planA] at hc
    split at hc <;> simp only [List.mem_cons, List.not_mem_nil, or_false] at hc
    · rcases hc with rfl | rfl | rfl <;> simp [callWrites, callPaths, a]
    · subst hc; simp [callWrites, callPaths, a]
  · simp only [planB] at hc
    split at hc <;> simp only [List.mem_cons, List.not_mem_nil, or_false] at hc
    · rcases hc with rfl | rfl <;> simp [callWrites, callPaths, b]
    · subst hc; simp [callWrites, callPaths, b]
  · simp only [planD, List.mem_singleton] at hc
    subst hc; simp [callWrites, callPaths, d]

/-- 0 locks; 2 is refused; 0 makes two calls; 2 is scheduled again (nothing: it has exited); 0 finishes and
unlocks; 1 locks (and SEES the `a` that 0 wrote); 2 again (nothing); 1 works and unlocks -/
def sched : List Nat := [0, 2, 0, 0, 2, 0, 0, 1, 2, 1, 1, 1]

def fin : State Nat := run 0 plans (init [] 3) sched

/-- the refused process retries after everybody is done, gets the lock, works, unlocks: three serial blocks -/
def evs : List Ev := sched.map .step ++ [.retry 2, .step 2, .step 2, .step 2]

/-! Each run is evaluated once, as the instrumented run `runH`; the examples are projections. -/

theorem sched_run :
    fin.fs = [(b, .file 8 0o600), (a, .file 7 0o600)] ∧ fin.procs.map PSt.exited = [true, true, true] ∧
    fin.procs.map PSt.isHolding = [false, false, false] ∧ fin.holdingCount = 0 ∧
    (serialOf 0 plans [] 3 (sched.map .step)).order = [0, 1] ∧
    (serialOf 0 plans [] 3 (sched.map .step)).cur.isNone = true := by
  rw [fin, run_eq_runH _ _ _ Hist.empty]; exact ⟨rfl, rfl, rfl, rfl, rfl, rfl⟩

theorem serial_runs :
    serialRun 0 plans [] [0, 1] = [(b, .file 8 0o600), (a, .file 7 0o600)] ∧
    serialRun 0 plans [] [1, 0] = [(a, .file 7 0o600), (b, .file 0 0o600)] := ⟨rfl, rfl⟩

theorem prefix_run :
    (run 0 plans (init [] 3) [0, 2, 0]).procs.map PSt.isHolding = [true, false, false] ∧
    (run 0 plans (init [] 3) [0, 2, 0]).holdingCount = 1 ∧
    ((run 0 plans (init [] 3) [0, 2, 0]).fs.get .lock).isSome = true ∧
    ((serialOf 0 plans [] 3 ([0, 2, 0].map .step)).cur.map (·.1)) = some 0 ∧
    ((serialOf 0 plans [] 3 ([0, 2, 0].map .step)).curCalls.length) = 2 := by
  rw [run_eq_runH _ _ _ Hist.empty]; exact ⟨rfl, rfl, rfl, rfl, rfl⟩

theorem evs_run :
    (reach 0 plans [] 3 evs).fs = serialRun 0 plans [] [0, 1, 2] ∧
    (serialOf 0 plans [] 3 evs).order = [0, 1, 2] ∧
    ((reach 0 plans [] 3 evs).fs.get d).isSome = true := by
  rw [reach, ← runH_fst _ _ _ (init [] 3, Hist.empty)]; exact ⟨rfl, rfl, rfl⟩

/-- the final state: both completed, the third refused; `b` holds 8 = (what 0 wrote) + 1 -/
example : fin.fs = [(b, .file 8 0o600), (a, .file 7 0o600)] := sched_run.1
example : fin.procs.map PSt.exited = [true, true, true] := sched_run.2.1
example : fin.procs.map PSt.isHolding = [false, false, false] := sched_run.2.2.1
example : (fin.fs.get .lock).isNone = true := by rw [sched_run.1]; rfl

/-- the history: two completed blocks, 0 then 1; the refused process owns none -/
example : (serialOf 0 plans [] 3 (sched.map .step)).order = [0, 1] := sched_run.2.2.2.2.1
example : (serialOf 0 plans [] 3 (sched.map .step)).cur.isNone = true := sched_run.2.2.2.2.2

/-- **the final file system is the serial execution 0 then 1 …** -/
example : fin.fs = serialRun 0 plans [] [0, 1] := sched_run.1.trans serial_runs.1.symm
/-- … as `serializable_quiescent` says … -/
example : fin.fs = serialRun 0 plans [] (serialOf 0 plans [] 3 (sched.map .step)).order := by
  have := serializable_quiescent (emp := 0) plans_bodyOK (fs0 := []) rfl 3 (sched.map .step)
  rw [reach_run] at this
  exact this ((no_holder_iff _).1 sched_run.2.2.2.1)
/-- **… and differs from the other order** (1 first does not see `a`: `b` stays empty) -/
example : serialRun 0 plans [] [1, 0] = [(a, .file 7 0o600), (b, .file 0 0o600)] := serial_runs.2
example : fin.fs ≠ serialRun 0 plans [] [1, 0] := by
  rw [sched_run.1, serial_runs.2]
  intro h
  cases (Entry.file.inj (Prod.mk.inj (List.cons.inj h).1).2).1

/-- in the middle of the run: 0 holds, has created `a` and still has to write it; the lock exists; exactly
one holder; the history has the block in progress -/
example : (run 0 plans (init [] 3) [0, 2, 0]).procs.map PSt.isHolding = [true, false, false] := prefix_run.1
example : (run 0 plans (init [] 3) [0, 2, 0]).holdingCount = 1 := prefix_run.2.1
example : ((run 0 plans (init [] 3) [0, 2, 0]).fs.get .lock).isSome = true := prefix_run.2.2.1
example : ((serialOf 0 plans [] 3 ([0, 2, 0].map .step)).cur.map (·.1)) = some 0 := prefix_run.2.2.2.1
example : ((serialOf 0 plans [] 3 ([0, 2, 0].map .step)).curCalls.length) = 2 := prefix_run.2.2.2.2

example : (reach 0 plans [] 3 evs).fs = serialRun 0 plans [] [0, 1, 2] := evs_run.1
example : (serialOf 0 plans [] 3 evs).order = [0, 1, 2] := evs_run.2.1
example : ((reach 0 plans [] 3 evs).fs.get d).isSome = true := evs_run.2.2

/-- a command that fails after its first call still unlocks: `failing planA 1` -/
example : (run 0 [failing planA 1] (init [] 1) [0, 0, 0]).fs = [(a, .file 0 0o600)] := rfl
example : (run 0 [failing planA 1] (init [] 1) [0, 0, 0]).procs.map PSt.exited = [true] := rfl

end Demo

#print axioms mutex_sys
#print axioms mutex_sys_index
#print axioms lock_iff_holder_sys
#print axioms step_idle_fs
#print axioms refused_never_acts
#print axioms refused_changes_nothing
#print axioms refused_stays
#print axioms serializable
#print axioms serializable_quiescent
#print axioms history_sound
#print axioms all_exited_unlocked
#print axioms retry_acquires
#print axioms lock_busy_refuses
#print axioms commit_plan_bodyOK
#print axioms checkout_plan_bodyOK
#print axioms dudPlan_bodyOK
#print axioms concurrent_dud_commands
#print axioms commit_block_is_command
#print axioms checkout_block_is_command
#print axioms commit_block_final
#print axioms checkout_block_final
#print axioms step_refines_lock
#print axioms run_refines_lock
#print axioms mutex_sys_fails_without_excl
#print axioms lock_iff_holder_sys_fails_without_excl
#print axioms serializable_fails_without_excl
#print axioms no_serial_run_has_both

end Dud.Sys.Conc
