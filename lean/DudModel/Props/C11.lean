import DudModel.Lemmas.Remote
import DudModel.Lemmas.Run
import DudModel.Lemmas.WorldDec
import DudModel.Generated.Facts
/-!
# C11 — push then fetch transfers everything checkout needs

* `gather` (Go `gatherFilesToPush`) returns exactly the reachable closure (`Reaches`) of the artifact
  on top of the accumulator, and fails when any reachable object is absent (insufficient fuel is an
  error too, so no fuel hypothesis is needed);
* `copyObjs` (the `rclone copy --files-from` stand-in) makes every listed object present, keeps every
  binding of the destination and takes new ones from the source;
* `pushAct`: after a successful push the remote holds the closure of every non-skipped output;
* `fetchFix` (Go `LocalCache.Fetch`, whose next level is keyed by **checksum**): the closure of every
  requested entry is present afterwards **provided no checksum is listed both as a file and as a
  directory** (`KindsAgree`); `fetch_skips_children` shows the hypothesis cannot be dropped.
-/
namespace Dud

variable {κ : Type}

theorem gather_closure (ctx : Ctx κ) (s : Store κ) (fuel : Nat) (c : Child) (acc acc' : List Digest)
    (h : gather ctx s fuel c acc = .ok acc') :
    (∀ d, d ∈ acc → d ∈ acc') ∧ (∀ d, Reaches ctx s c d → d ∈ acc') ∧
      (∀ d, d ∈ acc' → d ∈ acc ∨ (Reaches ctx s c d ∧ s.has d = true)) := by
  obtain ⟨a1, a2⟩ := gather_post ctx s fuel c acc acc' h
  exact ⟨fun d hd => (a1 d).2 (.inl hd), fun d hr => (a1 d).2 (.inr hr),
    fun d hd => ((a1 d).1 hd).imp_right fun hr => ⟨hr, a2 d hr⟩⟩

/-- push fails rather than succeed when a reachable object is missing locally -/
theorem gather_missing_fails (ctx : Ctx κ) (s : Store κ) (fuel : Nat) (c : Child) (acc : List Digest)
    (d : Digest) (hr : Reaches ctx s c d) (hm : s.has d = false) :
    ∀ acc', gather ctx s fuel c acc ≠ .ok acc' := by
  intro acc' h
  rw [(gather_post ctx s fuel c acc acc' h).2 d hr] at hm
  cases hm

/-- from an empty accumulator: the result is exactly the closure, all of it present -/
theorem gather_exact (ctx : Ctx κ) (s : Store κ) (fuel : Nat) (c : Child) (acc' : List Digest)
    (h : gather ctx s fuel c [] = .ok acc') : ∀ d, d ∈ acc' ↔ Reaches ctx s c d :=
  fun d => ((gather_post ctx s fuel c [] acc' h).1 d).trans (by simp)

theorem copyObjs_spec (src dst dst' : Store κ) (ds : List Digest) (h : copyObjs src dst ds = .ok dst') :
    (∀ d, d ∈ ds → dst'.has d = true) ∧
    (∀ d o, dst.get d = some o → dst'.get d = some o) ∧
    (∀ d o, dst'.get d = some o → dst.get d = some o ∨ src.get d = some o) := by
  obtain ⟨a1, a2, a3⟩ := copyObjs_post src ds dst dst' h
  refine ⟨fun d hd => (a2 d hd).1, a1, ?_⟩
  intro d o ho
  rcases a3 d o ho with h | ⟨_, _, h⟩
  · exact .inl h
  · exact .inr h

/-- sharper provenance: a new binding is for a listed digest the destination lacked -/
theorem copyObjs_new (src dst dst' : Store κ) (ds : List Digest) (h : copyObjs src dst ds = .ok dst') :
    ∀ d o, dst'.get d = some o → dst.get d = some o ∨ (d ∈ ds ∧ dst.has d = false ∧ src.get d = some o) :=
  (copyObjs_post src ds dst dst' h).2.2

theorem push_closure (cfg : Cfg κ) (sp : Bytes) (w w' : World κ) (stg : Stage)
    (hs : w.stage sp = .ok stg) (h : pushAct cfg sp w = .ok w') :
    w'.store = w.store ∧
    ∀ a, a ∈ sortArts stg.outputs → a.skip = false → ∀ d, Reaches cfg.ctx w.store a.child d →
      w'.remote.has d = true ∧ w.store.has d = true := by
  obtain ⟨stg', rem, hs', rfl, _, hcl⟩ := pushAct_post h
  cases hs.symm.trans hs'
  exact ⟨rfl, hcl⟩

/-- the same for the outputs as listed in the stage, when their paths are pairwise distinct -/
theorem push_closure_outputs (cfg : Cfg κ) (sp : Bytes) (w w' : World κ) (stg : Stage)
    (hs : w.stage sp = .ok stg) (h : pushAct cfg sp w = .ok w')
    (huniq : ∀ a b, a ∈ stg.outputs → b ∈ stg.outputs → b.path = a.path → b = a) :
    ∀ a, a ∈ stg.outputs → a.skip = false → ∀ d, Reaches cfg.ctx w.store a.child d → w'.remote.has d = true :=
  fun a ha hsk d hr =>
    ((push_closure cfg sp w w' stg hs h).2 a (mem_sortArts _ ha (fun b hb => huniq a b ha hb)) hsk d hr).1

/-- what the remote holds for a pushed digest has the bytes of the local object (consistent caches,
injective hash): push does not overwrite, so an object already on the remote stays -/
theorem push_closure_bytes {cfg : Cfg κ} (hg : Good cfg.ctx) (sp : Bytes) (w w' : World κ) (stg : Stage)
    (hs : w.stage sp = .ok stg) (h : pushAct cfg sp w = .ok w')
    (hcs : Consistent cfg.ctx w.store) (hcr : Consistent cfg.ctx w.remote) :
    ∀ a, a ∈ sortArts stg.outputs → a.skip = false → ∀ d, Reaches cfg.ctx w.store a.child d →
      ∃ o o', w.store.get d = some o ∧ w'.remote.get d = some o' ∧ o'.bytes cfg.ctx = o.bytes cfg.ctx := by
  intro a ha hsk d hr
  obtain ⟨h1, h2⟩ := (push_closure cfg sp w w' stg hs h).2 a ha hsk d hr
  obtain ⟨_, rem, _, rfl, hf, _⟩ := pushAct_post h
  exact hcs.has_same_bytes hg (hf.consistent hcr hcs) h2 h1

/-- **Closure of fetch, partial**: needs `KindsAgree` on the entries of the manifests readable from
the resulting cache (the weakest formulation: every level's next-level map is built from such
entries). -/
theorem fetch_closure_partial (ctx : Ctx κ) (remote : Store κ) (fuel : Nat) (loc loc' : Store κ)
    (arts : List Child) (h : fetchFix ctx remote fuel loc arts = .ok loc')
    (hk : KindsAgree (Occurs ctx loc')) :
    ∀ a, a ∈ arts → ∀ d, Reaches ctx loc' a d → loc'.has d = true :=
  (fetchFix_post ctx remote fuel loc arts loc' h).2 hk

/-- the same under a hypothesis on the inputs only: among the entries of all manifests readable from
the remote or from the cache before the fetch, equal checksums have equal kinds -/
theorem fetch_closure_global_partial (ctx : Ctx κ) (remote : Store κ) (fuel : Nat) (loc loc' : Store κ)
    (arts : List Child) (h : fetchFix ctx remote fuel loc arts = .ok loc')
    (hk : KindsAgree (fun c => Occurs ctx loc c ∨ Occurs ctx remote c)) :
    ∀ a, a ∈ arts → ∀ d, Reaches ctx loc' a d → loc'.has d = true := by
  obtain ⟨hf, hcl⟩ := fetchFix_post ctx remote fuel loc arts loc' h
  exact hcl (hf.kindsAgree hk)

/-- fetch only adds bindings, each taken verbatim from the remote -/
theorem fetch_mono (ctx : Ctx κ) (remote : Store κ) (fuel : Nat) (loc loc' : Store κ)
    (arts : List Child) (h : fetchFix ctx remote fuel loc arts = .ok loc') :
    (∀ d o, loc.get d = some o → loc'.get d = some o) ∧
      ∀ d o, loc'.get d = some o → loc.get d = some o ∨ remote.get d = some o :=
  ⟨(fetchFix_post ctx remote fuel loc arts loc' h).1.ext, (fetchFix_post ctx remote fuel loc arts loc' h).1.prov⟩

/-! ### the negative witness

Hash = identity on strings.  The object `"root"` decodes as a manifest listing the checksum `"xxx"`
twice, once as a directory and once as a file; `"xxx"` decodes as a manifest listing `"leaf"`.  The
next-level map keyed by checksum keeps one of the two `"xxx"` entries; when the file entry survives,
the manifest `"xxx"` is never read and `"leaf"` is never fetched — yet fetch reports success. -/
namespace Toy

def ctx : Ctx String :=
  { H := id, encMan := fun _ _ _ => "", reload := fun _ c => c, nameOK := fun _ => true,
    decBlob := fun c =>
      if c = "root" then some [⟨[97], "xxx", true⟩, ⟨[98], "xxx", false⟩]
      else if c = "xxx" then some [⟨[99], "leaf", false⟩] else none }

def remote : Store String := [("root", .blob "root"), ("xxx", .blob "xxx"), ("leaf", .blob "leaf")]
def top : Child := ⟨[], "root", true⟩
def fetched : Store String := [("xxx", .blob "xxx"), ("root", .blob "root")]

theorem remote_consistent : Consistent ctx remote :=
  (((Consistent.nil ctx).put (.blob "leaf")).put (.blob "xxx")).put (.blob "root")

theorem top_reaches_leaf (s : Store String) (h1 : s.get "root" = some (.blob "root"))
    (h2 : s.get "xxx" = some (.blob "xxx")) : Reaches ctx s top "leaf" := by
  refine .child top [⟨[97], "xxx", true⟩, ⟨[98], "xxx", false⟩] ⟨[97], "xxx", true⟩ "leaf" rfl ?_ (by simp) ?_
  · simp [readManifest, top, h1, ctx]; decide
  · refine .child _ [⟨[99], "leaf", false⟩] ⟨[99], "leaf", false⟩ "leaf" rfl ?_ (by simp) (.self _)
    simp [readManifest, h2, ctx]; decide

end Toy

/-- **fetch can succeed without transferring the closure**: a directory and a file share a checksum
at one level, the fetch of `top` from `Toy.remote` into an empty cache succeeds, `"leaf"` is
reachable from `top` in the result but absent from it. -/
theorem fetch_skips_children :
    ∃ loc', fetchFix Toy.ctx Toy.remote 5 [] [Toy.top] = .ok loc' ∧
      Reaches Toy.ctx loc' Toy.top "leaf" ∧ loc'.has "leaf" = false ∧ Toy.remote.has "leaf" = true ∧
      Consistent Toy.ctx Toy.remote :=
  ⟨Toy.fetched, by open Dud.WorldDec in decide +kernel, Toy.top_reaches_leaf _ rfl rfl, rfl, rfl,
    Toy.remote_consistent⟩

/-- consequently `KindsAgree` fails there (sanity check of the hypothesis) -/
theorem toy_kinds_disagree : ¬ KindsAgree (Occurs Toy.ctx Toy.fetched) := by
  intro hk
  have hm : readManifest Toy.ctx Toy.fetched "root" = .ok [⟨[97], "xxx", true⟩, ⟨[98], "xxx", false⟩] := rfl
  have := hk ⟨[97], "xxx", true⟩ ⟨[98], "xxx", false⟩ ⟨"root", _, hm, by simp⟩ ⟨"root", _, hm, by simp⟩ rfl
  cases this

/-- checkout of an entry whose closure is present never reports a missing object -/
theorem checkout_closure_suffices (ctx : Ctx κ) (strat : Strat) (s : Store κ) (fuel : Nat) (cur : Option (Node κ))
    (c : Child) (h : ∀ d, Reaches ctx s c d → s.has d = true) :
    checkoutNode ctx strat s fuel cur c ≠ .error .missingFromCache :=
  checkoutNode_not_missing ctx strat s fuel cur c h

/-- after a successful `fetchAct`, checkout of the stage's outputs cannot fail for want of a cache
object — under `KindsAgree` -/
theorem fetch_then_checkout_partial (cfg : Cfg κ) (strat : Strat) (sp : Bytes) (w w' : World κ) (stg : Stage)
    (hs : w.stage sp = .ok stg) (h : fetchAct cfg sp w = .ok w')
    (hk : KindsAgree (Occurs cfg.ctx w'.store)) :
    ∀ a, a ∈ sortArts stg.outputs → ∀ cur,
      checkoutArt cfg.ctx strat cfg.fuel a cur w'.store ≠ .error .missingFromCache :=
  fun a ha _ => by
    obtain ⟨stg', loc, hs', rfl, _, hcl⟩ := fetchAct_post h
    cases hs.symm.trans hs'
    exact checkoutArt_not_missing (hcl hk a ha)

/-- … and in the negative witness the successful fetch is followed by a failing checkout -/
theorem fetch_skips_children_checkout :
    fetchFix Toy.ctx Toy.remote 5 [] [Toy.top] = .ok Toy.fetched ∧
      checkoutNode Toy.ctx .copy Toy.fetched 5 none Toy.top = .error .missingFromCache := by
  open Dud.WorldDec in decide +kernel

theorem fetch_key_fact : Dud.Facts.fetchChildKey = "manifest-entry.Checksum" := rfl
theorem push_perms_fact : Dud.Facts.pushSetsPerms = true ∧ Dud.Facts.cacheFilePerms = 0o444 := ⟨rfl, rfl⟩

section Examples
open Toy

/-- gather succeeds on the toy store and returns the whole closure -/
example : gather ctx remote 5 top [] = .ok ["root", "xxx", "leaf"] := by
  open Dud.WorldDec in decide +kernel
/-- … and fails when an object is missing or fuel is short -/
example : gather ctx fetched 5 top [] = .error .missingFromCache := by
  open Dud.WorldDec in decide +kernel
example : gather ctx remote 2 top [] = .error .other := by
  open Dud.WorldDec in decide +kernel
example : copyObjs remote [] ["root", "leaf"] = .ok [("leaf", .blob "leaf"), ("root", .blob "root")] := by
  open Dud.WorldDec in decide +kernel

def cfg : Cfg String := { ctx := ctx, ofBytes := fun _ => "", toBytes := fun _ => [], walkAccumulates := false, fuel := 5 }
def w0 : World String :=
  { store := remote, idx := [([1], { cmd := [1], outputs := [{ path := [2], sum := "root", isDir := true }] })] }

/-- push succeeds on the toy world and the remote then holds the closure -/
example : ∃ w', pushAct cfg [1] w0 = .ok w' ∧ w'.remote.has "leaf" = true ∧ w'.remote.has "xxx" = true :=
  ⟨_, rfl, rfl, rfl⟩

/-- with kinds agreeing (the file entry removed) fetch does bring `"leaf"` -/
def ctxOK : Ctx String :=
  { ctx with decBlob := fun c =>
      if c = "root" then some [⟨[97], "xxx", true⟩]
      else if c = "xxx" then some [⟨[99], "leaf", false⟩] else none }
example : ∃ loc', fetchFix ctxOK remote 5 [] [top] = .ok loc' ∧ loc'.has "leaf" = true := ⟨_, rfl, rfl⟩

end Examples

#print axioms gather_closure
#print axioms gather_missing_fails
#print axioms gather_exact
#print axioms copyObjs_spec
#print axioms copyObjs_new
#print axioms mem_sortArts
#print axioms push_closure
#print axioms push_closure_outputs
#print axioms push_closure_bytes
#print axioms fetch_closure_partial
#print axioms fetch_closure_global_partial
#print axioms fetch_mono
#print axioms Toy.remote_consistent
#print axioms fetch_skips_children
#print axioms toy_kinds_disagree
#print axioms checkout_closure_suffices
#print axioms fetch_then_checkout_partial
#print axioms fetch_skips_children_checkout
#print axioms fetch_key_fact
#print axioms push_perms_fact

end Dud
