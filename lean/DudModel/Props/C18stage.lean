import DudModel.Props.C18
import DudModel.Lemmas.Owner
import DudModel.Generated.Facts
/-!
# C18, the stage-file half — "stage files naming absolute or parent-escaping paths are rejected"

`Props/C18.lean` shows that the traced commit and checkout of an artifact stay inside the project
PROVIDED the artifact's own path `pre` is a safe relative path (`SafeRel pre`).  This file
discharges that hypothesis from the validation every stage goes through when it is loaded
(`Stage.validate`, Go `Stage.Validate`: no `..` anywhere in a path, no absolute path):

* `comps_safe`: for every byte string `s` that does not contain `..` (absolute or not), the
  components `Path.comps s` the model addresses the workspace with (Go: `filepath.Clean` applied by
  `stage.FromFile`) form a safe relative path — whatever else the string contains (empty
  components, `.`, repeated or trailing slashes).
* `validate_paths_safe`: every input and output path, and the working directory, of a stage that
  passes `Stage.validate` is safe.
* `validated_commit_confined` / `validated_checkout_confined`: for a validated stage, every path of
  every mutating call of the traced commit / checkout of any of its artifacts is `Confined`
  (inside the project root, the cache directory, or a temp file next to them), whatever the
  workspace tree, provided its entry names are single safe components (a hypothesis of the commit
  theorem: `ctx.nameOK` is abstract), and whatever the cache manifests contain.
* `hostile_rejected`: `../x`, `a/../../x`, `/abs/x` and friends make `validate` false (decided).
-/
namespace Dud.Sys

open Dud Dud.Path Dud.PathSpec

/-- **the components of a path without `..` are safe**, absolute or not: they are its segments
other than "" and "." -/
theorem comps_safe (s : Bytes) (h : containsDotDot s = false) : SafeRel (comps s) := by
  have hd : dotdot ∉ splitSlash s := (splitSlash_no_dotdot s).2 h
  rw [comps_eq_segsOf hd]
  exact segsOf_good hd

/-- every artifact path (and the working directory) of a stage that passes `Stage.validate` is a
safe relative path, and is not absolute -/
theorem validate_paths_safe (wa : Bool) (stg : Stage) (sp : Bytes) (h : stg.validate wa sp = true) :
    (∀ a, a ∈ stg.outputs ++ stg.inputs → SafeRel (comps a.path) ∧ isAbs a.path = false) ∧
      SafeRel (comps stg.wd) ∧ isAbs stg.wd = false := by
  obtain ⟨hs, _, h7⟩ := (validate_unfold wa stg sp).1 h
  exact ⟨fun a ha => ⟨comps_safe _ (hs.noDotDot a ha), (h7 a ha).1⟩, comps_safe _ hs.wdNoDotDot, hs.wdRel⟩

/-- **C18, commit of a validated stage.**  Every path of every mutating call of the traced commit of
any artifact of a stage that passed validation is confined, for every workspace tree whose entry
names are single safe components (what a directory listing returns) and every cache. -/
theorem validated_commit_confined {κ : Type} (t : TCfg κ) (wa : Bool) (stg : Stage) (sp : Bytes)
    (hv : stg.validate wa sp = true) (a : Art) (ha : a ∈ stg.outputs ++ stg.inputs)
    {nd : Node κ} {s : Store κ} {res : Node κ × Digest × Store κ} {calls : List (Call κ)}
    (hnames : ∀ x ∈ allNames nd, SafeComp x)
    (h : commitArtT t a (comps a.path) (some nd) s = .ok (res, calls)) :
    ∀ call ∈ calls, ∀ p ∈ callPaths call, Confined p :=
  commitArt_paths_safe t h ((validate_paths_safe wa stg sp hv).1 a ha).1 hnames

/-- **C18, checkout of a validated stage**: whatever the manifests in the cache contain. -/
theorem validated_checkout_confined {κ : Type} (t : TCfg κ) (wa : Bool) (stg : Stage) (sp : Bytes)
    (hv : stg.validate wa sp = true) (a : Art) (ha : a ∈ stg.outputs ++ stg.inputs)
    {s : Store κ} {fuel : Nat} {cur : Option (Node κ)} {r : Node κ} {calls : List (Call κ)}
    (h : checkoutNodeT t s fuel (comps a.path) cur a.child = .ok (r, calls)) :
    ∀ call ∈ calls, ∀ p ∈ callPaths call, Confined p :=
  checkout_paths_safe ((validate_paths_safe wa stg sp hv).1 a ha).1 h

/-- **Regenerated-fact obligation.**  `PathForChecksum` inspects every character of the checksum and
refuses anything but letters and digits (repo fix d539c28): a recorded checksum can therefore not
name a path outside `<cache>/<two characters>/<rest>`.  (The model's digests are the values of the
hash function; checksum strings that are not digests are exercised by the C18 hostile-checksum
stream, not by the model.) -/
theorem checksum_chars_fact : Dud.Facts.checksumCharsChecked = true := by decide

/-! ## hostile stage files are rejected; the hypotheses are satisfiable -/

/-- bytes of an ASCII string literal, in a form the kernel can evaluate -/
def bs (s : String) : Bytes := s.toList.map (fun c => UInt8.ofNat c.toNat)

def hostile : List Bytes :=
  ["../escape.txt", "../../escape.txt", "a/../../escape.txt", "/tmp/abs.txt", "sub/../../escape_dir/x", "..",
   "./../escape.txt", "a/b/../../../escape.txt"].map bs

/-- as an output, as an input or as the working directory: rejected -/
theorem hostile_rejected : ∀ p ∈ hostile, ∀ wa : Bool,
    Stage.validate wa { cmd := [1], outputs := [{ path := p }] } [115] = false ∧
    Stage.validate wa { cmd := [1], inputs := [{ path := p }], outputs := [{ path := [111] }] } [115] = false ∧
    Stage.validate wa { cmd := [1], wd := p, outputs := [{ path := [111] }] } [115] = false := by
  decide +kernel

def okStage : Stage :=
  { cmd := [1], outputs := [{ path := bs "data/raw/./big//", isDir := true }],
    inputs := [{ path := bs "src/in.txt" }] }

theorem okStage_valid : okStage.validate true [115] = true := by decide +kernel

example : okStage.validate true [115] = true := okStage_valid
/-- odd but harmless spellings are normalised away -/
example : comps (bs "data/raw/./big//") = [bs "data", bs "raw", bs "big"] := by decide +kernel
example : SafeRel (comps (bs "data/raw/./big//")) :=
  ((validate_paths_safe true okStage [115] okStage_valid).1 _ List.mem_cons_self).1

end Dud.Sys

#print axioms Dud.Sys.comps_safe
#print axioms Dud.Sys.validate_paths_safe
#print axioms Dud.Sys.validated_commit_confined
#print axioms Dud.Sys.validated_checkout_confined
#print axioms Dud.Sys.hostile_rejected
