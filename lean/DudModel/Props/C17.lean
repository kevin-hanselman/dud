import DudModel.Lemmas.Json
import DudModel.Lemmas.StageFile
import DudModel.Lemmas.WorldTrip
import DudModel.Spec
/-!
# C17 — the stage file round-trips, and the definition checksum identifies the definition

(A) `stage.FromFile` normalises (`fromDoc_normal`), and writing a normal-form stage and loading it
again is the identity (`load_write_id`, `normalise_idem`, `write_load_write`); the YAML library is a
trusted parameter, the model starts at the typed document (`DudModel/StageFile.lean`).

(B) The bytes hashed by `Stage.CalculateChecksum` ignore every checksum and the order of the
artifact maps (`defBytes_ignores_sums`, `defBytes_ignores_order`) and, on valid UTF-8, determine
command, working directory and the artifact maps with their flags (`defBytes_injective`).

(C) Right after a commit the recorded definition checksum is up to date
(`status_after_commit_def`); any edit of the definition changes it (`defsum_changes_on_edit`).
-/
namespace Dud
open Path GoJson

/-! ## (A) file-format conversion -/

/-- `filepath.Clean` is idempotent -/
theorem clean_idempotent (s : Bytes) : Path.clean (Path.clean s) = Path.clean s :=
  PathSpec.clean_idem s

/-- `strings.TrimSpace` is idempotent -/
theorem trimSpace_idempotent (b : Bytes) : trimSpace (trimSpace b) = trimSpace b :=
  trimSpace_fix (trimSpace_trimmed b).1 (trimSpace_trimmed b).2

/-- Loading normalises: command trimmed, working directory and paths cleaned, inputs flagged
`skip-cache`, one entry per path, sorted.  Holds for every document.  (When two keys clean to the
same path the *model* keeps the first; Go's map keeps a random one — see `fromDoc_perm` for the
hypothesis `KeysOK` under which model and Go agree.) -/
theorem fromDoc_normal (d : StageDoc) : NormalForm (fromDoc d) := by
  refine ⟨trimSpace_idempotent _, PathSpec.clean_idem _, ?_, ?_, sortArts_sorted _, sortArts_sorted _⟩
  · intro a ha
    have : a ∈ d.inputs.map (docArt true) ∨ a ∈ d.outputs.map (docArt false) := by
      rcases List.mem_append.1 ha with h | h
      · exact Or.inl (mem_of_mem_sortArts h)
      · exact Or.inr (mem_of_mem_sortArts h)
    rcases this with h | h <;>
    · obtain ⟨e, _, rfl⟩ := List.mem_map.1 h
      rw [docArt_path]; exact PathSpec.clean_idem _
  · intro a ha
    obtain ⟨e, _, rfl⟩ := List.mem_map.1 (mem_of_mem_sortArts ha)
    rfl

/-- Under `KeysOK` (cleaning is injective on the keys of each map) the loaded stage does not depend
on the order of the entries of the YAML mappings — the nondeterministic iteration order of Go's
maps is immaterial … -/
theorem fromDoc_perm {d d' : StageDoc} (hs : d.sum = d'.sum) (hc : d.cmd = d'.cmd) (hw : d.wd = d'.wd)
    (hi : d.inputs.Perm d'.inputs) (ho : d.outputs.Perm d'.outputs)
    (hki : KeysOK d.inputs) (hko : KeysOK d.outputs) : fromDoc d = fromDoc d' := by
  simp only [fromDoc, hs, hc, hw, sortArts_perm (hi.map _) (hki.nodup true),
    sortArts_perm (ho.map _) (hko.nodup false)]

/-- … and every entry of the document is an artifact of the loaded stage -/
theorem fromDoc_complete {d : StageDoc} (hki : KeysOK d.inputs) (hko : KeysOK d.outputs) :
    (fromDoc d).inputs.Perm (d.inputs.map (docArt true)) ∧
    (fromDoc d).outputs.Perm (d.outputs.map (docArt false)) :=
  ⟨sortArts_perm_self _ (hki.nodup true), sortArts_perm_self _ (hko.nodup false)⟩

/-- Writing a normal-form stage and loading it again yields exactly the same stage: same stage
checksum, command, working directory, inputs and outputs with the same paths, flags and checksums. -/
theorem load_write_id {stg : Stage} (h : NormalForm stg) : fromDoc (toDoc stg) = stg := by
  have hin := map_docArt_artDoc true (fun a ha => h.pathsClean a (List.mem_append_left _ ha))
    fun _ => h.inSkip
  have hout := map_docArt_artDoc false (fun a ha => h.pathsClean a (List.mem_append_right _ ha))
    nofun
  have h1 := h.cmdTrim
  have h2 := h.wdClean
  cases stg
  simp only [fromDoc, toDoc] at *
  rw [hin, hout, sortArts_of_sorted h.inSorted, sortArts_of_sorted h.outSorted, h1, h2]

/-- the same, field by field -/
theorem load_write_fields {stg : Stage} (h : NormalForm stg) :
    (fromDoc (toDoc stg)).sum = stg.sum ∧ (fromDoc (toDoc stg)).cmd = stg.cmd ∧
    (fromDoc (toDoc stg)).wd = stg.wd ∧ (fromDoc (toDoc stg)).inputs = stg.inputs ∧
    (fromDoc (toDoc stg)).outputs = stg.outputs := by
  rw [load_write_id h]; exact ⟨rfl, rfl, rfl, rfl, rfl⟩

/-- Any loaded stage survives write + load: normalisation is idempotent -/
theorem normalise_idem (d : StageDoc) : fromDoc (toDoc (fromDoc d)) = fromDoc d :=
  load_write_id (fromDoc_normal d)

/-- the file written for a normal-form stage is reproduced by load + write -/
theorem write_load_write {stg : Stage} (h : NormalForm stg) :
    toDoc (fromDoc (toDoc stg)) = toDoc stg := by rw [load_write_id h]

/-- what a written file contains: the paths as keys, every value present, inputs without
`skip-cache` (it is implicit) -/
theorem toDoc_shape (stg : Stage) :
    (toDoc stg).inputs.map (·.1) = stg.inputs.map (·.path) ∧
    (toDoc stg).outputs.map (·.1) = stg.outputs.map (·.path) ∧
    (∀ e ∈ (toDoc stg).inputs, ∃ fa, e.2 = some fa ∧ fa.skip = false) := by
  refine ⟨by simp [toDoc, artDoc, List.map_map, Function.comp_def],
    by simp [toDoc, artDoc, List.map_map, Function.comp_def], ?_⟩
  intro e he
  simp only [toDoc, List.mem_map] at he
  obtain ⟨a, _, rfl⟩ := he
  exact ⟨_, rfl, rfl⟩

/-- the keys of a written normal-form stage are clean and distinct, so re-loading is deterministic -/
theorem toDoc_keysOK {stg : Stage} (h : NormalForm stg) :
    KeysOK (toDoc stg).inputs ∧ KeysOK (toDoc stg).outputs := by
  have hi : (toDoc stg).inputs.map (fun e => Path.clean e.1) = stg.inputs.map (·.path) := by
    simp only [toDoc, List.map_map]
    exact List.map_congr_left fun a ha => h.pathsClean a (List.mem_append_left _ ha)
  have ho : (toDoc stg).outputs.map (fun e => Path.clean e.1) = stg.outputs.map (·.path) := by
    simp only [toDoc, List.map_map]
    exact List.map_congr_left fun a ha => h.pathsClean a (List.mem_append_right _ ha)
  exact ⟨by rw [KeysOK, hi]; exact h.inSorted.nodup, by rw [KeysOK, ho]; exact h.outSorted.nodup⟩

/-! ## (B) the definition checksum -/

/-- `defBytes` only looks at command, working directory and the artifacts without their checksums -/
theorem defBytes_congr {s1 s2 : Stage} (hc : s1.cmd = s2.cmd) (hw : s1.wd = s2.wd)
    (hi : s1.inputs.map Art.defArt = s2.inputs.map Art.defArt)
    (ho : s1.outputs.map Art.defArt = s2.outputs.map Art.defArt) : s1.defBytes = s2.defBytes := by
  simp only [Stage.defBytes, sortArts_defArt, hc, hw, hi, ho]

/-- changing the stage checksum and any artifact checksum leaves the hashed bytes unchanged -/
theorem defBytes_ignores_sums (stg : Stage) (s : Digest) (f g : Art → Digest) :
    ({ stg with sum := s,
                inputs := stg.inputs.map (fun a => { a with sum := f a }),
                outputs := stg.outputs.map (fun a => { a with sum := g a }) } : Stage).defBytes
      = stg.defBytes :=
  defBytes_congr rfl rfl (by simp [List.map_map, Function.comp_def, Art.defArt])
    (by simp [List.map_map, Function.comp_def, Art.defArt])

theorem defBytes_ignores_stage_sum (stg : Stage) (s : Digest) :
    ({ stg with sum := s } : Stage).defBytes = stg.defBytes := rfl

/-- on maps (one entry per path) `sortArts` is insensitive to the order of the entries -/
theorem sortArts_perm_eq {l1 l2 : List Art} (hp : l1.Perm l2) (hnd : (l1.map (·.path)).Nodup) :
    sortArts l1 = sortArts l2 := sortArts_perm hp hnd

/-- the hashed bytes do not depend on map ordering -/
theorem defBytes_ignores_order {s1 s2 : Stage} (hc : s1.cmd = s2.cmd) (hw : s1.wd = s2.wd)
    (hi : s1.inputs.Perm s2.inputs) (ho : s1.outputs.Perm s2.outputs)
    (hni : (s1.inputs.map (·.path)).Nodup) (hno : (s1.outputs.map (·.path)).Nodup) :
    s1.defBytes = s2.defBytes := by
  simp only [Stage.defBytes, hc, hw, sortArts_perm hi hni, sortArts_perm ho hno]

theorem Utf8.valid {b : Bytes} (h : Utf8 b) : ValidU b := validU_of_validUtf8 _ _ h

/-- Go's JSON string encoder is injective on valid UTF-8 … -/
theorem jstr_injective {u v : Bytes} (hu : Utf8 u) (hv : Utf8 v) (h : jstr u = jstr v) : u = v :=
  (jstr_selfdelim (r := []) (r' := []) hu.valid hv.valid (by simpa using h)).1

/-- … and self-delimiting -/
theorem jstr_self_delimiting {u v r r' : Bytes} (hu : Utf8 u) (hv : Utf8 v)
    (h : jstr u ++ r = jstr v ++ r') : u = v ∧ r = r' := jstr_selfdelim hu.valid hv.valid h

/-- … but not on arbitrary bytes: every invalid byte becomes U+FFFD -/
theorem jstr_not_injective_invalid_utf8 :
    jstr [0xFF] = jstr [0xFE] ∧ ([0xFF] : Bytes) ≠ [0xFE] ∧
    jstr [0xFF] = [0x22, 0x5C, 0x75, 0x66, 0x66, 0x66, 0x64, 0x22] ∧ ¬ Utf8 [0xFF] := by
  have h1 : jstr [0xFF] = [0x22] ++ (str "\\ufffd" ++ []) ++ [0x22] := rfl
  have h2 : jstr [0xFE] = [0x22] ++ (str "\\ufffd" ++ []) ++ [0x22] := rfl
  refine ⟨by rw [h1, h2], by decide, ?_, by decide⟩
  rw [h1, str_ufffd]; rfl

/-- The hashed bytes determine the definition: on valid UTF-8, equal `defBytes` force equal command,
working directory and equal artifact maps (paths and flags; canonical order). -/
theorem defBytes_injective {s1 s2 : Stage} (h1 : Utf8Stage s1) (h2 : Utf8Stage s2)
    (h : s1.defBytes = s2.defBytes) :
    s1.cmd = s2.cmd ∧ s1.wd = s2.wd ∧
    (sortArts s1.inputs).map Art.defArt = (sortArts s2.inputs).map Art.defArt ∧
    (sortArts s1.outputs).map Art.defArt = (sortArts s2.outputs).map Art.defArt := by
  have hv : ∀ (s : Stage), Utf8Stage s →
      (∀ a ∈ (sortArts s.inputs).map Art.defArt, ValidU a.path) ∧
      (∀ a ∈ (sortArts s.outputs).map Art.defArt, ValidU a.path) := by
    intro s hs
    constructor
    · intro a ha
      obtain ⟨x, hx, rfl⟩ := List.mem_map.1 ha
      exact (hs.paths x (List.mem_append_left _ (mem_of_mem_sortArts hx))).valid
    · intro a ha
      obtain ⟨x, hx, rfl⟩ := List.mem_map.1 ha
      exact (hs.paths x (List.mem_append_right _ (mem_of_mem_sortArts hx))).valid
  exact stageDef_injective h1.cmd.valid h2.cmd.valid h1.wd.valid h2.wd.valid
    (hv s1 h1).1 (hv s2 h2).1 (hv s1 h1).2 (hv s2 h2).2 h

/-- for stages in normal form (lists already canonical): equal hashed bytes ⇒ the two definitions
agree in everything but checksums -/
theorem defBytes_injective_normal {s1 s2 : Stage} (n1 : NormalForm s1) (n2 : NormalForm s2)
    (h1 : Utf8Stage s1) (h2 : Utf8Stage s2) (h : s1.defBytes = s2.defBytes) :
    s1.cmd = s2.cmd ∧ s1.wd = s2.wd ∧
    s1.inputs.map Art.defArt = s2.inputs.map Art.defArt ∧
    s1.outputs.map Art.defArt = s2.outputs.map Art.defArt := by
  have := defBytes_injective h1 h2 h
  rwa [sortArts_of_sorted n1.inSorted, sortArts_of_sorted n2.inSorted,
    sortArts_of_sorted n1.outSorted, sortArts_of_sorted n2.outSorted] at this

/-- … so `defBytes` is a complete invariant of the definition of normal-form stages -/
theorem defBytes_eq_iff_normal {s1 s2 : Stage} (n1 : NormalForm s1) (n2 : NormalForm s2)
    (h1 : Utf8Stage s1) (h2 : Utf8Stage s2) :
    s1.defBytes = s2.defBytes ↔
      s1.cmd = s2.cmd ∧ s1.wd = s2.wd ∧ s1.inputs.map Art.defArt = s2.inputs.map Art.defArt ∧
      s1.outputs.map Art.defArt = s2.outputs.map Art.defArt :=
  ⟨defBytes_injective_normal n1 n2 h1 h2, fun ⟨a, b, c, d⟩ => defBytes_congr a b c d⟩

/-- equal definition artifacts = same paths and same flags, entry by entry -/
theorem defArt_eq_iff (a b : Art) :
    a.defArt = b.defArt ↔ a.path = b.path ∧ a.isDir = b.isDir ∧ a.noRec = b.noRec ∧ a.skip = b.skip := by
  simp [Art.defArt]

/-! ## (C) the recorded definition checksum -/

variable {κ : Type}

theorem defSum_ignores_sums (cfg : Cfg κ) (stg : Stage) (s : Digest) (f g : Art → Digest) :
    ({ stg with sum := s,
                inputs := stg.inputs.map (fun a => { a with sum := f a }),
                outputs := stg.outputs.map (fun a => { a with sum := g a }) } : Stage).defSum cfg
      = stg.defSum cfg := by
  simp only [Stage.defSum, defBytes_ignores_sums]

/-- Right after `dud commit` the stage recorded in the index carries the checksum of its own
definition: `dud status` reports the definition as up to date. -/
theorem status_after_commit_def (cfg : Cfg κ) (strat : Strat) (sp : Bytes) (w w' : World κ)
    (h : commitAct cfg strat sp w = .ok w') :
    ∃ stg, alookup w'.idx sp = some stg ∧ stg.defSum cfg = stg.sum := by
  obtain ⟨stg, hs⟩ := WStat.commitAct_stage h
  obtain ⟨pl, w1, outs, w2, h1, h2, rfl⟩ := WStat.commitAct_inv hs h
  have f1 := (commitArts_frame cfg strat _ _ w w1 h1).1
  have g1 := (commitArts_frame cfg strat _ _ w1 w2 h2).1
  exact ⟨_, alookup_setStage_self _ _ (s0 := stg) (by rw [g1, f1]; exact hs), rfl⟩

/-- Whenever the definition of a stage is edited — command, working directory, or the set, paths or
flags of inputs / outputs — its definition checksum changes, provided the hash does not collide on
the two definitions.  (`hinj` is collision-freedom of `H ∘ ofBytes` on these two byte strings, as
`Good.inj` is for `H`.) -/
theorem defsum_changes_on_edit (cfg : Cfg κ) {s1 s2 : Stage} (h1 : Utf8Stage s1) (h2 : Utf8Stage s2)
    (hinj : cfg.ctx.H (cfg.ofBytes s1.defBytes) = cfg.ctx.H (cfg.ofBytes s2.defBytes) →
      s1.defBytes = s2.defBytes)
    (hedit : s1.cmd ≠ s2.cmd ∨ s1.wd ≠ s2.wd ∨
      (sortArts s1.inputs).map Art.defArt ≠ (sortArts s2.inputs).map Art.defArt ∨
      (sortArts s1.outputs).map Art.defArt ≠ (sortArts s2.outputs).map Art.defArt) :
    s1.defSum cfg ≠ s2.defSum cfg := by
  intro e
  obtain ⟨a, b, c, d⟩ := defBytes_injective h1 h2 (hinj e)
  rcases hedit with h | h | h | h
  · exact h a
  · exact h b
  · exact h c
  · exact h d

/-- with `Good.inj` for `H` and an injective content encoding `ofBytes` -/
theorem defsum_changes_on_edit_good (cfg : Cfg κ) (hg : Good cfg.ctx)
    (hof : ∀ x y, cfg.ofBytes x = cfg.ofBytes y → x = y)
    {s1 s2 : Stage} (h1 : Utf8Stage s1) (h2 : Utf8Stage s2)
    (hedit : s1.cmd ≠ s2.cmd ∨ s1.wd ≠ s2.wd ∨
      (sortArts s1.inputs).map Art.defArt ≠ (sortArts s2.inputs).map Art.defArt ∨
      (sortArts s1.outputs).map Art.defArt ≠ (sortArts s2.outputs).map Art.defArt) :
    s1.defSum cfg ≠ s2.defSum cfg :=
  defsum_changes_on_edit cfg h1 h2 (fun e => hof _ _ (hg.inj _ _ e)) hedit

/-- and conversely the definition checksum is unchanged by checksums and by map order -/
theorem defsum_stable (cfg : Cfg κ) {s1 s2 : Stage} (hc : s1.cmd = s2.cmd) (hw : s1.wd = s2.wd)
    (hi : s1.inputs.Perm s2.inputs) (ho : s1.outputs.Perm s2.outputs)
    (hni : (s1.inputs.map (·.path)).Nodup) (hno : (s1.outputs.map (·.path)).Nodup) :
    s1.defSum cfg = s2.defSum cfg := by
  simp only [Stage.defSum, defBytes_ignores_order hc hw hi ho hni hno]

/-! ## non-vacuity -/

namespace C17ex

def pNull : Bytes := [0x6E, 0x75, 0x6C, 0x6C]          -- "null"
def pTilde : Bytes := [0x7E]                           -- "~"
def pColon : Bytes := [0x61, 0x3A, 0x20, 0x62]        -- "a: b"
/-- a two-line command with YAML-significant characters:
```
printf 'k: v\n' > '~'
# null
``` -/
def cmd1 : Bytes := [0x70, 0x72, 0x69, 0x6E, 0x74, 0x66, 0x20, 0x27, 0x6B, 0x3A, 0x20, 0x76, 0x5C, 0x6E, 0x27, 0x20, 0x3E, 0x20, 0x27, 0x7E, 0x27, 0x0A, 0x23, 0x20, 0x6E, 0x75, 0x6C, 0x6C]

/-- a normal-form stage with YAML-hostile strings -/
def stg1 : Stage :=
  { sum := "abc", cmd := cmd1, wd := [0x2E],
    inputs := [{ path := pNull, sum := "111", skip := true }],
    outputs := [{ path := pColon, sum := "222", isDir := true, noRec := true },
                { path := pTilde, sum := "333", skip := true }] }

theorem stg1_normal : NormalForm stg1 :=
  ⟨by decide +kernel, by decide +kernel, by decide +kernel, by decide +kernel, by decide +kernel, by decide +kernel⟩

theorem stg1_utf8 : Utf8Stage stg1 := ⟨by decide +kernel, by decide +kernel, by decide +kernel⟩

example : fromDoc (toDoc stg1) = stg1 := load_write_id stg1_normal
example : fromDoc (toDoc stg1) = stg1 := by decide +kernel

/-- a messy document that loads to `stg1`: white space (ASCII, U+2028, U+00A0, U+3000) around the
command, unclean working directory and keys, a nil artifact value, an input carrying a stale
`skip-cache: false`, the outputs in the "wrong" order -/
def doc1 : StageDoc :=
  { sum := "abc", cmd := [0x09, 0x20, 0xE2, 0x80, 0xA8, 0x70, 0x72, 0x69, 0x6E, 0x74, 0x66, 0x20, 0x27, 0x6B, 0x3A, 0x20, 0x76, 0x5C, 0x6E, 0x27, 0x20, 0x3E, 0x20, 0x27, 0x7E, 0x27, 0x0A, 0x23, 0x20, 0x6E, 0x75, 0x6C, 0x6C, 0xC2, 0xA0, 0x0A, 0xE3, 0x80, 0x80],
    wd := [0x2E, 0x2F, 0x78, 0x2F, 0x2E, 0x2E, 0x2F, 0x2F],
    inputs := [([0x2E, 0x2F, 0x6E, 0x75, 0x6C, 0x6C], some { sum := "111" })],
    outputs := [([0x78, 0x2F, 0x2E, 0x2E, 0x2F, 0x7E], some { sum := "333", skip := true }),
                ([0x61, 0x3A, 0x20, 0x62, 0x2F], some { sum := "222", isDir := true, noRec := true })] }

example : fromDoc doc1 = stg1 := by decide +kernel
example : KeysOK doc1.inputs ∧ KeysOK doc1.outputs := by decide +kernel
example : NormalForm (fromDoc doc1) := fromDoc_normal doc1
example : fromDoc (toDoc (fromDoc doc1)) = fromDoc doc1 := normalise_idem doc1
/-- a nil map value is the zero artifact -/
example : fromDoc { outputs := [(pTilde, none)] } = { wd := [0x2E], outputs := [{ path := pTilde }] } := by
  decide +kernel
/-- `KeysOK` can fail: `x` and `./x` are two YAML keys for one path -/
example : ¬ KeysOK [([0x78], none), ([0x2E, 0x2F, 0x78], none)] := by decide +kernel

/-- an edit of a flag changes the hashed bytes (instance of `defBytes_injective`) -/
def stg2 : Stage := { stg1 with outputs := [{ path := pColon, isDir := true }, { path := pTilde, skip := true }] }
example : stg1.defBytes ≠ stg2.defBytes := by
  intro h
  have := (defBytes_injective stg1_utf8 ⟨by decide +kernel, by decide +kernel, by decide +kernel⟩ h).2.2.2
  revert this; decide +kernel

/-- a change of checksums only does not (instance of `defBytes_ignores_sums`) -/
example : ({ stg1 with sum := "zzz", outputs := stg1.outputs.map fun a => { a with sum := "" } } : Stage).defBytes
    = stg1.defBytes := by
  have := defBytes_ignores_sums stg1 "zzz" (fun a => a.sum) (fun _ => "")
  simpa using this

example : trimSpace [0x09, 0x20, 0xE2, 0x80, 0xA8, 0x70, 0x72, 0x69, 0x6E, 0x74, 0x66, 0x20, 0x27, 0x6B, 0x3A, 0x20, 0x76, 0x5C, 0x6E, 0x27, 0x20, 0x3E, 0x20, 0x27, 0x7E, 0x27, 0x0A, 0x23, 0x20, 0x6E, 0x75, 0x6C, 0x6C, 0xC2, 0xA0, 0x0A, 0xE3, 0x80, 0x80] = cmd1 := by decide +kernel
/-- invalid UTF-8 and a lone continuation byte are not white space -/
example : trimSpace [0x85, 0x61, 0xA0] = [0x85, 0x61, 0xA0] := by decide +kernel

end C17ex

end Dud

#print axioms Dud.clean_idempotent
#print axioms Dud.trimSpace_idempotent
#print axioms Dud.fromDoc_normal
#print axioms Dud.fromDoc_perm
#print axioms Dud.fromDoc_complete
#print axioms Dud.load_write_id
#print axioms Dud.load_write_fields
#print axioms Dud.normalise_idem
#print axioms Dud.write_load_write
#print axioms Dud.toDoc_shape
#print axioms Dud.toDoc_keysOK
#print axioms Dud.defBytes_congr
#print axioms Dud.defBytes_ignores_sums
#print axioms Dud.defBytes_ignores_stage_sum
#print axioms Dud.sortArts_perm_eq
#print axioms Dud.defBytes_ignores_order
#print axioms Dud.jstr_injective
#print axioms Dud.jstr_self_delimiting
#print axioms Dud.jstr_not_injective_invalid_utf8
#print axioms Dud.defBytes_injective
#print axioms Dud.defBytes_injective_normal
#print axioms Dud.defBytes_eq_iff_normal
#print axioms Dud.defArt_eq_iff
#print axioms Dud.defSum_ignores_sums
#print axioms Dud.status_after_commit_def
#print axioms Dud.defsum_changes_on_edit
#print axioms Dud.defsum_changes_on_edit_good
#print axioms Dud.defsum_stable
#print axioms Dud.C17ex.stg1_normal
#print axioms Dud.C17ex.stg1_utf8
#print axioms Dud.GoJson.stageDef_injective
#print axioms Dud.GoJson.defArts_selfdelim
#print axioms Dud.GoJson.unesc_escBody
