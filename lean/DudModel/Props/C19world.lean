import DudModel.Props.C19
import DudModel.Lemmas.Codec
/-!
# C19 at the world level — `dud checkout --copy` never succeeds with corrupted bytes

`Props/C19.lean` proves, for one manifest entry, that a successful copy checkout returns a
`Verified` node.  This file lifts the statement to the command, in two forms that need NO
hypothesis on the index, the cache or the workspace:

* `cmdCheckout_copy_verified` — after a successful `dud checkout --copy`, for every stage the
  traversal acted on (in particular every requested target, `cmdCheckout_targets_done`) and every
  output that is not skip-cache, the workspace holds at the output's path a node that is `Verified`
  against the recorded checksum: every file named by the (nested) manifests is a regular file whose
  bytes hash to the checksum its entry records.  This is the copy case of the invariant of the
  checkout traversal (`cmdCheckout_inv1`: the outputs of the stages done are checked out, `CI.Conf`,
  which the frame of C06 keeps whatever later stages write) read through `Verified.of_conf`.
* `cmdCheckout_copy_provenance` — **every** regular file anywhere in the workspace after the command
  either was there before with the same bytes, or holds exactly the bytes of the cache object stored
  under the digest of these bytes: dud never places bytes in the workspace whose digest differs
  from the name of the object they were copied from.  Consequently
  (`cmdCheckout_copy_corrupt_fails`) a success is impossible when a non-skip file output of a
  requested stage is not already a regular file in the workspace and the cache holds under its
  checksum no object whose bytes hash to that checksum (the object is corrupted or missing).

With the link strategy no file is verified (`link_checkout_does_not_verify` in `Props/C19.lean`);
of the provenance statement the first alternative alone is left (`cmdCheckout_provenance`, for either
strategy: a link checkout creates no regular file).
-/
namespace Dud

variable {κ : Type}

/-- **C19, the command (verified outputs).**  After a successful `dud checkout --copy`, every output
that is not skip-cache of every stage the traversal acted on is found in the workspace, `Verified`
against its recorded checksum and the cache the command started with. -/
theorem cmdCheckout_copy_verified (cfg : Cfg κ) (single : Bool) (targets : List Bytes) (w w' : World κ)
    (h : cmdCheckout cfg .copy single targets w = .ok w') :
    ∀ sp, sp ∈ w'.done → ∀ stg, alookup w.idx sp = some stg → ∀ a, a ∈ sortArts stg.outputs →
      a.skip = false →
        ∃ n, getPath w'.ws (Path.comps a.path) = some n ∧
          Verified cfg.ctx w.store cfg.fuel a.child n := by
  obtain ⟨⟨ws1, d1, rfl⟩, hconf⟩ := cmdCheckout_inv1 h
  intro sp hsp stg hstg a ha hs
  rcases hconf sp hsp stg hstg a ha with hsk | ⟨n, hn, hc⟩
  · rw [hs] at hsk; cases hsk
  · exact ⟨n, hn, .of_conf _ _ _ hc⟩

/-- every requested stage (every stage of the index when none is named) has been acted on -/
theorem cmdCheckout_targets_done (cfg : Cfg κ) (strat : Strat) (single : Bool) (targets : List Bytes)
    (w w' : World κ) (h : cmdCheckout cfg strat single targets w = .ok w') :
    ∀ t, t ∈ (if targets.isEmpty then allStages w else targets) → t ∈ w'.done :=
  CI.cmdCheckout_targets h

/-- a file output of a requested stage is, after `dud checkout --copy`, a regular file whose bytes
hash to the recorded checksum -/
theorem cmdCheckout_copy_file_output (cfg : Cfg κ) (single : Bool) (targets : List Bytes) (w w' : World κ)
    (h : cmdCheckout cfg .copy single targets w = .ok w') (t : Bytes)
    (ht : t ∈ (if targets.isEmpty then allStages w else targets)) (stg : Stage)
    (hstg : alookup w.idx t = some stg) (a : Art) (ha : a ∈ sortArts stg.outputs)
    (hs : a.skip = false) (hd : a.isDir = false) :
    ∃ b, getPath w'.ws (Path.comps a.path) = some (.file b) ∧ cfg.ctx.H b = a.sum := by
  obtain ⟨⟨ws1, d1, rfl⟩, hconf⟩ := cmdCheckout_inv1 h
  exact (hconf t (CI.cmdCheckout_targets h t ht) stg hstg a ha).copy_file hs hd

theorem setPath_prov (ctx : Ctx κ) (s : Store κ) (strat : Strat) :
    ∀ (p : List Name) (ws v ws' : Node κ), setPath ws p v = some ws' →
      ProvP ctx s strat ((getPath ws p).getD (.dir [])) v → ProvP ctx s strat ws ws' := by
  intro p
  induction p with
  | nil =>
    intro ws v ws' h hk
    cases h
    exact hk
  | cons c r ih =>
    intro ws v ws' h hk
    obtain ⟨es, n, rfl, hn, rfl⟩ := setPath_cons_inv h
    refine DirProv.toProvP fun nm n' hn' => ?_
    by_cases he : c = nm
    · subst he
      rw [alookup_setEntry_self] at hn'
      cases hn'
      refine ih _ v n hn ?_
      cases hl : alookup es c with
      | some m => simpa only [getPath, hl, Option.getD_some] using hk
      | none =>
        simp only [getPath, hl, Option.getD_none] at hk ⊢
        rcases getPath_nil_dir_cases (κ := κ) r with e | e <;> rw [e] <;> exact hk
    · rw [alookup_setEntry_ne es n he] at hn'
      exact hn' ▸ .refl ctx s strat n'

/-- provenance for either strategy: a regular file found after `dud checkout` was there before, or
(copy strategy only) holds the bytes of the cache object under their digest; a link checkout creates
no regular file at all -/
theorem cmdCheckout_provenance (cfg : Cfg κ) (strat : Strat) (single : Bool) (targets : List Bytes)
    (w w' : World κ) (h : cmdCheckout cfg strat single targets w = .ok w') :
    ProvP cfg.ctx w.store strat w.ws w'.ws :=
  (cmdCheckout_rel_ws (ProvP.refl cfg.ctx w.store strat) ProvP.trans
    (fun _ _ _ _ _ _ _ _ hn hsp => setPath_prov _ _ _ _ _ _ _ hsp (checkoutNode_prov _ _ _ _ hn)) h).2

/-- **C19, the command (provenance).**  After a successful `dud checkout --copy`, every regular
file anywhere in the workspace either was there before, at the same path with the same bytes, or
holds exactly the bytes of the cache object stored under the digest of these bytes. -/
theorem cmdCheckout_copy_provenance (cfg : Cfg κ) (single : Bool) (targets : List Bytes) (w w' : World κ)
    (h : cmdCheckout cfg .copy single targets w = .ok w') (p : List Name) (x : κ)
    (hp : getPath w'.ws p = some (.file x)) :
    getPath w.ws p = some (.file x) ∨ FromCache cfg.ctx w.store x :=
  (cmdCheckout_provenance cfg .copy single targets w w' h p x hp).imp_right (·.2)

/-- **C19, corrupted object.**  If a non-skip file output `a` of a requested stage is not already a
regular file in the workspace, and the cache holds under `a.sum` no object whose bytes hash to
`a.sum` (the object is corrupted — bit flip, truncation, extension — or missing), then
`dud checkout --copy` does not succeed: whatever the index, the other stages and the rest of the
workspace are. -/
theorem cmdCheckout_copy_corrupt_fails (cfg : Cfg κ) (single : Bool) (targets : List Bytes) (w : World κ)
    (t : Bytes) (ht : t ∈ (if targets.isEmpty then allStages w else targets)) (stg : Stage)
    (hstg : alookup w.idx t = some stg) (a : Art) (ha : a ∈ sortArts stg.outputs)
    (hs : a.skip = false) (hd : a.isDir = false)
    (hws : ∀ x, getPath w.ws (Path.comps a.path) ≠ some (.file x))
    (hbad : ∀ o, w.store.get a.sum = some o → cfg.ctx.H (o.bytes cfg.ctx) ≠ a.sum) :
    ∃ e, cmdCheckout cfg .copy single targets w = .error e := by
  cases h : cmdCheckout cfg .copy single targets w with
  | error e => exact ⟨e, rfl⟩
  | ok w' =>
    exfalso
    obtain ⟨b, hb, hH⟩ := cmdCheckout_copy_file_output cfg single targets w w' h t ht stg hstg a ha hs hd
    rcases cmdCheckout_copy_provenance cfg single targets w w' h _ b hb with hold | ⟨o, ho, hob⟩
    · exact hws b hold
    · rw [hH] at ho
      exact hbad o ho (by rw [hob]; exact hH)

/-! ## Non-vacuity -/
namespace C19Example
open ToyGood

/-- stage 1 owns the file `d`, recorded checksum "abcdata" -/
def good : World String :=
  { ws := .dir [([107], .file "keep")],
    store := [("abcdata", .blob "data")],
    idx := [([1], { cmd := [1], outputs := [{ path := [100], sum := "abcdata" }] })] }

/-- the same project with the object truncated in place -/
def bad : World String := { good with store := [("abcdata", .blob "dat")] }

def good' : World String :=
  match cmdCheckout cfg .copy false [] good with
  | .ok x => x
  | .error _ => default

/-- the world after the checkout of `good`: the output is a copy of the object's bytes -/
def good1 : World String :=
  { good with ws := .dir [([107], .file "keep"), ([100], .file "data")], done := [[1]] }

/-- the one evaluation of the two runs that the statements below share -/
theorem runs : cmdCheckout cfg .copy false [] good = .ok good1 ∧
    cmdCheckout cfg .copy false [] bad = .error .sumMismatch := by
  open Dud.WorldDec in decide +kernel

theorem good'_eq : good' = good1 := by
  have h := runs.1
  unfold good'
  -- with the run abstracted, the kernel does not evaluate it again
  generalize cmdCheckout cfg .copy false [] good = r at h
  subst h
  rfl

theorem good_ok : cmdCheckout cfg .copy false [] good = .ok good' := good'_eq ▸ runs.1

example : getPath good'.ws [[100]] = some (.file "data") := good'_eq ▸ rfl

/-- the hypotheses of `cmdCheckout_copy_corrupt_fails` hold of `bad` … -/
theorem bad_fails : ∃ e, cmdCheckout cfg .copy false [] bad = .error e :=
  cmdCheckout_copy_corrupt_fails cfg false [] bad [1] (by decide +kernel) _ rfl
    { path := [100], sum := "abcdata" } (by decide +kernel) rfl rfl
    (fun x h => by
      have e : getPath bad.ws (Path.comps [100]) = none := rfl
      rw [e] at h; cases h)
    (fun o ho => by
      simp only [bad, good, Store.get, alookup, beq_self_eq_true, if_true, Option.some.injEq] at ho
      subst ho
      decide)

/-- … and the model indeed answers "checksum mismatch" -/
example : cmdCheckout cfg .copy false [] bad = .error .sumMismatch := runs.2

end C19Example

end Dud

#print axioms Dud.cmdCheckout_copy_verified
#print axioms Dud.cmdCheckout_targets_done
#print axioms Dud.cmdCheckout_copy_file_output
#print axioms Dud.checkoutNode_prov
#print axioms Dud.setPath_prov
#print axioms Dud.cmdCheckout_copy_provenance
#print axioms Dud.cmdCheckout_copy_corrupt_fails
