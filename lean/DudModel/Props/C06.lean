import DudModel.Lemmas.Checkout
import DudModel.Lemmas.CheckoutEq
import DudModel.Generated.Facts
import DudModel.Lemmas.WorldDec
/-!
# C06: checkout never overwrites or deletes workspace data

`Keeps ctx s strat n n'` (DudModel/FrameSpec.lean) is the frame relation: everything is unchanged,
except that under the copy strategy a link that resolves to a cache object may be replaced by a
regular file with exactly that object's bytes; directories keep every entry at its position and
may gain entries.  The relation is positional, so NO duplicate-freeness hypothesis on listings is
needed; the finite-map reading (`alookup`) is the corollary `checkoutNode_frame_lookup`.
-/
namespace Dud

variable {κ : Type}

/-- **checkoutFile, frame.**  A successful `checkoutFile` on an occupied path keeps the entry.
It succeeds only on a regular file whose bytes hash to `sum` (left alone) or on a link to exactly
`sum` (present in the cache); the only change ever made is, with the copy strategy, the replacement
of that link by a file holding the object's bytes. -/
theorem checkoutFile_frame {ctx : Ctx κ} {strat : Strat} {n n' : Node κ} {sum : Digest}
    {s : Store κ} (h : checkoutFile ctx strat (some n) sum s = .ok n') :
    Keeps ctx s strat n n' ∧
      ((∃ c, n = .file c ∧ ctx.H c = sum) ∨ n = .link (.obj sum)) ∧ (strat = .link → n' = n) ∧
      (n' ≠ n → strat = .copy ∧ n = .link (.obj sum) ∧
        ∃ o, s.get sum = some o ∧ n' = .file (o.bytes ctx)) := by
  refine ⟨checkoutFile_keeps h, ?_⟩
  obtain ⟨-, -, o, ho, ⟨c, hc, hH, rfl⟩ | ⟨-, hn, hr⟩⟩ := checkoutFile_ok h
  · cases hc
    exact ⟨.inl ⟨c, rfl, hH⟩, fun _ => rfl, fun hne => absurd rfl hne⟩
  · rcases hn with hn | hn
    · cases hn
    obtain rfl := Option.some.inj hn
    refine ⟨.inr rfl, ?_, ?_⟩
    · rintro rfl
      rcases hr with ⟨-, rfl⟩ | ⟨hs, -⟩
      · rfl
      · cases hs
    · intro hne
      rcases hr with ⟨-, rfl⟩ | ⟨hs, rfl, -⟩
      · exact absurd rfl hne
      · exact ⟨hs, rfl, o, ho, rfl⟩

/-- **checkoutFile, blocked.**  Anything in the way that is neither a link to exactly `sum` (in the
cache) nor a regular file hashing to `sum` makes `checkoutFile` fail: it never succeeds over an
existing entry it would have to overwrite. -/
theorem checkoutFile_blocked {ctx : Ctx κ} {strat : Strat} {n n' : Node κ} {sum : Digest}
    {s : Store κ} (hq : (quick s sum (some n)).cm = false)
    (hup : upToDateCopy ctx (some n) sum = false)
    (h : checkoutFile ctx strat (some n) sum s = .ok n') : False := by
  obtain ⟨h1, h2, -, -, ⟨c, hc, hH, -⟩ | ⟨-, hn, -⟩⟩ := checkoutFile_ok h
  · cases hc
    cases hup.symm.trans (beq_iff_eq.2 hH)
  · rcases hn with hn | hn
    · cases hn
    · rw [quick_cm.2 ⟨hn, h1, h2⟩] at hq; cases hq

theorem checkoutFile_blocked_error {ctx : Ctx κ} {strat : Strat} {n : Node κ} {sum : Digest}
    {s : Store κ} (hq : (quick s sum (some n)).cm = false)
    (hup : upToDateCopy ctx (some n) sum = false) :
    ∃ e, checkoutFile ctx strat (some n) sum s = .error e := by
  cases h : checkoutFile ctx strat (some n) sum s with
  | error e => exact ⟨e, rfl⟩
  | ok n' => exact (checkoutFile_blocked hq hup h).elim

/-- in particular a directory, a foreign link, a special file, or a regular file with other bytes
blocks it -/
theorem checkoutFile_blocked_other {ctx : Ctx κ} {strat : Strat} {n : Node κ} {sum : Digest}
    {s : Store κ} (hn : ∀ d, n ≠ .link (.obj d)) (hf : ∀ c, n = .file c → ctx.H c ≠ sum) :
    ∃ e, checkoutFile ctx strat (some n) sum s = .error e := by
  apply checkoutFile_blocked_error
  · cases hq : (quick s sum (some n)).cm with
    | false => rfl
    | true => exact absurd (Option.some.inj (quick_cm.1 hq).1) (hn sum)
  · cases hup : upToDateCopy ctx (some n) sum with
    | false => rfl
    | true =>
      obtain ⟨c, hc, hH⟩ := upToDateCopy_some hup
      exact absurd hH (hf c hc)

/-- **checkoutNode, frame.**  For every fuel, node and manifest nesting. -/
theorem checkoutNode_frame {ctx : Ctx κ} {strat : Strat} {s : Store κ} {fuel : Nat} {n n' : Node κ}
    {c : Child} (h : checkoutNode ctx strat s fuel (some n) c = .ok n') :
    Keeps ctx s strat n n' :=
  checkoutNode_keeps ctx strat s fuel n c n' h

/-- finite-map reading for a directory: every entry visible before is visible afterwards, kept. -/
theorem checkoutNode_frame_lookup {ctx : Ctx κ} {strat : Strat} {s : Store κ} {fuel : Nat}
    {es : List (Name × Node κ)} {n' : Node κ} {c : Child}
    (h : checkoutNode ctx strat s fuel (some (.dir es)) c = .ok n') :
    ∃ es', n' = .dir es' ∧ es.length ≤ es'.length ∧
      ∀ nm n, alookup es nm = some n → ∃ m, alookup es' nm = some m ∧ Keeps ctx s strat n m := by
  obtain ⟨es', rfl, hl⟩ := Keeps_dir.1 (checkoutNode_frame h)
  exact ⟨es', rfl, KeepsList_length hl, fun nm n hn => KeepsList_alookup hl hn⟩

theorem Keeps_link_strategy {ctx : Ctx κ} {s : Store κ} {l : Link} {n' : Node κ}
    (h : Keeps ctx s .link (.link l) n') : n' = .link l := by
  cases l with
  | obj d =>
    rcases Keeps_obj.1 h with h | ⟨h, _⟩
    · exact h
    · cases h
  | foreign b => exact (Keeps_leaf (by nofun) (by nofun)).1 h

/-- **checkoutNode, blocked directory.**  Something that is not a directory where the manifest
entry expects a directory gives an error. -/
theorem checkoutNode_blocked_dir {ctx : Ctx κ} {strat : Strat} {s : Store κ} {fuel : Nat}
    {n : Node κ} {c : Child} (hc : c.isDir = true) (hn : n.isDir = false) :
    ∃ e, checkoutNode ctx strat s fuel (some n) c = .error e := by
  cases h : checkoutNode ctx strat s fuel (some n) c with
  | error e => exact ⟨e, rfl⟩
  | ok n' =>
    cases fuel with
    | zero => cases h
    | succ fuel =>
      rcases checkoutNode_ok h with ⟨hc', -⟩ | ⟨-, -, -, es, -, -, hcur, -⟩
      · rw [hc] at hc'; cases hc'
      · rcases hcur with hcur | ⟨hcur, -⟩
        · obtain rfl := Option.some.inj hcur
          cases hn
        · cases hcur

/-- … and a directory (or anything but the matching link or a regular file with the recorded
checksum) where a file is expected as well. -/
theorem checkoutNode_blocked_file {ctx : Ctx κ} {strat : Strat} {s : Store κ} {fuel : Nat}
    {n : Node κ} {c : Child} (hc : c.isDir = false) (hq : (quick s c.sum (some n)).cm = false)
    (hup : upToDateCopy ctx (some n) c.sum = false) :
    ∃ e, checkoutNode ctx strat s fuel (some n) c = .error e := by
  cases fuel with
  | zero => exact ⟨_, rfl⟩
  | succ fuel => rw [checkoutNode_file hc]; exact checkoutFile_blocked_error hq hup

/-- entries of a directory that the manifest does not name are not touched at all -/
theorem checkoutNode_untracked {ctx : Ctx κ} {strat : Strat} {s : Store κ} {fuel : Nat}
    {es es' : List (Name × Node κ)} {c : Child} {cs : List Child}
    (hm : readManifest ctx s c.sum = .ok cs)
    (h : checkoutNode ctx strat s (fuel + 1) (some (.dir es)) c = .ok (.dir es'))
    (hc : c.isDir = true) (nm : Name) (hnm : ∀ k ∈ cs, k.name ≠ nm) :
    alookup es' nm = alookup es nm :=
  checkoutChildren_untracked cs es es' nm (checkoutNode_dir_ok hm hc h) hnm

/-- **Regenerated-fact obligation.**  The copy is created with `O_CREATE|O_EXCL`, the single
`os.Remove` of `checkoutFile` is guarded by `ContentsMatch`. -/
theorem copy_flags_obligation :
    "O_EXCL" ∈ Dud.Facts.copyFlags ∧ "O_CREATE" ∈ Dud.Facts.copyFlags ∧
    Dud.Facts.copyRemoveGuarded = true ∧ Dud.Facts.checkoutFileRemoves = 1 := by decide +kernel

/-! ## Non-vacuity -/

def C06.ctx : Ctx Nat :=
  { H := fun n => if n = 0 then "aaa" else if n = 1 then "bbb" else "ccc"
    encMan := fun _ _ _ => 99, decBlob := fun _ => none, reload := fun _ c => c
    nameOK := fun _ => true }
/-- objects `aaa` (blob 0), `bbb` (blob 1), manifest `mmm` = {x ↦ aaa, sub/ ↦ nnn},
manifest `nnn` = {z ↦ bbb} -/
def C06.store : Store Nat :=
  [("aaa", .blob 0), ("bbb", .blob 1),
   ("mmm", .man .new [] [⟨[120], "aaa", false⟩, ⟨[115], "nnn", true⟩]),
   ("nnn", .man .new [115] [⟨[122], "bbb", false⟩])]

open C06 in
-- copy checkout into a directory holding an untracked file `y`, a link `x → aaa`, and `sub/` with
-- an untracked file: `y` and `sub/w` stay, `x` becomes a file with the object's bytes, `sub/z` is new
example : checkoutNode ctx .copy store 3
    (some (.dir [([121], .file 5), ([120], .link (.obj "aaa")), ([115], .dir [([119], .file 6)])]))
    ⟨[], "mmm", true⟩
  = .ok (.dir [([121], .file 5), ([120], .file 0), ([115], .dir [([119], .file 6), ([122], .file 1)])]) := by open Dud.WorldDec in decide +kernel
open C06 in
-- same with links: the link stays a link
example : checkoutNode ctx .link store 3
    (some (.dir [([121], .file 5), ([120], .link (.obj "aaa"))])) ⟨[], "mmm", true⟩
  = .ok (.dir [([121], .file 5), ([120], .link (.obj "aaa")), ([115], .dir [([122], .link (.obj "bbb"))])]) := by open Dud.WorldDec in decide +kernel
open C06 in
-- a regular file with OTHER bytes in the way: error, for both strategies
example : checkoutNode ctx .copy store 3 (some (.dir [([120], .file 5)])) ⟨[], "mmm", true⟩
    = .error .exists_ := by open Dud.WorldDec in decide +kernel
open C06 in
example : checkoutNode ctx .link store 3 (some (.dir [([120], .file 5)])) ⟨[], "mmm", true⟩
    = .error .exists_ := by open Dud.WorldDec in decide +kernel
open C06 in
example : (quick store "aaa" (some (.file 5))).cm = false ∧
    upToDateCopy ctx (some (.file 5)) "aaa" = false := ⟨rfl, rfl⟩
open C06 in
-- a regular file with the right bytes is accepted and left alone (also by the link strategy)
example : checkoutNode ctx .link store 3 (some (.dir [([120], .file 0)])) ⟨[], "mmm", true⟩
    = .ok (.dir [([120], .file 0), ([115], .dir [([122], .link (.obj "bbb"))])]) := by open Dud.WorldDec in decide +kernel
open C06 in
-- a file where `sub/` should be: error
example : checkoutNode ctx .link store 3 (some (.dir [([115], .file 0)])) ⟨[], "mmm", true⟩
    = .error .exists_ := by open Dud.WorldDec in decide +kernel
open C06 in
example : checkoutFile ctx .copy (some (.link (.obj "aaa"))) "aaa" store = .ok (.file 0) := by open Dud.WorldDec in decide +kernel
open C06 in
example : checkoutArt ctx .copy 3 { path := [], sum := "mmm", isDir := true }
    (some (.dir [([121], .file 5)])) store
  = .ok (some (.dir [([121], .file 5), ([120], .file 0), ([115], .dir [([122], .file 1)])])) := by open Dud.WorldDec in decide +kernel

end Dud

#print axioms Dud.checkoutFile_frame
#print axioms Dud.checkoutFile_blocked
#print axioms Dud.checkoutFile_blocked_error
#print axioms Dud.checkoutFile_blocked_other
#print axioms Dud.checkoutNode_frame
#print axioms Dud.checkoutNode_frame_lookup
#print axioms Dud.Keeps_file
#print axioms Dud.Keeps_link_strategy
#print axioms Dud.checkoutNode_blocked_dir
#print axioms Dud.checkoutNode_blocked_file
#print axioms Dud.checkoutNode_untracked
#print axioms Dud.copy_flags_obligation
