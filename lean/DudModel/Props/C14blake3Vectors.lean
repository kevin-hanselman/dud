import DudModel.Lemmas.Blake3Words
/-!
# Official BLAKE3 test vectors, checked by the kernel

Core-only.  Each `V….digest` is a kernel-checked statement "`hashSpecReal` (the total recursive
specification over `Blake3.compress`) of the official input is the official digest", for 1024, 1025,
2048, 2049 and 3073 bytes (1–4 chunks: chunk counters 0–3, CHUNK_START/CHUNK_END, parent nodes, the
left-heavy split 2+1, ROOT at the top only).  The DIGESTS are the official ones
(`corpus/blake3_vectors.json` = the first 32 bytes of the `hash` field of the official
`test_vectors.json`).

The specification is evaluated over `Nat` words (`Words.hashSpecReal_eq_nat`) by `decide +kernel`
(no `native_decide`, no extra axioms).  The input is cut into chunks by a lemma (`split`), not by
evaluation, and the first three 1024-byte chunks, which the vectors share, are evaluated once
(`c0_15`, `cv0_nat`, `cv1_nat`, `cv2_nat`): the kernel is slow on long lists.  `cv0`, `cv1`, `cv2` are
the same chaining values for `realParams`, by `natHom`.
-/
namespace Dud.Blake3Spec.Vectors
open Dud Dud.Blake3Spec Dud.Blake3Spec.Words

variable {CV Digest : Type}

theorem treeCV_2 (P : Params CV Digest) (c0 : Nat) (a b : Bytes) :
    treeCV P c0 [a, b] = P.parentCV (P.chunkCV a c0) (P.chunkCV b (c0 + 1)) := rfl

theorem treeHash_2 (P : Params CV Digest) (a b : Bytes) :
    treeHash P [a, b] = P.parentRoot (P.chunkCV a 0) (P.chunkCV b 1) := rfl

theorem treeHash_3 (P : Params CV Digest) (a b c : Bytes) :
    treeHash P [a, b, c] =
      P.parentRoot (P.parentCV (P.chunkCV a 0) (P.chunkCV b 1)) (P.chunkCV c 2) := by
  show (treeNode P 0 ([a, b] ++ [c])).root P = _
  rw [treeNode_append P 0 (k := 1) (l := [a, b]) (r := [c]) rfl (Nat.le_refl 1) (Nat.le_succ 1), treeCV_2,
    treeCV_one]; rfl

theorem treeHash_4 (P : Params CV Digest) (a b c d : Bytes) :
    treeHash P [a, b, c, d] =
      P.parentRoot (P.parentCV (P.chunkCV a 0) (P.chunkCV b 1))
        (P.parentCV (P.chunkCV c 2) (P.chunkCV d 3)) := by
  show (treeNode P 0 ([a, b] ++ [c, d])).root P = _
  rw [treeNode_append P 0 (k := 1) (l := [a, b]) (r := [c, d]) rfl (Nat.le_succ 1) (Nat.le_refl 2), treeCV_2,
    treeCV_2]; rfl

/-- `len` bytes of the official input (the bytes 0,1,…,250 repeated) from offset `a` -/
def seg (a len : Nat) : Bytes := (List.range' a len).map fun i => (i % 251).toUInt8

theorem length_seg (a len : Nat) : (seg a len).length = len := by simp [seg]

theorem drop_seg (a len i : Nat) : (seg a len).drop i = seg (a + i) (len - i) := by
  simp [seg, ← List.map_drop, List.drop_range']

theorem take_seg (a len m : Nat) (h : m ≤ len) : (seg a len).take m = seg a m := by
  rw [seg, ← List.map_take, List.take_range'_of_length_ge h, seg]

theorem testInput_eq_seg (n : Nat) : testInput n = seg 0 n := by
  unfold testInput seg; rw [List.range_eq_range']

theorem split (k r : Nat) (h0 : 0 < r) (h1 : r ≤ 1024) :
    splitChunks (testInput (1024 * k + r)) =
      (List.range k).map (fun j => seg (1024 * j) 1024) ++ [seg (1024 * k) r] := by
  rw [testInput_eq_seg, splitChunks_eq_chunkAt _ k (by rw [length_seg]; omega), drop_seg]
  congr 1
  · apply List.map_congr_left
    intro j hj
    have := List.mem_range.1 hj
    rw [chunkAt, drop_seg, take_seg _ _ _ (by omega), Nat.zero_add]
  · congr 2 <;> omega

theorem digest_eq (k r : Nat) (h0 : 0 < r) (h1 : r ≤ 1024) :
    hashSpecReal (testInput (1024 * k + r)) =
      treeHash natBlockParams.toParams ((List.range k).map (fun j => seg (1024 * j) 1024) ++ [seg (1024 * k) r]) := by
  rw [hashSpecReal_eq_nat, hashSpec, split k r h0 h1]

/-! The message words of the official input in closed form: cutting a block out of a byte list and
packing it into words costs the kernel more than compressing it. -/

/-- little-endian word of the four bytes of the official input from offset `a` -/
def segWord (a : Nat) : Nat :=
  a % 251 ||| ((a + 1) % 251) <<< 8 ||| ((a + 2) % 251) <<< 16 ||| ((a + 3) % 251) <<< 24

theorem getD_seg (a len i : Nat) (h : i < len) : ((seg a len).getD i 0).toNat = (a + i) % 251 := by
  have : (a + i) % 251 < 256 := by omega
  simp [seg, List.getD_eq_getElem?_getD, h, Nat.mod_eq_of_lt this]

theorem word_seg (a len : Nat) : word (seg a (len + 4)) = segWord a := by
  simp only [word, segWord, getD_seg a (len + 4) 0 (by omega), getD_seg a (len + 4) 1 (by omega),
    getD_seg a (len + 4) 2 (by omega), getD_seg a (len + 4) 3 (by omega), Nat.add_zero]

def segBlk (a : Nat) : Blk Nat :=
  (⟨segWord a, segWord (a + 4), segWord (a + 8), segWord (a + 12), segWord (a + 16), segWord (a + 20),
      segWord (a + 24), segWord (a + 28)⟩,
    ⟨segWord (a + 32), segWord (a + 36), segWord (a + 40), segWord (a + 44), segWord (a + 48),
      segWord (a + 52), segWord (a + 56), segWord (a + 60)⟩)

theorem blkOfBytes_seg (a : Nat) : blkOfBytes (seg a 64) = segBlk a := by
  simp only [blkOfBytes, octOfBytes, segBlk, drop_seg, Nat.reduceSub, Nat.add_assoc, Nat.reduceAdd,
    word_seg]

/-- chaining value after the first `k` blocks (none of them the last) of the chunk of the official
input that starts at offset `a` -/
def segChain (ctr a : Nat) : Nat → Oct Nat
  | 0 => ivN
  | k + 1 => (compressN (segChain ctr a k) (segBlk (a + 64 * k)) ctr 64 (flagN (k == 0) 0)).1

theorem chainCV_nat_seg (ctr a n k : Nat) (h : 64 * k ≤ n) :
    chainCV natBlockParams ctr (seg a n) k = segChain ctr a k := by
  induction k with
  | zero => rfl
  | succ k ih =>
    have e : blockAt (seg a n) k = seg (a + 64 * k) 64 := by
      rw [blockAt, drop_seg, take_seg _ _ _ (by omega)]
    rw [chainCV, ih (by omega), e]
    show (compressN _ (blkOfBytes (seg _ 64)) ctr 64 _).1 = _
    rw [blkOfBytes_seg]; rfl

/-- Evaluating `chunkTail` itself would take the length of what is left before every block. -/
theorem chunkTail_nat_seg (ctr a k r : Nat) (h0 : 0 < r) (h1 : r ≤ 64) :
    chunkTail natBlockParams ctr (seg a (64 * k + r)) = ⟨segChain ctr a k, k == 0, seg (a + 64 * k) r⟩ := by
  rw [chunkTail_eq_chainCV _ ctr _ k (by rw [length_seg]; omega),
    chainCV_nat_seg ctr a _ k (by omega), drop_seg]
  congr 2; omega

deriving instance DecidableEq for ChunkTail

theorem chunkCV_eq (B : BlockParams CV Digest) (bs : Bytes) (ctr : Nat) :
    B.toParams.chunkCV bs ctr =
      B.finalCV (chunkTail B ctr bs).cv (chunkTail B ctr bs).last ctr (chunkTail B ctr bs).start := rfl

theorem chunkRoot_eq (B : BlockParams CV Digest) (bs : Bytes) (ctr : Nat) :
    B.toParams.chunkRoot bs ctr =
      B.finalRoot (chunkTail B ctr bs).cv (chunkTail B ctr bs).last ctr (chunkTail B ctr bs).start := rfl

/-- chunk 0 of the official input when all its blocks but the last have been compressed -/
theorem c0_15 : chunkTail natBlockParams 0 (seg 0 1024) =
    ⟨⟨1416073418, 1604678688, 2393420084, 3762478655, 1945592406, 151136451, 2953638081, 3405656808⟩,
      false, seg 960 64⟩ := by
  rw [chunkTail_nat_seg 0 0 15 64 (by decide) (by decide)]; decide +kernel

theorem cv0_nat : natBlockParams.toParams.chunkCV (seg 0 1024) 0 =
    ⟨1147510364, 3516130065, 281526004, 1455216076, 2098703209, 3054373473, 3925802129, 2984817711⟩ := by
  rw [chunkCV_eq, c0_15]; decide +kernel

theorem cv1_nat : natBlockParams.toParams.chunkCV (seg 1024 1024) 1 =
    ⟨3089309531, 2724725561, 2442481857, 3083962627, 2790451990, 172872671, 2720164518, 2803660315⟩ := by
  rw [chunkCV_eq, chunkTail_nat_seg 1 1024 15 64 (by decide) (by decide)]; decide +kernel

theorem cv2_nat : natBlockParams.toParams.chunkCV (seg 2048 1024) 2 =
    ⟨3191123761, 4156599190, 727455631, 1414001530, 370737570, 1480840121, 1875932204, 2822509831⟩ := by
  rw [chunkCV_eq, chunkTail_nat_seg 2 2048 15 64 (by decide) (by decide)]; decide +kernel

theorem chunkAt_X (j : Nat) (h : 1024 * j + 1024 ≤ 3073) : chunkAt X j = seg (1024 * j) 1024 := by
  rw [X, testInput_eq_seg, chunkAt, drop_seg, take_seg _ _ _ (by omega), Nat.zero_add]

/-- a chaining value computed over `Nat` words, read as one of `realParams` -/
theorem real_chunkCV {bs : Bytes} {ctr : Nat} {c : Oct Nat}
    (h : natBlockParams.toParams.chunkCV bs ctr = c) :
    realParams.chunkCV bs ctr = (c.map UInt32.ofNat).toArray :=
  h ▸ (natHom.chunkCVOf bs ctr).symm

theorem cv0 : realParams.chunkCV (chunkAt X 0) 0 = #[1147510364, 3516130065, 281526004, 1455216076, 2098703209, 3054373473, 3925802129, 2984817711] := by
  rw [chunkAt_X 0 (by decide)]; exact real_chunkCV cv0_nat

theorem cv1 : realParams.chunkCV (chunkAt X 1) 1 = #[3089309531, 2724725561, 2442481857, 3083962627, 2790451990, 172872671, 2720164518, 2803660315] := by
  rw [chunkAt_X 1 (by decide)]; exact real_chunkCV cv1_nat

theorem cv2 : realParams.chunkCV (chunkAt X 2) 2 = #[3191123761, 4156599190, 727455631, 1414001530, 370737570, 1480840121, 1875932204, 2822509831] := by
  rw [chunkAt_X 2 (by decide)]; exact real_chunkCV cv2_nat

namespace V1024
/-- **Official test vector, 1024 bytes**, checked by the kernel. -/
theorem digest : toHex (hashSpecReal (testInput 1024)) = "42214739f095a406f3fc83deb889744ac00df831c10daa55189b5d121c855af7" := by
  rw [digest_eq 0 1024 (by decide) (by decide)]
  show toHex (treeHash _ [seg 0 1024]) = _
  rw [treeHash_one, chunkRoot_eq, c0_15]; exact toHex_eq_ofList (by decide +kernel)
end V1024

namespace V1025
/-- **Official test vector, 1025 bytes**, checked by the kernel. -/
theorem digest : toHex (hashSpecReal (testInput 1025)) = "d00278ae47eb27b34faecf67b4fe263f82d5412916c1ffd97c8cb7fb814b8444" := by
  rw [digest_eq 1 1 (by decide) (by decide)]
  show toHex (treeHash _ [seg 0 1024, seg 1024 1]) = _
  rw [treeHash_2, cv0_nat]; exact toHex_eq_ofList (by decide +kernel)
end V1025

namespace V2048
/-- **Official test vector, 2048 bytes**, checked by the kernel. -/
theorem digest : toHex (hashSpecReal (testInput 2048)) = "e776b6028c7cd22a4d0ba182a8bf62205d2ef576467e838ed6f2529b85fba24a" := by
  rw [digest_eq 1 1024 (by decide) (by decide)]
  show toHex (treeHash _ [seg 0 1024, seg 1024 1024]) = _
  rw [treeHash_2, cv0_nat, cv1_nat]; exact toHex_eq_ofList (by decide +kernel)
end V2048

namespace V2049
/-- **Official test vector, 2049 bytes**, checked by the kernel. -/
theorem digest : toHex (hashSpecReal (testInput 2049)) = "5f4d72f40d7a5f82b15ca2b2e44b1de3c2ef86c426c95c1af0b6879522563030" := by
  rw [digest_eq 2 1 (by decide) (by decide)]
  show toHex (treeHash _ [seg 0 1024, seg 1024 1024, seg 2048 1]) = _
  rw [treeHash_3, cv0_nat, cv1_nat]; exact toHex_eq_ofList (by decide +kernel)
end V2049

namespace V3073
/-- **Official test vector, 3073 bytes**, checked by the kernel. -/
theorem digest : toHex (hashSpecReal (testInput 3073)) = "7124b49501012f81cc7f11ca069ec9226cecb8a2c850cfe644e327d22d3e1cd3" := by
  rw [digest_eq 3 1 (by decide) (by decide)]
  show toHex (treeHash _ [seg 0 1024, seg 1024 1024, seg 2048 1024, seg 3072 1]) = _
  rw [treeHash_4, cv0_nat, cv1_nat, cv2_nat]; exact toHex_eq_ofList (by decide +kernel)
end V3073

end Dud.Blake3Spec.Vectors

#print axioms Dud.Blake3Spec.Vectors.cv0
#print axioms Dud.Blake3Spec.Vectors.cv1
#print axioms Dud.Blake3Spec.Vectors.cv2
#print axioms Dud.Blake3Spec.Vectors.V1024.digest
#print axioms Dud.Blake3Spec.Vectors.V1025.digest
#print axioms Dud.Blake3Spec.Vectors.V2048.digest
#print axioms Dud.Blake3Spec.Vectors.V2049.digest
#print axioms Dud.Blake3Spec.Vectors.V3073.digest
