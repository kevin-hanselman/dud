import DudModel.Lemmas.InterleaveCheckout
import DudModel.Props.C06cmd
/-!
# C06 + C13 + C03 — CONCURRENT checkout workers: every schedule keeps the workspace, all schedules agree

In the Go code (`src/cache/checkout.go`) `checkoutDir` reads the manifest, `os.MkdirAll(workPath)`, then
hands the entries of the manifest — a Go map, iterated in RANDOM order — to concurrent workers
(`startCheckoutWorkers` / `checkoutWorker`).  A worker that meets a sub-directory calls `checkoutDir` again,
which starts workers of its own: the concurrency is nested.  The model (`checkoutNodeT`, `Sys.lean`)
processes the entries one after the other, in manifest order.  This file is the theorem that makes the
canonicalisation "compare real and model traces up to the order of siblings" sound.

## Vocabulary (`Lemmas/Shuffle.lean`, `Lemmas/InterleaveCheckout.lean`)

* `Shuffle`, `ShuffleN`, `All2`: the inductive definitions `Interleaving`, `InterleavingN`, `Forall2` of
  `Lemmas/InterleaveN.lean` under fresh names (that file cannot be imported here: its family defines a
  second `Dud.Sys.Rel`, and a `Dud.Sys.ParArtTrace` for commit beside the one below);
  `Lemmas/InterleaveN.lean` proves `ShuffleN ts l ↔ InterleavingN ts l` and `ShuffleN ts l ↔ Sched ts l`.
* `ParCheckoutTrace t s fuel pre cur c calls`: `calls` is a trace of the nested concurrent checkout of the
  manifest entry `c` at workspace path `pre`, where the workspace holds `cur`: for a directory the `mkdir`
  of the directory itself (if absent) comes FIRST (the parent exists before its workers start), then ANY
  `ShuffleN` of the traces of the entries, each of them again such a trace.  `SeqPermTrace`: the entries of
  every directory one after the other in ANY order.
* `SamePerPath l l'`: at every path, the same calls in the same order.

## Results (node level: one `checkoutDir` / `checkoutFile`; from ANY file system that agrees with the
logical workspace below the path — files, links of every kind, directories, in the way or not)

1. `checkoutNodeT_is_parTrace`, `checkoutNodeT_perm_is_parTrace`: the sequential trace of the model, and
   the sequential trace with the siblings of every directory permuted, are concurrent traces.
2. runs that complete, FAIL, are CANCELLED or are KILLED (`CheckoutRun`, `Lemmas/InterleaveCheckout.lean`:
   every worker may contribute nothing or stop after any of its calls — the prefix-closed set that contains
   every prefix of every complete trace, `parTrace_is_run`, and the traces of runs in which a worker fails and
   the errgroup cancels the siblings), NO success hypothesis:
   (a) `parCheckoutRun_keeps`: after EVERY prefix of EVERY run every pre-existing workspace entry is
       unchanged, except a link to the very object being copied (`KeptP`);
   (b) `parCheckoutRun_crash_safe`: every prefix of every run is `Safe` (C03).
3. complete schedules: (a), (b) as special cases (`parCheckout_keeps`, `_files`, `_link`,
   `parCheckout_crash_safe`); `parCheckout_samePerPath`: every concurrent trace issues at every path the calls
   of the sequential trace in the same order.  Hence
   (c) `parCheckout_schedules_same`: two schedules end in the same file system at EVERY path;
       `parCheckout_prefix_like_seq`: every crash state of a schedule shows at any single path what some
       crash state of the sequential run shows there; `parCheckout_final`: the final state agrees with
       the logical result of the model;
   (d) `parCheckout_complete_iff`: a complete concurrent trace exists iff the sequential run succeeds.
4. one `LocalCache.Checkout` inside the command (`ParArtTrace`: the `MkdirAll` of the ancestors, then any
   concurrent trace): `parArt_keeps`, `parArt_schedules_same`; the whole command (`CmdParTrace`: lock; for
   every `LocalCache.Checkout` of the sequential run — `cmdCheckoutSegs_artSegs` — ANY concurrent trace of
   that artifact in that intermediate world; unlock): `cmdCheckoutParTrace_keeps`, `_crash_safe`, `_final`
   (the conclusion of `cmdCheckoutT_final`, and the same file system as the sequential command at every
   path), `_schedules_same`; `cmdCheckoutT_is_cmdParTrace`.  (`cmdCheckoutPar_*`: the same for segments
   replaced by ANY lists with the same calls per path, `CmdParSegs`.)
5. `ExamplePar`: a directory with two files and a sub-directory; ALL schedules enumerated (`enumPar`,
   `enumPar_sound`: 12 for links, 280 / 630 for copies), checked by evaluation and by the theorems; an entry
   in the way two levels down: no complete trace exists, a failing run and a cut-short run are covered.

## Hypotheses

* `ManUniq ctx s`: every readable manifest of the cache lists pairwise distinct names.  In Go the manifest
  IS a map keyed by entry name.  (With a repeated name the sequential model lets the second occurrence see
  the result of the first; two real workers would race on the same path.)  `manUniq_of_check`: Boolean check.
* `hemp`, `uniqOpt cur` / `uniqNode w.ws`, `ObjIn`, `AbsAt`, `Consistent`: as in `Props/C06cmd.lean`.
  (The node-level statements of sections 2 and 3 carry `uniqOpt cur`; none of their proofs uses it.)
* (c), (d), `_final` are about COMPLETE traces: all workers succeed (iff the sequential run succeeds).
  For the command and artifact level the sequential run is assumed to succeed (`cmdCheckoutSegs … = .ok`,
  `checkoutArtWT … = .ok`): the model has no trace for a command that fails at the logical level.

## Not covered

* What the model does with the OTHER workers' remaining calls when one worker fails: nothing is assumed —
  `CheckoutRun` lets every worker stop anywhere (Go: the errgroup cancels the context, a worker stops
  before its next entry), so (a) and (b) hold whatever the cancellation does.  A failing run at the level
  of the whole COMMAND (lock, earlier artifacts complete, one artifact a failing run) is not assembled
  here; the node-level theorem applies to its last artifact from the state the earlier ones left
  (`parCheckout_keeps_from` for complete traces).
* A copy from a corrupted cache object (checksum mismatch after the copy: the real code leaves the bad copy
  behind) is a failing `checkoutFile` with calls; `CheckoutRun` gives such a worker no calls (as
  `C06cmd.lean`: not covered).
* System calls are atomic steps (a non-empty `write` is two: incomplete, complete).  The flat file-system
  model does not check that the parent directory of a created path exists; that the `mkdir` of a directory
  precedes the calls of its workers is part of the definition of `ParCheckoutTrace`, not a consequence.
* permission bits of created files, `fsync`, foreign links and special files (as in `C06cmd.lean`).
-/
namespace Dud.Sys
open Dud
variable {κ : Type}

/-! ## 1. the sequential trace, and its sibling permutations, are concurrent traces -/

/-- **The sequential trace with the siblings of every directory, at every depth, PERMUTED in any way (the
freedom of the Go map iteration) is one of the traces of the concurrent checkout.** -/
theorem checkoutNodeT_perm_is_parTrace {t : TCfg κ} {s : Store κ} {fuel : Nat} {pre : List Name}
    {cur : Option (Node κ)} {c : Child} {calls : List (Call κ)}
    (h : SeqPermTrace t s fuel pre cur c calls) : ParCheckoutTrace t s fuel pre cur c calls :=
  CheckoutTraces.mono (fun _ _ ⟨_, hp, hl⟩ => hl ▸ ShuffleN.flatten_perm hp) _ _ _ _ _ h

/-- the sequential trace is the identity permutation -/
theorem checkoutNodeT_is_seqPermTrace {t : TCfg κ} {s : Store κ} (hman : ManUniq t.ctx s) {fuel : Nat}
    {pre : List Name} {cur : Option (Node κ)} {c : Child} {r : Node κ} {calls : List (Call κ)}
    (h : checkoutNodeT t s fuel pre cur c = .ok (r, calls)) : SeqPermTrace t s fuel pre cur c calls :=
  seq_seqPerm (checkoutNodeT_seqTrace hman _ _ _ _ _ _ h)

/-- **The sequential trace of the model is one of the traces of the concurrent checkout.** -/
theorem checkoutNodeT_is_parTrace {t : TCfg κ} {s : Store κ} (hman : ManUniq t.ctx s) {fuel : Nat}
    {pre : List Name} {cur : Option (Node κ)} {c : Child} {r : Node κ} {calls : List (Call κ)}
    (h : checkoutNodeT t s fuel pre cur c = .ok (r, calls)) : ParCheckoutTrace t s fuel pre cur c calls :=
  checkoutNodeT_perm_is_parTrace (checkoutNodeT_is_seqPermTrace hman h)

/-- one level, spelled out: the entries `cs` of the manifest of an absent directory, any concurrent traces
`ts` of the entries, any permutation `ts'` of them: `mkdir`, then the workers one after the other in the
permuted order, is a concurrent trace -/
theorem parTrace_of_perm {t : TCfg κ} {s : Store κ} {fuel : Nat} {pre : List Name} {c : Child}
    (hd : c.isDir = true) (h1 : hasSum c.sum = true) (h2 : s.has c.sum = true) {cs : List Child}
    (hm : readManifest t.ctx s c.sum = .ok cs) {ts ts' : List (List (Call κ))}
    (hall : All2 (fun (c' : Child) tr => ParCheckoutTrace t s fuel (pre ++ [c'.name]) none c' tr) cs ts)
    (hp : List.Perm ts' ts) :
    ParCheckoutTrace t s (fuel + 1) pre none c (.mkdir (.ws pre) :: ts'.flatten) := by
  simp only [CheckoutTraces]
  exact .inl ⟨hd, h1, h2, cs, [], [.mkdir (.ws pre)], ts, _, hm, by simp, hall, ShuffleN.flatten_perm hp, rfl⟩

/-! ## 2. runs that fail, are cancelled, are killed — or complete -/

/-- every complete concurrent trace is a run, and so is every prefix of it -/
theorem parTrace_is_run {t : TCfg κ} {s : Store κ} {fuel : Nat} {pre : List Name} {cur : Option (Node κ)}
    {c : Child} {calls : List (Call κ)} (h : ParCheckoutTrace t s fuel pre cur c calls) (k : Nat) :
    CheckoutRun t s fuel pre cur c (calls.take k) :=
  CheckoutRun.take fuel pre cur c calls (parTrace_run fuel pre cur c calls h) k

/-- the set of runs is closed under killing the process after any call -/
theorem checkoutRun_prefix_closed {t : TCfg κ} {s : Store κ} {fuel : Nat} {pre : List Name}
    {cur : Option (Node κ)} {c : Child} {calls : List (Call κ)} (h : CheckoutRun t s fuel pre cur c calls)
    (k : Nat) : CheckoutRun t s fuel pre cur c (calls.take k) :=
  CheckoutRun.take fuel pre cur c calls h k

/-- **(a) After EVERY run of the concurrent checkout** (`CheckoutRun`:
every worker may stop after any of its calls or contribute nothing at all — it failed, it was cancelled by
the errgroup because a sibling failed, the process was killed; in particular after every prefix of a run)
**every pre-existing workspace entry is unchanged**, up to a link to the very object being copied
(`KeptP`).  No hypothesis that anything succeeds. -/
theorem parCheckoutRun_keeps {t : TCfg κ} {emp : κ} (hemp : ∀ x, t.isEmp x = true → x = emp) {s : Store κ}
    (hman : ManUniq t.ctx s) {fuel : Nat} {pre : List Name} {cur : Option (Node κ)} {c : Child}
    {calls : List (Call κ)} (h : CheckoutRun t s fuel pre cur c calls) {fs : FS κ}
    (hobj : ObjIn t.ctx s fs) (ha : AbsAt pre cur fs) (hu : uniqOpt cur) :
    ∀ k, KeptP t.strat emp fs (replay emp fs (calls.take k)) :=
  fun k => checkoutRun_keptP hemp hman hobj fuel pre cur c _ (CheckoutRun.take fuel pre cur c calls h k) ha

/-- no run writes anything but workspace paths below the entry's path -/
theorem parCheckoutRun_untouched {t : TCfg κ} {s : Store κ} {fuel : Nat} {pre : List Name}
    {cur : Option (Node κ)} {c : Child} {calls : List (Call κ)}
    (h : CheckoutRun t s fuel pre cur c calls) (emp : κ) (fs : FS κ) {p : P}
    (hp : ∀ rel, p ≠ .ws (pre ++ rel)) :
    ∀ k, (replay emp fs (calls.take k)).get p = fs.get p := by
  obtain ⟨hs, hb⟩ := checkoutRun_single_below fuel pre cur c calls h
  intro k
  refine replay_take_get_frame emp calls p fs (fun x hx hmem => ?_) k
  obtain ⟨rel, hrel⟩ := hb.below hs x hx p hmem
  exact hp rel hrel

/-- **(b) Every run is `Safe` after every prefix.** -/
theorem parCheckoutRun_crash_safe {t : TCfg κ} {emp : κ} (hemp : ∀ x, t.isEmp x = true → x = emp)
    {s : Store κ} (hman : ManUniq t.ctx s) {fuel : Nat} {pre : List Name} {cur : Option (Node κ)} {c : Child}
    {calls : List (Call κ)} (h : CheckoutRun t s fuel pre cur c calls) {fs : FS κ}
    (hobj : ObjIn t.ctx s fs) (ha : AbsAt pre cur fs) (hu : uniqOpt cur) {tracked : List (P × κ)}
    (htw : TrackedWs tracked) (hs : Safe t.ctx tracked fs) :
    ∀ k, Safe t.ctx tracked (replay emp fs (calls.take k)) := by
  intro k
  refine safe_of_keptP htw hs (parCheckoutRun_keeps hemp hman h hobj ha hu k) (fun d => ?_)
  exact parCheckoutRun_untouched h emp fs (fun rel => by simp) k

/-! ## 3. every complete schedule against the sequential run -/

/-- **Every concurrent trace issues, at every path, exactly the calls of the sequential trace, in the same
order**; all its calls act on a single workspace path below the entry's path. -/
theorem parCheckout_samePerPath {t : TCfg κ} {s : Store κ} (hman : ManUniq t.ctx s) {fuel : Nat}
    {pre : List Name} {cur : Option (Node κ)} {c : Child} {calls : List (Call κ)}
    (h : ParCheckoutTrace t s fuel pre cur c calls) :
    ∃ r seq, checkoutNodeT t s fuel pre cur c = .ok (r, seq) ∧ SamePerPath calls seq ∧
      AllSingle calls ∧ Below pre calls := by
  obtain ⟨r, seq, hseq, hsp⟩ := parCheckout_seq hman fuel pre cur c calls h
  obtain ⟨hs, hb⟩ := parCheckout_single_below fuel pre cur c calls h
  exact ⟨r, seq, hseq, hsp, hs, hb.below hs⟩

/-- **(d) a complete concurrent trace exists iff the sequential run of the model succeeds**: a worker that
fails (an entry in the way, an object missing from the cache, an unreadable manifest) fails in every
schedule, and then the sequential run fails as well. -/
theorem parCheckout_complete_iff {t : TCfg κ} {s : Store κ} (hman : ManUniq t.ctx s) (fuel : Nat)
    (pre : List Name) (cur : Option (Node κ)) (c : Child) :
    (∃ calls, ParCheckoutTrace t s fuel pre cur c calls) ↔
      ∃ r seq, checkoutNodeT t s fuel pre cur c = .ok (r, seq) := by
  constructor
  · rintro ⟨calls, h⟩
    obtain ⟨r, seq, hseq, -⟩ := parCheckout_seq hman fuel pre cur c calls h
    exact ⟨r, seq, hseq⟩
  · rintro ⟨r, seq, h⟩
    exact ⟨seq, checkoutNodeT_is_parTrace hman h⟩

/-- (a), general form: inside a command, relative to the state `fs0` before the command -/
theorem parCheckout_keeps_from {t : TCfg κ} {emp : κ} (hemp : ∀ x, t.isEmp x = true → x = emp) {s : Store κ}
    (hman : ManUniq t.ctx s) {fuel : Nat} {pre : List Name} {cur : Option (Node κ)} {c : Child}
    {calls : List (Call κ)} (h : ParCheckoutTrace t s fuel pre cur c calls)
    {fs0 fs : FS κ} (hobj : ObjIn t.ctx s fs0) (ha : AbsAt pre cur fs) (hk : KeptB t.strat fs0 fs) :
    ∃ r seq, checkoutNodeT t s fuel pre cur c = .ok (r, seq) ∧ StepRes t.strat emp fs0 pre r fs calls := by
  obtain ⟨r, seq, hseq, hsp, hs, -⟩ := parCheckout_samePerPath hman h
  exact ⟨r, seq, hseq, ((checkoutNodeT_trace fuel hseq).step hemp hobj ha hk).samePerPath hsp hs⟩

/-- **(a) Every schedule of the concurrent checkout keeps the pre-existing workspace entries, after every
prefix.**  From ANY file system `fs` that agrees with the logical workspace below the path (`AbsAt`: any
pre-existing files, links, directories, in the way or not) and holds the objects of the cache: after the
first `k` calls of ANY concurrent trace, for every `k`, every workspace path that held something in `fs`
holds exactly the same — or (copy strategy only) it held a link to the very cache object being checked out
and now holds nothing, an empty or incomplete file, or a file with the bytes of that object (`KeptP`). -/
theorem parCheckout_keeps {t : TCfg κ} {emp : κ} (hemp : ∀ x, t.isEmp x = true → x = emp) {s : Store κ}
    (hman : ManUniq t.ctx s) {fuel : Nat} {pre : List Name} {cur : Option (Node κ)} {c : Child}
    {calls : List (Call κ)} (h : ParCheckoutTrace t s fuel pre cur c calls) {fs : FS κ}
    (hobj : ObjIn t.ctx s fs) (ha : AbsAt pre cur fs) (hu : uniqOpt cur) :
    ∀ k, KeptP t.strat emp fs (replay emp fs (calls.take k)) :=
  parCheckoutRun_keeps hemp hman (parTrace_run _ _ _ _ _ h) hobj ha hu

/-- in particular a regular file of the workspace is never touched by any schedule, not even its mode -/
theorem parCheckout_keeps_files {t : TCfg κ} {emp : κ} (hemp : ∀ x, t.isEmp x = true → x = emp) {s : Store κ}
    (hman : ManUniq t.ctx s) {fuel : Nat} {pre : List Name} {cur : Option (Node κ)} {c : Child}
    {calls : List (Call κ)} (h : ParCheckoutTrace t s fuel pre cur c calls) {fs : FS κ}
    (hobj : ObjIn t.ctx s fs) (ha : AbsAt pre cur fs) (hu : uniqOpt cur) {q : List Name} {x : κ} {m : Nat}
    (hq : fs.get (.ws q) = some (.file x m)) :
    ∀ k, (replay emp fs (calls.take k)).get (.ws q) = some (.file x m) :=
  fun k => (parCheckout_keeps hemp hman h hobj ha hu k).keep hq (.inr nofun)

/-- … a directory neither … -/
theorem parCheckout_keeps_dirs {t : TCfg κ} {emp : κ} (hemp : ∀ x, t.isEmp x = true → x = emp) {s : Store κ}
    (hman : ManUniq t.ctx s) {fuel : Nat} {pre : List Name} {cur : Option (Node κ)} {c : Child}
    {calls : List (Call κ)} (h : ParCheckoutTrace t s fuel pre cur c calls) {fs : FS κ}
    (hobj : ObjIn t.ctx s fs) (ha : AbsAt pre cur fs) (hu : uniqOpt cur) {q : List Name}
    (hq : fs.get (.ws q) = some .dir) :
    ∀ k, (replay emp fs (calls.take k)).get (.ws q) = some .dir :=
  fun k => (parCheckout_keeps hemp hman h hobj ha hu k).keep hq (.inr nofun)

/-- … and with the link strategy NOTHING that existed is ever touched, in any schedule -/
theorem parCheckout_keeps_link {t : TCfg κ} {emp : κ} (hemp : ∀ x, t.isEmp x = true → x = emp) {s : Store κ}
    (hman : ManUniq t.ctx s) {fuel : Nat} {pre : List Name} {cur : Option (Node κ)} {c : Child}
    {calls : List (Call κ)} (h : ParCheckoutTrace t s fuel pre cur c calls) (hl : t.strat = .link)
    {fs : FS κ} (hobj : ObjIn t.ctx s fs) (ha : AbsAt pre cur fs) (hu : uniqOpt cur) {q : List Name}
    {e : Entry κ} (hq : fs.get (.ws q) = some e) :
    ∀ k, (replay emp fs (calls.take k)).get (.ws q) = some e :=
  fun k => (parCheckout_keeps hemp hman h hobj ha hu k).keep hq (.inl hl)

/-- no schedule writes anything but workspace paths below the entry's path -/
theorem parCheckout_untouched {t : TCfg κ} {s : Store κ} {fuel : Nat} {pre : List Name}
    {cur : Option (Node κ)} {c : Child} {calls : List (Call κ)}
    (h : ParCheckoutTrace t s fuel pre cur c calls) (emp : κ) (fs : FS κ) {p : P}
    (hp : ∀ rel, p ≠ .ws (pre ++ rel)) :
    ∀ k, (replay emp fs (calls.take k)).get p = fs.get p :=
  parCheckoutRun_untouched (parTrace_run _ _ _ _ _ h) emp fs hp

/-- **(b) Every prefix of every schedule is `Safe`** (C03): for ANY recorded list of (workspace path,
bytes) for which the start state is safe, each recorded byte sequence stays retrievable (at its path, through
a link at its path, or in the cache under its digest) and nothing incomplete or foreign sits under a digest
name — whatever the scheduler does, wherever the process is killed. -/
theorem parCheckout_crash_safe {t : TCfg κ} {emp : κ} (hemp : ∀ x, t.isEmp x = true → x = emp) {s : Store κ}
    (hman : ManUniq t.ctx s) {fuel : Nat} {pre : List Name} {cur : Option (Node κ)} {c : Child}
    {calls : List (Call κ)} (h : ParCheckoutTrace t s fuel pre cur c calls) {fs : FS κ}
    (hobj : ObjIn t.ctx s fs) (ha : AbsAt pre cur fs) (hu : uniqOpt cur) {tracked : List (P × κ)}
    (htw : TrackedWs tracked) (hs : Safe t.ctx tracked fs) :
    ∀ k, Safe t.ctx tracked (replay emp fs (calls.take k)) :=
  parCheckoutRun_crash_safe hemp hman (parTrace_run _ _ _ _ _ h) hobj ha hu htw hs

/-- **(c) All schedules end in the same file system**: the final states of any two concurrent traces — in
particular of the sequential trace of the model and of any sibling permutation — agree at EVERY path, from
every start state. -/
theorem parCheckout_schedules_same {t : TCfg κ} {s : Store κ} (hman : ManUniq t.ctx s) {fuel : Nat}
    {pre : List Name} {cur : Option (Node κ)} {c : Child} {calls calls' : List (Call κ)}
    (h : ParCheckoutTrace t s fuel pre cur c calls) (h' : ParCheckoutTrace t s fuel pre cur c calls')
    (emp : κ) (fs : FS κ) : ∀ p, (replay emp fs calls).get p = (replay emp fs calls').get p := by
  obtain ⟨r, seq, hseq, hsp, hs, -⟩ := parCheckout_samePerPath hman h
  obtain ⟨r', seq', hseq', hsp', hs', -⟩ := parCheckout_samePerPath hman h'
  rw [hseq] at hseq'
  simp only [Except.ok.injEq, Prod.mk.injEq] at hseq'
  obtain ⟨-, rfl⟩ := hseq'
  intro p
  rw [hsp.replay_get hs, hsp'.replay_get hs']

/-- every crash state of every schedule shows, at any single path, what some crash state of the
sequential run shows there -/
theorem parCheckout_prefix_like_seq {t : TCfg κ} {s : Store κ} (hman : ManUniq t.ctx s) {fuel : Nat}
    {pre : List Name} {cur : Option (Node κ)} {c : Child} {calls seq : List (Call κ)} {r : Node κ}
    (h : ParCheckoutTrace t s fuel pre cur c calls) (hseq : checkoutNodeT t s fuel pre cur c = .ok (r, seq))
    (emp : κ) (fs : FS κ) (k : Nat) (p : P) :
    ∃ k', (replay emp fs (calls.take k)).get p = (replay emp fs (seq.take k')).get p := by
  obtain ⟨r', seq', hseq', hsp, hs, -⟩ := parCheckout_samePerPath hman h
  rw [hseq] at hseq'
  simp only [Except.ok.injEq, Prod.mk.injEq] at hseq'
  obtain ⟨-, rfl⟩ := hseq'
  exact hsp.take_get hs emp fs k p

/-- **the state after a complete schedule**: it agrees with the logical result `r` of the model below the
path (every file checked out with its bytes, every link, every directory; nothing where the tree has
nothing), every pre-existing entry is kept or is a link replaced by a COMPLETE copy (`KeptB`) -/
theorem parCheckout_final {t : TCfg κ} {emp : κ} (hemp : ∀ x, t.isEmp x = true → x = emp) {s : Store κ}
    (hman : ManUniq t.ctx s) {fuel : Nat} {pre : List Name} {cur : Option (Node κ)} {c : Child}
    {calls : List (Call κ)} (h : ParCheckoutTrace t s fuel pre cur c calls) {fs : FS κ}
    (hobj : ObjIn t.ctx s fs) (ha : AbsAt pre cur fs) (hu : uniqOpt cur) :
    ∃ r seq, checkoutNodeT t s fuel pre cur c = .ok (r, seq) ∧ AbsAt pre (some r) (replay emp fs calls) ∧
      KeptB t.strat fs (replay emp fs calls) := by
  obtain ⟨r, seq, hseq, res⟩ := parCheckout_keeps_from hemp hman h hobj ha (KeptB.refl _ fs)
  exact ⟨r, seq, hseq, res.abs, res.kept⟩

/-! ## 4. one `LocalCache.Checkout` inside the command, the whole command -/

/-- the traces of one `LocalCache.Checkout` with concurrent workers: the `MkdirAll` of the ancestors, then
any concurrent trace of the artifact -/
def ParArtTrace (c : CmdCfg κ) (strat : Strat) (a : Art) (w : World κ) (calls : List (Call κ)) : Prop :=
  ∃ l, ParCheckoutTrace (c.tc strat) w.store c.cfg.fuel (Path.comps a.path)
      (getPath w.ws (Path.comps a.path)) a.child l ∧
    calls = parentMkdirs w.ws (Path.comps a.path) ++ l

theorem parentMkdirs_single (ws : Node κ) (comps : List Name) : AllSingle (parentMkdirs (κ := κ) ws comps) := by
  intro x hx
  simp only [parentMkdirs, List.mem_map] at hx
  obtain ⟨p, -, rfl⟩ := hx
  rfl

/-- the sequential trace of the model's `LocalCache.Checkout` is one of them -/
theorem checkoutArtWT_is_parArtTrace {c : CmdCfg κ} {strat : Strat} {a : Art} {w w' : World κ}
    {calls : List (Call κ)} (hman : ManUniq c.cfg.ctx w.store)
    (h : checkoutArtWT c strat a w = .ok (w', calls)) : ParArtTrace c strat a w calls := by
  obtain ⟨n, l, -, hT, -, -, rfl⟩ := checkoutArtWT_inv h
  exact ⟨l, checkoutNodeT_is_parTrace (t := c.tc strat) hman hT, rfl⟩

/-- every concurrent trace of the artifact issues at every path the calls of the model's trace -/
theorem parArt_samePerPath {c : CmdCfg κ} {strat : Strat} {a : Art} {w w' : World κ}
    {seq calls : List (Call κ)} (hman : ManUniq c.cfg.ctx w.store)
    (hseq : checkoutArtWT c strat a w = .ok (w', seq)) (h : ParArtTrace c strat a w calls) :
    SamePerPath calls seq ∧ AllSingle calls := by
  obtain ⟨n, l, -, hT, -, -, rfl⟩ := checkoutArtWT_inv hseq
  obtain ⟨l', hpar, rfl⟩ := h
  obtain ⟨r, seq', hseq', hsp, hs, -⟩ := parCheckout_samePerPath (t := c.tc strat) hman hpar
  rw [hT] at hseq'
  simp only [Except.ok.injEq, Prod.mk.injEq] at hseq'
  obtain ⟨-, rfl⟩ := hseq'
  exact ⟨(SamePerPath.refl _).append hsp, (parentMkdirs_single _ _).append hs⟩

/-- **One `LocalCache.Checkout` with concurrent workers, inside a command**: if the model's sequential
`checkoutArtWT` succeeds, every concurrent trace of the artifact keeps, after every prefix, the entries the
workspace held in the state `fs0` before the command, and ends in the state that agrees with the model's
logical result `w'.ws` at every workspace path. -/
theorem parArt_keeps {c : CmdCfg κ} {strat : Strat} {emp : κ} (hemp : ∀ x, c.isEmp x = true → x = emp)
    {a : Art} {w w' : World κ} {seq calls : List (Call κ)} (hman : ManUniq c.cfg.ctx w.store)
    (hseq : checkoutArtWT c strat a w = .ok (w', seq)) (h : ParArtTrace c strat a w calls)
    {fs0 fs : FS κ} (hobj : ObjIn c.cfg.ctx w.store fs0) (ha : AbsAt [] (some w.ws) fs)
    (hk : KeptB strat fs0 fs) : StepRes strat emp fs0 [] w'.ws fs calls := by
  obtain ⟨hsp, hs⟩ := parArt_samePerPath hman hseq h
  exact (checkoutArtWT_step hemp hseq hobj ha hk).samePerPath hsp hs

/-- from the abstraction of the world: every prefix of every schedule of one artifact keeps the workspace -/
theorem parArt_keeps_fsOfWorld {c : CmdCfg κ} {strat : Strat} {emp : κ}
    (hemp : ∀ x, c.isEmp x = true → x = emp) {a : Art} {w w' : World κ} {seq calls : List (Call κ)}
    (hman : ManUniq c.cfg.ctx w.store) (hseq : checkoutArtWT c strat a w = .ok (w', seq))
    (h : ParArtTrace c strat a w calls) (hu : uniqNode w.ws) :
    (∀ k, KeptP strat emp (fsOfWorld c w) (replay emp (fsOfWorld c w) (calls.take k))) ∧
      AbsAt [] (some w'.ws) (replay emp (fsOfWorld c w) calls) ∧
      KeptB strat (fsOfWorld c w) (replay emp (fsOfWorld c w) calls) :=
  have r := parArt_keeps hemp hman hseq h (objIn_init c w) (absAt_init c w hu) (KeptB.refl _ _)
  ⟨r.pref, r.abs, r.kept⟩

/-- all schedules of one artifact end in the same file system -/
theorem parArt_schedules_same {c : CmdCfg κ} {strat : Strat} {a : Art} {w w' : World κ}
    {seq calls calls' : List (Call κ)} (hman : ManUniq c.cfg.ctx w.store)
    (hseq : checkoutArtWT c strat a w = .ok (w', seq)) (h : ParArtTrace c strat a w calls)
    (h' : ParArtTrace c strat a w calls') (emp : κ) (fs : FS κ) :
    ∀ p, (replay emp fs calls).get p = (replay emp fs calls').get p := by
  obtain ⟨hsp, hs⟩ := parArt_samePerPath hman hseq h
  obtain ⟨hsp', hs'⟩ := parArt_samePerPath hman hseq h'
  intro p
  rw [hsp.replay_get hs, hsp'.replay_get hs']

/-- the call lists of the whole command with concurrent workers: one list per `LocalCache.Checkout` of the
sequential run `segs`, each a list that issues at every path the calls of the model's segment in the same
order — e.g. (`parArt_samePerPath`) any `ParArtTrace` of that artifact in the world it is checked out in -/
def CmdParSegs (segs segs' : List (List (Call κ))) : Prop :=
  All2 (fun seg seg' => SamePerPath seg' seg ∧ AllSingle seg') segs segs'

theorem CmdParSegs.refl_of_single : ∀ {segs : List (List (Call κ))}, (∀ seg ∈ segs, AllSingle seg) →
    CmdParSegs segs segs
  | [], _ => .nil
  | seg :: _, h => .cons ⟨SamePerPath.refl _, h seg List.mem_cons_self⟩
      (CmdParSegs.refl_of_single (fun s hs => h s (List.mem_cons_of_mem _ hs)))

theorem CmdParSegs.flatten {segs segs' : List (List (Call κ))} (h : CmdParSegs segs segs') :
    SamePerPath segs'.flatten segs.flatten ∧ AllSingle segs'.flatten := by
  induction h with
  | nil => exact ⟨SamePerPath.refl _, fun c hc => by cases hc⟩
  | cons h _ ih =>
    simp only [List.flatten_cons]
    exact ⟨h.1.append ih.1, h.2.append ih.2⟩

theorem CmdParSegs.coCalls {segs segs' : List (List (Call κ))} (h : CmdParSegs segs segs') :
    SamePerPath (coCalls segs') (coCalls segs) ∧ AllSingle (coCalls segs') := by
  obtain ⟨h1, h2⟩ := h.flatten
  refine ⟨((SamePerPath.refl _).append h1).append (SamePerPath.refl _), ?_⟩
  refine AllSingle.append (AllSingle.append ?_ h2) ?_
  · intro x hx; simp only [List.mem_singleton] at hx; subst hx; rfl
  · intro x hx; simp only [List.mem_singleton] at hx; subst hx; rfl

/-- **The whole command with concurrent workers keeps the workspace after every prefix**: the trace of
`cmdCheckoutT` (lock, artifacts, unlock) with every artifact's segment replaced by a concurrent trace. -/
theorem cmdCheckoutPar_keeps {c : CmdCfg κ} {strat : Strat} {emp : κ}
    (hemp : ∀ x, c.isEmp x = true → x = emp) {single : Bool} {targets : List Bytes} {w w' : World κ}
    {segs segs' : List (List (Call κ))} (hu : uniqNode w.ws)
    (h : cmdCheckoutSegs c strat single targets w = .ok (w', segs)) (hpar : CmdParSegs segs segs') :
    ∀ k, KeptP strat emp (fsOfWorld c w) (replay emp (fsOfWorld c w) ((coCalls segs').take k)) := by
  obtain ⟨hsp, hs⟩ := hpar.coCalls
  exact hsp.pref_keptP hs (cmdCheckoutT_keeps hemp hu (cmdCheckoutT_of_segs h))

/-- … and every prefix is `Safe` for all regular files the workspace held before the command -/
theorem cmdCheckoutPar_crash_safe {c : CmdCfg κ} {strat : Strat} {emp : κ}
    (hemp : ∀ x, c.isEmp x = true → x = emp) {single : Bool} {targets : List Bytes} {w w' : World κ}
    {segs segs' : List (List (Call κ))} (hu : uniqNode w.ws) (hc : Consistent c.cfg.ctx w.store)
    (h : cmdCheckoutSegs c strat single targets w = .ok (w', segs)) (hpar : CmdParSegs segs segs') :
    ∀ k, Safe c.cfg.ctx (trackedOf [] w.ws) (replay emp (fsOfWorld c w) ((coCalls segs').take k)) := by
  obtain ⟨hsp, hs⟩ := hpar.coCalls
  have hT := cmdCheckoutT_of_segs h
  intro k
  refine safe_of_keptP (trackedOf_ws [] w.ws) (fsOfWorld_safe c w hu hc)
    (cmdCheckoutPar_keeps hemp hu h hpar k) (fun d => ?_)
  obtain ⟨k', hk'⟩ := hsp.take_get hs emp (fsOfWorld c w) k (.obj d)
  rw [hk']
  exact cmdCheckoutT_untouched hemp hu hT (by simp) (by simp) k'

/-- **… and ends in the state of the sequential command**: the conclusion of `cmdCheckoutT_final` — the file
system agrees with the final logical workspace at every path, `Rel`, `KeptB`, the lock is gone — and the
final file system is the one of the sequential trace at EVERY path. -/
theorem cmdCheckoutPar_final {c : CmdCfg κ} {strat : Strat} {emp : κ}
    (hemp : ∀ x, c.isEmp x = true → x = emp) {single : Bool} {targets : List Bytes} {w w' : World κ}
    {segs segs' : List (List (Call κ))} (hu : uniqNode w.ws)
    (h : cmdCheckoutSegs c strat single targets w = .ok (w', segs)) (hpar : CmdParSegs segs segs') :
    (∀ p, (replay emp (fsOfWorld c w) (coCalls segs')).get p = (replay emp (fsOfWorld c w) (coCalls segs)).get p) ∧
      Rel w'.ws (replay emp (fsOfWorld c w) (coCalls segs')) ∧
      AbsAt [] (some w'.ws) (replay emp (fsOfWorld c w) (coCalls segs')) ∧
      KeptB strat (fsOfWorld c w) (replay emp (fsOfWorld c w) (coCalls segs')) ∧
      (replay emp (fsOfWorld c w) (coCalls segs')).get .lock = none ∧ w'.store = w.store ∧ w'.idx = w.idx := by
  obtain ⟨hsp, hs⟩ := hpar.coCalls
  have heq := hsp.replay_get hs emp (fsOfWorld c w)
  obtain ⟨hrel, habs, hk, hlock, hst, hidx⟩ := cmdCheckoutT_final hemp hu (cmdCheckoutT_of_segs h)
  refine ⟨heq, ⟨fun q x hg => ?_, fun k hk' => ?_, hrel.3⟩, habs.frame (fun _ => heq _),
    hk.frame (fun q _ => heq _), by rw [heq]; exact hlock, hst, hidx⟩
  · rw [heq]; exact hrel.1 q x hg
  · rw [heq]; exact hrel.2 k hk'

/-- `seg` is the model's trace of one `LocalCache.Checkout`, in some world with the cache `s0` -/
def IsArtSeg (c : CmdCfg κ) (strat : Strat) (s0 : Store κ) (seg : List (Call κ)) : Prop :=
  ∃ a w1 w2, checkoutArtWT c strat a w1 = .ok (w2, seg) ∧ w1.store = s0

/-- **every segment of the sequential command is the model's trace of one `LocalCache.Checkout`** of some
artifact in some intermediate world with the cache of the start -/
theorem cmdCheckoutSegs_artSegs {c : CmdCfg κ} {strat : Strat} {single : Bool} {targets : List Bytes}
    {w w' : World κ} {segs : List (List (Call κ))}
    (h : cmdCheckoutSegs c strat single targets w = .ok (w', segs)) :
    ∀ seg ∈ segs, IsArtSeg c strat w.store seg :=
  (cmdCheckoutSegs_induct (Q := fun _ segs => ∀ seg ∈ segs, IsArtSeg c strat w.store seg)
    (fun a _ w1 w2 _ _ hst hq h1 s hs => (List.mem_append.1 hs).elim (hq s)
      (fun hs => ⟨a, w1, w2, List.mem_singleton.1 hs ▸ h1, hst⟩))
    h (fun _ hs => nomatch hs)).1

/-- **the traces of the whole command with concurrent workers**: lock; for every segment of the sequential
run ANY concurrent trace of an artifact `a` in a world `w1` with the cache of the start whose sequential
`LocalCache.Checkout` issues that segment (the artifact and the intermediate world of the run are such:
`cmdCheckoutSegs_artSegs`); unlock -/
def CmdParTrace (c : CmdCfg κ) (strat : Strat) (single : Bool) (targets : List Bytes) (w : World κ)
    (calls : List (Call κ)) : Prop :=
  ∃ w' segs segs', cmdCheckoutSegs c strat single targets w = .ok (w', segs) ∧
    All2 (fun seg seg' => ∃ a w1 w2, checkoutArtWT c strat a w1 = .ok (w2, seg) ∧ w1.store = w.store ∧
      ParArtTrace c strat a w1 seg') segs segs' ∧
    calls = coCalls segs'

/-- the sequential trace of the model's command is one of them -/
theorem cmdCheckoutT_is_cmdParTrace {c : CmdCfg κ} {strat : Strat} {single : Bool} {targets : List Bytes}
    {w w' : World κ} {calls : List (Call κ)} (hman : ManUniq c.cfg.ctx w.store)
    (h : cmdCheckoutT c strat single targets w = .ok (w', calls)) :
    CmdParTrace c strat single targets w calls := by
  obtain ⟨segs, hs, rfl⟩ := cmdCheckoutT_ok_segs h
  refine ⟨w', segs, segs, hs, all2_self (fun seg hseg => ?_), rfl⟩
  obtain ⟨a, wa, wb, hab, hst⟩ := cmdCheckoutSegs_artSegs hs seg hseg
  exact ⟨a, wa, wb, hab, hst, checkoutArtWT_is_parArtTrace (by rw [hst]; exact hman) hab⟩

theorem CmdParTrace.segs {c : CmdCfg κ} {strat : Strat} {single : Bool} {targets : List Bytes}
    {w : World κ} {calls : List (Call κ)} (hman : ManUniq c.cfg.ctx w.store)
    (h : CmdParTrace c strat single targets w calls) :
    ∃ w' segs segs', cmdCheckoutSegs c strat single targets w = .ok (w', segs) ∧ CmdParSegs segs segs' ∧
      calls = coCalls segs' := by
  obtain ⟨w', segs, segs', hs, hall, rfl⟩ := h
  refine ⟨w', segs, segs', hs, hall.imp (fun seg seg' ⟨a, w1, w2, hab, hst, hpar⟩ => ?_), rfl⟩
  exact parArt_samePerPath (by rw [hst]; exact hman) hab hpar

/-- **`dud checkout` with concurrent workers never removes or changes a workspace entry — except a link to
the object it is copying — after EVERY prefix of EVERY schedule** (the statement of `cmdCheckoutT_keeps`) -/
theorem cmdCheckoutParTrace_keeps {c : CmdCfg κ} {strat : Strat} {emp : κ}
    (hemp : ∀ x, c.isEmp x = true → x = emp) {single : Bool} {targets : List Bytes} {w : World κ}
    {calls : List (Call κ)} (hu : uniqNode w.ws) (hman : ManUniq c.cfg.ctx w.store)
    (h : CmdParTrace c strat single targets w calls) :
    ∀ k, KeptP strat emp (fsOfWorld c w) (replay emp (fsOfWorld c w) (calls.take k)) := by
  obtain ⟨w', segs, segs', hs, hpar, rfl⟩ := h.segs hman
  exact cmdCheckoutPar_keeps hemp hu hs hpar

/-- … every prefix of every schedule of the whole command is `Safe` (the statement of
`cmdCheckoutT_crash_safe`) -/
theorem cmdCheckoutParTrace_crash_safe {c : CmdCfg κ} {strat : Strat} {emp : κ}
    (hemp : ∀ x, c.isEmp x = true → x = emp) {single : Bool} {targets : List Bytes} {w : World κ}
    {calls : List (Call κ)} (hu : uniqNode w.ws) (hc : Consistent c.cfg.ctx w.store)
    (hman : ManUniq c.cfg.ctx w.store) (h : CmdParTrace c strat single targets w calls) :
    ∀ k, Safe c.cfg.ctx (trackedOf [] w.ws) (replay emp (fsOfWorld c w) (calls.take k)) := by
  obtain ⟨w', segs, segs', hs, hpar, rfl⟩ := h.segs hman
  exact cmdCheckoutPar_crash_safe hemp hu hc hs hpar

/-- … and every schedule of the whole command ends in the file system of the sequential command, which is
the abstraction of the logical result (the conclusion of `cmdCheckoutT_final`) -/
theorem cmdCheckoutParTrace_final {c : CmdCfg κ} {strat : Strat} {emp : κ}
    (hemp : ∀ x, c.isEmp x = true → x = emp) {single : Bool} {targets : List Bytes} {w : World κ}
    {calls : List (Call κ)} (hu : uniqNode w.ws) (hman : ManUniq c.cfg.ctx w.store)
    (h : CmdParTrace c strat single targets w calls) :
    ∃ w' seq, cmdCheckoutT c strat single targets w = .ok (w', seq) ∧
      (∀ p, (replay emp (fsOfWorld c w) calls).get p = (replay emp (fsOfWorld c w) seq).get p) ∧
      Rel w'.ws (replay emp (fsOfWorld c w) calls) ∧
      AbsAt [] (some w'.ws) (replay emp (fsOfWorld c w) calls) ∧
      KeptB strat (fsOfWorld c w) (replay emp (fsOfWorld c w) calls) ∧
      (replay emp (fsOfWorld c w) calls).get .lock = none ∧ w'.store = w.store ∧ w'.idx = w.idx := by
  obtain ⟨w', segs, segs', hs, hpar, rfl⟩ := h.segs hman
  exact ⟨w', coCalls segs, cmdCheckoutT_of_segs hs, cmdCheckoutPar_final hemp hu hs hpar⟩

/-- two schedules of the whole command end in the same file system -/
theorem cmdCheckoutParTrace_schedules_same {c : CmdCfg κ} {strat : Strat} {emp : κ}
    (hemp : ∀ x, c.isEmp x = true → x = emp) {single : Bool} {targets : List Bytes} {w : World κ}
    {calls calls' : List (Call κ)} (hu : uniqNode w.ws) (hman : ManUniq c.cfg.ctx w.store)
    (h : CmdParTrace c strat single targets w calls) (h' : CmdParTrace c strat single targets w calls') :
    ∀ p, (replay emp (fsOfWorld c w) calls).get p = (replay emp (fsOfWorld c w) calls').get p := by
  obtain ⟨w1, seq, hseq, heq, -⟩ := cmdCheckoutParTrace_final hemp hu hman h
  obtain ⟨w2, seq', hseq', heq', -⟩ := cmdCheckoutParTrace_final hemp hu hman h'
  rw [hseq] at hseq'
  simp only [Except.ok.injEq, Prod.mk.injEq] at hseq'
  obtain ⟨-, rfl⟩ := hseq'
  intro p
  rw [heq, heq']

/-! ## Boolean checkers, enumeration of all schedules (for concrete instances) -/

/-- `ManUniq` is `ManifestsNodup`, whose Boolean check is in `Lemmas/Tree.lean` -/
theorem manUniq_of_check {ctx : Ctx κ} {s : Store κ} (h : manifestsNodupB ctx s = true) : ManUniq ctx s :=
  fun d cs hr => List.pairwise_map.1 (manifestsNodup_of_check h d cs hr)

/-- one element from each list -/
def choices {β : Type} : List (List β) → List (List β)
  | [] => [[]]
  | xs :: rest => xs.flatMap (fun x => (choices rest).map (x :: ·))

theorem mem_choices_map {α β : Type} (f : α → List β) : ∀ (as : List α) (bs : List β),
    bs ∈ choices (as.map f) → All2 (fun a b => b ∈ f a) as bs
  | [], bs, h => by
    simp only [List.map_nil, choices, List.mem_singleton] at h
    subst h; exact .nil
  | a :: as, bs, h => by
    simp only [List.map_cons, choices, List.mem_flatMap, List.mem_map] at h
    obtain ⟨x, hx, r, hr, rfl⟩ := h
    exact .cons hx (mem_choices_map f as r hr)

/-- **all schedules of the nested concurrent checkout**, as a list (executable) -/
def enumPar (t : TCfg κ) (s : Store κ) :
    Nat → List Name → Option (Node κ) → Child → List (List (Call κ))
  | 0, _, _, _ => []
  | fuel + 1, pre, cur, c =>
    if c.isDir then
      if hasSum c.sum && s.has c.sum then
        match readManifest t.ctx s c.sum with
        | .error _ => []
        | .ok cs =>
          match cur with
          | some (.dir es) =>
            (choices (cs.map fun c' => enumPar t s fuel (pre ++ [c'.name]) (alookup es c'.name) c')).flatMap
              shufflesN
          | none =>
            ((choices (cs.map fun c' => enumPar t s fuel (pre ++ [c'.name]) (alookup [] c'.name) c')).flatMap
              shufflesN).map (Call.mkdir (.ws pre) :: ·)
          | some _ => []
      else []
    else
      match checkoutFileT t (.ws pre) cur c.sum s with
      | .ok (_, calls) => [calls]
      | .error _ => []

/-- every enumerated schedule is a trace of the concurrent checkout -/
theorem enumPar_sound {t : TCfg κ} {s : Store κ} :
    ∀ (fuel : Nat) (pre : List Name) (cur : Option (Node κ)) (c : Child) (l : List (Call κ)),
      l ∈ enumPar t s fuel pre cur c → ParCheckoutTrace t s fuel pre cur c l := by
  intro fuel
  induction fuel with
  | zero => intro _ _ _ _ h; simp [enumPar] at h
  | succ fuel ih =>
    intro pre cur c l h
    simp only [enumPar] at h
    simp only [CheckoutTraces]
    by_cases hd : c.isDir = true
    · rw [if_pos hd] at h
      by_cases hchk : (hasSum c.sum && s.has c.sum) = true
      · rw [if_pos hchk] at h
        simp only [Bool.and_eq_true] at hchk
        cases hm : readManifest t.ctx s c.sum with
        | error e => rw [hm] at h; simp at h
        | ok cs =>
          rw [hm] at h
          simp only at h
          cases cur with
          | none =>
            simp only [List.mem_map, List.mem_flatMap] at h
            obtain ⟨l', ⟨ts, hts, hl'⟩, rfl⟩ := h
            have hall := mem_choices_map _ cs ts hts
            exact .inl ⟨hd, hchk.1, hchk.2, cs, [], [.mkdir (.ws pre)], ts, l', rfl, .inr ⟨rfl, rfl, rfl⟩,
              hall.imp (fun c' tr h' => ih _ _ _ _ h'), (mem_shufflesN ts l').1 hl', rfl⟩
          | some n =>
            cases n with
            | dir es =>
              simp only [List.mem_flatMap] at h
              obtain ⟨ts, hts, hl'⟩ := h
              have hall := mem_choices_map _ cs ts hts
              exact .inl ⟨hd, hchk.1, hchk.2, cs, es, [], ts, l, rfl, .inl ⟨rfl, rfl⟩,
                hall.imp (fun c' tr h' => ih _ _ _ _ h'), (mem_shufflesN ts l).1 hl', rfl⟩
            | file _ => simp at h
            | link _ => simp at h
            | other => simp at h
      · rw [if_neg hchk] at h; simp at h
    · rw [if_neg hd] at h
      have hd' : c.isDir = false := by simpa using hd
      cases hf : checkoutFileT t (.ws pre) cur c.sum s with
      | error e => rw [hf] at h; simp at h
      | ok v =>
        obtain ⟨r, calls⟩ := v
        rw [hf] at h
        simp only [List.mem_singleton] at h
        subst h
        exact .inr ⟨hd', r, rfl⟩

/-! ## 5. non-vacuity: a directory with two files and a sub-directory, all schedules enumerated -/

namespace ExamplePar
open Dud Dud.Sys Dud.Example ExampleCmd ExampleCheckout

deriving instance DecidableEq for Entry
deriving instance DecidableEq for Call

/-- the manifest of `a/s/`: one file `z` -/
def manSub : Obj K := .man .new [115] [⟨[122], df, false⟩]
def dsub : Digest := manSub.digest ctxS
/-- the manifest of `a/`: the files `x`, `y` (empty) and the sub-directory `s` -/
def manA3 : Obj K := .man .new [97] [⟨[120], dx, false⟩, ⟨[121], dy, false⟩, ⟨[115], dsub, true⟩]
def da3 : Digest := manA3.digest ctxS
def store3 : Store K := mkStore [.blob (.raw "x"), .blob (.raw ""), .blob (.raw "deep"), manSub, manA3]
/-- the artifact: directory `a` -/
def artA : Art := { path := [97], isDir := true, sum := da3 }

/-- workspace 1: an unrelated file `c`, the directory `a` with an unrelated file `a/w` -/
def w1 : World K :=
  { ws := .dir [([99], .file (.raw "i")), ([97], .dir [([119], .file (.raw "keep"))])], store := store3, idx := [] }
/-- workspace 2: moreover `a/x` is a link to the very object (the exception of `KeptP` under copy) -/
def w2 : World K :=
  { w1 with ws := .dir [([99], .file (.raw "i")),
      ([97], .dir [([119], .file (.raw "keep")), ([120], .link (.obj dx))])] }
/-- workspace 3: `a/s/z` exists with other bytes: an entry IN THE WAY, two levels down -/
def wBad : World K :=
  { w1 with ws := .dir [([99], .file (.raw "i")),
      ([97], .dir [([119], .file (.raw "keep")), ([115], .dir [([122], .file (.raw "other"))])])] }

theorem store3_manUniq : ManUniq ctxS store3 := manUniq_of_check (by decide +kernel)
theorem store3_consistent : Consistent ctxS store3 := mkStore_consistent _
theorem w1_uniq : uniqNode w1.ws := uniqNode_of_B _ (by decide +kernel)
theorem w2_uniq : uniqNode w2.ws := uniqNode_of_B _ (by decide +kernel)
theorem wBad_uniq : uniqNode wBad.ws := uniqNode_of_B _ (by decide +kernel)

/-- ALL schedules of the concurrent checkout of `a` -/
def schedules (strat : Strat) (w : World K) : List (List (Call K)) :=
  enumPar (ccS.tc strat) w.store ccS.cfg.fuel (Path.comps artA.path) (getPath w.ws (Path.comps artA.path))
    artA.child

/-- the sequential trace of the model (empty on failure) -/
def seqCalls (strat : Strat) (w : World K) : List (Call K) :=
  match checkoutArtWT ccS strat artA w with
  | .ok (_, calls) => calls
  | .error _ => []

theorem seqCalls_ok {strat : Strat} {w : World K} (h : (seqCalls strat w).isEmpty = false) :
    ∃ w', checkoutArtWT ccS strat artA w = .ok (w', seqCalls strat w) := by
  unfold seqCalls at h ⊢
  cases hT : checkoutArtWT ccS strat artA w with
  | error e => rw [hT] at h; simp at h
  | ok v => exact ⟨v.1, rfl⟩

theorem artA_comps : Path.comps artA.path = [[97]] := by decide +kernel

theorem schedules_parTrace {strat : Strat} {w : World K} {l : List (Call K)} (hl : l ∈ schedules strat w) :
    ParCheckoutTrace (ccS.tc strat) w.store ccS.cfg.fuel [[97]] (getPath w.ws [[97]]) artA.child l := by
  have := enumPar_sound _ _ _ _ _ hl
  rwa [artA_comps] at this

theorem schedules_par {strat : Strat} {w : World K} : ∀ l ∈ schedules strat w, ParArtTrace ccS strat artA w l := by
  intro l hl
  refine ⟨l, enumPar_sound _ _ _ _ _ hl, ?_⟩
  rw [artA_comps]; rfl

/-- link strategy: `a/x`, `a/y` one call each, `a/s` two (`mkdir`, the link `a/s/z`): 4!/2! = 12 schedules;
copy strategy: 3 + 1 + 4 calls: 8!/(3!·4!) = 280; copy over the link `a/x`: 4 + 1 + 4 calls: 630 -/
example : (schedules .link w1).length = 12 ∧ (schedules .copy w1).length = 280 ∧
    (schedules .copy w2).length = 630 := by decide +kernel

/-- the sequential trace of the model, and the trace with the siblings in the opposite order (`s`, `y`,
`x`: a sibling permutation), and a proper interleaving (`mkdir a/s` first, `a/s/z` last) are schedules -/
example :
    seqCalls .link w1 =
      [.symlink (.obj dx) (.ws [[97], [120]]), .symlink (.obj dy) (.ws [[97], [121]]),
       .mkdir (.ws [[97], [115]]), .symlink (.obj df) (.ws [[97], [115], [122]])] ∧
    seqCalls .link w1 ∈ schedules .link w1 ∧
    [.mkdir (.ws [[97], [115]]), .symlink (.obj df) (.ws [[97], [115], [122]]),
     .symlink (.obj dy) (.ws [[97], [121]]), .symlink (.obj dx) (.ws [[97], [120]])] ∈ schedules .link w1 ∧
    [.mkdir (.ws [[97], [115]]), .symlink (.obj dy) (.ws [[97], [121]]),
     .symlink (.obj dx) (.ws [[97], [120]]), .symlink (.obj df) (.ws [[97], [115], [122]])] ∈ schedules .link w1 := by
  decide +kernel

def fs0 (w : World K) : FS K := fsOfWorld ccS w

/-- the workspace paths of the example -/
def wsPaths : List P :=
  [.ws [[99]], .ws [[97]], .ws [[97], [119]], .ws [[97], [120]], .ws [[97], [121]], .ws [[97], [115]],
   .ws [[97], [115], [122]]]

/-- all schedules end in the state of the sequential trace (at the listed paths) -/
def sameFinalB (strat : Strat) (w : World K) : Bool :=
  (schedules strat w).all fun l =>
    wsPaths.all fun p =>
      (replay Example.emp (fs0 w) l).get p == (replay Example.emp (fs0 w) (seqCalls strat w)).get p

/-- after every prefix of every schedule the listed entries are in place -/
def keepsB (strat : Strat) (w : World K) (pre : List (P × Entry K)) : Bool :=
  (schedules strat w).all fun l =>
    (List.range (l.length + 1)).all fun k =>
      pre.all fun pe => (replay Example.emp (fs0 w) (l.take k)).get pe.1 == some pe.2

/-- the pre-existing entries: the unrelated file `c`, the directory `a`, the unrelated file `a/w` -/
def pre1 : List (P × Entry K) :=
  [(.ws [[99]], .file (.raw "i") 0o644), (.ws [[97]], .dir), (.ws [[97], [119]], .file (.raw "keep") 0o644)]

/-- **by evaluation**: all 12 schedules of the link checkout end in the file system of the sequential trace
and keep the pre-existing entries after every prefix -/
example : sameFinalB .link w1 = true := by decide +kernel
example : keepsB .link w1 pre1 = true := by decide +kernel

theorem seq_nonempty :
    (seqCalls .link w1).isEmpty = false ∧ (seqCalls .copy w1).isEmpty = false ∧
    (seqCalls .link w2).isEmpty = false ∧ (seqCalls .copy w2).isEmpty = false := by decide +kernel

/-- **by the theorems** (all hypotheses are satisfiable together): every enumerated schedule, for both
strategies and both workspaces, keeps the pre-existing entries after every prefix (`KeptP`), is `Safe` after
every prefix, and ends in the file system of the sequential trace at EVERY path -/
theorem all_schedules_ok {strat : Strat} {w : World K} (hu : uniqNode w.ws) (hst : w.store = store3)
    (hne : (seqCalls strat w).isEmpty = false) :
    ∀ l ∈ schedules strat w,
      (∀ k, KeptP strat Example.emp (fs0 w) (replay Example.emp (fs0 w) (l.take k))) ∧
      (∀ p, (replay Example.emp (fs0 w) l).get p = (replay Example.emp (fs0 w) (seqCalls strat w)).get p) := by
  intro l hl
  obtain ⟨w', hseq⟩ := seqCalls_ok hne
  have hman : ManUniq ccS.cfg.ctx w.store := by rw [hst]; exact store3_manUniq
  have hpar := schedules_par l hl
  exact ⟨(parArt_keeps_fsOfWorld (c := ccS) Example.hemp hman hseq hpar hu).1,
    parArt_schedules_same hman hseq hpar (checkoutArtWT_is_parArtTrace hman hseq) Example.emp (fs0 w)⟩

/-- the 280 / 630 schedules of the copy checkouts: the same two checks, by the theorems (evaluating them
replays every prefix of every schedule, which is slow to check) -/
theorem sameFinalB_of_ok {strat : Strat} {w : World K} (hu : uniqNode w.ws) (hst : w.store = store3)
    (hne : (seqCalls strat w).isEmpty = false) : sameFinalB strat w = true := by
  simp only [sameFinalB, List.all_eq_true, beq_iff_eq]
  exact fun l hl p _ => (all_schedules_ok hu hst hne l hl).2 p

example : sameFinalB .copy w1 = true := sameFinalB_of_ok w1_uniq rfl seq_nonempty.2.1
example : sameFinalB .copy w2 = true := sameFinalB_of_ok w2_uniq rfl seq_nonempty.2.2.2

example : keepsB .copy w1 pre1 = true := by
  simp only [keepsB, pre1, List.all_eq_true, List.all_cons, List.all_nil, Bool.and_true, Bool.and_eq_true,
    beq_iff_eq]
  intro l hl k _
  have hk := (all_schedules_ok w1_uniq rfl seq_nonempty.2.1 l hl).1 k
  exact ⟨hk.keep (by decide +kernel) (.inr nofun), hk.keep (by decide +kernel) (.inr nofun),
    hk.keep (by decide +kernel) (.inr nofun)⟩

example : ∀ l ∈ schedules .copy w2,
    (∀ k, KeptP .copy Example.emp (fs0 w2) (replay Example.emp (fs0 w2) (l.take k))) ∧
    (∀ p, (replay Example.emp (fs0 w2) l).get p = (replay Example.emp (fs0 w2) (seqCalls .copy w2)).get p) :=
  all_schedules_ok w2_uniq rfl seq_nonempty.2.2.2

example : ∀ l ∈ schedules .link w1,
    (∀ k, KeptP .link Example.emp (fs0 w1) (replay Example.emp (fs0 w1) (l.take k))) ∧
    (∀ p, (replay Example.emp (fs0 w1) l).get p = (replay Example.emp (fs0 w1) (seqCalls .link w1)).get p) :=
  all_schedules_ok w1_uniq rfl seq_nonempty.1

/-- node level, with `Safe`: every prefix of every enumerated schedule is safe for the regular files of the
workspace -/
example (strat : Strat) : ∀ l ∈ schedules strat w2, ∀ k,
    Safe ctxS (trackedOf [] w2.ws) (replay Example.emp (fs0 w2) (l.take k)) := by
  intro l hl
  exact parCheckout_crash_safe (t := ccS.tc strat) Example.hemp store3_manUniq (schedules_parTrace hl)
    (objIn_init ccS w2)
    ((absAt_init ccS w2 w2_uniq).sub _) (uniqOpt_getPath _ _ w2_uniq) (trackedOf_ws [] w2.ws)
    (fsOfWorld_safe ccS w2 w2_uniq store3_consistent)

/-! ### the failing case: `a/s/z` is in the way -/

/-- the sequential run fails with "exists", for both strategies: the node … -/
theorem bad_node_fails (strat : Strat) :
    (match checkoutNodeT (ccS.tc strat) store3 ccS.cfg.fuel [[97]] (getPath wBad.ws [[97]]) artA.child with
      | .error .exists_ => true
      | _ => false) = true := by cases strat <;> decide +kernel

/-- … hence the artifact … -/
theorem bad_seq_fails (strat : Strat) :
    (match checkoutArtWT ccS strat artA wBad with
      | .error .exists_ => true
      | _ => false) = true := by
  have h := bad_node_fails strat
  split at h
  · rename_i heq
    rw [checkoutArtWT_error (e := .exists_) (by rw [artA_comps]; exact heq)]
  · cases h

/-- … hence NO complete concurrent trace exists: the worker of `a/s/z` fails in every schedule … -/
theorem bad_no_parTrace (strat : Strat) :
    ¬ ∃ calls, ParCheckoutTrace (ccS.tc strat) store3 ccS.cfg.fuel [[97]] (getPath wBad.ws [[97]])
      artA.child calls := by
  intro h
  obtain ⟨r, seq, hseq⟩ := (parCheckout_complete_iff (t := ccS.tc strat) store3_manUniq _ _ _ _).1 h
  have := bad_node_fails strat
  rw [hseq] at this
  cases this

/-- … and there is no schedule in the enumeration -/
example (strat : Strat) : schedules strat wBad = [] :=
  List.eq_nil_iff_forall_not_mem.2 fun l hl => bad_no_parTrace strat ⟨l, schedules_parTrace hl⟩

/-- a failing run: the workers of `a/x` and `a/y` complete, the worker of `a/s` (whose entry `z` fails)
contributes nothing -/
def runBad : List (Call K) :=
  [.symlink (.obj dx) (.ws [[97], [120]]), .symlink (.obj dy) (.ws [[97], [121]])]

theorem runBad_is_run :
    CheckoutRun (ccS.tc .link) store3 ccS.cfg.fuel [[97]] (getPath wBad.ws [[97]]) artA.child runBad :=
  CheckoutRun.dir (fuel := 7) rfl
    (cs := [⟨[120], dx, false⟩, ⟨[121], dy, false⟩, ⟨[115], dsub, true⟩])
    (es := [([119], .file (.raw "keep")), ([115], .dir [([122], .file (.raw "other"))])]) (head := [])
    (ts := [[.symlink (.obj dx) (.ws [[97], [120]])], [.symlink (.obj dy) (.ws [[97], [121]])], []])
    rfl (.inl ⟨rfl, rfl⟩)
    (.cons (CheckoutRun.file (fuel := 6) rfl rfl 1 rfl)
      (.cons (CheckoutRun.file (fuel := 6) rfl rfl 1 rfl) (.cons (CheckoutRun.nil _ _ _ _ _ _) .nil)))
    (ShuffleN.flatten _) rfl

/-- a run of the copy strategy in workspace 1 cut short: `a/x` created and half written, `a/y` created,
`a/s` made, nothing else (cancelled or killed) -/
def runCut : List (Call K) :=
  [.createExcl (.ws [[97], [120]]), .mkdir (.ws [[97], [115]]), .createExcl (.ws [[97], [121]]),
   .writePart (.ws [[97], [120]])]

theorem runCut_is_run :
    CheckoutRun (ccS.tc .copy) store3 ccS.cfg.fuel [[97]] (getPath w1.ws [[97]]) artA.child runCut :=
  CheckoutRun.dir (fuel := 7) rfl
    (cs := [⟨[120], dx, false⟩, ⟨[121], dy, false⟩, ⟨[115], dsub, true⟩])
    (es := [([119], .file (.raw "keep"))]) (head := [])
    (ts := [[.createExcl (.ws [[97], [120]]), .writePart (.ws [[97], [120]])],
            [.createExcl (.ws [[97], [121]])], [.mkdir (.ws [[97], [115]])]])
    rfl (.inl ⟨rfl, rfl⟩)
    (.cons (CheckoutRun.file (fuel := 6) rfl rfl 2 rfl)
      (.cons (CheckoutRun.file (fuel := 6) rfl rfl 1 rfl)
        (.cons (CheckoutRun.dir (fuel := 6) rfl (cs := [⟨[122], df, false⟩]) (es := [])
          (head := [.mkdir (.ws [[97], [115]])]) (ts := [[]]) rfl (.inr ⟨rfl, rfl, rfl⟩)
          (.cons (CheckoutRun.nil _ _ _ _ _ _) .nil) (ShuffleN.flatten _) rfl) .nil)))
    ((mem_shufflesN _ _).1 (by decide +kernel)) rfl

/-- **the failing and the cut-short run keep every pre-existing entry after every prefix and are `Safe`** (by
the theorems), in particular the entry in the way is still there with its bytes (by the theorem AND by
evaluation) -/
example :
    (∀ k, KeptP .link Example.emp (fs0 wBad) (replay Example.emp (fs0 wBad) (runBad.take k))) ∧
    (∀ k, Safe ctxS (trackedOf [] wBad.ws) (replay Example.emp (fs0 wBad) (runBad.take k))) ∧
    (∀ k, (replay Example.emp (fs0 wBad) (runBad.take k)).get (.ws [[97], [115], [122]])
      = some (.file (.raw "other") 0o644)) ∧
    (∀ k, KeptP .copy Example.emp (fs0 w1) (replay Example.emp (fs0 w1) (runCut.take k))) := by
  have hk := parCheckoutRun_keeps (t := ccS.tc .link) Example.hemp store3_manUniq runBad_is_run
    (objIn_init ccS wBad) ((absAt_init ccS wBad wBad_uniq).sub _) (uniqOpt_getPath _ _ wBad_uniq)
  refine ⟨hk, ?_, fun k => ?_, ?_⟩
  · exact parCheckoutRun_crash_safe (t := ccS.tc .link) Example.hemp store3_manUniq runBad_is_run
      (objIn_init ccS wBad) ((absAt_init ccS wBad wBad_uniq).sub _) (uniqOpt_getPath _ _ wBad_uniq)
      (trackedOf_ws [] wBad.ws) (fsOfWorld_safe ccS wBad wBad_uniq store3_consistent)
  · have h0 : (fs0 wBad).get (.ws [[97], [115], [122]]) = some (.file (.raw "other") 0o644) := by
      decide +kernel
    exact (hk k).keep h0 (.inl rfl)
  · exact parCheckoutRun_keeps (t := ccS.tc .copy) Example.hemp store3_manUniq runCut_is_run
      (objIn_init ccS w1) ((absAt_init ccS w1 w1_uniq).sub _) (uniqOpt_getPath _ _ w1_uniq)

example : ((replay Example.emp (fs0 wBad) runBad).get (.ws [[97], [115], [122]])
      == some (.file (.raw "other") 0o644)) = true := by decide +kernel

/-- the exception of `KeptP` does occur in some schedule of the copy checkout over the link `a/x`: after the
first call of the sequential trace (`unlink a/x`) the path holds nothing -/
example : ((replay Example.emp (fs0 w2) ((seqCalls .copy w2).take 1)).get (.ws [[97], [120]])).isNone = true ∧
    ((fs0 w2).get (.ws [[97], [120]]) == some (.link (.obj dx))) = true := by decide +kernel

/-- the project: one stage whose output is the directory `a`; workspace and cache of `w` -/
def wcmd (w : World K) : World K := { w with idx := [([1], { stageA with outputs := [artA] })] }

/-- the segments of the sequential command (empty on failure) -/
def segsOf (strat : Strat) (w : World K) : List (List (Call K)) :=
  match cmdCheckoutSegs ccS strat false [] w with
  | .ok (_, segs) => segs
  | .error _ => []

theorem segsOf_ok {strat : Strat} {w : World K} (h : (segsOf strat w).isEmpty = false) :
    ∃ w', cmdCheckoutSegs ccS strat false [] w = .ok (w', segsOf strat w) := by
  unfold segsOf at h ⊢
  cases hT : cmdCheckoutSegs ccS strat false [] w with
  | error e => rw [hT] at h; simp at h
  | ok v => exact ⟨v.1, rfl⟩

/-- the command has one `LocalCache.Checkout`: the artifact `a` in the fresh world -/
theorem segsOf_wcmd (strat : Strat) :
    segsOf strat (wcmd w1) = [seqCalls strat (fresh (wcmd w1))] ∧
    (seqCalls strat (fresh (wcmd w1))).isEmpty = false := by cases strat <;> decide +kernel

/-- **the whole command with concurrent workers**: lock, ANY of the 12 / 280 schedules of the artifact,
unlock is a trace of the concurrent command, and the command-level theorems apply to it -/
theorem cmd_schedules (strat : Strat) : ∀ l ∈ schedules strat w1,
    CmdParTrace ccS strat false [] (wcmd w1) (coCalls [l]) := by
  intro l hl
  obtain ⟨hsegs, hne⟩ := segsOf_wcmd strat
  obtain ⟨w', hcmd⟩ := segsOf_ok (strat := strat) (w := wcmd w1) (by rw [hsegs]; rfl)
  obtain ⟨w2', hart⟩ := seqCalls_ok hne
  rw [hsegs] at hcmd
  refine ⟨w', _, [l], hcmd, .cons ⟨artA, fresh (wcmd w1), w2', hart, rfl, ?_⟩ .nil, rfl⟩
  exact schedules_par (w := fresh (wcmd w1)) l hl

example (strat : Strat) : ∀ l ∈ schedules strat w1, ∀ k,
    KeptP strat Example.emp (fsOfWorld ccS (wcmd w1))
      (replay Example.emp (fsOfWorld ccS (wcmd w1)) ((coCalls [l]).take k)) := fun l hl =>
  cmdCheckoutParTrace_keeps (c := ccS) Example.hemp w1_uniq store3_manUniq (cmd_schedules strat l hl)

end ExamplePar

#print axioms checkoutNodeT_is_parTrace
#print axioms checkoutNodeT_is_seqPermTrace
#print axioms checkoutNodeT_perm_is_parTrace
#print axioms parTrace_of_perm
#print axioms parCheckout_samePerPath
#print axioms parCheckout_complete_iff
#print axioms parCheckout_keeps_from
#print axioms parCheckout_keeps
#print axioms parCheckout_keeps_files
#print axioms parCheckout_keeps_dirs
#print axioms parCheckout_keeps_link
#print axioms parCheckout_untouched
#print axioms parCheckout_crash_safe
#print axioms parCheckout_schedules_same
#print axioms parCheckout_prefix_like_seq
#print axioms parCheckout_final
#print axioms checkoutArtWT_is_parArtTrace
#print axioms parArt_samePerPath
#print axioms parArt_keeps
#print axioms parArt_keeps_fsOfWorld
#print axioms parArt_schedules_same
#print axioms cmdCheckoutPar_keeps
#print axioms cmdCheckoutPar_crash_safe
#print axioms cmdCheckoutPar_final
#print axioms cmdCheckoutSegs_artSegs
#print axioms cmdCheckoutT_is_cmdParTrace
#print axioms cmdCheckoutParTrace_keeps
#print axioms cmdCheckoutParTrace_crash_safe
#print axioms cmdCheckoutParTrace_final
#print axioms cmdCheckoutParTrace_schedules_same
#print axioms parTrace_is_run
#print axioms checkoutRun_prefix_closed
#print axioms parCheckoutRun_keeps
#print axioms parCheckoutRun_crash_safe
#print axioms manUniq_of_check
#print axioms mem_shufflesN
#print axioms enumPar_sound
#print axioms ExamplePar.all_schedules_ok
#print axioms ExamplePar.schedules_parTrace
#print axioms ExamplePar.sameFinalB_of_ok
#print axioms ExamplePar.bad_no_parTrace
#print axioms ExamplePar.runBad_is_run
#print axioms ExamplePar.runCut_is_run
#print axioms ExamplePar.cmd_schedules

end Dud.Sys
