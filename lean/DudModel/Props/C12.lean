import DudModel.Lock
/-!
# C12 (lock): the project lock

(a) With `O_CREATE|O_EXCL`, for every number of processes and every interleaving, at most one
process holds the lock, the lock file exists iff somebody holds it, a refused process never touches
it, and when everybody is done the file is gone.  Without `O_EXCL` mutual exclusion fails.

(b) A command that changes to the project root before locking (everything built on `prepare`)
always removes the lock it took.  Whether the `config` sub-commands do so is the extracted fact
`Facts.configChdirs`: it is `true` for the sources as they are (`cmdChdirs_config_current`), so every
lock-taking command releases the lock (`all_commands_release`).  For a tree WITHOUT that `os.Chdir`
the model says (`config_subdir_leaves_lock`): run from a sub-directory, `dud config get/set` exits
non-zero and leaves `<root>/.dud/lock` behind, and every later dud command in the project is refused
until the file is removed by hand.
-/
namespace Dud.Lock

/-- The invariant: one holder when the lock file exists, none otherwise. -/
def Inv (st : State) : Prop := st.holdingCount = if st.lockExists then 1 else 0

theorem inv_init (N : Nat) : Inv (init N) := by
  simp [Inv, init, State.holdingCount, List.count_replicate]

theorem stepX_length (excl : Bool) (st : State) (i : Nat) :
    (stepX excl st i).pcs.length = st.pcs.length := by
  unfold stepX
  split
  · rfl
  · split <;> simp
  · simp
  · rfl
  · rfl

theorem runX_length (excl : Bool) (st : State) (sched : List Nat) :
    (runX excl st sched).pcs.length = st.pcs.length :=
  List.foldlRecOn (motive := fun s : State => s.pcs.length = st.pcs.length) sched _ rfl
    fun s hs i _ => (stepX_length excl s i).trans hs

theorem step_inv (st : State) (i : Nat) (h : Inv st) : Inv (step st i) := by
  unfold Inv State.holdingCount at h ⊢
  unfold step stepX
  split
  · exact h
  · -- idle: a refusal leaves the count alone; the lock is taken only when nobody holds
    rename_i hi
    obtain ⟨hlt, hget⟩ := List.getElem?_eq_some_iff.mp hi
    simp only [Bool.true_and]
    split
    · rename_i hl
      rw [List.count_set hlt, hget]; simpa [hl] using h
    · rename_i hl
      rw [List.count_set hlt, hget]; simpa [hl] using h
  · -- holding: the unlock; the holder was counted, so the lock file existed
    rename_i hi
    obtain ⟨hlt, hget⟩ := List.getElem?_eq_some_iff.mp hi
    have hpos : 0 < st.pcs.count .holding := List.count_pos_iff.mpr (hget ▸ List.getElem_mem hlt)
    rw [List.count_set hlt, hget]
    cases hl : st.lockExists with
    | false => rw [hl] at h; simp at h; omega
    | true => rw [hl] at h; simp [h]
  · exact h
  · exact h

theorem run_inv (st : State) (sched : List Nat) (h : Inv st) : Inv (run st sched) :=
  List.foldlRecOn sched _ h fun s hs i _ => step_inv s i hs

/-- **Mutual exclusion.**  For every `N` and every schedule at most one process holds the lock. -/
theorem mutex (N : Nat) (sched : List Nat) : (run (init N) sched).holdingCount ≤ 1 := by
  rw [run_inv _ sched (inv_init N)]; split <;> omega

/-- The lock file exists iff exactly one process holds the lock. -/
theorem lock_iff_holder (N : Nat) (sched : List Nat) :
    (run (init N) sched).lockExists = true ↔ (run (init N) sched).holdingCount = 1 := by
  rw [run_inv _ sched (inv_init N)]; split <;> simp [*]

/-- A refused process never changes anything (in particular not `lockExists`): `fatal` skips
`unlockProject` on `projectLockedError`.  Holds with and without `O_EXCL` (`stepX excl`). -/
theorem refused_never_unlock (excl : Bool) (st : State) (i : Nat) (h : st.pc i = .refused) :
    stepX excl st i = st := by
  unfold State.pc at h
  rw [List.getD_eq_getElem?_getD] at h
  unfold stepX
  cases hi : st.pcs[i]? with
  | none => rfl
  | some p =>
    rw [hi] at h; simp only [Option.getD_some] at h; subst h; rfl

/-- When every process has either been refused or finished, the lock file is gone. -/
theorem no_lock_when_all_done (N : Nat) (sched : List Nat)
    (hdone : ∀ i, i < N →
      (run (init N) sched).pc i = .refused ∨ (run (init N) sched).pc i = .finished) :
    (run (init N) sched).lockExists = false := by
  have h2 := run_inv _ sched (inv_init N)
  cases h1 : (run (init N) sched).lockExists with
  | false => rfl
  | true =>
    exfalso
    have hpos : 0 < (run (init N) sched).pcs.count .holding := by
      simp [Inv, State.holdingCount, h1] at h2; omega
    obtain ⟨i, hlt, hget⟩ := List.mem_iff_getElem.mp (List.count_pos_iff.mp hpos)
    have hlen : (run (init N) sched).pcs.length = N := by
      simp [run, runX_length, init]
    have hpc : (run (init N) sched).pc i = .holding := by
      simp [State.pc, List.getD_eq_getElem?_getD, List.getElem?_eq_getElem hlt, hget]
    rcases hdone i (hlen ▸ hlt) with h | h <;> rw [hpc] at h <;> cases h

/-- **Negative witness.**  Without `O_EXCL` two processes hold the lock at once. -/
theorem mutex_fails_without_excl : (runX false (init 2) [0, 1]).holdingCount = 2 := by decide +kernel

/-- ... and then the first unlock removes the file while the other process still holds. -/
theorem lock_iff_holder_fails_without_excl :
    (runX false (init 2) [0, 1, 0]).lockExists = false ∧
    (runX false (init 2) [0, 1, 0]).holdingCount = 1 := by decide +kernel

/-- **Regenerated-fact obligation.**  `lockProject` opens with `O_CREATE|O_EXCL`. -/
theorem lock_flags_obligation :
    "O_EXCL" ∈ Dud.Facts.lockFlags ∧ "O_CREATE" ∈ Dud.Facts.lockFlags := by decide +kernel

theorem mem_singleton_append_iff (cwd root : List String) :
    (cwd ++ lockRel) ∈ [root ++ lockRel] ↔ cwd = root := by
  simp only [List.mem_singleton]
  exact ⟨List.append_cancel_right, fun h => h ▸ rfl⟩

/-- A command that finds the project unlocked removes the lock it takes iff it unlocks in the directory it
locked in: it changed to the root first, or was started there.  Otherwise `os.Remove(lockPath)` fails, the
exit status is non-zero and `<root>/.dud/lock` stays, whatever the body did. -/
theorem runCommand_unlocked (chdirs : Bool) (root cwd : List String) (bodyOk : Bool) :
    runCommand chdirs root cwd bodyOk false
      = if chdirs = true ∨ cwd = root then (bodyOk, false) else (false, true) := by
  cases chdirs <;> cases bodyOk <;> by_cases h : cwd = root <;>
    simp [runCommand, lockProject, unlockProject, fatal, h]

/-- **Commands built on `prepare`** (they chdir to the root before locking) always release the
lock, from every starting directory and whatever the body does; the exit status is the body's. -/
theorem prepare_commands_release (root cwd : List String) (bodyOk : Bool) :
    runCommand true root cwd bodyOk false = (bodyOk, false) := by
  rw [runCommand_unlocked, if_pos (.inl rfl)]

/-- Any command started IN the project root releases the lock. -/
theorem root_invocation_releases (chdirs : Bool) (root : List String) (bodyOk : Bool) :
    runCommand chdirs root root bodyOk false = (bodyOk, false) := by
  rw [runCommand_unlocked, if_pos (.inr rfl)]

/-- A command that finds the lock taken exits non-zero and leaves the lock alone. -/
theorem locked_is_refused (chdirs : Bool) (root cwd : List String) (bodyOk : Bool) :
    runCommand chdirs root cwd bodyOk true = (false, true) := by
  cases chdirs <;> simp [runCommand, lockProject, fatal]

/-- A command that does not chdir, started anywhere but in the root, exits non-zero and leaves
the lock file behind — even when its body succeeded. -/
theorem nochdir_nonroot_leaves_lock (root cwd : List String) (bodyOk : Bool) (h : cwd ≠ root) :
    runCommand false root cwd bodyOk false = (false, true) := by
  rw [runCommand_unlocked, if_neg (by simp [h])]

/-- **Negative witness** (what the model says of a `config` sub-command that does not chdir; which
sources that describes is decided by `Facts.configChdirs`).  `dud config get cache` run from
`<root>/sub`: the body succeeds, yet the exit status is non-zero and `<root>/.dud/lock` stays. -/
theorem config_subdir_leaves_lock (root : List String) :
    runCommand false root (root ++ ["sub"]) true false = (false, true) :=
  nochdir_nonroot_leaves_lock root _ true (by
    intro h
    have := congrArg List.length h
    simp at this)

/-- **Regenerated-fact obligations** for the shape of the model: the lock is created at the
absolute `filepath.Join(rootDir, lockPath)`, removed at the relative `lockPath`, removal is guarded
by `projectLocked`, and `fatal` skips the unlock on `projectLockedError`. -/
theorem lock_path_obligation :
    Dud.Facts.lockPathExpr = "filepath.Join($param0, lockPath)" ∧
    Dud.Facts.unlockPathExpr = "lockPath" ∧ Dud.Facts.lockPath = ".dud/lock" ∧
    Dud.Facts.unlockGuarded = true ∧ Dud.Facts.fatalSkipsUnlockOnLocked = true ∧
    "os.Chdir" ∈ Dud.Facts.prepareCalls := ⟨rfl, rfl, rfl, rfl, rfl, by decide +kernel⟩

theorem cmdChdirs_prepare : cmdChdirs true = true := by decide

/-- With the fact extracted from the current sources (`Facts.configChdirs = true`: `config get/set`
call `os.Chdir(rootDir)` before `lockProject`) the `config` sub-commands do chdir … -/
theorem cmdChdirs_config_current : cmdChdirs false = true := by decide

/-- With the regenerated fact `configChdirs = true` (the `config` sub-commands change to the
project root before locking, like `prepare`), EVERY lock-taking command releases the lock from
every working directory and whatever its body does. If the Go sources lose the `os.Chdir`, the
fact flips, `cmdChdirs_config_current` stops building and `config_subdir_leaves_lock` describes
the behaviour. -/
theorem all_commands_release (usesPrepare : Bool) (root cwd : List String) (bodyOk : Bool) :
    runCommand (cmdChdirs usesPrepare) root cwd bodyOk false = (bodyOk, false) := by
  have h : cmdChdirs usesPrepare = true := by cases usesPrepare <;> decide
  rw [h]; exact prepare_commands_release root cwd bodyOk

/-- A `prepare`-based command releases the lock whatever `Facts.configChdirs` says: `cmdChdirs true`
does not look at the fact. -/
theorem prepare_current (root cwd : List String) (bodyOk : Bool) :
    runCommand (cmdChdirs true) root cwd bodyOk false = (bodyOk, false) := by
  rw [cmdChdirs_prepare]; exact prepare_commands_release root cwd bodyOk

-- three processes, interleaved: 0 locks, 1 refused, 0 unlocks, 2 locks; 1 tries to step again
example : run (init 3) [0, 1, 0, 2, 1] = ⟨[.finished, .refused, .holding], true⟩ := by decide +kernel
example : (run (init 3) [0, 1, 0, 2, 1]).holdingCount = 1 ∧
    (run (init 3) [0, 1, 0, 2, 1]).lockExists = true := by decide +kernel
-- hypothesis of `refused_never_unlock` is reachable
example : (run (init 3) [0, 1]).pc 1 = .refused ∧ (run (init 3) [0, 1]).lockExists = true := by
  decide +kernel
-- hypothesis of `no_lock_when_all_done` is satisfiable on a run where the lock WAS taken
example : ∀ i, i < 3 → (run (init 3) [0, 1, 2, 0]).pc i = .refused ∨
    (run (init 3) [0, 1, 2, 0]).pc i = .finished := by decide +kernel
example : (run (init 3) [0, 1, 2, 0]).lockExists = false :=
  no_lock_when_all_done 3 _ (by decide +kernel)
-- (b): from a sub-directory a command that chdirs releases, one that does not leaves the lock: the two
-- lock paths differ
example : runCommand true ["home", "p"] ["home", "p", "data", "x"] false false = (false, false) :=
  prepare_commands_release _ _ _
example : runCommand true ["home", "p"] ["home", "p", "data", "x"] true false = (true, false) :=
  prepare_commands_release _ _ _
example : runCommand false ["home", "p"] ["home", "p", "sub"] true false = (false, true) :=
  config_subdir_leaves_lock _
example : runCommand false ["home", "p"] ["home", "p"] true false = (true, false) :=
  root_invocation_releases _ _ _
example : runCommand true ["home", "p"] ["home", "p", "sub"] true true = (false, true) :=
  locked_is_refused _ _ _ _

end Dud.Lock

#print axioms Dud.Lock.mutex
#print axioms Dud.Lock.lock_iff_holder
#print axioms Dud.Lock.refused_never_unlock
#print axioms Dud.Lock.no_lock_when_all_done
#print axioms Dud.Lock.mutex_fails_without_excl
#print axioms Dud.Lock.lock_iff_holder_fails_without_excl
#print axioms Dud.Lock.lock_flags_obligation
#print axioms Dud.Lock.prepare_commands_release
#print axioms Dud.Lock.root_invocation_releases
#print axioms Dud.Lock.locked_is_refused
#print axioms Dud.Lock.nochdir_nonroot_leaves_lock
#print axioms Dud.Lock.config_subdir_leaves_lock
#print axioms Dud.Lock.lock_path_obligation
#print axioms Dud.Lock.cmdChdirs_prepare
#print axioms Dud.Lock.cmdChdirs_config_current
#print axioms Dud.Lock.all_commands_release
#print axioms Dud.Lock.prepare_current
