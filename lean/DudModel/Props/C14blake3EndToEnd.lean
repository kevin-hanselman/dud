import DudModel.Props.C14blake3
import DudModel.Props.C14blake3Vectors
/-!
# C14 end to end: streaming BLAKE3 over the real compression function on official vectors

Core-only.  Combines the THEOREM `real_contract` (`Props/C14blake3.lean`: the streaming hasher over
`Blake3.compress` computes `hashSpecReal` of the concatenation of whatever pieces it is fed, from any
dirty state) with the KERNEL-CHECKED official vectors (`Props/C14blake3Vectors.lean`:
`hashSpecReal` of the official inputs = the official digests).  The streaming machine itself is never
evaluated in these proofs.
-/
namespace Dud.Blake3Incr
open Dud Dud.Blake3Spec Dud.Hasher

theorem pieces2_flatten (xs : Bytes) (a : Nat) : [xs.take a, [], xs.drop a].flatten = xs := by
  simp

theorem pieces3_flatten (xs : Bytes) (a b : Nat) :
    [xs.take a, [], (xs.drop a).take b, xs.drop (a + b)].flatten = xs := by
  simp [← List.drop_drop]

/-- The real streaming hasher (block-buffering machine over `Blake3.compress`), from ANY dirty state,
fed the 3073-byte official input in four pieces (one of them empty), returns the official digest. -/
theorem real_streaming_vector_3073 (s0 : BState (Array UInt32)) :
    toHex (realHasher.sum
      ([(testInput 3073).take 100, [], ((testInput 3073).drop 100).take 2000,
        (testInput 3073).drop 2100].foldl realHasher.write (realHasher.reset s0)))
    = "7124b49501012f81cc7f11ca069ec9226cecb8a2c850cfe644e327d22d3e1cd3" := by
  rw [real_contract s0, pieces3_flatten]
  exact Vectors.V3073.digest

/-- `ChecksumBuffer` over the real streaming hasher, 4096-byte buffer, dirty pooled hasher, a reader
that delivers the 2049-byte official input in bursts of 1500, 0 and 549 bytes: the official digest. -/
theorem real_checksumBuffer_vector_2049 (s0 : BState (Array UInt32)) :
    toHex (checksumBuffer realHasher true 4096
      [(testInput 2049).take 1500, [], (testInput 2049).drop 1500] s0)
    = "5f4d72f40d7a5f82b15ca2b2e44b1de3c2ef86c426c95c1af0b6879522563030" := by
  rw [blake3_checksum_reader_real (by decide), pieces2_flatten]
  exact Vectors.V2049.digest

/-- Same content through a 7-byte buffer (hundreds of `Write` calls): same digest — by the theorem,
nothing is evaluated. -/
theorem real_checksumBuffer_vector_2049_small_buffer (s0 : BState (Array UInt32)) :
    toHex (checksumBuffer realHasher true 7 [testInput 2049] s0)
    = "5f4d72f40d7a5f82b15ca2b2e44b1de3c2ef86c426c95c1af0b6879522563030" := by
  rw [blake3_checksum_reader_real (by decide)]
  simp only [List.flatten_cons, List.flatten_nil, List.append_nil]
  exact Vectors.V2049.digest

end Dud.Blake3Incr

#print axioms Dud.Blake3Incr.real_streaming_vector_3073
#print axioms Dud.Blake3Incr.real_checksumBuffer_vector_2049
#print axioms Dud.Blake3Incr.real_checksumBuffer_vector_2049_small_buffer
