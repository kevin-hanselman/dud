import DudModel.Lemmas.CrashCheckoutCmd
import DudModel.Lemmas.SysConcCmd
import DudModel.Props.C03cmd
/-!
# C03 / C06 at the level of the whole command: killing `dud checkout` at any instant

`DudModel/SysCheckout.lean` defines `cmdCheckoutT`: the logical `cmdCheckout` TOGETHER WITH the list of
file-system mutating calls of the whole command (lock; for every stage in traversal order, for every
output that is not `SkipCache`, the `mkdir`s of `os.MkdirAll` on the ancestors and the trace of
`checkoutDir` / `checkoutFile`; unlock).  This file proves, for EVERY prefix of that list (the process is
killed after the k-th call, for every k):

* `cmdCheckoutT_refines` — erasing the trace gives exactly `cmdCheckout` (so every theorem about
  `cmdCheckout` applies, e.g. `cmdCheckout_keeps_workspace` of `Props/C06world.lean`);
* `cmdCheckoutT_keeps` — **every workspace entry that existed before the command is still there,
  unchanged** (regular files with their bytes AND mode, directories, links) — with ONE exception, under
  the copy strategy only: a link to a cache object, when that very object is being checked out, may be
  gone (unlinked), or replaced by an empty / incomplete / complete copy of the bytes of that object
  (`KeptP`); with the link strategy nothing that existed is ever touched (`cmdCheckoutT_keeps_link`);
* `cmdCheckoutT_untouched` — nothing outside the workspace is ever written except the lock: every cache
  object, shard directory, temp name, stage file holds after every prefix what it held before;
* `cmdCheckoutT_crash_safe` — hence **no data is lost and no object is torn**: the state after every prefix
  is `Safe` for ALL regular files the workspace held before the command (each byte sequence retrievable at
  its path, through a link at its path, or as the cache object named by its digest; whatever sits under a
  digest name is a complete file with exactly those bytes); `cmdCheckoutT_crash_safe_from` — the same from
  ANY state that agrees with the logical workspace and for ANY recorded list that was safe before, in
  particular for contents recorded THROUGH A LINK: when the link is removed and the copy is incomplete, the
  bytes are still in the cache under their digest;
* `cmdCheckoutT_lock_window` — the lock file exists exactly strictly between the first and the last call;
* `cmdCheckoutT_final` — after the complete trace the file system is the abstraction of the logical
  result: it agrees with the final logical workspace at EVERY path (`AbsAt`: absent where the tree has
  nothing, the bytes of every regular file — including every copy just made —, every link into the cache,
  every directory), in particular `Rel w'.ws …`, every pre-existing entry is kept or is a link replaced by
  a COMPLETE copy of the object it pointed to (`KeptB`), the lock is gone, the cache is unchanged.

Hypotheses (all explicit):
* `hemp` — the trace generator's "is empty" test is sound (an empty file gets no `write` call);
* `uniqNode w.ws` — entry names are pairwise distinct in every directory of the workspace (true of any
  real directory tree; follows from `Node.sorted`, `uniqNode_of_sorted`);
* `Consistent c.cfg.ctx w.store` — every object of the cache sits under the digest of its bytes (only for
  `Safe` of the initial state: "no torn object");
* a successful run (`cmdCheckoutT … = .ok …`): a run that fails at the logical level has no trace in this
  model (its real trace is a prefix of the calls before the failing check; C06's "a blocked checkout
  changes nothing" is about those runs).
`Good` (collision-free hash) is NOT needed: checkout never moves anything onto a digest name.  NO hypothesis
on the index, the manifests or the artifacts is needed: outputs may overlap, a manifest may list a name
twice, an artifact may be checked out twice — the argument re-establishes after every artifact the
agreement between the CURRENT logical workspace and the file system.

Not covered here: more than one worker (the calls of one artifact are sequential, entries in manifest order;
every schedule of the real workers is the subject of `Props/C06par.lean`); failing runs — in particular a
copy from a corrupted cache object (checksum mismatch after the copy) leaves the bad copy behind in the
real code; permission bits of the files checkout creates (`Call.createExcl` carries no
mode); `fsync`-level durability; foreign links and special files of the workspace are not represented in
the file system of the model (nothing is claimed about them, and no call ever names their paths: a
checkout over them fails).
-/
namespace Dud.Sys
open Dud
variable {κ : Type}

/-- **Erasing the trace of `cmdCheckoutT` gives exactly `cmdCheckout`.** -/
theorem cmdCheckoutT_refines (c : CmdCfg κ) (strat : Strat) (single : Bool) (targets : List Bytes)
    (w : World κ) :
    (cmdCheckoutT c strat single targets w).map (·.1) = cmdCheckout c.cfg strat single targets w := by
  rw [← cmdCheckoutSegs_refines]
  unfold cmdCheckoutT
  cases cmdCheckoutSegs c strat single targets w with
  | error e => rfl
  | ok v => rfl

/-- in particular: same success, same final world -/
theorem cmdCheckoutT_ok {c : CmdCfg κ} {strat : Strat} {single : Bool} {targets : List Bytes}
    {w w' : World κ} {calls : List (Call κ)}
    (h : cmdCheckoutT c strat single targets w = .ok (w', calls)) :
    cmdCheckout c.cfg strat single targets w = .ok w' :=
  (map_fst_eq (cmdCheckoutT_refines c strat single targets w)).2 _ _ h

/-- … and conversely a successful logical command has a trace -/
theorem cmdCheckoutT_of_ok {c : CmdCfg κ} {strat : Strat} {single : Bool} {targets : List Bytes}
    {w w' : World κ} (h : cmdCheckout c.cfg strat single targets w = .ok w') :
    ∃ calls, cmdCheckoutT c strat single targets w = .ok (w', calls) :=
  ok_of_map_fst ((cmdCheckoutT_refines c strat single targets w).trans h)

/-- Everything the command-level theorems need about a successful run, in one place, FROM ANY state `fs0`
that agrees with the logical workspace and holds the objects of the cache: the whole trace, lock and unlock
included, is one checkout step at the root of the workspace. -/
theorem cmdCheckoutT_run_from {c : CmdCfg κ} {strat : Strat} {emp : κ}
    (hemp : ∀ x, c.isEmp x = true → x = emp) {single : Bool} {targets : List Bytes} {w w' : World κ}
    {calls : List (Call κ)} {fs0 : FS κ} (ha0 : AbsAt [] (some w.ws) fs0)
    (hobj : ObjIn c.cfg.ctx w.store fs0)
    (h : cmdCheckoutT c strat single targets w = .ok (w', calls)) :
    StepRes strat emp fs0 [] w'.ws fs0 calls ∧ w'.store = w.store ∧ w'.idx = w.idx := by
  obtain ⟨segs, hs, rfl⟩ := cmdCheckoutT_ok_segs h
  have r1 := StepRes.nonWs (emp := emp) (.createExcl .lock) (by simp [callWrites, callPaths]) ha0 (.refl strat fs0)
  obtain ⟨r2, hst, hidx⟩ := cmdCheckoutSegs_step hemp hs hobj r1.abs r1.kept
  have r12 := r1.append r2
  exact ⟨r12.append (.nonWs (.unlink .lock) (by simp [callWrites, callPaths]) r12.abs r12.kept), hst, hidx⟩

/-- … from the abstraction `fsOfWorld` of the world -/
theorem cmdCheckoutT_run {c : CmdCfg κ} {strat : Strat} {emp : κ}
    (hemp : ∀ x, c.isEmp x = true → x = emp) {single : Bool} {targets : List Bytes} {w w' : World κ}
    {calls : List (Call κ)} (hu : uniqNode w.ws)
    (h : cmdCheckoutT c strat single targets w = .ok (w', calls)) :
    StepRes strat emp (fsOfWorld c w) [] w'.ws (fsOfWorld c w) calls ∧ w'.store = w.store ∧ w'.idx = w.idx :=
  cmdCheckoutT_run_from hemp (absAt_init c w hu) (objIn_init c w) h

/-- **`dud checkout` never removes or changes a workspace entry — except a link to the object it is
copying.**  After EVERY prefix of the calls, every workspace path that held something before the command
(a regular file with bytes and mode, a directory, a link) holds exactly the same — or (copy strategy only)
it held a link to a cache object `d` with bytes `x`, and now holds nothing (the link was removed to make room for the copy), an
empty or incomplete regular file (the copy is being written), or a regular file with bytes `x` (`KeptP`).
In every case the bytes `x` are still in the cache (`cmdCheckoutT_untouched`). -/
theorem cmdCheckoutT_keeps {c : CmdCfg κ} {strat : Strat} {emp : κ}
    (hemp : ∀ x, c.isEmp x = true → x = emp) {single : Bool} {targets : List Bytes} {w w' : World κ}
    {calls : List (Call κ)} (hu : uniqNode w.ws)
    (h : cmdCheckoutT c strat single targets w = .ok (w', calls)) :
    ∀ k, KeptP strat emp (fsOfWorld c w) (replay emp (fsOfWorld c w) (calls.take k)) :=
  (cmdCheckoutT_run hemp hu h).1.pref

/-- in particular: a regular file of the workspace is never touched, not even its mode -/
theorem cmdCheckoutT_keeps_files {c : CmdCfg κ} {strat : Strat} {emp : κ}
    (hemp : ∀ x, c.isEmp x = true → x = emp) {single : Bool} {targets : List Bytes} {w w' : World κ}
    {calls : List (Call κ)} (hu : uniqNode w.ws)
    (h : cmdCheckoutT c strat single targets w = .ok (w', calls)) {q : List Name} {x : κ}
    (hq : getPath w.ws q = some (.file x)) :
    ∀ k, (replay emp (fsOfWorld c w) (calls.take k)).get (.ws q) = some (.file x 0o644) := by
  intro k
  have h0 : (fsOfWorld c w).get (.ws q) = some (.file x 0o644) := by
    rw [fsOfWorld_get c w (by simp)]
    exact fsOf_get_tracked c.cfg.ctx [] w.ws w.store hu _ (tracked_of_getPath q w.ws [] x hq)
  exact (cmdCheckoutT_keeps hemp hu h k).keep h0 (.inr nofun)

/-- **with the link strategy NOTHING that existed is ever touched**: after every prefix every workspace
path that held something before the command holds exactly the same -/
theorem cmdCheckoutT_keeps_link {c : CmdCfg κ} {emp : κ}
    (hemp : ∀ x, c.isEmp x = true → x = emp) {single : Bool} {targets : List Bytes} {w w' : World κ}
    {calls : List (Call κ)} (hu : uniqNode w.ws)
    (h : cmdCheckoutT c .link single targets w = .ok (w', calls)) {q : List Name} {e : Entry κ}
    (hq : (fsOfWorld c w).get (.ws q) = some e) :
    ∀ k, (replay emp (fsOfWorld c w) (calls.take k)).get (.ws q) = some e :=
  fun k => (cmdCheckoutT_keeps hemp hu h k).keep hq (.inl rfl)

/-- the calls of the command write workspace paths and the lock, nothing else: any configuration, any world -/
theorem cmdCheckoutT_writes_any {c : CmdCfg κ} {strat : Strat} {single : Bool} {targets : List Bytes}
    {w w' : World κ} {calls : List (Call κ)} (h : cmdCheckoutT c strat single targets w = .ok (w', calls)) :
    ∀ x ∈ calls, ∀ p ∈ callWrites x, p = .lock ∨ ∃ q, p = .ws q := by
  rw [Conc.checkoutBody_trace h]
  intro x hx p hp
  simp only [List.mem_cons, List.mem_append, List.not_mem_nil, or_false] at hx
  rcases hx with rfl | hx | rfl
  · left; simpa [callWrites, callPaths] using hp
  · exact .inr (Conc.checkoutBody_wsW c strat single targets w x hx p hp)
  · left; simpa [callWrites, callPaths] using hp

theorem cmdCheckoutT_writes {c : CmdCfg κ} {strat : Strat} {emp : κ}
    (hemp : ∀ x, c.isEmp x = true → x = emp) {single : Bool} {targets : List Bytes} {w w' : World κ}
    {calls : List (Call κ)} (hu : uniqNode w.ws)
    (h : cmdCheckoutT c strat single targets w = .ok (w', calls)) :
    ∀ x ∈ calls, ∀ p ∈ callWrites x, p = .lock ∨ ∃ q, p = .ws q :=
  cmdCheckoutT_writes_any h

/-- **Nothing outside the workspace is written, except the lock**: every cache object, shard directory,
temp name and stage file holds after every prefix what it held before the command. -/
theorem cmdCheckoutT_untouched {c : CmdCfg κ} {strat : Strat} {emp : κ}
    (hemp : ∀ x, c.isEmp x = true → x = emp) {single : Bool} {targets : List Bytes} {w w' : World κ}
    {calls : List (Call κ)} (hu : uniqNode w.ws)
    (h : cmdCheckoutT c strat single targets w = .ok (w', calls)) {p : P} (hp : ∀ q, p ≠ .ws q)
    (hl : p ≠ .lock) :
    ∀ k, (replay emp (fsOfWorld c w) (calls.take k)).get p = (fsOfWorld c w).get p := by
  intro k
  refine replay_take_get_frame emp calls p _ (fun x hx hmem => ?_) k
  rcases cmdCheckoutT_writes hemp hu h x hx p hmem with h1 | ⟨q, h1⟩
  · exact hl h1
  · exact hp q h1

/-- whatever was `Safe` before is `Safe` in every state that keeps the workspace entries up to links
replaced by (possibly incomplete) copies of their objects and leaves the cache alone -/
theorem safe_of_keptP {ctx : Ctx κ} {strat : Strat} {tracked : List (P × κ)} (htw : TrackedWs tracked)
    {emp : κ} {fs0 fs : FS κ} (hs : Safe ctx tracked fs0) (hk : KeptP strat emp fs0 fs)
    (hobj : ∀ d, fs.get (.obj d) = fs0.get (.obj d)) : Safe ctx tracked fs := by
  refine ⟨fun p hp => ?_, fun d e he => hs.2 d e (by rw [← hobj]; exact he)⟩
  obtain ⟨q, hq⟩ := htw p hp
  rw [hq]
  rcases hs.1 p hp with ⟨m, h1⟩ | ⟨d, m, h1, h2⟩ | ⟨m, h1⟩
  · rw [hq] at h1
    exact .inl ⟨m, hk.keep h1 (.inr nofun)⟩
  · -- recorded through a link, which may be going: the object is still under `d`, and `d = H` of its bytes
    obtain ⟨c2, m2, he2, hH⟩ := hs.2 d _ h2
    cases he2
    exact .inr (.inr ⟨m, by rw [hobj, hH]; exact h2⟩)
  · exact .inr (.inr ⟨m, by rw [hobj]; exact h1⟩)

/-- **Command-level crash safety of `dud checkout` from ANY state** that agrees with the logical workspace
(`AbsAt`) and holds the objects of the cache (`ObjIn`), for ANY recorded list `tracked` of (workspace path,
bytes) for which that state is `Safe` — e.g. bytes recorded for a path that holds a LINK into the cache:
when the link is removed and the copy is still incomplete, the bytes are in the cache under their digest. -/
theorem cmdCheckoutT_crash_safe_from {c : CmdCfg κ} {strat : Strat} {emp : κ}
    (hemp : ∀ x, c.isEmp x = true → x = emp) {single : Bool} {targets : List Bytes} {w w' : World κ}
    {calls : List (Call κ)} {fs0 : FS κ} (ha0 : AbsAt [] (some w.ws) fs0)
    (hobj : ObjIn c.cfg.ctx w.store fs0) {tracked : List (P × κ)}
    (htw : TrackedWs tracked) (hs0 : Safe c.cfg.ctx tracked fs0)
    (h : cmdCheckoutT c strat single targets w = .ok (w', calls)) :
    ∀ k, Safe c.cfg.ctx tracked (replay emp fs0 (calls.take k)) := by
  intro k
  refine safe_of_keptP htw hs0 ((cmdCheckoutT_run_from hemp ha0 hobj h).1.pref k) (fun d => ?_)
  refine replay_take_get_frame emp _ _ fs0 (fun x hx hmem => ?_) k
  rcases cmdCheckoutT_writes_any h x hx _ hmem with h1 | ⟨q, h1⟩ <;> cases h1

/-- **Command-level crash safety of `dud checkout`.**  For every world with duplicate-free entry names and
a consistent cache, if the traced command succeeds with the call list `calls`, then after EVERY prefix of
`calls` (kill after the k-th call) the file system — starting from the abstraction `fsOfWorld` of the world
— is `Safe` for ALL regular files the workspace held before the command: each recorded byte sequence is
retrievable at its path, through a link at its path, or as the cache object named by its digest, and
nothing incomplete or foreign sits under a digest name.  (In fact every such file is still in place,
`cmdCheckoutT_keeps_files`.) -/
theorem cmdCheckoutT_crash_safe {c : CmdCfg κ} {strat : Strat} {emp : κ}
    (hemp : ∀ x, c.isEmp x = true → x = emp) {single : Bool} {targets : List Bytes} {w w' : World κ}
    {calls : List (Call κ)} (hu : uniqNode w.ws) (hc : Consistent c.cfg.ctx w.store)
    (h : cmdCheckoutT c strat single targets w = .ok (w', calls)) :
    ∀ k, Safe c.cfg.ctx (trackedOf [] w.ws) (replay emp (fsOfWorld c w) (calls.take k)) :=
  cmdCheckoutT_crash_safe_from hemp (absAt_init c w hu) (objIn_init c w) (trackedOf_ws [] w.ws)
    (fsOfWorld_safe c w hu hc) h

/-- the recorded contents of the links of the workspace into the cache: (path, bytes of the object) -/
def linkedOf (ctx : Ctx κ) (s : Store κ) (ws : Node κ) (qs : List (List Name)) : List (P × κ) :=
  qs.filterMap fun q =>
    match getPath ws q with
    | some (.link (.obj d)) => (s.get d).map (fun o => (P.ws q, o.bytes ctx))
    | _ => none

/-- **… also for what the workspace holds THROUGH LINKS**: for any list `qs` of workspace paths, the bytes
of the cache objects the links at those paths point to stay retrievable after every prefix — through the
link while it is there, at the path once the copy is complete, and in the cache under their digest in
between. -/
theorem cmdCheckoutT_crash_safe_links {c : CmdCfg κ} {strat : Strat} {emp : κ}
    (hemp : ∀ x, c.isEmp x = true → x = emp) {single : Bool} {targets : List Bytes} {w w' : World κ}
    {calls : List (Call κ)} (hu : uniqNode w.ws) (hc : Consistent c.cfg.ctx w.store)
    (h : cmdCheckoutT c strat single targets w = .ok (w', calls)) (qs : List (List Name)) :
    ∀ k, Safe c.cfg.ctx (trackedOf [] w.ws ++ linkedOf c.cfg.ctx w.store w.ws qs)
      (replay emp (fsOfWorld c w) (calls.take k)) := by
  have hlinked : ∀ p ∈ linkedOf c.cfg.ctx w.store w.ws qs, ∃ q d o, p = (P.ws q, o.bytes c.cfg.ctx) ∧
      getPath w.ws q = some (.link (.obj d)) ∧ w.store.get d = some o := by
    intro p hp
    simp only [linkedOf, List.mem_filterMap] at hp
    obtain ⟨q, -, hq⟩ := hp
    split at hq
    · rename_i d hg
      cases ho : w.store.get d with
      | none => rw [ho] at hq; cases hq
      | some o =>
        rw [ho] at hq
        simp only [Option.map_some, Option.some.injEq] at hq
        exact ⟨q, d, o, hq.symm, hg, ho⟩
    · cases hq
  refine cmdCheckoutT_crash_safe_from hemp (absAt_init c w hu) (objIn_init c w) ?_ ?_ h
  · intro p hp
    rcases List.mem_append.1 hp with hp | hp
    · exact trackedOf_ws [] w.ws p hp
    · obtain ⟨q, d, o, rfl, -, -⟩ := hlinked p hp
      exact ⟨q, rfl⟩
  · have hs := fsOfWorld_safe c w hu hc
    refine ⟨fun p hp => ?_, hs.2⟩
    rcases List.mem_append.1 hp with hp | hp
    · exact hs.1 p hp
    · obtain ⟨q, d, o, rfl, hg, ho⟩ := hlinked p hp
      obtain ⟨m, hm⟩ := objIn_init c w d o ho
      have := absAt_init c w hu q
      rw [getOpt_some, hg] at this
      exact .inr (.inl ⟨d, m, by simpa [EntOK] using this, hm⟩)

/-- **The lock file exists exactly strictly between the first and the last call**: absent before the
command and after its last call, present (a regular file created exclusively) after every other prefix. -/
theorem cmdCheckoutT_lock_window {c : CmdCfg κ} {strat : Strat} {emp : κ}
    (hemp : ∀ x, c.isEmp x = true → x = emp) {single : Bool} {targets : List Bytes} {w w' : World κ}
    {calls : List (Call κ)} (hu : uniqNode w.ws)
    (h : cmdCheckoutT c strat single targets w = .ok (w', calls)) :
    2 ≤ calls.length ∧ calls.head? = some (.createExcl .lock) ∧ calls.getLast? = some (.unlink .lock) ∧
    ∀ k, (replay emp (fsOfWorld c w) (calls.take k)).get .lock =
      if 0 < k ∧ k < calls.length then some (.file emp 0o600) else none :=
  Conc.cmdCheckoutT_lock_window_any emp (fsOfWorld_get_lock c w) h

/-- **After the last call the file system is the abstraction of the logical result**: it agrees with the
final logical workspace at every path (`AbsAt`: nothing where the tree has nothing, the bytes of every
regular file — including every copy the command made —, every link into the cache, every directory), hence
`Rel w'.ws …` (what the next `dud commit` starts from); every entry that existed before is kept or is a
link replaced by a complete copy of the object it pointed to (`KeptB`); the lock is gone; the cache of the
world is unchanged. -/
theorem cmdCheckoutT_final {c : CmdCfg κ} {strat : Strat} {emp : κ}
    (hemp : ∀ x, c.isEmp x = true → x = emp) {single : Bool} {targets : List Bytes} {w w' : World κ}
    {calls : List (Call κ)} (hu : uniqNode w.ws)
    (h : cmdCheckoutT c strat single targets w = .ok (w', calls)) :
    Rel w'.ws (replay emp (fsOfWorld c w) calls) ∧
      AbsAt [] (some w'.ws) (replay emp (fsOfWorld c w) calls) ∧
      KeptB strat (fsOfWorld c w) (replay emp (fsOfWorld c w) calls) ∧
      (replay emp (fsOfWorld c w) calls).get .lock = none ∧ w'.store = w.store ∧ w'.idx = w.idx := by
  -- the last call unlinks the lock
  obtain ⟨segs, hs, hcalls⟩ := cmdCheckoutT_ok_segs h
  have hlock : (replay emp (fsOfWorld c w) calls).get .lock = none := by
    rw [hcalls, coCalls, replay_append]; exact get_unlink_self (emp := emp)
  obtain ⟨res, hst, hidx⟩ := cmdCheckoutT_run hemp hu h
  refine ⟨⟨fun q x hg => ?_, fun k _ => ?_, cmdCheckoutSegs_uniq hs hu⟩, res.abs, res.kept, hlock, hst, hidx⟩
  · have := res.abs q
    rw [getOpt_some, hg] at this
    simpa [EntOK] using this
  · have := cmdCheckoutT_untouched hemp hu h (p := .ctmp k) (by simp) (by simp) calls.length
    rw [List.take_length] at this
    rw [this]; exact fsOfWorld_get_ctmp c w k

namespace ExampleCheckout
open Dud Dud.Sys Dud.Example ExampleCmd

/-- the example context of `Lemmas/Codec.lean` with SHORT digests (cheap to compare by kernel evaluation);
the theorems of this file need no injectivity of the hash -/
def ctxS : Ctx K :=
  { ctx with H := fun k => match k with
      | .raw s => "raw-" ++ s
      | .man _ _ cs => "man-" ++ String.join (cs.map (·.sum)) }

def cfgS : Cfg K := { cfg with ctx := ctxS }
def ccS : CmdCfg K := { cc true with cfg := cfgS }

/-- a store in which every object sits under the digest of its bytes -/
def mkStore (os : List (Obj K)) : Store K := os.map (fun o => (o.digest ctxS, o))

theorem mkStore_consistent (os : List (Obj K)) : Consistent ctxS (mkStore os) :=
  consistent_of_consistentB (by simp [consistentB, mkStore])

/-- `p/q/f` -/
def pqf : Bytes := [112, 47, 113, 47, 102]
def dx : Digest := ctxS.H (.raw "x")
def dy : Digest := ctxS.H (.raw "")
def df : Digest := ctxS.H (.raw "deep")
/-- the manifest of directory `a/`: a regular and an empty file -/
def manA : Obj K := .man .new [97] [⟨[120], dx, false⟩, ⟨[121], dy, false⟩]
def da : Digest := manA.digest ctxS

/-- stage B reads `a/` (owned by stage A) and the plain file `c`, writes the file `p/q/f` two directories
down -/
def stageB2 : Stage :=
  { cmd := [2], inputs := [{ path := [97], isDir := true }, { path := [99] }], outputs := [{ path := pqf }] }

/-- the two-stage project after `dud commit` (link strategy): the outputs `a/x`, `a/y`, `p/q/f` are links
into the cache, which holds the three blobs and the manifest of `a/` -/
def wc : World K :=
  { ws := .dir [([97], .dir [([120], .link (.obj dx)), ([121], .link (.obj dy))]),
                ([112], .dir [([113], .dir [([102], .link (.obj df))])]), ([99], .file (.raw "i"))],
    store := mkStore [.blob (.raw "x"), .blob (.raw ""), manA, .blob (.raw "deep")],
    idx := [([1], { stageA with outputs := [{ path := [97], isDir := true, sum := da }] }),
            ([2], { stageB2 with outputs := [{ path := pqf, sum := df }] })] }

/-- a fresh clone: cache and index as committed, only the plain input `c` in the workspace -/
def wfresh : World K := { wc with ws := .dir [([99], .file (.raw "i"))] }

theorem wc_uniq : uniqNode wc.ws := uniqNode_of_B _ (by decide +kernel)
theorem wfresh_uniq : uniqNode wfresh.ws := uniqNode_of_B _ (by decide +kernel)
theorem wc_consistent : Consistent ccS.cfg.ctx wc.store := mkStore_consistent _

/-- the calls of the whole command (empty on failure) -/
def callsOf (strat : Strat) (w : World K) (ts : List Bytes) : List (Call K) :=
  match cmdCheckoutT ccS strat false ts w with
  | .ok (_, calls) => calls
  | .error _ => []

theorem callsOf_ok {strat : Strat} {w : World K} {ts : List Bytes} (h : callsOf strat w ts ≠ []) :
    ∃ w', cmdCheckoutT ccS strat false ts w = .ok (w', callsOf strat w ts) := by
  unfold callsOf at h ⊢
  cases hT : cmdCheckoutT ccS strat false ts w with
  | error e => rw [hT] at h; exact absurd rfl h
  | ok v => exact ⟨v.1, rfl⟩

/-- checkout (link) into the fresh clone: lock; `mkdir a`, the two links; the `MkdirAll` of `p` and `p/q`
(`parentMkdirs`), the link `p/q/f`; unlock -/
example : (callsOf .link wfresh []).map callWrites =
    [[.lock], [.ws [[97]]], [.ws [[97], [120]]], [.ws [[97], [121]]], [.ws [[112]]], [.ws [[112], [113]]],
     [.ws [[112], [113], [102]]], [.lock]] := by decide +kernel

/-- checkout by copy over the links of the committed workspace: 12 calls (`unlink`, `create_excl`,
`write` for `a/x` and `p/q/f`; `unlink`, `create_excl` for the empty `a/y`) -/
theorem callsOf_copy_length : (callsOf .copy wc []).length = 12 := by decide +kernel
example : (callsOf .copy wc []).length = 12 := callsOf_copy_length
/-- copy into the fresh clone, downstream stage as target (stage A is checked out first) -/
example : (callsOf .copy wfresh [[2]]).length = 12 := by decide +kernel

theorem callsOf_link_length : (callsOf .link wfresh []).length = 8 := by decide +kernel

theorem callsOf_copy_ne_nil : callsOf .copy wc [] ≠ [] :=
  fun h => by simpa [h] using callsOf_copy_length
theorem callsOf_link_ne_nil : callsOf .link wfresh [] ≠ [] :=
  fun h => by simpa [h] using callsOf_link_length

/-- **All hypotheses of the command-level theorems are satisfiable together** on the two-stage world, the
traced command (copy over links) succeeds with 12 calls, and the conclusions hold for it. -/
example :
    ∃ w' calls, cmdCheckoutT ccS .copy false [] wc = .ok (w', calls) ∧ calls.length = 12 ∧
      cmdCheckout cfgS .copy false [] wc = .ok w' ∧
      (∀ k, Safe ctxS (trackedOf [] wc.ws) (replay Example.emp (fsOfWorld ccS wc) (calls.take k))) ∧
      (∀ k, KeptP .copy Example.emp (fsOfWorld ccS wc) (replay Example.emp (fsOfWorld ccS wc) (calls.take k))) ∧
      (∀ k, (replay Example.emp (fsOfWorld ccS wc) (calls.take k)).get .lock =
        if 0 < k ∧ k < calls.length then some (.file Example.emp 0o600) else none) ∧
      Rel w'.ws (replay Example.emp (fsOfWorld ccS wc) calls) := by
  obtain ⟨w', h⟩ := callsOf_ok callsOf_copy_ne_nil
  exact ⟨w', _, h, callsOf_copy_length, cmdCheckoutT_ok (c := ccS) h,
    cmdCheckoutT_crash_safe (c := ccS) Example.hemp wc_uniq wc_consistent h,
    cmdCheckoutT_keeps (c := ccS) Example.hemp wc_uniq h,
    (cmdCheckoutT_lock_window (c := ccS) Example.hemp wc_uniq h).2.2.2,
    (cmdCheckoutT_final (c := ccS) Example.hemp wc_uniq h).1⟩

/-- … and for the link checkout into the fresh clone -/
example :
    ∃ w' calls, cmdCheckoutT ccS .link false [] wfresh = .ok (w', calls) ∧ calls.length = 8 ∧
      (∀ k, Safe ctxS (trackedOf [] wfresh.ws) (replay Example.emp (fsOfWorld ccS wfresh) (calls.take k))) ∧
      AbsAt [] (some w'.ws) (replay Example.emp (fsOfWorld ccS wfresh) calls) := by
  obtain ⟨w', h⟩ := callsOf_ok callsOf_link_ne_nil
  exact ⟨w', _, h, callsOf_link_length,
    cmdCheckoutT_crash_safe (c := ccS) Example.hemp wfresh_uniq wc_consistent h,
    (cmdCheckoutT_final (c := ccS) Example.hemp wfresh_uniq h).2.1⟩

/-- **The exception in `KeptP` does occur** (the statement cannot be strengthened to "every entry is
kept"): before the command `a/x` is a link to the object `dx`; killed after the second call (`unlink a/x`)
the path holds nothing; killed after the fourth it holds an incomplete file; the object is in the cache all
along. -/
example :
    (match (fsOfWorld ccS wc).get (.ws [[97], [120]]) with
      | some (.link (.obj d)) => d == dx
      | _ => false) = true ∧
    ((replay Example.emp (fsOfWorld ccS wc) ((callsOf .copy wc []).take 2)).get (.ws [[97], [120]])).isNone
      = true ∧
    (match (replay Example.emp (fsOfWorld ccS wc) ((callsOf .copy wc []).take 4)).get (.ws [[97], [120]]) with
      | some (.torn _) => true
      | _ => false) = true ∧
    (match (replay Example.emp (fsOfWorld ccS wc) ((callsOf .copy wc []).take 4)).get (.obj dx) with
      | some (.file x _) => x == .raw "x"
      | _ => false) = true := by decide +kernel

/-! executable evidence: Boolean checkers run on every prefix -/

def safeS (tracked : List (P × K)) (fs : FS K) : Bool :=
  tracked.all (fun p =>
    Example.fileAt fs p.1 p.2 ||
    (match fs.get p.1 with
     | some (.link (.obj d)) => Example.fileAt fs (.obj d) p.2
     | _ => false) ||
    Example.fileAt fs (.obj (ctxS.H p.2)) p.2) &&
  fs.all (fun e => match e.1 with
    | .obj d => (match fs.get (.obj d) with
      | some (.file c _) => ctxS.H c == d
      | some _ => false
      | none => true)
    | _ => true)

/-- number of calls; whether every crash prefix is `Safe` (for the regular files AND for the contents held
through the links `a/x`, `p/q/f`) and shows the lock exactly inside the window; the calls -/
def report (strat : Strat) (w : World K) (ts : List Bytes) : String :=
  match cmdCheckoutT ccS strat false ts w with
  | .error e => s!"error {e}"
  | .ok (_, calls) =>
    let fs0 := fsOfWorld ccS w
    let tracked := trackedOf [] w.ws ++ linkedOf ctxS w.store w.ws [[[97], [120]], [[112], [113], [102]]]
    let ok := (List.range (calls.length + 1)).all fun k =>
      let fs := replay Example.emp fs0 (calls.take k)
      safeS tracked fs && lockOk fs k calls.length
    s!"{calls.length} calls, every prefix ok: {ok}; " ++ "; ".intercalate (calls.map Example.showCall)

#eval report .link wfresh []
#eval report .copy wc []
#eval report .copy wfresh [[2]]
#eval report .link wc [[1]]

end ExampleCheckout

#print axioms cmdCheckoutT_refines
#print axioms cmdCheckoutT_ok
#print axioms cmdCheckoutT_of_ok
#print axioms cmdCheckoutT_run_from
#print axioms cmdCheckoutT_run
#print axioms cmdCheckoutT_keeps
#print axioms cmdCheckoutT_keeps_files
#print axioms cmdCheckoutT_keeps_link
#print axioms cmdCheckoutT_writes_any
#print axioms cmdCheckoutT_writes
#print axioms cmdCheckoutT_untouched
#print axioms safe_of_keptP
#print axioms cmdCheckoutT_crash_safe_from
#print axioms cmdCheckoutT_crash_safe
#print axioms cmdCheckoutT_crash_safe_links
#print axioms cmdCheckoutT_lock_window
#print axioms cmdCheckoutT_final
#print axioms ExampleCheckout.wc_uniq
#print axioms ExampleCheckout.wc_consistent
#print axioms ExampleCheckout.callsOf_copy_length
#print axioms ExampleCheckout.callsOf_link_length
#print axioms ExampleCheckout.callsOf_copy_ne_nil

end Dud.Sys
