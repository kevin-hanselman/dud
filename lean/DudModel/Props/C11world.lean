import DudModel.Lemmas.WorldRemote
import DudModel.Lemmas.WorldDec
/-!
# C11 at the world level — `dud push` and `dud fetch` over a multi-stage index

`Props/C11.lean` proves the closure properties for one stage (`pushAct`, `fetchAct`).  This file
lifts them through the index traversal of `cmdPush` and `cmdFetch`: the statements are about EVERY
stage in the traversal scope `CmdScope cfg w single targets` (the requested targets — all stages if
none is given — plus, unless `--single-stage` comes with targets, everything upstream of them through
input ownership).  Both lifts go through `simpleCmd_acted`: every stage in scope was acted on in some
world between the initial and the final one in the preorder of what the command may change
(`PushLe`, `FetchLe`), and what `pushAct_post` / `fetchAct_post` (`Lemmas/Remote.lean`) say of that
action is kept while the destination grows.

The closure of fetch is PARTIAL: it needs `KindsAgreeW` (no checksum listed both as a file and as a
directory in a manifest readable before the fetch); `ToyBad.fetch_world_skips_children` shows that
the hypothesis cannot be dropped.  The composition with commit and checkout is in
`Props/C11trip.lean`.
-/
namespace Dud

open WR

variable {κ : Type}

/-- **`dud push`, world level.** After a successful `cmdPush`: the local cache, the index and the
workspace are unchanged; the remote only grows, and every binding it holds was there before or is a
verbatim copy of a local one; for EVERY stage in scope, every non-skip output `a` of it and every
object `d` in the closure of `a` (in the local cache), `d` is on the remote afterwards and is present
locally. -/
theorem cmdPush_world (cfg : Cfg κ) (single : Bool) (targets : List Bytes) (w w' : World κ)
    (h : cmdPush cfg single targets w = .ok w') :
    w'.store = w.store ∧ w'.idx = w.idx ∧ w'.ws = w.ws ∧
    (∀ d o, w.remote.get d = some o → w'.remote.get d = some o) ∧
    (∀ d o, w'.remote.get d = some o → w.remote.get d = some o ∨ w.store.get d = some o) ∧
    ∀ sp stg, CmdScope cfg w single targets sp → alookup w.idx sp = some stg →
      ∀ a, a ∈ sortArts stg.outputs → a.skip = false → ∀ d, Reaches cfg.ctx w.store a.child d →
        w'.remote.has d = true ∧ w.store.has d = true := by
  obtain ⟨hidx, hle, hdone, hacted⟩ := simpleCmd_acted cfg (pushAct_frame cfg) PushLe.refl
    PushLe.trans pushAct_le (cmdPush_ok_iff.1 h).2
  refine ⟨hle.store, hidx, hle.ws, hle.fed.ext, hle.fed.prov, fun sp stg hsc hs a ha hsk d hr => ?_⟩
  -- the push of `sp` ran in some `u` with the cache of `w`; the remote has only grown since
  obtain ⟨u, u', hu, h1, hact, h2⟩ := hacted sp (hdone sp hsc)
  obtain ⟨stg', rem, hs', rfl, _, hcl⟩ := pushAct_post hact
  rw [World.stage_eq_ok, hu, hs] at hs'
  cases hs'
  have hus : u.store = w.store := h1.store
  rw [← hus] at hr ⊢
  exact ⟨h2.fed.ext.has (hcl a ha hsk d hr).1, (hcl a ha hsk d hr).2⟩

/-- the same for the outputs as listed in the stage, when their paths are pairwise distinct (Go: the
outputs are a map keyed by path) -/
theorem cmdPush_world_outputs (cfg : Cfg κ) (single : Bool) (targets : List Bytes) (w w' : World κ)
    (h : cmdPush cfg single targets w = .ok w') (sp : Bytes) (stg : Stage)
    (hsc : CmdScope cfg w single targets sp) (hs : alookup w.idx sp = some stg)
    (huniq : stg.outputs.Pairwise (fun x y => x.path ≠ y.path)) :
    ∀ a, a ∈ stg.outputs → a.skip = false → ∀ d, Reaches cfg.ctx w.store a.child d →
      w'.remote.has d = true ∧ w.store.has d = true :=
  fun a ha => (cmdPush_world cfg single targets w w' h).2.2.2.2.2 sp stg hsc hs a
    (mem_sortArts_of_mem huniq ha)

/-- … and what the remote holds for a pushed digest has the bytes of the local object (consistent
caches, injective hash): push does not overwrite, an object already on the remote stays -/
theorem cmdPush_world_bytes {cfg : Cfg κ} (hg : Good cfg.ctx) (single : Bool) (targets : List Bytes)
    (w w' : World κ) (h : cmdPush cfg single targets w = .ok w')
    (hcs : Consistent cfg.ctx w.store) (hcr : Consistent cfg.ctx w.remote) :
    Consistent cfg.ctx w'.remote ∧
    ∀ sp stg, CmdScope cfg w single targets sp → alookup w.idx sp = some stg →
      ∀ a, a ∈ sortArts stg.outputs → a.skip = false → ∀ d, Reaches cfg.ctx w.store a.child d →
        ∃ o o', w.store.get d = some o ∧ w'.remote.get d = some o' ∧
          o'.bytes cfg.ctx = o.bytes cfg.ctx := by
  obtain ⟨_, _, _, _, hprov, hcl⟩ := cmdPush_world cfg single targets w w' h
  have hcr' : Consistent cfg.ctx w'.remote := .of_prov hprov hcr hcs
  refine ⟨hcr', fun sp stg hsc hs a ha hsk d hr => ?_⟩
  obtain ⟨h1, h2⟩ := hcl sp stg hsc hs a ha hsk d hr
  exact hcs.has_same_bytes hg hcr' h2 h1

/-- **Failure direction** (`gather_missing_fails` lifted): if some object reachable from a non-skip
output of a stage in scope is missing from the local cache, `cmdPush` does not succeed. -/
theorem cmdPush_world_missing_fails (cfg : Cfg κ) (single : Bool) (targets : List Bytes) (w : World κ)
    (sp : Bytes) (stg : Stage) (hsc : CmdScope cfg w single targets sp)
    (hs : alookup w.idx sp = some stg) (a : Art) (ha : a ∈ sortArts stg.outputs) (hsk : a.skip = false)
    (d : Digest) (hr : Reaches cfg.ctx w.store a.child d) (hm : w.store.has d = false) :
    ∀ w', cmdPush cfg single targets w ≠ .ok w' := by
  intro w' h
  have := ((cmdPush_world cfg single targets w w' h).2.2.2.2.2 sp stg hsc hs a ha hsk d hr).2
  rw [this] at hm
  cases hm

/-- the hypothesis of `fetch_closure_global_partial`, on the world before the fetch: among the
entries of all manifests readable from the local cache or from the remote, equal checksums have
equal kinds -/
def KindsAgreeW (cfg : Cfg κ) (w : World κ) : Prop :=
  KindsAgree (fun c => Occurs cfg.ctx w.store c ∨ Occurs cfg.ctx w.remote c)

/-- invariant of the fetch traversal started in `w0` -/
structure FetchInv (cfg : Cfg κ) (w0 u : World κ) : Prop where
  remote : u.remote = w0.remote
  ws : u.ws = w0.ws
  grows : RT.Store.ext w0.store u.store
  prov : ∀ d o, u.store.get d = some o → w0.store.get d = some o ∨ w0.remote.get d = some o
  finished : KindsAgreeW cfg w0 → ∀ sp stg, u.done.contains sp = true → alookup w0.idx sp = some stg →
    ∀ a, a ∈ sortArts stg.outputs → a.skip = false → ∀ d, Reaches cfg.ctx u.store a.child d →
      u.store.has d = true

/-- after `dud fetch` started in `w`, `FetchInv cfg w` holds.  A closure completed by the fetch of a
stage stays complete while the cache grows (`Closed.mono`); `KindsAgreeW` before the fetch gives
`KindsAgree` in every cache on the way, which is fed from the remote. -/
theorem cmdFetch_inv (cfg : Cfg κ) (single : Bool) (targets : List Bytes) (w w' : World κ)
    (h : cmdFetch cfg single targets w = .ok w') :
    w'.idx = w.idx ∧ FetchInv cfg w w' ∧
      ∀ sp, CmdScope cfg w single targets sp → w'.done.contains sp = true := by
  obtain ⟨hidx, hle, hdone, hacted⟩ := simpleCmd_acted cfg (fetchAct_frame cfg) FetchLe.refl
    FetchLe.trans fetchAct_le h
  refine ⟨hidx, ⟨hle.remote, hle.ws, hle.fed.ext, hle.fed.prov, ?_⟩, hdone⟩
  intro hk sp stg hsp hs a ha hsk
  obtain ⟨u, u', hu, h1, hact, h2⟩ := hacted sp hsp
  obtain ⟨stg', loc, hs', rfl, hf, hcl⟩ := fetchAct_post hact
  rw [World.stage_eq_ok, hu, hs] at hs'
  cases hs'
  exact (hcl ((h1.fed.trans (h1.remote ▸ hf)).kindsAgree hk) a ha hsk).mono h2.fed.ext

/-- **`dud fetch`, world level (unconditional part; `fetch_mono` lifted).** A successful `cmdFetch`
changes neither the remote, the index nor the workspace; the local cache only grows, and every
binding it holds was there before or is taken verbatim from the remote. -/
theorem cmdFetch_world_mono (cfg : Cfg κ) (single : Bool) (targets : List Bytes) (w w' : World κ)
    (h : cmdFetch cfg single targets w = .ok w') :
    w'.remote = w.remote ∧ w'.idx = w.idx ∧ w'.ws = w.ws ∧
    (∀ d o, w.store.get d = some o → w'.store.get d = some o) ∧
    (∀ d o, w'.store.get d = some o → w.store.get d = some o ∨ w.remote.get d = some o) := by
  obtain ⟨hidx, hinv, _⟩ := cmdFetch_inv cfg single targets w w' h
  exact ⟨hinv.remote, hidx, hinv.ws, hinv.grows, hinv.prov⟩

/-- **`dud fetch`, world level, closure — PARTIAL** (needs `KindsAgreeW`: no checksum is listed both
as a file and as a directory in a manifest readable from the local cache or the remote before the
fetch; Go keys the next level of `LocalCache.Fetch` by checksum, see `fetch_skips_children`).  After
a successful `cmdFetch`, for EVERY stage in scope and every non-skip output of it, the whole closure
(in the resulting cache) is in the resulting cache. -/
theorem cmdFetch_world_closure_partial (cfg : Cfg κ) (single : Bool) (targets : List Bytes)
    (w w' : World κ) (h : cmdFetch cfg single targets w = .ok w') (hk : KindsAgreeW cfg w) :
    ∀ sp stg, CmdScope cfg w single targets sp → alookup w.idx sp = some stg →
      ∀ a, a ∈ sortArts stg.outputs → a.skip = false → ∀ d, Reaches cfg.ctx w'.store a.child d →
        w'.store.has d = true := by
  obtain ⟨_, hinv, hdone⟩ := cmdFetch_inv cfg single targets w w' h
  exact fun sp stg hsc hs => hinv.finished hk sp stg (hdone sp hsc) hs

/-- … hence, after a successful `cmdFetch`, `checkoutArt` of a non-skip output of a stage in scope
cannot fail for want of a cache object (`fetch_then_checkout_partial` lifted) — PARTIAL for the same
reason. -/
theorem cmdFetch_world_checkout_partial (cfg : Cfg κ) (strat : Strat) (single : Bool)
    (targets : List Bytes) (w w' : World κ) (h : cmdFetch cfg single targets w = .ok w')
    (hk : KindsAgreeW cfg w) :
    ∀ sp stg, CmdScope cfg w single targets sp → alookup w.idx sp = some stg →
      ∀ a, a ∈ sortArts stg.outputs → ∀ cur,
        checkoutArt cfg.ctx strat cfg.fuel a cur w'.store ≠ .error .missingFromCache :=
  fun sp stg hsc hs a ha _ => checkoutArt_not_missing
    (cmdFetch_world_closure_partial cfg single targets w w' h hk sp stg hsc hs a ha)

/-- **Push then fetch, world level — PARTIAL** (`KindsAgreeW` on the fetching world, as above).
`dud push` in `w`, then `dud fetch` (same flags and targets) in any world `v` with the same index,
the remote the push left and any consistent cache (e.g. an empty one: `push_lose_fetch_world_partial`):
the fetched cache is consistent, and for EVERY stage in scope, every non-skip output `a` and every
object `d` in the closure of `a` in the ORIGINAL cache, `d` is in the closure of `a` in the fetched
cache and is held there with the bytes of the original object.

This is `Store.le cfg.ctx w.store v'.store` restricted to the objects reachable from the non-skip
outputs in scope.  `commit_checkout_world_roundtrip` (`Props/C01world.lean`) asks for `Store.le` on
ALL objects of the committed cache, and a fetch restores no object outside these closures
(`cmdFetch_world_mono`: it only copies what the remote holds; `cmdPush_world`: the remote gets only
what is gathered), so the two do not compose as stated; `Props/C11trip.lean` bridges the gap
(`commit_push_fetch_checkout_world_partial`). -/
theorem push_fetch_world_partial {cfg : Cfg κ} (hg : Good cfg.ctx) (single : Bool)
    (targets : List Bytes) (w w1 v v' : World κ)
    (hcs : Consistent cfg.ctx w.store) (hcr : Consistent cfg.ctx w.remote)
    (hpush : cmdPush cfg single targets w = .ok w1)
    (hvi : v.idx = w.idx) (hvr : v.remote = w1.remote) (hvs : Consistent cfg.ctx v.store)
    (hk : KindsAgreeW cfg v) (hfetch : cmdFetch cfg single targets v = .ok v') :
    Consistent cfg.ctx v'.store ∧
    ∀ sp stg, CmdScope cfg w single targets sp → alookup w.idx sp = some stg →
      ∀ a, a ∈ sortArts stg.outputs → a.skip = false → ∀ d, Reaches cfg.ctx w.store a.child d →
        Reaches cfg.ctx v'.store a.child d ∧
        ∃ o o', w.store.get d = some o ∧ v'.store.get d = some o' ∧
          o'.bytes cfg.ctx = o.bytes cfg.ctx := by
  obtain ⟨hcr1, _⟩ := cmdPush_world_bytes hg single targets w w1 hpush hcs hcr
  obtain ⟨_, _, _, _, _, hpc⟩ := cmdPush_world cfg single targets w w1 hpush
  obtain ⟨_, _, _, _, hprov⟩ := cmdFetch_world_mono cfg single targets v v' hfetch
  have hcv' : Consistent cfg.ctx v'.store := .of_prov hprov hvs (hvr ▸ hcr1)
  refine ⟨hcv', ?_⟩
  intro sp stg hsc hs a ha hsk d hr
  have hcl := cmdFetch_world_closure_partial cfg single targets v v' hfetch hk sp stg
    ((cmdScope_congr cfg hvi single targets sp).2 hsc) (by rw [hvi]; exact hs) a ha hsk
  have hr' := reaches_transfer hg hcs hcv' a.child d hr hcl
  exact ⟨hr', hcs.has_same_bytes hg hcv' (hpc sp stg hsc hs a ha hsk d hr).2 (hcl d hr')⟩

/-- a clone without cache: `KindsAgreeW` is a condition on the remote alone -/
theorem kindsAgreeW_empty (cfg : Cfg κ) (v : World κ) (hs : v.store = [])
    (hk : KindsAgree (Occurs cfg.ctx v.remote)) : KindsAgreeW cfg v := by
  have hno : ∀ c, ¬ Occurs cfg.ctx v.store c := by
    rintro c ⟨d, cs, hm, _⟩
    rw [hs] at hm
    cases readManifest_ok_has hm
  intro c1 c2 h1 h2
  exact hk c1 c2 (h1.resolve_left (hno _)) (h2.resolve_left (hno _))

/-- the same after LOSING the local cache (`store := []`); `KindsAgree` is then a condition on the
remote the push left alone -/
theorem push_lose_fetch_world_partial {cfg : Cfg κ} (hg : Good cfg.ctx) (single : Bool)
    (targets : List Bytes) (w w1 v' : World κ)
    (hcs : Consistent cfg.ctx w.store) (hcr : Consistent cfg.ctx w.remote)
    (hpush : cmdPush cfg single targets w = .ok w1)
    (hk : KindsAgree (Occurs cfg.ctx w1.remote))
    (hfetch : cmdFetch cfg single targets { w1 with store := [] } = .ok v') :
    ∀ sp stg, CmdScope cfg w single targets sp → alookup w.idx sp = some stg →
      ∀ a, a ∈ sortArts stg.outputs → a.skip = false → ∀ d, Reaches cfg.ctx w.store a.child d →
        Reaches cfg.ctx v'.store a.child d ∧
        ∃ o o', w.store.get d = some o ∧ v'.store.get d = some o' ∧
          o'.bytes cfg.ctx = o.bytes cfg.ctx :=
  (push_fetch_world_partial hg single targets w w1 { w1 with store := [] } v' hcs hcr hpush
    (cmdPush_world cfg single targets w w1 hpush).2.1 rfl (Consistent.nil _)
    (kindsAgreeW_empty cfg _ rfl hk) hfetch).2

/-! ## non-vacuity: a three-stage index

Hash = identity on strings (as in `Props/C11.lean`).  Stage `[1]` owns the directory `a` (object
`"root"`, a manifest listing the directory `"xxx"`, itself a manifest listing the file `"leaf"`);
stage `[2]` reads `a` and writes the file `b` (object `"fileb"`); stage `[3]` writes `c`, whose object
`"zzz"` is NOT in the local cache.  `dud push [2]` acts on `[2]` and on its upstream stage `[1]`. -/
namespace ToyW

def ctx : Ctx String :=
  { H := id, encMan := fun _ _ _ => "", nameOK := fun _ => true,
    -- every entry read from any manifest is a directory iff its checksum is "xxx"
    reload := fun _ c => ⟨c.name, c.sum, c.sum == "xxx"⟩,
    decBlob := fun c =>
      if c = "root" then some [⟨[97], "xxx", true⟩]
      else if c = "xxx" then some [⟨[99], "leaf", false⟩] else none }

def cfg : Cfg String :=
  { ctx := ctx, ofBytes := fun _ => "", toBytes := fun _ => [], walkAccumulates := false, fuel := 5 }

def outA : Art := { path := [97], sum := "root", isDir := true }
def outB : Art := { path := [98], sum := "fileb" }
def outC : Art := { path := [99], sum := "zzz" }
def stageA : Stage := { cmd := [1], outputs := [outA] }
def stageB : Stage := { cmd := [2], inputs := [{ path := [97], isDir := true }], outputs := [outB] }
def stageC : Stage := { cmd := [3], outputs := [outC] }

def w0 : World String :=
  { store := [("root", .blob "root"), ("xxx", .blob "xxx"), ("leaf", .blob "leaf"),
      ("fileb", .blob "fileb")],
    idx := [([1], stageA), ([2], stageB), ([3], stageC)] }

/-- the world after `dud push [2]`, computed by the model -/
def w1 : World String :=
  match cmdPush cfg false [[2]] w0 with
  | .ok w => w
  | .error _ => default

/-- the world after losing the cache and `dud fetch [2]`, computed by the model -/
def w2 : World String :=
  match cmdFetch cfg false [[2]] { w1 with store := [] } with
  | .ok w => w
  | .error _ => default

/-- both commands succeed and the fetched cache holds the two manifests of `a/` (one evaluation) -/
theorem run_ok : cmdPush cfg false [[2]] w0 = .ok w1 ∧
    cmdFetch cfg false [[2]] { w1 with store := [] } = .ok w2 ∧
    w2.store.get "root" = some (.blob "root") ∧ w2.store.get "xxx" = some (.blob "xxx") := by
  open Dud.WorldDec in decide +kernel

theorem scopeB : CmdScope cfg w0 false [[2]] [2] := TravScope.root (by simp)
/-- stage `[1]` is in scope of `dud push [2]`: it owns the input `a` of stage `[2]` -/
theorem scopeA : CmdScope cfg w0 false [[2]] [1] :=
  TravScope.up scopeB (show [1] ∈ ownIdx cfg w0.idx [2] by decide)
/-- … but not of `dud push --single-stage [2]` -/
theorem scopeA_single : ¬ CmdScope cfg w0 true [[2]] [1] := by
  rintro ⟨t, ht, h⟩
  simp only [List.isEmpty_cons, Bool.not_true, Bool.or_self, Bool.false_eq_true, if_false,
    List.mem_singleton] at ht h
  rw [ht] at h
  cases h

theorem reaches_leaf {s : Store String} (h1 : s.get "root" = some (.blob "root"))
    (h2 : s.get "xxx" = some (.blob "xxx")) : Reaches ctx s outA.child "leaf" := by
  refine .child _ [⟨[97], "xxx", true⟩] ⟨[97], "xxx", true⟩ "leaf" rfl ?_ (by simp) ?_
  · show readManifest ctx s "root" = _
    rw [readManifest_eq, h1]; rfl
  · refine .child _ [⟨[99], "leaf", false⟩] ⟨[99], "leaf", false⟩ "leaf" rfl ?_ (by simp) (.self _)
    show readManifest ctx s "xxx" = _
    rw [readManifest_eq, h2]; rfl

/-- **`cmdPush_world` instantiated**: after `dud push [2]` the remote holds the objects of `a/`
(stage `[1]`, upstream), down to the leaf, and the object of `b` (stage `[2]`). -/
theorem push_two_stages :
    w1.remote.has "leaf" = true ∧ w1.remote.has "root" = true ∧ w1.remote.has "fileb" = true := by
  have h := (cmdPush_world cfg false [[2]] w0 w1 run_ok.1).2.2.2.2.2
  exact ⟨(h [1] stageA scopeA rfl outA (by simp [stageA, sortArts, insertArt]) rfl "leaf"
      (reaches_leaf rfl rfl)).1,
    (h [1] stageA scopeA rfl outA (by simp [stageA, sortArts, insertArt]) rfl "root" (.self _)).1,
    (h [2] stageB scopeB rfl outB (by simp [stageB, sortArts, insertArt]) rfl "fileb" (.self _)).1⟩

/-- **`cmdPush_world_missing_fails` instantiated**: `dud push` of all stages does not succeed, the
object of `c` (stage `[3]`) is missing locally -/
theorem push_all_fails : ∀ w', cmdPush cfg false [] w0 ≠ .ok w' :=
  cmdPush_world_missing_fails cfg false [] w0 [3] stageC (TravScope.root (by decide)) rfl outC
    (by simp [stageC, sortArts, insertArt]) rfl "zzz" (.self _) rfl

/-- in this context every entry of every readable manifest is a directory iff its checksum is
`"xxx"`, so kinds agree whatever the caches hold -/
theorem kind_of_sum {s : Store String} {d : Digest} {cs : List Child}
    (h : readManifest ctx s d = .ok cs) : ∀ c, c ∈ cs → c.isDir = (c.sum == "xxx") := by
  obtain ⟨o, _, hm⟩ := readManifest_ok_inv h
  intro c hc
  cases o with
  | man sch p cs0 =>
    cases hm
    obtain ⟨c0, _, rfl⟩ := List.mem_map.1 hc
    rfl
  | blob c0 =>
    simp only [manifestChildren, ctx] at hm
    split at hm
    · cases hm; cases List.mem_singleton.1 hc; rfl
    · split at hm
      · cases hm; cases List.mem_singleton.1 hc; rfl
      · cases hm

theorem kindsAgree (P : Child → Prop) (hP : ∀ c, P c → ∃ s, Occurs ctx s c) : KindsAgree P := by
  intro c1 c2 h1 h2 hs
  obtain ⟨s1, d1, cs1, hm1, hc1⟩ := hP c1 h1
  obtain ⟨s2, d2, cs2, hm2, hc2⟩ := hP c2 h2
  rw [kind_of_sum hm1 c1 hc1, kind_of_sum hm2 c2 hc2, hs]

/-- **`cmdFetch_world_closure_partial` instantiated** (`KindsAgreeW` holds): after the fetch the
closure of `a/` is complete in the new cache; since `"root"` and `"xxx"` are there, so is `"leaf"` -/
theorem fetch_two_stages : w2.store.has "leaf" = true := by
  have hk : KindsAgreeW cfg { w1 with store := [] } :=
    kindsAgree _ (fun c h => h.elim (fun h => ⟨_, h⟩) (fun h => ⟨_, h⟩))
  exact cmdFetch_world_closure_partial cfg false [[2]] _ w2 run_ok.2.1 hk [1] stageA
    ((cmdScope_congr cfg (w := w0) rfl false [[2]] [1]).2 scopeA) rfl outA
    (by simp [stageA, sortArts, insertArt]) rfl "leaf" (reaches_leaf run_ok.2.2.1 run_ok.2.2.2)

/-- the same by running the model: the keys of the fetched cache, evaluated below next to those of
the remote — exactly the four pushed objects (`"zzz"`, which nobody has, is not among them) -/
def fetchedKeys : List Digest := w2.store.map (·.1)

#eval fetchedKeys
#eval w1.remote.map (·.1)

end ToyW

/-! ## the hypothesis `KindsAgreeW` cannot be dropped

The witness of `fetch_skips_children` (`Props/C11.lean`) as a one-stage world: the manifest `"root"`
lists the checksum `"xxx"` once as a directory and once as a file; `dud fetch` succeeds, `"leaf"` is
reachable from the stage's output in the fetched cache and on the remote, but not in the cache. -/
namespace ToyBad

def ctx : Ctx String :=
  { H := id, encMan := fun _ _ _ => "", reload := fun _ c => c, nameOK := fun _ => true,
    decBlob := fun c =>
      if c = "root" then some [⟨[97], "xxx", true⟩, ⟨[98], "xxx", false⟩]
      else if c = "xxx" then some [⟨[99], "leaf", false⟩] else none }

def cfg : Cfg String :=
  { ctx := ctx, ofBytes := fun _ => "", toBytes := fun _ => [], walkAccumulates := false, fuel := 5 }

def out : Art := { path := [2], sum := "root", isDir := true }

def w0 : World String :=
  { remote := [("root", .blob "root"), ("xxx", .blob "xxx"), ("leaf", .blob "leaf")],
    idx := [([1], { cmd := [1], outputs := [out] })] }

def w1 : World String :=
  match cmdFetch cfg false [] w0 with
  | .ok w => w
  | .error _ => default

/-- the fetch succeeds and brings the two manifests, not the leaf (one evaluation) -/
theorem run_ok : cmdFetch cfg false [] w0 = .ok w1 ∧ w1.store.get "root" = some (.blob "root") ∧
    w1.store.get "xxx" = some (.blob "xxx") ∧ w1.store.has "leaf" = false := by
  open Dud.WorldDec in decide +kernel

/-- **`cmdFetch` can succeed without transferring the closure** of an output in scope -/
theorem fetch_world_skips_children :
    cmdFetch cfg false [] w0 = .ok w1 ∧ CmdScope cfg w0 false [] [1] ∧
      Reaches ctx w1.store out.child "leaf" ∧ w1.store.has "leaf" = false ∧
      w0.remote.has "leaf" = true := by
  refine ⟨run_ok.1, TravScope.root (by decide), ?_, run_ok.2.2.2, rfl⟩
  refine .child _ [⟨[97], "xxx", true⟩, ⟨[98], "xxx", false⟩] ⟨[97], "xxx", true⟩ "leaf" rfl ?_
    (by simp) ?_
  · show readManifest ctx w1.store "root" = _
    rw [readManifest_eq, run_ok.2.1]; rfl
  · refine .child _ [⟨[99], "leaf", false⟩] ⟨[99], "leaf", false⟩ "leaf" rfl ?_ (by simp) (.self _)
    show readManifest ctx w1.store "xxx" = _
    rw [readManifest_eq, run_ok.2.2.1]; rfl

/-- … so `KindsAgreeW` fails there -/
theorem kinds_disagree : ¬ KindsAgreeW cfg w0 := by
  intro hk
  have hm : readManifest ctx w0.remote "root" = .ok [⟨[97], "xxx", true⟩, ⟨[98], "xxx", false⟩] := rfl
  have := hk ⟨[97], "xxx", true⟩ ⟨[98], "xxx", false⟩ (.inr ⟨"root", _, hm, by simp⟩)
    (.inr ⟨"root", _, hm, by simp⟩) rfl
  cases this

end ToyBad

#print axioms cmdPush_world
#print axioms cmdPush_world_outputs
#print axioms cmdPush_world_bytes
#print axioms cmdPush_world_missing_fails
#print axioms cmdFetch_inv
#print axioms cmdFetch_world_mono
#print axioms cmdFetch_world_closure_partial
#print axioms cmdFetch_world_checkout_partial
#print axioms push_fetch_world_partial
#print axioms kindsAgreeW_empty
#print axioms push_lose_fetch_world_partial
#print axioms ToyW.run_ok
#print axioms ToyW.scopeB
#print axioms ToyW.scopeA
#print axioms ToyW.scopeA_single
#print axioms ToyW.push_two_stages
#print axioms ToyW.push_all_fails
#print axioms ToyW.kind_of_sum
#print axioms ToyW.kindsAgree
#print axioms ToyW.fetch_two_stages
#print axioms ToyBad.run_ok
#print axioms ToyBad.fetch_world_skips_children
#print axioms ToyBad.kinds_disagree

end Dud
