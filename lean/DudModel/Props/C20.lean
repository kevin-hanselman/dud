import DudModel.Props.C15
import DudModel.Lemmas.StatusCommit
/-!
# C20 — manifests written with the old schema

`storeAs ctx ch t nm`: the cache (and the checksum) an older / the current dud would have written
for the plain tree `t` under the name `nm`, the manifest of the directory at path `p` below `t`
having schema `ch p` (`oldChoice`: all old, `newChoice`: all current, anything in between: mixed).
Checkout restores the same tree from all of them; a recommit on top of any of them records the
current-format digest `treeDigest`.
-/
namespace Dud

variable {κ : Type}

mutual
/-- the objects of a tree written into a store, manifests with the schemas `ch` -/
def buildStore (ctx : Ctx κ) : Choice → Bytes → Node κ → Store κ → Store κ
  | _, _, .file x, s => s.put (ctx.H x) (.blob x)
  | ch, nm, .dir es, s =>
    (buildStoreList ctx ch es s).put (digestAs ctx ch nm (.dir es))
      (.man (ch []) nm (sortChildren (childrenAs ctx ch es)))
  | _, _, .link _, s => s
  | _, _, .other, s => s
def buildStoreList (ctx : Ctx κ) : Choice → List (Name × Node κ) → Store κ → Store κ
  | _, [], s => s
  | ch, (nm, n) :: r, s => buildStoreList ctx ch r (buildStore ctx (subChoice ch nm) nm n s)
end

/-- checksum and cache of a tree stored with the schemas `ch` (starting from an empty cache) -/
def storeAs (ctx : Ctx κ) (ch : Choice) (t : Node κ) (nm : Bytes) : Digest × Store κ :=
  (digestAs ctx ch nm t, buildStore ctx ch nm t [])

mutual
theorem buildStore_post {ctx : Ctx κ} (g : Good ctx) : ∀ (t : Node κ) (ch : Choice) (nm : Bytes)
    (s : Store κ), Consistent ctx s →
      Consistent ctx (buildStore ctx ch nm t s) ∧ Store.le ctx s (buildStore ctx ch nm t s) ∧
        HoldsNode ctx (buildStore ctx ch nm t s) ch nm t
  | .file x, _, _, s, hc => by
    simp only [buildStore, HoldsNode]
    exact ⟨hc.put (.blob x), Store.le_put g hc (.blob x), .blob x, Store.get_put_self _ _ _, rfl⟩
  | .dir es, ch, nm, s, hc => by
    obtain ⟨hc2, hle2, hh2⟩ := buildStoreList_post g es ch s hc
    let m : Obj κ := .man (ch []) nm (sortChildren (childrenAs ctx ch es))
    have hd : digestAs ctx ch nm (.dir es) = m.digest ctx := by simp [digestAs, m]
    have hlep : Store.le ctx (buildStoreList ctx ch es s)
        ((buildStoreList ctx ch es s).put (m.digest ctx) m) := Store.le_put g hc2 m
    simp only [buildStore, HoldsNode]
    rw [hd]
    exact ⟨hc2.put m, Store.le_trans hle2 hlep, ⟨m, Store.get_put_self _ _ _, rfl⟩,
      HoldsList.mono hlep es ch hh2⟩
  | .link _, _, _, s, hc => by
    simp only [buildStore, HoldsNode]; exact ⟨hc, Store.le_refl _ _, trivial⟩
  | .other, _, _, s, hc => by
    simp only [buildStore, HoldsNode]; exact ⟨hc, Store.le_refl _ _, trivial⟩
theorem buildStoreList_post {ctx : Ctx κ} (g : Good ctx) : ∀ (es : List (Name × Node κ))
    (ch : Choice) (s : Store κ), Consistent ctx s →
      Consistent ctx (buildStoreList ctx ch es s) ∧ Store.le ctx s (buildStoreList ctx ch es s) ∧
        HoldsList ctx (buildStoreList ctx ch es s) ch es
  | [], _, s, hc => by
    simp only [buildStoreList, HoldsList]; exact ⟨hc, Store.le_refl _ _, trivial⟩
  | (nm, n) :: r, ch, s, hc => by
    obtain ⟨hc1, hle1, hh1⟩ := buildStore_post g n (subChoice ch nm) nm s hc
    obtain ⟨hc2, hle2, hh2⟩ := buildStoreList_post g r ch _ hc1
    simp only [buildStoreList, HoldsList]
    exact ⟨hc2, Store.le_trans hle1 hle2, HoldsNode.mono hle2 n _ nm hh1, hh2⟩
end

/-- the cache `storeAs` builds is consistent and holds the tree -/
theorem storeAs_holds {ctx : Ctx κ} (g : Good ctx) (ch : Choice) (t : Node κ) (nm : Bytes) :
    Consistent ctx (storeAs ctx ch t nm).2 ∧ HoldsNode ctx (storeAs ctx ch t nm).2 ch nm t := by
  obtain ⟨hc, _, hh⟩ := buildStore_post g t ch nm [] (Consistent.nil ctx)
  exact ⟨hc, hh⟩

/-- with the current schema everywhere, `storeAs` computes the checksum commit records -/
theorem storeAs_new_digest (ctx : Ctx κ) (t : Node κ) (nm : Bytes) :
    (storeAs ctx newChoice t nm).1 = treeDigest ctx nm t := digestAs_new ctx nm t

/-- **C20: checkout from old-schema / mixed manifests.**  Whatever schemas the manifests have,
checkout into an absent workspace (from the store or any later one) restores the tree — the very
same workspace as from current-format manifests. -/
theorem old_schema_checkout (ctx : Ctx κ) (g : Good ctx) (ch : Choice) (t : Node κ) (nm : Bytes)
    (hp : t.plain = true) (hs : t.sorted = true) (hn : NamesOK ctx t)
    (s : Store κ) (hle : Store.le ctx (storeAs ctx ch t nm).2 s)
    (strat : Strat) (fuel : Nat) (hf : depth t ≤ fuel) :
    ∃ r, checkoutNode ctx strat s fuel none ⟨nm, (storeAs ctx ch t nm).1, t.isDir⟩ = .ok r ∧
      deref ctx s r = t ∧ r = wsAfter ctx strat t := by
  have hh := HoldsNode.mono hle t ch nm (storeAs_holds g ch t nm).2
  exact ⟨_, checkoutNode_holds g s strat t ch nm fuel hp hs hn hh hf,
    deref_wsAfter hp hh strat, rfl⟩

/-- old-schema and current-schema caches restore identical workspaces -/
theorem old_schema_checkout_same (ctx : Ctx κ) (g : Good ctx) (ch : Choice) (t : Node κ)
    (nm : Bytes) (hp : t.plain = true) (hs : t.sorted = true) (hn : NamesOK ctx t)
    (strat : Strat) (fuel : Nat) (hf : depth t ≤ fuel) :
    checkoutNode ctx strat (storeAs ctx ch t nm).2 fuel none
        ⟨nm, (storeAs ctx ch t nm).1, t.isDir⟩ =
      checkoutNode ctx strat (storeAs ctx newChoice t nm).2 fuel none
        ⟨nm, (storeAs ctx newChoice t nm).1, t.isDir⟩ := by
  have h1 := checkoutNode_holds g _ strat t ch nm fuel hp hs hn (storeAs_holds g ch t nm).2 hf
  have h2 := checkoutNode_holds g _ strat t newChoice nm fuel hp hs hn
    (storeAs_holds g newChoice t nm).2 hf
  exact h1.trans h2.symm

/-- **C20: recommit on top of old-schema / mixed manifests**, of the restored workspace (either
strategy): the current-format digest is recorded, the manifests are rewritten in the current
format, the logical content stays. -/
theorem old_schema_recommit (ctx : Ctx κ) (g : Good ctx) (ch : Choice) (t : Node κ) (nm : Bytes)
    (hp : t.plain = true) (hs : t.sorted = true) (hn : NamesOK ctx t)
    (s : Store κ) (hc : Consistent ctx s) (hle : Store.le ctx (storeAs ctx ch t nm).2 s)
    (strat1 strat2 : Strat) :
    ∃ w s', commitNode ctx strat2 (wsAfter ctx strat1 t) ⟨nm, (storeAs ctx ch t nm).1, t.isDir⟩ s =
        .ok (w, ⟨nm, treeDigest ctx nm t, t.isDir⟩, s') ∧
      Consistent ctx s' ∧ Store.le ctx s s' ∧ HoldsNode ctx s' newChoice nm t ∧
      deref ctx s' w = t := by
  have hh := HoldsNode.mono hle t ch nm (storeAs_holds g ch t nm).2
  obtain ⟨s', h, hc', hle', _, hh', hd⟩ :=
    commit_holding ctx g t nm hp hs hn s hc ch hh strat1 strat2
  exact ⟨_, s', h, hc', hle', hh', hd⟩

/-- … and of an arbitrarily *edited* plain tree `t2` of the same top-level kind (entries added,
removed, changed, even swapped between file and directory): the digest recorded is
`treeDigest ctx nm t2`.  No compatibility hypothesis is needed: the manifests of `t` are present
and readable, and an old child is reused only where the kinds agree. -/
theorem old_schema_recommit_edited (ctx : Ctx κ) (g : Good ctx) (ch : Choice) (t t2 : Node κ)
    (nm : Bytes) (hs : t.sorted = true) (hn : NamesOK ctx t)
    (hp2 : t2.plain = true) (hn2 : NamesOK ctx t2) (hd : t.isDir = t2.isDir)
    (s : Store κ) (hc : Consistent ctx s) (hle : Store.le ctx (storeAs ctx ch t nm).2 s)
    (strat : Strat) :
    ∃ w s', commitNode ctx strat t2 ⟨nm, (storeAs ctx ch t nm).1, t.isDir⟩ s =
        .ok (w, ⟨nm, treeDigest ctx nm t2, t.isDir⟩, s') ∧
      Consistent ctx s' ∧ Store.le ctx s s' ∧ HoldsNode ctx s' newChoice nm t2 ∧
      deref ctx s' w = t2 := by
  have hh := HoldsNode.mono hle t ch nm (storeAs_holds g ch t nm).2
  obtain ⟨s', h, hc', hle', hh', hdd⟩ :=
    recommit_after_edit ctx g t t2 ch nm hs hn hp2 hn2 hd s hc hh strat
  exact ⟨_, s', h, hc', hle', hh', hdd⟩

/-- the same on an arbitrary store, from an explicit compatibility hypothesis (which holds
in every store above `storeAs`: `compatNode_any`) -/
theorem old_schema_recommit_compat (ctx : Ctx κ) (g : Good ctx) (ch : Choice) (t t2 : Node κ)
    (nm : Bytes) (hp2 : t2.plain = true) (hn2 : NamesOK ctx t2) (hd : t2.isDir = t.isDir)
    (s : Store κ) (hc : Consistent ctx s)
    (hk : CompatNode ctx s t2 (storeAs ctx ch t nm).1) (strat : Strat) :
    ∃ w s', commitNode ctx strat t2 ⟨nm, (storeAs ctx ch t nm).1, t.isDir⟩ s =
        .ok (w, ⟨nm, treeDigest ctx nm t2, t.isDir⟩, s') ∧
      Consistent ctx s' ∧ Store.le ctx s s' ∧ deref ctx s' w = t2 := by
  obtain ⟨s', h, hc', hle', hh', _⟩ := recommitNode_post g t2 hp2 hn2
    ⟨nm, (storeAs ctx ch t nm).1, t.isDir⟩ s strat hd.symm hk hc
  exact ⟨_, s', h, hc', hle', deref_wsAfter hp2 hh' strat⟩

/-- `readManifest` looks at the schema only through `reload`. -/
theorem readManifest_schema_irrelevant (ctx : Ctx κ) (s1 s2 : Store κ) (d1 d2 : Digest)
    (p1 p2 : Bytes) (cs : List Child)
    (h1 : s1.get d1 = some (.man .old p1 cs)) (h2 : s2.get d2 = some (.man .new p2 cs))
    (hr : ∀ c ∈ cs, ctx.reload .old c = ctx.reload .new c) :
    readManifest ctx s1 d1 = readManifest ctx s2 d2 := by
  simp only [readManifest_eq, h1, h2]
  rw [List.map_congr_left hr]

/-- statuses of the manifest entries of a held listing over the restored workspace: contents match -/
theorem childStatuses_holds [DecidableEq κ] {ctx : Ctx κ} (g : Good ctx) (s : Store κ)
    (strat : Strat) : ∀ (r : List (Name × Node κ)) (ch : Choice) (fuel : Nat)
    (W : List (Name × Node κ)),
    plainList r = true → sortedList r = true → NamesOKList ctx r → HoldsList ctx s ch r →
    depthList r ≤ fuel → (∀ e ∈ r, alookup W e.1 = some (wsAfter ctx strat e.2)) →
    ∃ sts, childStatuses ctx s (fun nm sm cu => dirStatus ctx s fuel nm false sm cu) W
        (childrenAs ctx ch r) = .ok sts ∧ sts.all (·.cm) = true
  | r, ch, fuel, W, hp, hs, hn, h, hf, hW => by
    have hall := childOK_of_holds g s strat ⟨hp, hs, hn, h, hf⟩ W hW
    obtain ⟨sts, hsts⟩ := childStatuses_ok (dirStatus_ok_of_upToDate ctx s fuel) W _ hall
    exact ⟨sts, hsts, ((childStatuses_iff (dirStatus_iff ctx s fuel) W _ sts hsts).mpr hall).1⟩

/-- **C20: status over old-schema / mixed manifests.**  The full status of the restored workspace
(either strategy) against the old-schema artifact reports `ContentsMatch`. -/
theorem old_schema_status [DecidableEq κ] (ctx : Ctx κ) (g : Good ctx) (ch : Choice)
    (es : List (Name × Node κ)) (nm : Bytes)
    (hp : (Node.dir es).plain = true) (hs : (Node.dir es).sorted = true)
    (hn : NamesOK ctx (.dir es))
    (s : Store κ) (hle : Store.le ctx (storeAs ctx ch (.dir es) nm).2 s)
    (strat : Strat) (fuel : Nat) (hf : depth (Node.dir es) ≤ fuel) :
    ∃ st, dirStatus ctx s fuel nm false (storeAs ctx ch (.dir es) nm).1
        (some (wsAfter ctx strat (.dir es))) = .ok st ∧ st.cm = true := by
  have hh := HoldsNode.mono hle _ ch nm (storeAs_holds g ch (.dir es) nm).2
  obtain ⟨st, hst, hcm, _⟩ :=
    dirStatus_of_upToDate nm (upToDate_of_holds g s strat fuel ⟨hp, hs, hn, hh, hf⟩)
  exact ⟨st, hst, hcm⟩

namespace Example

/-- only the manifest of the sub-directory `b` is old -/
def mixedChoice : Choice := fun p => if p == [[98]] then .old else .new

/-- old-schema manifests really are other objects: the checksums differ -/
example : (storeAs ctx oldChoice tree [116]).1 ≠ (storeAs ctx newChoice tree [116]).1 := by
  intro h
  simp only [storeAs, tree, digestAs, Obj.digest, Obj.bytes] at h
  have := good.inj _ _ h
  simp [ctx, oldChoice, newChoice] at this

/-- checkout from the old-schema cache of the example tree -/
example (strat : Strat) :
    ∃ r, checkoutNode ctx strat (storeAs ctx oldChoice tree [116]).2 3 none
        ⟨[116], (storeAs ctx oldChoice tree [116]).1, true⟩ = .ok r ∧
      deref ctx (storeAs ctx oldChoice tree [116]).2 r = tree := by
  obtain ⟨r, h, hd, _⟩ := old_schema_checkout ctx good oldChoice tree [116] tree_plain tree_sorted
    tree_names _ (Store.le_refl _ _) strat 3 (Nat.le_of_eq tree_depth)
  exact ⟨r, h, hd⟩

/-- executable evidence: checkout, status and recommit over old / mixed / new caches -/
def oldSchema (ch : Choice) (strat strat2 : Strat) : String :=
  let (d, s) := storeAs ctx ch tree [116]
  let c : Child := ⟨[116], d, true⟩
  match checkoutNode ctx strat s 3 none c with
  | .error e => s!"checkout error {e}"
  | .ok w =>
    s!"restored: {nodeBEq (deref ctx s w) tree}; " ++
    s!"digest is the current one: {d == treeDigest ctx [116] tree}; " ++
    (match dirStatus ctx s 3 [116] false d (some w) with
     | .ok st => s!"status cm: {st.cm}; "
     | .error e => s!"status error {e}; ") ++
    (match commitNode ctx strat2 w c s with
     | .ok (w', c', s') =>
       s!"recommit records treeDigest: {c'.sum == treeDigest ctx [116] tree}, " ++
       s!"logical content kept: {nodeBEq (deref ctx s' w') tree}"
     | .error e => s!"recommit error {e}")

#eval oldSchema oldChoice .link .copy
#eval oldSchema oldChoice .copy .link
#eval oldSchema mixedChoice .link .link
#eval oldSchema mixedChoice .copy .copy
#eval oldSchema newChoice .copy .link

end Example

#print axioms buildStore_post
#print axioms buildStoreList_post
#print axioms storeAs_holds
#print axioms storeAs_new_digest
#print axioms old_schema_checkout
#print axioms old_schema_checkout_same
#print axioms old_schema_recommit
#print axioms old_schema_recommit_edited
#print axioms old_schema_recommit_compat
#print axioms readManifest_schema_irrelevant
#print axioms alookup_wsAfterList
#print axioms mem_wsAfterList
#print axioms childStatuses_holds
#print axioms old_schema_status

end Dud
