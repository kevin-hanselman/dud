import DudModel.Lemmas.CheckoutIdem
import DudModel.Props.C05world
import DudModel.Lemmas.WorldDec
/-!
# C15 at the world level — `dud checkout` is idempotent

`Props/C15.lean` proves, for ONE artifact whose tree the cache *holds* (plain, sorted tree,
`HoldsNode`), that a second checkout over the result of the first leaves it alone.  This file proves
the statement for the whole command, and without any of these hypotheses:

  `cmdCheckout cfg strat single targets w = .ok w'  →  cmdCheckout cfg strat single targets w' = .ok w'`

for EVERY world `w` — any index (overlapping or shared output paths, nested outputs, unknown
owners; cyclic indices make the first command fail), any cache (inconsistent, manifests with
duplicate or hostile entries, old or new schema), any pre-existing workspace, both strategies,
`--single-stage` or not, any target list.  The only premise is that the first command succeeded.
The second command returns the very same world: same workspace, same cache, same index.

The mixed form `checkout --copy` then `checkout` (link) holds as well (`cmdCheckout_idem_gen`): the
regular copies are up to date (`upToDateCopy`) and are left in place.  The reverse order (link then
`--copy`) is NOT a no-op — links to cache objects are replaced by copies (C06: `Keeps`) — and is not
claimed.

The proof does not go through `checkout_idem` of `Props/C15.lean` (which needs the store to hold a
plain sorted tree): `Lemmas/CheckoutIdem.lean` characterises the fixed points of `checkoutNode`
recursively (`CI.Conf`), shows that every successful checkout returns one (`CI.conf_of_checkout`)
and that `Keeps` (C06), hence a successful checkout written at ANY path, keeps every other
checked-out entry checked out (`CI.Conf.keeps`, `CI.ConfAt.keeps`).  The traversal part is a
simulation (`CI.visit_sim`): the second command visits the same stages in the same order.

`cmdCheckout_checkedOut` states what the idempotence rests on and is useful by itself: after a
successful checkout every output of every visited stage is `CheckedOut` in the final workspace —
also the outputs of stages visited early, whatever later stages wrote over or into them
(`cmdCheckout_targets_done`: the visited stages include all targets).

The other mixed form, `checkout_after_commit_world`: right after a successful `dud commit` (under
the hypotheses of `commit_idem_world`, `Props/C05world.lean`, without `PlainInputsApartAll`)
`dud checkout` with the same strategy (or the link strategy after `commit --copy`) succeeds and
changes nothing; on the way,
`CI.cmdCommit_copy_ws`: `dud commit --copy` never changes the workspace (no hypothesis).

Non-vacuity: `Example2` (the two-stage pipeline of `Props/C01world.lean`: checkout twice in the
clone, link after copy, checkout after commit) and `C15Nested` (a world outside every artifact-level
hypothesis: nested outputs, a manifest with a duplicate entry, a non-empty workspace, where the
premise is checked by evaluation).

What is NOT covered: the state after a FAILED first checkout (the model returns no world); a
second checkout with OTHER flags or targets than the first (except link-after-copy); `dud checkout
--copy` after a link checkout (not a no-op); and for `checkout_after_commit_world`:
`--single-stage`, non-recursive directory outputs, pipelines outside `PipelineOK`.
-/
namespace Dud

open CI

variable {κ : Type}

/-- The artifact `a` is checked out in the world `w` for the strategy `strat`: it is `skip-cache`
(checkout ignores it), or the entry found at its path is a fixed point of
`checkoutNode … a.child` — see `checkedOut_iff`.  For a file artifact: the object is in the cache
and the entry is a regular file with the recorded checksum or (link strategy only) the link to the
object; for a directory artifact: the manifest is readable and every entry it lists is found in
the directory, checked out (entries the manifest does not list are allowed). -/
def CheckedOut (cfg : Cfg κ) (strat : Strat) (w : World κ) (a : Art) : Prop :=
  ArtConf cfg strat w.store w.ws a

/-- `CheckedOut` = "checkout of this artifact alone succeeds and changes nothing" -/
theorem checkedOut_iff (cfg : Cfg κ) (strat : Strat) (w : World κ) (a : Art) :
    CheckedOut cfg strat w a ↔ checkoutArtW cfg strat a w = .ok w := by
  constructor
  · exact checkoutArtW_noop
  · intro h
    obtain ⟨_, hc⟩ := checkoutArtW_conf h
    exact hc

/-- a file artifact that is checked out with copies is an up-to-date regular file -/
theorem CheckedOut.upToDateCopy {cfg : Cfg κ} {w : World κ} {a : Art} (h : CheckedOut cfg .copy w a)
    (hskip : a.skip = false) (hfile : a.isDir = false) :
    upToDateCopy cfg.ctx (getPath w.ws (Path.comps a.path)) a.sum = true := by
  obtain ⟨b, hb, hH⟩ := ArtConf.copy_file h hskip hfile
  rw [hb]
  simpa [Dud.upToDateCopy] using hH

/-- what is checked out with copies is checked out for the link strategy too -/
theorem CheckedOut.of_copy {cfg : Cfg κ} {w : World κ} {a : Art} (h : CheckedOut cfg .copy w a)
    (strat : Strat) : CheckedOut cfg strat w a := ArtConf.of_copy h strat

/-- **After a successful `dud checkout`, every output of every visited stage is checked out** in
the final workspace; the command changed the workspace and the memo only. -/
theorem cmdCheckout_checkedOut (cfg : Cfg κ) (strat : Strat) (single : Bool) (targets : List Bytes)
    (w w' : World κ) (h : cmdCheckout cfg strat single targets w = .ok w') :
    w'.idx = w.idx ∧ w'.store = w.store ∧
      ∀ sp stg, sp ∈ w'.done → alookup w.idx sp = some stg →
        ∀ a, a ∈ sortArts stg.outputs → CheckedOut cfg strat w' a := by
  obtain ⟨⟨ws1, d1, rfl⟩, hconf⟩ := cmdCheckout_inv1 h
  exact ⟨rfl, rfl, fun sp stg hsp hl a ha => hconf sp hsp stg hl a ha⟩

/-- … and the stages visited include every target (every stage, if no target is given). -/
theorem cmdCheckout_targets_done (cfg : Cfg κ) (strat : Strat) (single : Bool) (targets : List Bytes)
    (w w' : World κ) (h : cmdCheckout cfg strat single targets w = .ok w') :
    ∀ t, t ∈ (if targets.isEmpty then allStages w else targets) → t ∈ w'.done :=
  CI.cmdCheckout_targets h

/-- backward invariant of the FIRST traversal used in the simulation: every stage it has finished
has its outputs checked out in the FINAL workspace `W` -/
def DoneConf (cfg : Cfg κ) (strat : Strat) (W : Node κ) (a : World κ) : Prop :=
  ∀ sp, sp ∈ a.done → StageConf cfg strat a.idx a.store W sp

theorem doneConf_anti {cfg : Cfg κ} {strat strat2 : Strat} {W : Node κ} {sp : Bytes} {a a' : World κ}
    (hact : checkoutAct cfg strat sp a = .ok a') (h : DoneConf cfg strat2 W a') :
    DoneConf cfg strat2 W a := by
  rw [checkoutAct_world hact] at h
  exact fun sp' hsp' => h sp' (List.mem_cons_of_mem _ hsp')

theorem checkoutAct_sim {cfg : Cfg κ} {strat strat2 : Strat} {W : Node κ} {sp : Bytes}
    {a a' b : World κ} (hr : b = { a with ws := W }) (hact : checkoutAct cfg strat sp a = .ok a')
    (h : DoneConf cfg strat2 W a') :
    ∃ b', checkoutAct cfg strat2 sp b = .ok b' ∧ b' = { a' with ws := W } := by
  obtain ⟨stg, -, hl, -⟩ := checkoutAct_inv hact
  rw [checkoutAct_world hact] at h ⊢
  subst hr
  exact ⟨_, checkoutAct_of (w := { a with ws := W }) hl
    (checkoutArts_noop _ (h sp List.mem_cons_self stg hl)), rfl⟩

/-- **C15, command level: `dud checkout` twice** (general form: the second command may use the
link strategy after a copy checkout).  If `dud checkout` succeeded, repeating it right away —
same flags, same targets; with the same strategy, or without `--copy` after a `--copy` checkout —
succeeds and returns the very same world.  No hypothesis on the index, the cache or the workspace
the first command started from. -/
theorem cmdCheckout_idem_gen (cfg : Cfg κ) (strat strat2 : Strat)
    (hs : strat2 = strat ∨ strat = .copy) (single : Bool) (targets : List Bytes) (w w' : World κ)
    (h : cmdCheckout cfg strat single targets w = .ok w') :
    cmdCheckout cfg strat2 single targets w' = .ok w' := by
  obtain ⟨⟨ws1, d1, rfl⟩, hco⟩ := cmdCheckout_inv1 h
  obtain ⟨hne, hrun⟩ := cmdCheckout_ok_iff.1 h
  -- the final workspace has every finished stage checked out, for the second strategy too
  have hA : DoneConf cfg strat2 ws1 { fresh w with ws := ws1, done := d1 } := by
    intro sp hsp stg hl a ha
    have := hco sp hsp stg hl a ha
    rcases hs with rfl | rfl
    · exact this
    · exact ArtConf.of_copy this strat2
  obtain ⟨b', hb', rfl⟩ := runTargets_sim (fun a b : World κ => b = { a with ws := ws1 })
    (DoneConf cfg strat2 ws1) (fun a b hr => by rw [hr]) (fun a b sp hr => by rw [hr]; rfl)
    (fun a b sp hr => by rw [hr]; rfl) (fun sp x y hxy hy => doneConf_anti hxy hy)
    (fun sp x x' y hr hxx' hx' => checkoutAct_sim hr hxx' hx')
    (T2 := checkoutTrav cfg strat2) (v := { fresh w with ws := ws1, done := d1 }) hrun hA rfl
  exact cmdCheckout_ok_iff.2 ⟨hne, hb'⟩

/-- **C15, command level: `dud checkout` twice.**  If `dud checkout [--copy] [--single-stage]
[targets]` succeeded, repeating the very same command right away succeeds again and changes
nothing: the result is the same world (`cmdCheckout_idem_ws_store` spells out workspace and
cache). -/
theorem cmdCheckout_idem (cfg : Cfg κ) (strat : Strat) (single : Bool) (targets : List Bytes)
    (w w' : World κ) (h : cmdCheckout cfg strat single targets w = .ok w') :
    cmdCheckout cfg strat single targets w' = .ok w' :=
  cmdCheckout_idem_gen cfg strat strat (.inl rfl) single targets w w' h

/-- the statement in the form of the property: a second world exists, with the same workspace and
the same cache -/
theorem cmdCheckout_idem_ws_store (cfg : Cfg κ) (strat : Strat) (single : Bool) (targets : List Bytes)
    (w w' : World κ) (h : cmdCheckout cfg strat single targets w = .ok w') :
    ∃ w'', cmdCheckout cfg strat single targets w' = .ok w'' ∧ w''.ws = w'.ws ∧
      w''.store = w'.store ∧ w''.idx = w'.idx :=
  ⟨w', cmdCheckout_idem cfg strat single targets w w' h, rfl, rfl, rfl⟩

/-- **`dud checkout` (links) after `dud checkout --copy`** leaves the regular copies in place: the
command succeeds and returns the same world … -/
theorem cmdCheckout_link_after_copy (cfg : Cfg κ) (single : Bool) (targets : List Bytes)
    (w w' : World κ) (h : cmdCheckout cfg .copy single targets w = .ok w') :
    cmdCheckout cfg .link single targets w' = .ok w' :=
  cmdCheckout_idem_gen cfg .copy .link (.inr rfl) single targets w w' h

/-- … because every file output of every visited stage is an up-to-date regular copy. -/
theorem cmdCheckout_copy_upToDate (cfg : Cfg κ) (single : Bool) (targets : List Bytes)
    (w w' : World κ) (h : cmdCheckout cfg .copy single targets w = .ok w') (sp : Bytes) (stg : Stage)
    (hsp : sp ∈ w'.done) (hl : alookup w.idx sp = some stg) (a : Art)
    (ha : a ∈ sortArts stg.outputs) (hskip : a.skip = false) (hfile : a.isDir = false) :
    upToDateCopy cfg.ctx (getPath w'.ws (Path.comps a.path)) a.sum = true :=
  ((cmdCheckout_checkedOut cfg .copy single targets w w' h).2.2 sp stg hsp hl a ha).upToDateCopy
    hskip hfile

namespace CI
open WT WStat

theorem commitNode_copy_node {ctx : Ctx κ} : ∀ (n : Node κ) (c : Child) (s : Store κ) {n' c' s'},
    commitNode ctx .copy n c s = .ok (n', c', s') → n' = n
  | _, _, _, _, _, _, h => ((commit_shape ctx .copy).1 _ _ _ _ _ _ h).1

theorem commitArt_copy_node {ctx : Ctx κ} {a : Art} {n : Option (Node κ)} {s : Store κ}
    {n' : Node κ} {d : Digest} {s' : Store κ}
    (h : commitArt ctx .copy a n s = .ok (n', d, s')) : n = some n' := by
  obtain ⟨m, rfl, _, rfl, _⟩ := commitArt_shape h
  cases m with
  | dir es => rw [artAfter, wsAfterSk_copy]
  | _ => simp only [artAfter, wsAfter, ite_self]

theorem commitArtW_copy_ws {cfg : Cfg κ} {a a' : Art} {w w' : World κ}
    (h : commitArtW cfg .copy a w = .ok (a', w')) : w'.ws = w.ws := by
  obtain ⟨n, d, s, ws', hc, hs, _, rfl⟩ := WT.commitArtW_inv h
  have hg := commitArt_copy_node hc
  rw [setPath_getPath_same _ _ _ hg] at hs
  simp only [Option.some.injEq] at hs
  exact hs.symm

theorem commitArts_copy_ws {cfg : Cfg κ} (as : List Art) : ∀ {as' : List Art} {w w' : World κ},
    commitArts cfg .copy as w = .ok (as', w') → w'.ws = w.ws := by
  induction as with
  | nil =>
    intro as' w w' h
    simp only [commitArts, Except.ok.injEq, Prod.mk.injEq] at h
    rw [← h.2]
  | cons a r ih =>
    intro as' w w' h
    obtain ⟨a1, w1, r2, h1, h2, _⟩ := commitArts_cons_ok h
    rw [ih h2, commitArtW_copy_ws h1]

theorem commitAct_copy_ws {cfg : Cfg κ} {sp : Bytes} {w w' : World κ}
    (h : commitAct cfg .copy sp w = .ok w') : w'.ws = w.ws := by
  obtain ⟨stg, hl⟩ := commitAct_stage h
  obtain ⟨pl, w1, outs, w2, h1, h2, rfl⟩ := commitAct_inv hl h
  show w2.ws = w.ws
  rw [commitArts_copy_ws _ h2, commitArts_copy_ws _ h1]

/-- **`dud commit --copy` does not change the workspace.**  (No hypothesis.) -/
theorem cmdCommit_copy_ws (cfg : Cfg κ) (targets : List Bytes) (w w' : World κ)
    (h : cmdCommit cfg .copy targets w = .ok w') : w'.ws = w.ws :=
  runTargets_keeps (fun a : World κ => a.ws = w.ws) (fun _ _ _ hx hxy => (commitAct_copy_ws hxy).trans hx)
    rfl (cmdCommit_ok_iff.1 h).2

/-- a node a commit left (`wsAfter ctx σ n`, the cache holding `n`) is a fixed point of checkout
with the strategy `strat2`, as soon as `strat2` does not turn links into copies -/
theorem wsAfter_conf {ctx : Ctx κ} (g : Good ctx) (s : Store κ) (n : Node κ) (nm : Bytes) (fuel : Nat)
    (hp : n.plain = true) (hs : n.sorted = true) (hn : NamesOK ctx n)
    (hh : HoldsNode ctx s newChoice nm n) (hf : depth n ≤ fuel) (σ strat2 : Strat)
    (hco : coStrat σ strat2 = σ) :
    Conf ctx strat2 s fuel (wsAfter ctx σ n) ⟨nm, treeDigest ctx nm n, n.isDir⟩ := by
  rw [conf_iff_fix]
  have := checkoutNode_over g s σ strat2 n newChoice nm fuel hp hs hn hh hf
  rw [digestAs_new, hco] at this
  exact this

end CI

open WT WStat in
/-- **C15, command level: `dud checkout` right after `dud commit` is a no-op.**  Under the
hypotheses of `commit_idem_world` (`Props/C05world.lean`) other than `PlainInputsApartAll`
(`PipelineOK` for the stages in scope — pairwise non-overlapping outputs, each present as a plain
sorted tree satisfying `ArtPre`; un-owned inputs are file artifacts; directory outputs are
recursive), after a successful
`dud commit [--copy] [targets]` the command `dud checkout [targets]` with the SAME strategy — or
without `--copy` after a `--copy` commit — succeeds and leaves workspace, cache and index exactly as
the commit left them.  (`dud checkout --copy` after a link commit is not a no-op: it replaces the
links by copies.)

Not covered: `--single-stage` (the statement is for `single = false`), non-recursive directory
outputs, and pipelines outside `PipelineOK` (e.g. overlapping outputs); `cmdCommit_copy_ws`
(`dud commit --copy` never changes the workspace) needs no hypothesis at all. -/
theorem checkout_after_commit_world (cfg : Cfg κ) (g : Good cfg.ctx) (strat strat2 : Strat)
    (hs : strat2 = .link ∨ strat = .copy)
    (targets : List Bytes) (w0 w' : World κ) (hc : Consistent cfg.ctx w0.store)
    (hok : PipelineOK cfg (InScope cfg w0 targets) w0)
    (hfiles : PlainInputsFiles cfg (InScope cfg w0 targets) w0)
    (hrec : ∀ sp stg, InScope cfg w0 targets sp → alookup w0.idx sp = some stg →
      ∀ a, a ∈ stg.outputs → Recursive a)
    (h : cmdCommit cfg strat targets w0 = .ok w') :
    ∃ w2, cmdCheckout cfg strat2 false targets w' = .ok w2 ∧ w2.ws = w'.ws ∧
      w2.store = w'.store ∧ w2.idx = w'.idx ∧
      ∀ sp stg', InScope cfg w0 targets sp → alookup w'.idx sp = some stg' →
        ∀ a, a ∈ sortArts stg'.outputs → CheckedOut cfg strat2 w' a := by
  obtain ⟨hsh, hall⟩ := cmdCommit_scope_done hok.keys h
  have hci := cmdCommit_invRec g strat targets w0 w' hc hok hfiles h
  have hco : ∀ sp, InScope cfg w0 targets sp → ∃ stg', alookup w'.idx sp = some stg' ∧
      ∀ x, x ∈ sortArts stg'.outputs → ArtConf cfg strat2 w'.store w'.ws x := by
    intro sp hsp
    obtain ⟨stg, stg', e0, e1, e2, _⟩ := hci.base.finished sp hsp (hall sp hsp)
    refine ⟨stg', e1, fun x hx => ?_⟩
    have hx' := mem_of_mem_sortArts hx
    rw [e2] at hx'
    obtain ⟨a, ha, rfl⟩ := List.mem_map.1 hx'
    have ha := mem_of_mem_sortArts ha
    obtain ⟨n, hn, hpre⟩ := hok.pre sp stg hsp e0 a ha
    obtain ⟨t', gt, pt⟩ := hci.outs sp stg hsp (hall sp hsp) e0 a ha
    rw [origAt_of_getPath hn] at pt
    have htr := (hrec sp stg hsp e0 a ha).tracked_eq hpre.kind
    have hfu : depth n ≤ cfg.fuel := by have := hpre.fuel; rwa [htr] at this
    have hca : committedArt cfg.ctx w0.ws a = { a with sum := treeDigest cfg.ctx a.path n } := by
      simp only [committedArt, origAt_of_getPath hn, htr]
    rw [hca] at pt ⊢
    obtain ⟨_, ⟨σ, rfl⟩, hh⟩ := pt
    rcases Bool.eq_false_or_eq_true a.skip with hskip | hskip
    · exact .inl hskip
    · right
      replace hh : HoldsNode cfg.ctx w'.store newChoice a.path n := htr ▸ hh (.inr hskip)
      replace gt : getPath w'.ws (Path.comps a.path) = some (wsAfter cfg.ctx σ n) := by
        rw [← artAfter_eq_wsAfter cfg.ctx σ hpre.kind (hrec sp stg hsp e0 a ha) (fun _ => hskip)]
        exact gt
      have hchild : ({ a with sum := treeDigest cfg.ctx a.path n } : Art).child =
          ⟨a.path, treeDigest cfg.ctx a.path n, n.isDir⟩ := by
        simp only [Art.child, hpre.kind]
      refine ⟨_, gt, ?_⟩
      rw [hchild]
      rcases hs with rfl | rfl
      · exact wsAfter_conf g _ n a.path cfg.fuel hpre.plain hpre.sorted hpre.names hh hfu σ .link
          (by cases σ <;> rfl)
      · -- `commit --copy` left the original tree
        have hws := cmdCommit_copy_ws cfg targets w0 w' h
        rw [hws, hn] at gt
        simp only [Option.some.injEq] at gt
        rw [← gt]
        exact wsAfter_conf g _ n a.path cfg.fuel hpre.plain hpre.sorted hpre.names hh hfu .copy strat2 rfl
  obtain ⟨v', hrun, _, ⟨d, hv'⟩, hne, _, _⟩ := runTargets_after_commit hok.keys h
    (act := checkoutAct cfg strat2) (Q := fun u => ∃ d, u = { fresh w' with done := d })
    (lawfulOn_congr_own (checkoutTrav_lawfulOn cfg strat2 w'.idx) (fun sp x => ownIdx_sim cfg hsh sp x))
    (fun u hi => (show u.idx = w'.idx from hi) ▸ hsh)
    (fun u sp _ hq hsp _ _ => by
      obtain ⟨d, rfl⟩ := hq
      obtain ⟨stg', e1, hconf⟩ := hco sp hsp
      exact ⟨_, checkoutAct_of (w := { fresh w' with done := d }) e1 (checkoutArts_noop _ hconf),
        sp :: d, rfl⟩)
    w' rfl ⟨[], rfl⟩
  have hcmd : cmdCheckout cfg strat2 false targets w' = .ok v' := by
    simp only [cmdCheckout, hne, Bool.false_eq_true, if_false, Bool.not_false, Bool.or_true]
    exact hrun
  subst hv'
  refine ⟨_, hcmd, rfl, rfl, rfl, ?_⟩
  intro sp stg' hsp hl a ha
  obtain ⟨stg'', e1, hconf⟩ := hco sp hsp
  rw [hl] at e1
  cases e1
  exact hconf a ha

/-! ## non-vacuity: the two-stage pipeline of `Props/C01world.lean` -/

namespace Example2
open Dud.Example WStat

/-- **`cmdCheckout_idem` instantiated**: in the fresh clone (empty workspace) `dud checkout` (either
strategy) succeeds, rebuilds `a/` and `b`, and the same command again returns the same world. -/
theorem checkout_twice (strat : Strat) :
    ∃ v, cmdCheckout cfg strat false [] clone = .ok v ∧ cmdCheckout cfg strat false [] v = .ok v ∧
      (∃ r, getPath v.ws [[97]] = some r ∧ deref ctx v.store r = treeA) ∧
      (∃ r, getPath v.ws [[98]] = some r ∧ deref ctx v.store r = .file (.raw "out")) := by
  obtain ⟨v, h1, h2, h3⟩ := two_stage_roundtrip strat
  exact ⟨v, h1, cmdCheckout_idem cfg strat false [] clone v h1, h2, h3⟩

/-- **`cmdCheckout_link_after_copy` instantiated**: `dud checkout` after `dud checkout --copy` in
the clone leaves the copies; `b` is an up-to-date regular file. -/
theorem link_after_copy :
    ∃ v, cmdCheckout cfg .copy false [] clone = .ok v ∧ cmdCheckout cfg .link false [] v = .ok v ∧
      upToDateCopy ctx (getPath v.ws [[98]]) (ctx.H (.raw "out")) = true := by
  obtain ⟨v, h1, _, _⟩ := two_stage_roundtrip .copy
  refine ⟨v, h1, cmdCheckout_link_after_copy cfg false [] clone v h1, ?_⟩
  have hd : [2] ∈ v.done := cmdCheckout_targets_done cfg .copy false [] clone v h1 [2] (by decide)
  obtain ⟨stgB, hB, hout⟩ : ∃ stgB, alookup clone.idx [2] = some stgB ∧
      stgB.outputs = [{ outB with sum := ctx.H (.raw "out") }] := ⟨_, rfl, rfl⟩
  exact cmdCheckout_copy_upToDate cfg false [] clone v h1 [2] stgB hd hB
    { outB with sum := ctx.H (.raw "out") } (by rw [hout]; simp [sortArts, insertArt]) rfl rfl

/-- **`checkout_after_commit_world` instantiated**: right after `dud commit` of the two-stage
pipeline (link strategy), `dud checkout` succeeds and changes neither workspace nor cache nor
index. -/
theorem checkout_after_commit :
    ∃ w2, cmdCheckout cfg .link false [] w1 = .ok w2 ∧ w2.ws = w1.ws ∧ w2.store = w1.store ∧
      w2.idx = w1.idx := by
  obtain ⟨w2, h1, h2, h3, h4, _⟩ := checkout_after_commit_world cfg good .link .link (.inl rfl) [] w0 w1
    (Consistent.nil _) (pipelineOK _) (plainInputsFiles _)
    (fun sp stg _ hs => outputsRecursive hs) commit_ok
  exact ⟨w2, h1, h2, h3, h4⟩

/-- the workspace the commit left really holds links: `b` is the link to its object -/
example : getPath w1.ws [[98]] = some (.link (.obj (ctx.H (.raw "out")))) := by
  open Dud.WorldDec in decide +kernel

end Example2

/-! ## non-vacuity of the unconditional statement: a world no artifact-level hypothesis covers -/

namespace C15Nested

/-- a toy context (no `Good` needed): `H c = "h-" ++ c` -/
def ctx : Ctx String :=
  { H := fun c => "h-" ++ c, encMan := fun _ _ _ => "", decBlob := fun _ => none,
    reload := fun _ c => c, nameOK := fun _ => true }

def cfg : Cfg String :=
  { ctx := ctx, ofBytes := fun _ => "", toBytes := fun _ => [], walkAccumulates := true, fuel := 5 }

def stage1 : Stage := { cmd := [1], outputs := [{ path := [97], sum := "manA", isDir := true }] }
def stage3 : Stage := { cmd := [3], outputs := [{ path := [97, 47, 120], sum := "h-x" }] }
def stage2 : Stage :=
  { cmd := [2], inputs := [{ path := [97], isDir := true }], outputs := [{ path := [98], sum := "h-o" }] }

/-- Stage 1 owns the directory `a/`, whose (old-schema) manifest lists the entry `x` TWICE;
stage 3 owns the file `a/x` INSIDE `a/` (overlapping outputs, excluded by `PipelineOK`); stage 2
reads `a/` and owns `b`.  The workspace already holds an unrelated file `k` and `a/x` as a link to
its cache object. -/
def w : World String :=
  { ws := .dir [([107], .file "keep"), ([97], .dir [([120], .link (.obj "h-x"))])]
    store := [("h-x", .blob "x"), ("h-z", .blob "z"), ("h-o", .blob "o"),
      ("manA", .man .old [97] [⟨[120], "h-x", false⟩, ⟨[121], "manY", true⟩, ⟨[120], "h-x", false⟩]),
      ("manY", .man .new [121] [⟨[122], "h-z", false⟩])]
    idx := [([1], stage1), ([3], stage3), ([2], stage2)] }

/-- the result of `dud checkout [--copy]`, computed by the model -/
def v (strat : Strat) : World String :=
  match cmdCheckout cfg strat false [] w with
  | .ok x => x
  | .error _ => default

/-- the premise of `cmdCheckout_idem` holds in this world, for both strategies … -/
theorem checkout_ok (strat : Strat) : cmdCheckout cfg strat false [] w = .ok (v strat) := by
  open Dud.WorldDec in cases strat <;> decide +kernel

/-- … so the second checkout returns the same world -/
theorem checkout_twice (strat : Strat) : cmdCheckout cfg strat false [] (v strat) = .ok (v strat) :=
  cmdCheckout_idem cfg strat false [] w (v strat) (checkout_ok strat)

/-- the same with `--single-stage` and an explicit target -/
example : ∃ u, cmdCheckout cfg .link true [[2]] w = .ok u ∧ cmdCheckout cfg .link true [[2]] u = .ok u := by
  obtain ⟨u, h⟩ : ∃ u, cmdCheckout cfg .link true [[2]] w = .ok u := ⟨_, rfl⟩
  exact ⟨u, h, cmdCheckout_idem cfg .link true [[2]] w u h⟩

/-- what the link checkout built: the unrelated file and the link are kept, `a/y/z` and `b` are new -/
example : getPath (v .link).ws [[107]] = some (.file "keep") ∧
    getPath (v .link).ws [[97], [120]] = some (.link (.obj "h-x")) ∧
    getPath (v .link).ws [[97], [121], [122]] = some (.link (.obj "h-z")) ∧
    getPath (v .link).ws [[98]] = some (.link (.obj "h-o")) := by
  open Dud.WorldDec in decide +kernel

/-- `dud checkout` (links) after `dud checkout --copy` -/
example : cmdCheckout cfg .link false [] (v .copy) = .ok (v .copy) :=
  cmdCheckout_link_after_copy cfg false [] w (v .copy) (checkout_ok .copy)

/-- the output `a/x` of stage 3, inside the output `a/` of stage 1, is `CheckedOut` at the end -/
example : CheckedOut cfg .link (v .link) { path := [97, 47, 120], sum := "h-x" } :=
  (cmdCheckout_checkedOut cfg .link false [] w (v .link) (checkout_ok .link)).2.2 [3] stage3
    (cmdCheckout_targets_done cfg .link false [] w _ (checkout_ok .link) [3] (by decide)) rfl _
    (by simp [stage3, sortArts, insertArt])

/-- a first checkout that FAILS is not covered (a file with other bytes in the way) -/
example : ∃ e, cmdCheckout cfg .link false []
    { w with ws := .dir [([98], .file "other")] } = .error e :=
  ⟨.exists_, by open Dud.WorldDec in decide +kernel⟩

end C15Nested

end Dud

#print axioms Dud.checkedOut_iff
#print axioms Dud.cmdCheckout_checkedOut
#print axioms Dud.cmdCheckout_idem_gen
#print axioms Dud.cmdCheckout_idem
#print axioms Dud.cmdCheckout_idem_ws_store
#print axioms Dud.cmdCheckout_link_after_copy
#print axioms Dud.cmdCheckout_copy_upToDate
#print axioms Dud.checkout_after_commit_world
#print axioms Dud.CI.cmdCommit_copy_ws
#print axioms Dud.cmdCheckout_targets_done
#print axioms Dud.Example2.checkout_twice
#print axioms Dud.Example2.link_after_copy
#print axioms Dud.Example2.checkout_after_commit
#print axioms Dud.C15Nested.checkout_twice
