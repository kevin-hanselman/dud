import DudModel.Props.C05world
import DudModel.Lemmas.FaultCmd
import DudModel.Lemmas.FaultWorld
import DudModel.Lemmas.FaultFrame
/-!
# C04 at the level of the whole command — a failed `dud commit` loses nothing and can simply be retried

Fault model (`DudModel/SysFault.lean`): the call at position `k` of the trace of `cmdCommitGoT` (lock, per
target the artifacts of the committed stages then their stage files, unlock) FAILS; dud removes the temp
files of the operation under way that still exist (`cleanupCalls`), releases the lock (`unlockCalls`) and
exits non-zero.  `runFaultCleanup emp fs calls k` is the file system after such a run, started in `fs`.

## (a) nothing is lost

For EVERY index, target list, strategy, rename capability and EVERY position `k`:

* `cmdCommit_fault_safe` — the file system after the faulted run is `Safe` for ALL regular files the
  workspace held before the command: every recorded byte sequence is retrievable (at its path, through a
  link at its path, or as the cache object named by its digest) and nothing incomplete or foreign sits
  under a digest name;
* `cmdCommit_fault_stage_files` — every stage file holds what it held before the command or the COMPLETE
  encoding of a stage; `cmdCommit_fault_stage_files_atomic`: … of the stage the final index of the
  unfailed run holds (distinct stage paths);
* `cmdCommit_fault_unlocked` — the lock file is gone, for every position except the very last call (the
  final `unlink <lock>` itself: `cmdCommit_fault_at_unlock_keeps_lock` — it cannot be otherwise, and the Go
  code does not retry);
* `cmdCommit_fault_tmp_free` — no private temp file is left: neither in the cache root (`ctmp`, in
  particular `CtmpFree 0`), nor in the workspace (`wtmp`), nor next to a stage file (`stageTmp`) — unless
  the failing call is itself the removal of a temp file (the two `os.Remove` calls that end the rename
  probe: the Go code returns that error at once; `ExampleFault.probe_unlink_leaves_tmp` is the witness);
* `cmdCommit_fault_exit` — the exit status is non-zero exactly when a call failed;
* `cmdCommit_fault_keeps_objects`, `cmdCommit_fault_intact` — the objects of the original cache are still on
  disk, and every regular file outside the outputs in scope is still in place.

Hypotheses: those of `cmdCommitGoT_crash_safe` (`Good`, sound emptiness test, duplicate-free entry
names, consistent cache, a run that succeeds when nothing fails) — none on the index except `hk` in the
`…_atomic` variant (and `PipelineOK`, `PlainInputsFiles` in `cmdCommit_fault_intact`, which stands in
`Lemmas/FaultFrame.lean`).

## (b) the retry

`faultWorld c w w' fs` (`Lemmas/FaultWorld.lean`) is the LOGICAL world read back from the faulted file
system: the original tree with a link wherever the file system shows one in place of a regular file (a file
already moved into the cache whose checksum no stage file records yet), the objects of the cache that are
on disk, and per stage the final record if its stage file was rewritten, the original one otherwise.

* `faultWorld_abstraction` — the file system IS the abstraction of that world (`Rel`, stage files, objects,
  lock);
* `cmdCommit_fault_retry` — **`dud commit` in that world succeeds and ends in the state of the commit that
  never failed**: same index (every recorded checksum), same cache as a map, same logical content of every
  output, everything else untouched — for every fault position outside the move-then-link window (`NoGap`),
  every index satisfying the world-level hypotheses `Retry.Std`, every target list, both strategies.

The proof: `commitArt_ahead` (`Lemmas/RetryArt.lean`) — committing a partly committed tree records the
checksum of the untouched tree (`retry_after_fault_accepts_link` of `Props/C04.lean`, for whole trees and for
any mixture of moved and unmoved files); `commit_from_resume` / `commit_retry_world`
(`Lemmas/RetryWorld.lean`) — `dud commit` from every "resumption point" (index entries original or final,
outputs partly committed) ends in a resumption point in which every stage is done and recorded as
`canonStage`; so does the unfailed run (`commit_canon`), and two such worlds agree;
`faultWorld_resume` (`Lemmas/FaultWorld.lean`) — the world read back is a
resumption point, by `Safe`, stage-file atomicity, persistence of cache objects and the frame
`cmdCommit_fault_intact` (`Lemmas/FaultFrame.lean`).

## the known finding (negative witnesses, `ExampleFault`)

With the link strategy a file is moved into the cache (`rename file → object`, or copy + `unlink file`) and
only then linked back (`symlink object ← file`).  A fault in between (`chmod`/`symlink` after the rename;
the `symlink` after the `unlink`) leaves the bytes ONLY in the cache, with no link and no recorded
checksum.  Nothing is lost (`Safe` holds: `cmdCommit_fault_safe` covers these positions too), but the retry
does not reproduce the unfailed commit: for a file artifact `dud commit` reports the output missing
(`known_finding_file`); inside a directory artifact the retry silently commits the directory WITHOUT the
entry (`known_finding_dir`).  In the example these are exactly the positions where the retry differs
(`badPositions = gapPositions`, evaluated); with `--copy` there is no such window.

What is NOT covered: two or more failing calls; faults of non-mutating calls (reads, `stat`); the negative
answer of the rename probe (see `SysFault.lean`); a retry with OTHER targets than the failed command; worlds
outside `Retry.Std` for part (b) (overlapping outputs, directory outputs committed before or with
`DisableRecursion`, un-owned inputs that are directories, links or lie inside an output); that the real
`dud commit` refuses to start while `.dud/lock` exists (relevant only for a failing final `unlink`).
-/
namespace Dud.Sys
open Dud
variable {κ : Type}

theorem cmdCommitFaultT_eq {c : CmdCfg κ} {strat : Strat} {targets : List Bytes} {w w' : World κ}
    {calls : List (Call κ)} (h : cmdCommitGoT c strat targets w = .ok (w', calls)) (emp : κ) (k : Nat)
    (fs : FS κ) :
    cmdCommitFaultT c emp strat targets w k fs = runFaultCleanup emp fs calls k ∧
      cmdCommitFaultExitOk c strat targets w k = faultExitOk calls k := by
  simp only [cmdCommitFaultT, cmdCommitFaultCalls, cmdCommitFaultExitOk, h, runFaultCleanup, and_self]

/-- **A failed `dud commit` loses no tracked data.** -/
theorem cmdCommit_fault_safe {c : CmdCfg κ} {strat : Strat} (g : Good c.cfg.ctx) {emp : κ}
    (hemp : ∀ x, c.isEmp x = true → x = emp) {targets : List Bytes} {w w' : World κ}
    {calls : List (Call κ)} (hu : uniqNode w.ws) (hc : Consistent c.cfg.ctx w.store)
    (h : cmdCommitGoT c strat targets w = .ok (w', calls)) (k : Nat) :
    Safe c.cfg.ctx (trackedOf [] w.ws) (runFaultCleanup emp (fsOfWorld c w) calls k) := by
  have hpre := cmdCommitGoT_crash_safe g hemp hu hc h
  by_cases hk : k < calls.length
  · rw [runFaultCleanup_eq emp _ hk]
    exact (allowedTrace_of_harmless (trackedOf_ws [] w.ws) emp _
      (afterFault_harmless _ _) _).safe_final g (hpre k)
  · unfold runFaultCleanup
    rw [faultTrace_of_ge (by omega)]
    have := hpre calls.length
    rwa [List.take_length] at this

/-- … stated for `cmdCommitFaultT`: **whichever call of `dud commit` fails, the file system the command
leaves is `Safe` for all regular files of the workspace, and the exit status is non-zero** -/
theorem cmdCommitFaultT_safe {c : CmdCfg κ} {strat : Strat} (g : Good c.cfg.ctx) {emp : κ}
    (hemp : ∀ x, c.isEmp x = true → x = emp) {targets : List Bytes} {w w' : World κ}
    {calls : List (Call κ)} (hu : uniqNode w.ws) (hc : Consistent c.cfg.ctx w.store)
    (h : cmdCommitGoT c strat targets w = .ok (w', calls)) (k : Nat) (hk : k < calls.length) :
    Safe c.cfg.ctx (trackedOf [] w.ws) (cmdCommitFaultT c emp strat targets w k (fsOfWorld c w)) ∧
      cmdCommitFaultExitOk c strat targets w k = false := by
  obtain ⟨h1, h2⟩ := cmdCommitFaultT_eq h emp k (fsOfWorld c w)
  rw [h1, h2]
  exact ⟨cmdCommit_fault_safe g hemp hu hc h k, by simp [faultExitOk, hk]⟩

/-- the same for the regular files below any list of artifacts (e.g. the outputs of the stages in scope) -/
theorem cmdCommit_fault_safe_below {c : CmdCfg κ} {strat : Strat} (g : Good c.cfg.ctx) {emp : κ}
    (hemp : ∀ x, c.isEmp x = true → x = emp) {targets : List Bytes} {w w' : World κ}
    {calls : List (Call κ)} (hu : uniqNode w.ws) (hc : Consistent c.cfg.ctx w.store)
    (h : cmdCommitGoT c strat targets w = .ok (w', calls)) (arts : List Art) (k : Nat) :
    Safe c.cfg.ctx (trackedBelow w.ws arts) (runFaultCleanup emp (fsOfWorld c w) calls k) := by
  refine (cmdCommit_fault_safe g hemp hu hc h k).mono (fun p hp => ?_)
  simp only [trackedBelow, List.mem_flatMap] at hp
  obtain ⟨a, -, hpa⟩ := hp
  exact trackedOpt_sub_tracked hu _ p hpa

/-- **Stage files stay well-formed**: after the faulted run every stage file holds what it held before the
command or the complete encoding of a stage. -/
theorem cmdCommit_fault_stage_files {c : CmdCfg κ} {strat : Strat} (g : Good c.cfg.ctx) {emp : κ}
    (hemp : ∀ x, c.isEmp x = true → x = emp) {targets : List Bytes} {w w' : World κ}
    {calls : List (Call κ)} (hu : uniqNode w.ws) (hc : Consistent c.cfg.ctx w.store)
    (h : cmdCommitGoT c strat targets w = .ok (w', calls)) (sp : Bytes) (k : Nat) :
    (runFaultCleanup emp (fsOfWorld c w) calls k).get (.stageFile sp)
        = (fsOfWorld c w).get (.stageFile sp) ∨
      ∃ stg m, (runFaultCleanup emp (fsOfWorld c w) calls k).get (.stageFile sp)
        = some (.file (c.encStage stg) m) := by
  rw [runFaultCleanup_get_frame emp _ calls k (q := .stageFile sp) rfl (by simp)]
  exact cmdCommitGoT_stage_files_never_torn g hemp hu hc h sp k

/-- … full strength, with pairwise distinct stage paths: old content, or the complete encoding of the
stage the FINAL index of the unfailed run holds. -/
theorem cmdCommit_fault_stage_files_atomic {c : CmdCfg κ} {strat : Strat} (g : Good c.cfg.ctx) {emp : κ}
    (hemp : ∀ x, c.isEmp x = true → x = emp) {targets : List Bytes} {w w' : World κ}
    {calls : List (Call κ)} (hu : uniqNode w.ws) (hc : Consistent c.cfg.ctx w.store)
    (hk : (w.idx.map (·.1)).Nodup)
    (h : cmdCommitGoT c strat targets w = .ok (w', calls)) (sp : Bytes) (k : Nat) :
    (runFaultCleanup emp (fsOfWorld c w) calls k).get (.stageFile sp)
        = (fsOfWorld c w).get (.stageFile sp) ∨
      ∃ stg m, alookup w'.idx sp = some stg ∧
        (runFaultCleanup emp (fsOfWorld c w) calls k).get (.stageFile sp)
          = some (.file (c.encStage stg) m) := by
  rw [runFaultCleanup_get_frame emp _ calls k (q := .stageFile sp) rfl (by simp)]
  exact cmdCommitGoT_stage_files_atomic g hemp hu hc hk h sp k

/-- **The project is left unlocked**: whichever call fails — except the final `unlink <lock>` itself — the
lock file does not exist after the faulted run (nor after the run without fault). -/
theorem cmdCommit_fault_unlocked {c : CmdCfg κ} {strat : Strat} (g : Good c.cfg.ctx) {emp : κ}
    (hemp : ∀ x, c.isEmp x = true → x = emp) {targets : List Bytes} {w w' : World κ}
    {calls : List (Call κ)} (hu : uniqNode w.ws) (hc : Consistent c.cfg.ctx w.store)
    (h : cmdCommitGoT c strat targets w = .ok (w', calls)) (k : Nat) (hk : k + 1 ≠ calls.length) :
    (runFaultCleanup emp (fsOfWorld c w) calls k).get .lock = none := by
  rw [Conc.commitBody_trace h] at hk ⊢
  rw [runFaultCleanup_lock emp (fsOfWorld_get_lock c w) (Conc.commitBody_noLock c strat targets w),
    if_neg (by simpa using hk)]

/-- … and when the call that fails is that final `unlink <lock>`, the lock file necessarily stays: the
only position at which a failed `dud commit` leaves the project locked. -/
theorem cmdCommit_fault_at_unlock_keeps_lock {c : CmdCfg κ} {strat : Strat} (g : Good c.cfg.ctx) {emp : κ}
    (hemp : ∀ x, c.isEmp x = true → x = emp) {targets : List Bytes} {w w' : World κ}
    {calls : List (Call κ)} (hu : uniqNode w.ws) (hc : Consistent c.cfg.ctx w.store)
    (h : cmdCommitGoT c strat targets w = .ok (w', calls)) :
    (runFaultCleanup emp (fsOfWorld c w) calls (calls.length - 1)).get .lock = some (.file emp 0o600) := by
  rw [Conc.commitBody_trace h,
    runFaultCleanup_lock emp (fsOfWorld_get_lock c w) (Conc.commitBody_noLock c strat targets w),
    if_pos (by simp)]

/-- **No temp file is left.**  Whichever call fails — except the removal of a temp file itself — after
the faulted run no private temp path exists: neither a cache temp file (`ctmp`), nor a workspace temp file
of the rename probe (`wtmp`), nor a stage temp file (`stageTmp`). -/
theorem cmdCommit_fault_tmp_free {c : CmdCfg κ} {emp : κ} {w : World κ} (calls : List (Call κ)) (k : Nat) (hk : k < calls.length)
    (hnp : ∀ p, calls[k] = Call.unlink p → p.isTemp = false) :
    ∀ p, p.isTemp = true → (runFaultCleanup emp (fsOfWorld c w) calls k).get p = none :=
  runFaultCleanup_tmp_free (fun _ hq => fsOfWorld_get_tmp c w hq) calls k hk hnp

/-- in particular: the cache temp names are all free (`CtmpFree 0`) and so are the stage temp names -/
theorem cmdCommit_fault_ctmp_free {c : CmdCfg κ} {emp : κ} {w : World κ} (calls : List (Call κ)) (k : Nat) (hk : k < calls.length)
    (hnp : ∀ p, calls[k] = Call.unlink p → p.isTemp = false) :
    CtmpFree 0 (runFaultCleanup emp (fsOfWorld c w) calls k) ∧
      StageTmpFree (runFaultCleanup emp (fsOfWorld c w) calls k) :=
  ⟨fun _ _ => cmdCommit_fault_tmp_free calls k hk hnp _ rfl,
   fun _ => cmdCommit_fault_tmp_free calls k hk hnp _ rfl⟩

/-- **The exit status is non-zero exactly when a call failed.** -/
theorem cmdCommit_fault_exit (calls : List (Call κ)) (k : Nat) :
    faultExitOk calls k = false ↔ k < calls.length := by
  unfold faultExitOk
  by_cases hk : k < calls.length
  · simp [hk]
  · simp [hk]

/-- the five guarantees of a failed run in one statement -/
theorem cmdCommit_fault_summary {c : CmdCfg κ} {strat : Strat} (g : Good c.cfg.ctx) {emp : κ}
    (hemp : ∀ x, c.isEmp x = true → x = emp) {targets : List Bytes} {w w' : World κ}
    {calls : List (Call κ)} (hu : uniqNode w.ws) (hc : Consistent c.cfg.ctx w.store)
    (h : cmdCommitGoT c strat targets w = .ok (w', calls)) (k : Nat) (hk : k < calls.length) :
    let fs := runFaultCleanup emp (fsOfWorld c w) calls k
    Safe c.cfg.ctx (trackedOf [] w.ws) fs ∧
    (∀ sp, fs.get (.stageFile sp) = (fsOfWorld c w).get (.stageFile sp) ∨
      ∃ stg m, fs.get (.stageFile sp) = some (.file (c.encStage stg) m)) ∧
    (k + 1 ≠ calls.length → fs.get .lock = none) ∧
    ((∀ p, calls[k] = Call.unlink p → p.isTemp = false) → ∀ p, p.isTemp = true → fs.get p = none) ∧
    faultExitOk calls k = false :=
  ⟨cmdCommit_fault_safe g hemp hu hc h k,
   fun sp => cmdCommit_fault_stage_files g hemp hu hc h sp k,
   cmdCommit_fault_unlocked g hemp hu hc h k,
   fun hnp => cmdCommit_fault_tmp_free calls k hk hnp,
   (cmdCommit_fault_exit calls k).2 hk⟩

/-- the objects of the original cache are still on disk after the faulted run -/
theorem cmdCommit_fault_keeps_objects {c : CmdCfg κ} {strat : Strat} (g : Good c.cfg.ctx) {emp : κ}
    (hemp : ∀ x, c.isEmp x = true → x = emp) {targets : List Bytes} {w w' : World κ}
    {calls : List (Call κ)} (hu : uniqNode w.ws) (hc : Consistent c.cfg.ctx w.store)
    (h : cmdCommitGoT c strat targets w = .ok (w', calls)) (k : Nat) (d : Digest)
    (hd : w.store.has d = true) :
    (runFaultCleanup emp (fsOfWorld c w) calls k).get (.obj d) ≠ none := by
  rw [runFaultCleanup_get_frame emp _ calls k (q := .obj d) rfl (by simp)]
  obtain ⟨segs, -, -, hall⟩ := cmdCommitGoT_run g hemp hu hc h
  cases hg : w.store.get d with
  | none => simp [Store.has, hg] at hd
  | some o =>
    obtain ⟨m', hm'⟩ := hall.objLe g (fsOfWorld_safe c w hu hc) k d (o.bytes c.cfg.ctx) 0o444
      (by rw [fsOfWorld_get c w (by simp), fsOf_get_obj, hg]; rfl)
    rw [hm']
    simp

theorem cmdCommitGoT_ok {c : CmdCfg κ} {strat : Strat} {targets : List Bytes} {w w' : World κ}
    {calls : List (Call κ)} (h : cmdCommitGoT c strat targets w = .ok (w', calls)) :
    cmdCommit c.cfg strat targets w = .ok w' :=
  (map_fst_eq (cmdCommitGoT_refines c strat targets w)).2 _ _ h

/-- `dud commit` keeps the cache consistent, whatever the index holds -/
theorem cmdCommit_consistent {cfg : Cfg κ} (g : Good cfg.ctx) {strat : Strat} {targets : List Bytes}
    {w0 w' : World κ} (hk : (w0.idx.map (·.1)).Nodup) (hc : Consistent cfg.ctx w0.store)
    (h : cmdCommit cfg strat targets w0 = .ok w') : Consistent cfg.ctx w'.store :=
  cmdCommit_preserves hk (fun v => Consistent cfg.ctx v.store) hc
    (fun sp v v1 _ _ hq _ _ hs => by
      obtain ⟨stg, hsv⟩ := WStat.commitAct_stage hs
      obtain ⟨pl, w1, outs, w2, h1, h2, rfl⟩ := WStat.commitAct_inv hsv hs
      exact ((WT.commitArts_elsewhere g strat _ h2).1 ((WT.commitArts_elsewhere g strat _ h1).1 hq).1).1) h

section retry
variable [DecidableEq κ]
open Dud.Retry

/-- `faultWorld_abstraction` below for every index with distinct stage paths: the hypotheses of the retry play
no part in it -/
theorem faultWorld_abstraction_gen {c : CmdCfg κ} {strat : Strat} {emp : κ} (g : Good c.cfg.ctx)
    (hemp : ∀ x, c.isEmp x = true → x = emp) {targets : List Bytes} {w w' : World κ}
    {calls : List (Call κ)} (hu : uniqNode w.ws) (hc : Consistent c.cfg.ctx w.store)
    (hkeys : (w.idx.map (·.1)).Nodup)
    (h : cmdCommitGoT c strat targets w = .ok (w', calls)) (k : Nat) (hk : k < calls.length)
    (hnp : ∀ p, calls[k] = Call.unlink p → p.isTemp = false)
    (hgap : NoGap c.cfg.ctx w.ws (runFaultCleanup emp (fsOfWorld c w) calls k)) :
    let fs := runFaultCleanup emp (fsOfWorld c w) calls k
    let wk := faultWorld c w w' fs
    Rel wk.ws fs ∧
    (∀ sp stg, alookup wk.idx sp = some stg → ∃ m, fs.get (.stageFile sp) = some (.file (c.encStage stg) m)) ∧
    (∀ d o, wk.store.get d = some o → ∃ m, fs.get (.obj d) = some (.file (o.bytes c.cfg.ctx) m)) ∧
    (k + 1 ≠ calls.length → fs.get .lock = none) :=
  ⟨faultWorld_rel c w w' hu _ hgap ((cmdCommit_fault_ctmp_free calls k hk hnp).1.mono (by omega)),
    faultWorld_stage_files c w w' _
      (fun sp => cmdCommit_fault_stage_files_atomic g hemp hu hc hkeys h sp k),
    faultWorld_objects c g w w' _ (cmdCommit_consistent g hkeys hc (cmdCommitGoT_ok h))
      (cmdCommit_fault_safe g hemp hu hc h k).2,
    cmdCommit_fault_unlocked g hemp hu hc h k⟩

/-- **The file system after the faulted run is the abstraction of the logical world `faultWorld`**:
* `Rel`: every regular file of the logical workspace is in place, names are duplicate-free, the cache temp
  names are free (here under the proviso of `cmdCommit_fault_tmp_free`);
* every stage file on disk holds the complete encoding of the stage the logical index holds;
* every object of the logical cache is on disk, complete, with its bytes;
* the lock is gone (`cmdCommit_fault_unlocked`).
The logical workspace shows a link exactly where the file system shows one in place of a regular file
(`readBack`); the index holds the final record of exactly the stages whose stage file was rewritten.
Hypothesis `NoGap`: the fault does not fall into the move-then-link window (see the known finding below). -/
theorem faultWorld_abstraction {c : CmdCfg κ} {strat : Strat} {emp : κ}
    (hemp : ∀ x, c.isEmp x = true → x = emp) {targets : List Bytes} {w w' : World κ}
    {calls : List (Call κ)} (hstd : Std c.cfg (InScope c.cfg w targets) w) (hu : uniqNode w.ws)
    (h : cmdCommitGoT c strat targets w = .ok (w', calls)) (k : Nat) (hk : k < calls.length)
    (hnp : ∀ p, calls[k] = Call.unlink p → p.isTemp = false)
    (hgap : NoGap c.cfg.ctx w.ws (runFaultCleanup emp (fsOfWorld c w) calls k)) :
    let fs := runFaultCleanup emp (fsOfWorld c w) calls k
    let wk := faultWorld c w w' fs
    Rel wk.ws fs ∧
    (∀ sp stg, alookup wk.idx sp = some stg → ∃ m, fs.get (.stageFile sp) = some (.file (c.encStage stg) m)) ∧
    (∀ d o, wk.store.get d = some o → ∃ m, fs.get (.obj d) = some (.file (o.bytes c.cfg.ctx) m)) ∧
    (k + 1 ≠ calls.length → fs.get .lock = none) :=
  faultWorld_abstraction_gen hstd.good hemp hu hstd.cons hstd.ok.keys h k hk hnp hgap

/-- **Once the cause is removed, `dud commit` again succeeds and ends in the state of a commit that never
failed.**  `w` is the world before the command, `w'` the world its unfailed run ends in, `calls` its trace
(Go's order); the call at position `k` fails; `fs` is the file system after the faulted run (prefix,
clean-up, unlock) and `wk = faultWorld c w w' fs` the logical world read back from it
(`faultWorld_abstraction`).  If the fault does not fall into the move-then-link window (`NoGap`), then
`dud commit [targets]` in `wk`, with either strategy, SUCCEEDS in a world `w2` with
* the same index as `w'` (every recorded stage, input and output checksum),
* the same cache as a map (the same digests bound to objects with the same bytes), consistent,
* the same logical content (`deref`) of every output in scope — that of the original workspace — and the same
  node at every path apart from the outputs.

Hypotheses on the original world (`Retry.Std`): those of `commit_idem_world` (`Props/C05world.lean`) —
`Good`, consistent cache, `PipelineOK` (distinct stage paths, non-overlapping outputs that are plain sorted
trees with acceptable names, a directory output never committed before), un-owned inputs are file artifacts
apart from the outputs, directory outputs recursive — plus: the un-owned inputs are regular files.
For EVERY fault position `k`, every index within these hypotheses, every target list, both strategies and
both rename capabilities.  That the files outside the outputs are untouched is proved
(`cmdCommit_fault_intact`), that nothing is lost likewise (`cmdCommit_fault_safe`); `NoGap` is the one
hypothesis on the position of the fault, and it is necessary (`ExampleFault`, the known finding). -/
theorem cmdCommit_fault_retry {c : CmdCfg κ} {strat : Strat} {emp : κ}
    (hemp : ∀ x, c.isEmp x = true → x = emp) {targets : List Bytes} {w w' : World κ}
    {calls : List (Call κ)} (hstd : Std c.cfg (InScope c.cfg w targets) w) (hu : uniqNode w.ws)
    (h : cmdCommitGoT c strat targets w = .ok (w', calls)) (k : Nat)
    (hgap : NoGap c.cfg.ctx w.ws (runFaultCleanup emp (fsOfWorld c w) calls k))
    (strat2 : Strat) :
    let wk := faultWorld c w w' (runFaultCleanup emp (fsOfWorld c w) calls k)
    ∃ w2, cmdCommit c.cfg strat2 targets wk = .ok w2 ∧ w2.idx = w'.idx ∧
      Consistent c.cfg.ctx w2.store ∧ Store.le c.cfg.ctx w'.store w2.store ∧
      Store.le c.cfg.ctx w2.store w'.store ∧
      (∀ sp stg, InScope c.cfg w targets sp → alookup w.idx sp = some stg →
        ∀ a, a ∈ stg.outputs → ∃ t1 t2, getPath w'.ws (Path.comps a.path) = some t1 ∧
          getPath w2.ws (Path.comps a.path) = some t2 ∧
          deref c.cfg.ctx w'.store t1 = origAt w.ws a ∧ deref c.cfg.ctx w2.store t2 = origAt w.ws a) ∧
      (∀ q, (∀ sp stg, InScope c.cfg w targets sp → alookup w.idx sp = some stg →
          ∀ a, a ∈ stg.outputs → WT.Apart (Path.comps a.path) q) →
        getPath w2.ws q = getPath w'.ws q) := by
  intro wk
  have g := hstd.good
  have hlog := cmdCommitGoT_ok h
  have hres := faultWorld_resume c strat targets w w' hstd hu hlog _
    (cmdCommit_fault_safe g hemp hu hstd.cons h k) hgap
    (cmdCommit_fault_intact hstd.ok hstd.files hu h k)
    (fun d hd => cmdCommit_fault_keeps_objects g hemp hu hstd.cons h k d hd)
  exact commit_retry_world c.cfg strat strat2 targets w w' wk hstd.base hlog hres
    (fun _ _ hsc hs => hstd.inputsAt hres hsc hs)

end retry

/-! ## non-vacuity and negative witnesses: a two-stage world, faults inside the second artifact -/

namespace ExampleFault
open Dud Dud.Sys Dud.Example Dud.Retry Dud.WT Dud.WStat

abbrev cfg : Cfg K := Example2.cfg

def cc (cr : Bool) : CmdCfg K :=
  { cfg := cfg, isEmp := Sys.Example.isEmp, canRename := cr, encStage := ExampleCmd.encStage }

/-- output of stage 2: a directory `d/` with two regular files -/
def treeD : Node K := .dir [([117], .file (.raw "u")), ([118], .file (.raw "v"))]
def outF : Art := { path := [102] }
def outD : Art := { path := [100], isDir := true }
def stage1 : Stage := { cmd := [1], outputs := [outF] }
def stage2 : Stage := { cmd := [2], outputs := [outD] }

/-- two independent stages: `f` (a file) and `d/` (a directory) -/
def W : World K :=
  { ws := .dir [([100], treeD), ([102], .file (.raw "x"))],
    idx := [([1], stage1), ([2], stage2)] }

def run (strat : Strat) (cr : Bool) : World K × List (Call K) :=
  match cmdCommitGoT (cc cr) strat [] W with
  | .ok r => r
  | .error _ => (default, [])

theorem pipelineOK (Sc : Bytes → Prop) : PipelineOK cfg Sc W :=
  .of_check (fun _ _ => rfl) (by decide) Sc

theorem noInputs (Sc : Bytes → Prop) : ∀ sp stg, Sc sp → alookup W.idx sp = some stg → stg.inputs = [] :=
  stage_forall (by decide)

theorem std (Sc : Bytes → Prop) : Std cfg Sc W where
  good := good
  cons := Consistent.nil _
  ok := pipelineOK Sc
  files := stage_forall (by decide)
  apart := fun sp stg hsc hs b hb => by rw [noInputs Sc sp stg hsc hs] at hb; cases hb
  recur := stage_forall (P := fun _ s => ∀ a ∈ s.outputs, a.isDir = true → a.noRec = false) (by decide)
  regular := fun sp stg hsc hs b hb => by rw [noInputs Sc sp stg hsc hs] at hb; cases hb

theorem W_uniq : uniqNode W.ws := by
  simp [W, treeD, uniqNode, uniqList]

/-- the file system after the run in which call `k` fails -/
def fsAt (strat : Strat) (cr : Bool) (k : Nat) : FS K :=
  runFaultCleanup Sys.Example.emp (fsOfWorld (cc cr) W) (run strat cr).2 k

/-- the logical world read back from it -/
def wkAt (strat : Strat) (cr : Bool) (k : Nat) : World K :=
  faultWorld (cc cr) W (run strat cr).1 (fsAt strat cr k)

def linkAt (fs : FS K) (q : List Name) (d : Digest) : Bool :=
  match fs.get (.ws q) with
  | some (.link (.obj d')) => d' == d
  | _ => false

def absent (fs : FS K) (p : P) : Bool := (fs.get p).isNone

/-- the calls dud issues after the failing one -/
def showTail' (calls : List (Call K)) (k : Nat) : List String :=
  ((faultTrace calls k).drop k).map Sys.Example.showCall

def showTail (strat : Strat) (cr : Bool) (k : Nat) : List String := showTail' (run strat cr).2 k

/-- recorded output checksums of a stage -/
def sums (idx : Index) (sp : Bytes) : Option (List Digest) :=
  (alookup idx sp).map (fun s => s.outputs.map (·.sum))

mutual
/-- the workspace read back FAITHFULLY also in the move-then-link window: an entry whose path is absent on
disk is absent (`readBack` shows the original file there; the two coincide under `NoGap`) -/
def readBackF (fs : FS K) : List Name → Node K → Node K
  | pre, .file c => match fs.get (.ws pre) with
    | some (.link (.obj d)) => .link (.obj d)
    | _ => .file c
  | pre, .dir es => .dir (readBackFList fs pre es)
  | _, .link l => .link l
  | _, .other => .other
def readBackFList (fs : FS K) : List Name → List (Name × Node K) → List (Name × Node K)
  | _, [] => []
  | pre, (nm, n) :: r =>
    if (match n with | .file _ => true | _ => false) && (fs.get (.ws (pre ++ [nm]))).isNone then
      readBackFList fs pre r
    else (nm, readBackF fs (pre ++ [nm]) n) :: readBackFList fs pre r
end

/-- the world read back faithfully -/
def gapWorld (strat : Strat) (cr : Bool) (k : Nat) : World K :=
  { wkAt strat cr k with ws := readBackF (fsAt strat cr k) [] W.ws }

/-- every regular file of the logical workspace is in place on disk -/
def filesInPlace (w : World K) (fs : FS K) : Bool :=
  (trackedOf [] w.ws).all (fun p => Sys.Example.fileAt fs p.1 p.2)

def isMissing (r : Except Err (World K)) : Bool :=
  match r with
  | .error .missing => true
  | _ => false

/-- number of entries of `d/` after a commit of the world -/
def entriesAfter (w : World K) : Option Nat :=
  match cmdCommit cfg .link [] w with
  | .ok w2 => (match getPath w2.ws [[100]] with
    | some (.dir es) => some es.length
    | _ => none)
  | .error _ => none

/-- the failing call is the removal of a file -/
def isUnlinkAt (calls : List (Call K)) (k : Nat) : Bool :=
  match calls[k]? with
  | some (.unlink _) => true
  | _ => false

/-- Every closed fact about the run `run .link true` stated below, in one evaluation: the kernel runs the
command once and replays each faulted prefix once. -/
theorem eval_link_true :
    ((run .link true).2.length = 40 ∧ isUnlinkAt (run .link true).2 26 = false ∧
      noGapB ctx W.ws (fsAt .link true 26) = true) ∧
    showTail .link true 26 = ["unlink lock"] ∧
    (linkAt (fsAt .link true 26) [[102]] (ctx.H (.raw "x")) = true ∧
    linkAt (fsAt .link true 26) [[100], [117]] (ctx.H (.raw "u")) = true ∧
    Sys.Example.fileAt (fsAt .link true 26) (.ws [[100], [118]]) (.raw "v") = true ∧
    Sys.Example.fileAt (fsAt .link true 26) (.stageFile [1]) (.raw (ctx.H (.raw "x"))) = true ∧
    Sys.Example.fileAt (fsAt .link true 26) (.stageFile [2]) (.raw "") = true ∧
    absent (fsAt .link true 26) .lock = true ∧ absent (fsAt .link true 26) (.ctmp 0) = true ∧
    absent (fsAt .link true 26) (.ctmp 1) = true ∧ absent (fsAt .link true 26) (.wtmp 0) = true) ∧
    (sums (wkAt .link true 26).idx [1] = some [ctx.H (.raw "x")] ∧
    sums (wkAt .link true 26).idx [2] = some [""] ∧
    Sys.Example.safeB (trackedOf [] W.ws) (fsAt .link true 26) = true) ∧
    (showTail .link true 10 = ["unlink lock"] ∧
    Sys.Example.safeB (trackedOf [] W.ws) (fsAt .link true 10) = true ∧
    noGapB ctx W.ws (fsAt .link true 10) = false ∧
    absent (fsAt .link true 10) (.ws [[102]]) = true ∧
    Sys.Example.fileAt (fsAt .link true 10) (.obj (ctx.H (.raw "x"))) (.raw "x") = true ∧
    sums (gapWorld .link true 10).idx [1] = some [""] ∧
    filesInPlace (gapWorld .link true 10) (fsAt .link true 10) = true ∧
    isMissing (cmdCommit cfg .link [] (gapWorld .link true 10)) = true) ∧
    (noGapB ctx W.ws (fsAt .link true 9) = false ∧
    isMissing (cmdCommit cfg .link [] (gapWorld .link true 9)) = true) ∧
    (noGapB ctx W.ws (fsAt .link true 24) = false ∧
    absent (fsAt .link true 24) (.ws [[100], [117]]) = true ∧
    Sys.Example.fileAt (fsAt .link true 24) (.obj (ctx.H (.raw "u"))) (.raw "u") = true ∧
    filesInPlace (gapWorld .link true 24) (fsAt .link true 24) = true ∧
    entriesAfter (gapWorld .link true 24) = some 1 ∧ entriesAfter W = some 2) ∧
    (showTail .link true 19 = ["unlink lock"] ∧
    absent (fsAt .link true 19) (.ctmp 0) = false ∧ absent (fsAt .link true 19) .lock = true ∧
    Sys.Example.safeB (trackedOf [] W.ws) (fsAt .link true 19) = true) ∧
    showTail .link true 31 = ["unlink ctmp1", "unlink lock"] := by
  decide +kernel

/-- the command issues 40 calls; the second artifact (`d/`) is calls 15–34 -/
theorem run_length : (run .link true).2.length = 40 := eval_link_true.1.1

/-- a run that issues calls has succeeded -/
theorem run_ok :
    cmdCommitGoT (cc true) .link [] W = .ok ((run .link true).1, (run .link true).2) := by
  have h := run_length
  cases hr : cmdCommitGoT (cc true) .link [] W with
  | ok r => simp only [run, hr]
  | error e => simp [run, hr] at h

/-! **Position 26: `rename d/v → <object>` fails** — inside the second artifact, after the stage file of
stage 1 was rewritten and `d/u` was moved into the cache and linked.  dud unlocks and exits. -/

theorem tail_26 : showTail .link true 26 = ["unlink lock"] := eval_link_true.2.1

/-- what the faulted file system looks like: `f` and `d/u` are links to their objects, `d/v` is still the
regular file, the stage file of stage 1 holds the new checksum, that of stage 2 the old (empty) one, no lock,
no temp file -/
theorem fs_26 :
    linkAt (fsAt .link true 26) [[102]] (ctx.H (.raw "x")) = true ∧
    linkAt (fsAt .link true 26) [[100], [117]] (ctx.H (.raw "u")) = true ∧
    Sys.Example.fileAt (fsAt .link true 26) (.ws [[100], [118]]) (.raw "v") = true ∧
    Sys.Example.fileAt (fsAt .link true 26) (.stageFile [1]) (.raw (ctx.H (.raw "x"))) = true ∧
    Sys.Example.fileAt (fsAt .link true 26) (.stageFile [2]) (.raw "") = true ∧
    absent (fsAt .link true 26) .lock = true ∧ absent (fsAt .link true 26) (.ctmp 0) = true ∧
    absent (fsAt .link true 26) (.ctmp 1) = true ∧ absent (fsAt .link true 26) (.wtmp 0) = true :=
  eval_link_true.2.2.1

/-- the world read back: stage 1 carries its final record, stage 2 its original one; `d/` is partly
committed -/
theorem wk_26 :
    sums (wkAt .link true 26).idx [1] = some [ctx.H (.raw "x")] ∧
    sums (wkAt .link true 26).idx [2] = some [""] ∧
    Sys.Example.safeB (trackedOf [] W.ws) (fsAt .link true 26) = true :=
  eval_link_true.2.2.2.1

/-- **the theorems of part (a) instantiated at position 26** -/
theorem fault_26_safe :
    Safe ctx (trackedOf [] W.ws) (fsAt .link true 26) ∧ (fsAt .link true 26).get .lock = none ∧
      (∀ p, p.isTemp = true → (fsAt .link true 26).get p = none) ∧
      faultExitOk (run .link true).2 26 = false := by
  have hk : 26 < (run .link true).2.length := Nat.lt_of_lt_of_eq (by decide : 26 < 40) run_length.symm
  have hne : 26 + 1 ≠ (run .link true).2.length := by rw [run_length]; decide
  obtain ⟨h1, -, h3, h4, h5⟩ := cmdCommit_fault_summary (c := cc true) good Sys.Example.hemp W_uniq
    (std (fun _ => True)).cons run_ok 26 hk
  have h26 := eval_link_true.1.2.1
  rw [isUnlinkAt, List.getElem?_eq_getElem hk] at h26
  exact ⟨h1, h3 hne, h4 (fun p hp => by rw [hp] at h26; cases h26), h5⟩

/-- **the retry theorem instantiated at position 26**: `dud commit` again (either strategy) succeeds and
ends with the index of the commit that never failed, the same cache as a map, and `f`, `d/` with their
original logical content -/
theorem retry_26 (strat2 : Strat) :
    ∃ w2, cmdCommit cfg strat2 [] (wkAt .link true 26) = .ok w2 ∧ w2.idx = (run .link true).1.idx ∧
      Store.le ctx (run .link true).1.store w2.store ∧ Store.le ctx w2.store (run .link true).1.store ∧
      (∃ t2, getPath w2.ws [[102]] = some t2 ∧ deref ctx w2.store t2 = .file (.raw "x")) ∧
      (∃ t2, getPath w2.ws [[100]] = some t2 ∧ deref ctx w2.store t2 = treeD) := by
  obtain ⟨w2, h1, h2, -, h4, h5, h6, -⟩ := cmdCommit_fault_retry (c := cc true) Sys.Example.hemp (std _)
    W_uniq run_ok 26 (noGapB_sound eval_link_true.1.2.2) strat2
  have hsc : ∀ {sp stg}, alookup W.idx sp = some stg → InScope cfg W [] sp :=
    fun h => ⟨_, WT.mem_keys_of_alookup h, .refl _⟩
  refine ⟨w2, h1, h2, h4, h5, ?_, ?_⟩
  · obtain ⟨_, t2, _, g2, _, d2⟩ := h6 [1] stage1 (hsc (stg := stage1) rfl) rfl outF List.mem_cons_self
    exact ⟨t2, g2, d2⟩
  · obtain ⟨_, t2, _, g2, _, d2⟩ := h6 [2] stage2 (hsc (stg := stage2) rfl) rfl outD List.mem_cons_self
    exact ⟨t2, g2, d2⟩

/-- **THE KNOWN FINDING (C04), file artifact.**  Position 10: the `symlink <object> ← f` of the link
strategy fails, after `rename f → <object>` succeeded.  Nothing is lost — the file system is `Safe`, the bytes
of `f` are in the cache under their digest (`cmdCommit_fault_safe`) — but the workspace path is gone and no
checksum is recorded: `NoGap` fails, and in the world read back faithfully the retry does NOT succeed:
`dud commit` reports the output missing.  (`dud checkout` cannot bring it back either: the stage file
records no checksum.) -/
theorem known_finding_file :
    showTail .link true 10 = ["unlink lock"] ∧
    Sys.Example.safeB (trackedOf [] W.ws) (fsAt .link true 10) = true ∧
    noGapB ctx W.ws (fsAt .link true 10) = false ∧
    absent (fsAt .link true 10) (.ws [[102]]) = true ∧
    Sys.Example.fileAt (fsAt .link true 10) (.obj (ctx.H (.raw "x"))) (.raw "x") = true ∧
    sums (gapWorld .link true 10).idx [1] = some [""] ∧
    filesInPlace (gapWorld .link true 10) (fsAt .link true 10) = true ∧
    isMissing (cmdCommit cfg .link [] (gapWorld .link true 10)) = true :=
  eval_link_true.2.2.2.2.1

/-- the same one call earlier (the `chmod` of the moved object fails) -/
theorem known_finding_file_chmod :
    noGapB ctx W.ws (fsAt .link true 9) = false ∧
    isMissing (cmdCommit cfg .link [] (gapWorld .link true 9)) = true :=
  eval_link_true.2.2.2.2.2.1

/-- **The same window inside a DIRECTORY artifact is silent.**  Position 24: `symlink <object> ← d/u`
fails.  `d/u` is gone from the workspace (its bytes are in the cache); in the world read back faithfully the
retry SUCCEEDS — and commits a directory `d/` with ONE entry instead of two: the stage file then records a
checksum of `d/` without `u`, while the commit that never failed records both entries. -/
theorem known_finding_dir :
    noGapB ctx W.ws (fsAt .link true 24) = false ∧
    absent (fsAt .link true 24) (.ws [[100], [117]]) = true ∧
    Sys.Example.fileAt (fsAt .link true 24) (.obj (ctx.H (.raw "u"))) (.raw "u") = true ∧
    filesInPlace (gapWorld .link true 24) (fsAt .link true 24) = true ∧
    entriesAfter (gapWorld .link true 24) = some 1 ∧ entriesAfter W = some 2 :=
  eval_link_true.2.2.2.2.2.2.1

/-- **A failing removal of a probe temp file leaves a temp file behind.**  Position 19: the
`os.Remove(<workspace temp>)` that ends the rename probe fails; `canRenameFileBetweenDirs` returns at once
and the cache temp file of the probe stays (an empty file in the cache root) — the one case
`cmdCommit_fault_tmp_free` excludes.  The lock is released and nothing is lost. -/
theorem probe_unlink_leaves_tmp :
    showTail .link true 19 = ["unlink lock"] ∧
    absent (fsAt .link true 19) (.ctmp 0) = false ∧ absent (fsAt .link true 19) .lock = true ∧
    Sys.Example.safeB (trackedOf [] W.ws) (fsAt .link true 19) = true :=
  eval_link_true.2.2.2.2.2.2.2.1

/-- … whereas a failing call in the middle of `commitBytes` has its temp file removed: position 31, the
write of the manifest of `d/` -/
theorem tail_31 : showTail .link true 31 = ["unlink ctmp1", "unlink lock"] :=
  eval_link_true.2.2.2.2.2.2.2.2

/-- **When the final `unlink <lock>` fails the project stays locked** (`cmdCommit_fault_at_unlock_keeps_lock`
instantiated): the next dud command refuses to run until the user removes `.dud/lock`. -/
theorem last_call_keeps_lock :
    (fsAt .link true ((run .link true).2.length - 1)).get .lock = some (.file Sys.Example.emp 0o600) :=
  cmdCommit_fault_at_unlock_keeps_lock (c := cc true) good Sys.Example.hemp W_uniq
    (std (fun _ => True)).cons run_ok

def storeSame (s1 s2 : Store K) : Bool :=
  s1.all (fun e => match s2.get e.1 with | some o => o.bytes ctx == e.2.bytes ctx | none => false) &&
  s2.all (fun e => match s1.get e.1 with | some o => o.bytes ctx == e.2.bytes ctx | none => false)

/-- per position: the calls after the failing one; `Safe`; `NoGap`; the retry in the world read back
(faithfully): success with the index and the cache of the unfailed run, or the error -/
def retryReport (strat : Strat) (cr : Bool) (k : Nat) : String :=
  let w' := (run strat cr).1
  let fs := fsAt strat cr k
  let pre := s!"k={k} after={showTail strat cr k} safe={Sys.Example.safeB (trackedOf [] W.ws) fs} noGap={noGapB ctx W.ws fs} lock gone={absent fs .lock}"
  match cmdCommit cfg strat [] (gapWorld strat cr k) with
  | .error e => pre ++ s!" retry: error {repr e}"
  | .ok w2 => pre ++ s!" retry ok: same index={decide (w2.idx = w'.idx)} same cache={storeSame w2.store w'.store}"

/-- positions at which the retry does not reproduce the state of the unfailed commit -/
def badPositions (strat : Strat) (cr : Bool) : List Nat :=
  (List.range ((run strat cr).2.length + 1)).filter fun k =>
    match cmdCommit cfg strat [] (gapWorld strat cr k) with
    | .error _ => true
    | .ok w2 => !(decide (w2.idx = (run strat cr).1.idx) && storeSame w2.store (run strat cr).1.store)

/-- positions at which `NoGap` fails -/
def gapPositions (strat : Strat) (cr : Bool) : List Nat :=
  (List.range ((run strat cr).2.length + 1)).filter fun k => !noGapB ctx W.ws (fsAt strat cr k)

-- link strategy, rename-able cache: the retry fails exactly in the windows [9,10] (f), [23,24] (d/u), [27,28] (d/v)
#eval (badPositions .link true, gapPositions .link true)
-- link strategy, cache on another device: exactly at the final `symlink` of each file
#eval (badPositions .link false, gapPositions .link false)
-- copy strategy: never
#eval (badPositions .copy true, gapPositions .copy true)
#eval (List.range 41).map (retryReport .link true)

end ExampleFault

/-! ## non-vacuity, second world: the two-stage pipeline of `Props/C01world.lean`

Stage B consumes the output directory `a/` of stage A (an OWNED input); `a/` contains a sub-directory.  The
fault (position 12: `rename a/y/z → <object>`) falls inside the first artifact: `a/x` is already a link. -/

namespace Example2Fault
open Dud Dud.Sys Dud.Example Dud.Retry Dud.WT Dud.WStat

def cc (cr : Bool) : CmdCfg K :=
  { cfg := Example2.cfg, isEmp := Sys.Example.isEmp, canRename := cr, encStage := ExampleCmd.encStage }

def run (strat : Strat) (cr : Bool) : World K × List (Call K) :=
  match cmdCommitGoT (cc cr) strat [] Example2.w0 with
  | .ok r => r
  | .error _ => (default, [])

theorem std (Sc : Bytes → Prop) : Std Example2.cfg Sc Example2.w0 where
  good := good
  cons := Consistent.nil _
  ok := Example2.pipelineOK Sc
  files := Example2.plainInputsFiles Sc
  apart := Example2.plainInputsApartAll Sc
  recur := fun _ _ _ hs => Example2.outputsRecursive hs
  regular := fun sp stg hsc hs b hb hn => by
    rw [Example2.inputs_owned Sc sp stg hsc hs b hb] at hn; cases hn

theorem w0_uniq : uniqNode Example2.w0.ws := by
  simp [Example2.w0, Example2.treeA, uniqNode, uniqList]

def fsAt (k : Nat) : FS K :=
  runFaultCleanup Sys.Example.emp (fsOfWorld (cc true) Example2.w0) (run .link true).2 k

theorem state_12 :
    (run .link true).2.isEmpty = false ∧
    ExampleFault.showTail' (run .link true).2 12 = ["unlink lock"] ∧
    ExampleFault.linkAt (fsAt 12) [[97], [120]] (ctx.H (.raw "x")) = true ∧
    Sys.Example.fileAt (fsAt 12) (.ws [[97], [121], [122]]) (.raw "z") = true ∧
    noGapB ctx Example2.w0.ws (fsAt 12) = true := by
  decide +kernel

theorem run_ok :
    cmdCommitGoT (cc true) .link [] Example2.w0 = .ok ((run .link true).1, (run .link true).2) := by
  have h := state_12.1
  cases hr : cmdCommitGoT (cc true) .link [] Example2.w0 with
  | ok r => simp only [run, hr]
  | error e => simp [run, hr] at h

/-- **the retry theorem instantiated**: after the fault at position 12, `dud commit` again ends with the
index of the commit that never failed and the same cache as a map -/
theorem retry_12 (strat2 : Strat) :
    ∃ w2, cmdCommit Example2.cfg strat2 []
        (faultWorld (cc true) Example2.w0 (run .link true).1 (fsAt 12)) = .ok w2 ∧
      w2.idx = (run .link true).1.idx ∧ Store.le ctx (run .link true).1.store w2.store ∧
      Store.le ctx w2.store (run .link true).1.store := by
  obtain ⟨w2, h1, h2, -, h4, h5, -⟩ := cmdCommit_fault_retry (c := cc true) Sys.Example.hemp (std _)
    w0_uniq run_ok 12 (noGapB_sound state_12.2.2.2.2) strat2
  exact ⟨w2, h1, h2, h4, h5⟩

end Example2Fault

#print axioms cmdCommit_fault_safe
#print axioms cmdCommitFaultT_safe
#print axioms cmdCommit_fault_safe_below
#print axioms cmdCommit_fault_stage_files
#print axioms cmdCommit_fault_stage_files_atomic
#print axioms cmdCommit_fault_unlocked
#print axioms cmdCommit_fault_at_unlock_keeps_lock
#print axioms cmdCommit_fault_tmp_free
#print axioms cmdCommit_fault_ctmp_free
#print axioms cmdCommit_fault_exit
#print axioms cmdCommit_fault_summary
#print axioms cmdCommit_fault_keeps_objects
#print axioms cmdCommit_fault_intact
#print axioms faultWorld_abstraction
#print axioms cmdCommit_fault_retry
#print axioms Dud.commitArt_ahead
#print axioms Dud.Retry.commit_from_resume
#print axioms Dud.Retry.commit_retry_world
#print axioms ExampleFault.fault_26_safe
#print axioms ExampleFault.retry_26
#print axioms ExampleFault.known_finding_file
#print axioms ExampleFault.known_finding_dir
#print axioms ExampleFault.probe_unlink_leaves_tmp
#print axioms ExampleFault.last_call_keeps_lock
#print axioms Example2Fault.retry_12

end Dud.Sys
