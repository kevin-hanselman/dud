import DudModel.Lemmas.StatusCommit
import DudModel.Lemmas.CheckoutEq
import DudModel.Lemmas.StoredStatus
import DudModel.Props.C16
import DudModel.Render
/-!
# C05: status tells the truth

The central notion is `UpToDate ctx s fuel isDir sum n` (DudModel/StatusSpec.lean): the node `n` is
what the store holds under the entry `(isDir, sum)` — defined from the store alone, order-insensitive
on listings.
* exact characterisation: `dirStatus_cm_iff`, `fileStatus_cm_iff'` (`ContentsMatch` and no type
  complaint ⇔ `UpToDate`), `status_complete` (no error);
* (b) `status_sound`, (c) `status_complete_tree`: the same in terms of `stored` (the tree the store
  holds) and `SameTree` (equality as finite maps) of the workspace read through its links;
* (a) `status_after_commit`, `status_after_checkout`;
* (d) `status_detects_deleted / _modified / _added / _nested / _edit`;
  `dir_upToDate_needs_manifest`: a directory is reported `ContentsMatch` only if its manifest is
  recorded and in the cache (`dir_uncommitted_not_upToDate`, and the toy witnesses
  `empty_dir_no_checksum_not_upToDate`, `empty_dir_manifest_missing_not_upToDate`);
* (e) `render_uptodate_iff`, `fileStatus_render_iff`, and two negative witnesses:
  `render_hides_missing_subdir` (flag false, rendering shows nothing stale) and
  `status_cm_link_to_manifest` (a link to the manifest object where a sub-directory should be:
  flag TRUE and rendering clean; only the spec predicate `Status.typed` sees it — this is the one
  caveat the soundness theorems carry as the hypothesis `st.typed = true`).
-/
namespace Dud

variable {κ : Type} [DecidableEq κ]

/-- **sound and complete, directories.** -/
theorem dirStatus_cm_iff {ctx : Ctx κ} {s : Store κ} {fuel : Nat} {nm : Bytes} {sum : Digest}
    {cur : Option (Node κ)} {st : Status} (h : dirStatus ctx s fuel nm false sum cur = .ok st) :
    (st.cm = true ∧ st.typed = true) ↔ ∃ n, cur = some n ∧ UpToDate ctx s fuel true sum n :=
  dirStatus_iff ctx s fuel nm sum cur st h

/-- **sound and complete, files.** -/
theorem fileStatus_cm_iff' {ctx : Ctx κ} {s : Store κ} {nm : Bytes} {sum : Digest}
    {cur : Option (Node κ)} (fuel : Nat) :
    (fileStatus ctx s nm false sum cur).cm = true ↔
      ∃ n, cur = some n ∧ UpToDate ctx s fuel false sum n := by
  rw [fileStatus_cm_iff]; simp only [UpToDate_file]

/-- on a workspace DIRECTORY the typing side condition only concerns the children -/
theorem status_sound_dir {ctx : Ctx κ} {s : Store κ} {fuel : Nat} {nm : Bytes} {sum : Digest}
    {es : List (Name × Node κ)} {st : Status}
    (h : dirStatus ctx s fuel nm false sum (some (.dir es)) = .ok st)
    (hcm : st.cm = true) (hty : typedList st.children = true) :
    UpToDate ctx s fuel true sum (.dir es) := by
  have hws : st.ws = .directory := by
    obtain ⟨_, _, _, _, _, _, _, _, rfl⟩ := dirStatus_dir_ok h
    rfl
  obtain ⟨n, hn, hu⟩ := (dirStatus_cm_iff h).mp ⟨hcm, by rw [Status.typed_eq, hws, hty]; simp⟩
  cases hn; exact hu

/-- **complete**: no error, `ContentsMatch = true`. -/
theorem status_complete {ctx : Ctx κ} {s : Store κ} {fuel : Nat} {sum : Digest} {n : Node κ}
    (nm : Bytes) (h : UpToDate ctx s fuel true sum n) :
    ∃ st, dirStatus ctx s fuel nm false sum (some n) = .ok st ∧ st.cm = true ∧ st.typed = true :=
  dirStatus_of_upToDate nm h

/-- **(b) status_sound.**  If status reports a (sorted, i.e. duplicate-free) workspace directory as
`ContentsMatch` with no type complaint, then the workspace, read through its links into the cache,
and the tree the store holds under the checksum agree as finite maps: the same entry names at every
level and equal file bytes.  No assumption on the hash or the codec is needed. -/
theorem status_sound {ctx : Ctx κ} {s : Store κ} {fuel : Nat} {nm : Bytes} {sum : Digest}
    {n t : Node κ} {st : Status} (h : dirStatus ctx s fuel nm false sum (some n) = .ok st)
    (hcm : st.cm = true) (hty : st.typed = true) (hs : n.sorted = true)
    (ht : stored ctx s fuel ⟨nm, sum, true⟩ = some t) :
    SameTree (deref ctx s n) t := by
  obtain ⟨n', hn', hu⟩ := (dirStatus_cm_iff h).mp ⟨hcm, hty⟩
  cases hn'
  exact upToDate_sameTree ctx s fuel ⟨nm, sum, true⟩ n t hu ht hs

/-- (b) for a file artifact -/
theorem status_sound_file {ctx : Ctx κ} {s : Store κ} {nm : Bytes} {sum : Digest}
    {n t : Node κ} (hcm : (fileStatus ctx s nm false sum (some n)).cm = true) (fuel : Nat)
    (ht : stored ctx s fuel ⟨nm, sum, false⟩ = some t) :
    SameTree (deref ctx s n) t := by
  obtain ⟨n', hn', hu⟩ := (fileStatus_cm_iff ctx s nm sum (some n)).mp hcm
  cases hn'
  exact fileOK_sameTree (c := ⟨nm, sum, false⟩) rfl hu ht

/-- **(c) status_complete_tree.**  Conversely, if every object needed is in the cache (`stored = some t`)
and the workspace — regular files, directories, links into the cache — read through its links equals
the stored tree, status succeeds with `ContentsMatch = true`.  (Consistent cache; manifests list
every name once.) -/
theorem status_complete_tree {ctx : Ctx κ} {s : Store κ} (hcons : Consistent ctx s)
    (hnd : ManifestsNodup ctx s) {fuel : Nat} {nm : Bytes} {sum : Digest} {n t : Node κ}
    (ht : stored ctx s fuel ⟨nm, sum, true⟩ = some t) (hst : SameTree (deref ctx s n) t) :
    ∃ st, dirStatus ctx s fuel nm false sum (some n) = .ok st ∧ st.cm = true ∧ st.typed = true :=
  status_complete nm (sameTree_upToDate ctx s hcons hnd fuel ⟨nm, sum, true⟩ n t hst ht)

theorem status_complete_tree_file {ctx : Ctx κ} {s : Store κ} (hcons : Consistent ctx s)
    {fuel : Nat} {nm : Bytes} {sum : Digest} {n t : Node κ}
    (ht : stored ctx s fuel ⟨nm, sum, false⟩ = some t) (hst : SameTree (deref ctx s n) t) :
    (fileStatus ctx s nm false sum (some n)).cm = true :=
  (fileStatus_cm_iff ctx s nm sum (some n)).mpr
    ⟨n, rfl, sameTree_fileOK hcons (c := ⟨nm, sum, false⟩) rfl hst ht⟩

section commit
omit [DecidableEq κ]

def EntriesS (ctx : Ctx κ) (es : List (Name × Node κ)) : Prop :=
  ∀ (s : Store κ) (strat : Strat), Consistent ctx s →
    ∃ es' s', commitEntries ctx strat false es [] s = .ok (es', childrenOf ctx es, s') ∧
      Consistent ctx s' ∧ Store.le ctx s s' ∧
      ∀ s'', Store.le ctx s' s'' → ∀ fuel, depthList es ≤ fuel → Pointwise ctx s'' fuel es es'

/-- a fresh commit leaves a store that holds the tree, and in such a store (and every later one)
the workspace the commit leaves is up to date -/
theorem commitEntries_S {ctx : Ctx κ} (g : Good ctx) : ∀ (es : List (Name × Node κ)),
    plainList es = true → sortedList es = true → NamesOKList ctx es → EntriesS ctx es
  | es, hp, hs, hn, s, strat, hc => by
    obtain ⟨s', h, hc', hle, hh, _⟩ :=
      recommitEntries_post g es hp hn [] s strat (compatList_nil ctx s es) hc
    exact ⟨_, s', h, hc', hle, fun s'' hle'' fuel hf =>
      pointwise_of_holds g s'' strat es ⟨hp, hs, hn, HoldsList.mono hle'' es _ hh, hf⟩⟩

/-- the workspace node left by a fresh commit is up to date in every later store -/
theorem upToDate_after_commit (ctx : Ctx κ) (g : Good ctx) (t : Node κ) (nm : Bytes)
    (hp : t.plain = true) (hs : t.sorted = true) (hn : NamesOK ctx t)
    (s : Store κ) (hc : Consistent ctx s) (strat : Strat)
    {t' : Node κ} {c' : Child} {s' : Store κ}
    (h : commitNode ctx strat t ⟨nm, "", t.isDir⟩ s = .ok (t', c', s'))
    {s'' : Store κ} (hle : Store.le ctx s' s'') (k : Nat) :
    UpToDate ctx s'' (depth t + k) t.isDir c'.sum t' := by
  obtain ⟨s1, h1, _, _, hh⟩ := commitNode_fresh g t hp hn nm s strat hc
  rw [h1] at h
  cases h
  have hu := upToDate_of_holds g s'' strat (depth t + k) (ch := newChoice) (nm := nm)
    ⟨hp, hs, hn, HoldsNode.mono hle t _ nm hh, Nat.le_add_right _ _⟩
  rwa [digestAs_new] at hu

end commit

/-- **(a) status after commit.**  Right after committing a fresh plain tree (and in every later
store) status reports the artifact as up to date, without error. -/
theorem status_after_commit (ctx : Ctx κ) (g : Good ctx) (t : Node κ) (nm : Bytes)
    (hp : t.plain = true) (hs : t.sorted = true) (hn : NamesOK ctx t)
    (s : Store κ) (hc : Consistent ctx s) (strat : Strat)
    {t' : Node κ} {c' : Child} {s' : Store κ}
    (h : commitNode ctx strat t ⟨nm, "", t.isDir⟩ s = .ok (t', c', s'))
    {s'' : Store κ} (hle : Store.le ctx s' s'') (k : Nat) :
    (t.isDir = true → ∃ st, dirStatus ctx s'' (depth t + k) nm false c'.sum (some t') = .ok st ∧
        st.cm = true ∧ st.typed = true) ∧
    (t.isDir = false → (fileStatus ctx s'' nm false c'.sum (some t')).cm = true) := by
  have hu := upToDate_after_commit ctx g t nm hp hs hn s hc strat h hle k
  constructor
  · intro hd; rw [hd] at hu; exact status_complete nm hu
  · intro hd; rw [hd] at hu
    exact (fileStatus_cm_iff' (depth t + k)).mpr ⟨t', rfl, hu⟩

/-- **(a) status after checkout.**  The node a checkout creates in an absent place is reported up
to date (manifests list every name once, as Go maps do). -/
theorem status_after_checkout {ctx : Ctx κ} {s : Store κ} {strat : Strat}
    (hnd : ManifestsNodup ctx s) {fuel : Nat} {c : Child} {r : Node κ}
    (h : checkoutNode ctx strat s fuel none c = .ok r) :
    (c.isDir = true → ∃ st, dirStatus ctx s fuel c.name false c.sum (some r) = .ok st ∧
        st.cm = true ∧ st.typed = true) ∧
    (c.isDir = false → (fileStatus ctx s c.name false c.sum (some r)).cm = true) := by
  have hu := checkoutNode_fresh_upToDate hnd fuel c r h
  constructor
  · intro hd; rw [hd] at hu; exact status_complete c.name hu
  · intro hd; rw [hd] at hu
    exact (fileStatus_cm_iff' fuel).mpr ⟨r, rfl, hu⟩

theorem dirStatus_none_cm {ctx : Ctx κ} {s : Store κ} {fuel : Nat} {nm : Bytes} {sum : Digest}
    {st : Status} (h : dirStatus ctx s fuel nm false sum none = .ok st) : st.cm = false := by
  cases fuel with
  | zero => cases h
  | succ fuel =>
    rw [dirStatus_not_dir ctx s fuel nm false sum (by nofun)] at h
    cases h; rfl

/-- what a directory status with `ContentsMatch = true` says of the manifest it was computed from
(`dirStatus_cm_step`, left to right); each `status_detects_*` below refutes one clause of it -/
theorem dirStatus_cm_inv {ctx : Ctx κ} {s : Store κ} {fuel : Nat} {nm : Bytes} {sum : Digest}
    {es : List (Name × Node κ)} {st : Status} {cs : List Child}
    (h : dirStatus ctx s (fuel + 1) nm false sum (some (.dir es)) = .ok st)
    (hm : statusManifest ctx s sum = .ok cs) (hcm : st.cm = true) :
    (∀ k ∈ cs, ∃ st', childStatus ctx s fuel es k = .ok st' ∧ st'.cm = true) ∧
      ∀ e ∈ es, (findChild cs e.1).isSome = true := by
  obtain ⟨cs', hm', hiff⟩ := dirStatus_cm_step h
  cases hm.symm.trans hm'
  exact (hiff.mp hcm).2

/-- **deleting an entry** the manifest names makes `ContentsMatch = false`. -/
theorem status_detects_deleted {ctx : Ctx κ} {s : Store κ} {fuel : Nat} {nm : Bytes} {sum : Digest}
    {es : List (Name × Node κ)} {st : Status} {cs : List Child} {k : Child}
    (h : dirStatus ctx s (fuel + 1) nm false sum (some (.dir es)) = .ok st)
    (hm : statusManifest ctx s sum = .ok cs) (hk : k ∈ cs) (hdel : alookup es k.name = none) :
    st.cm = false := by
  refine Bool.eq_false_iff.2 fun hcm => ?_
  obtain ⟨st', hst', hcm'⟩ := (dirStatus_cm_inv h hm hcm).1 k hk
  rw [childStatus, trackedOne, hdel] at hst'
  split at hst'
  · rw [dirStatus_none_cm hst'] at hcm'; cases hcm'
  · cases hst'
    obtain ⟨n, hn, _⟩ := (fileStatus_cm_iff ctx s k.name k.sum none).mp hcm'
    cases hn

/-- **replacing a file's bytes** by different bytes makes `ContentsMatch = false`. -/
theorem status_detects_modified {ctx : Ctx κ} {s : Store κ} {fuel : Nat} {nm : Bytes} {sum : Digest}
    {es : List (Name × Node κ)} {st : Status} {cs : List Child} {k : Child} {b : κ} {o : Obj κ}
    (h : dirStatus ctx s (fuel + 1) nm false sum (some (.dir es)) = .ok st)
    (hm : statusManifest ctx s sum = .ok cs) (hk : k ∈ cs) (hf : k.isDir = false)
    (hcur : alookup es k.name = some (.file b)) (ho : s.get k.sum = some o)
    (hne : b ≠ o.bytes ctx) : st.cm = false := by
  refine Bool.eq_false_iff.2 fun hcm => ?_
  obtain ⟨st', hst', hcm'⟩ := (dirStatus_cm_inv h hm hcm).1 k hk
  rw [childStatus, trackedOne, if_neg (by simp [hf]), hcur] at hst'
  cases hst'
  obtain ⟨n, hn, _, o', ho', hor⟩ := (fileStatus_cm_iff ctx s k.name k.sum _).mp hcm'
  cases hn
  cases ho.symm.trans ho'
  rcases hor with h1 | h1
  · exact hne (Node.file.inj h1)
  · cases h1

/-- **adding an entry** (a file, a link, an empty directory, anything) the manifest does not name
makes `ContentsMatch = false`. -/
theorem status_detects_added {ctx : Ctx κ} {s : Store κ} {fuel : Nat} {nm : Bytes} {sum : Digest}
    {es : List (Name × Node κ)} {st : Status} {cs : List Child} {e : Name × Node κ}
    (h : dirStatus ctx s (fuel + 1) nm false sum (some (.dir es)) = .ok st)
    (hm : statusManifest ctx s sum = .ok cs) (he : e ∈ es) (hnew : findChild cs e.1 = none) :
    st.cm = false := by
  refine Bool.eq_false_iff.2 fun hcm => ?_
  have := (dirStatus_cm_inv h hm hcm).2 e he
  rw [hnew] at this; cases this

/-- **an edit deeper down** propagates: a sub-directory entry whose own status is not
`ContentsMatch` makes the parent's `ContentsMatch = false`. -/
theorem status_detects_nested {ctx : Ctx κ} {s : Store κ} {fuel : Nat} {nm : Bytes} {sum : Digest}
    {es : List (Name × Node κ)} {st st' : Status} {cs : List Child} {k : Child}
    (h : dirStatus ctx s (fuel + 1) nm false sum (some (.dir es)) = .ok st)
    (hm : statusManifest ctx s sum = .ok cs) (hk : k ∈ cs) (hd : k.isDir = true)
    (hsub : dirStatus ctx s fuel k.name false k.sum (alookup es k.name) = .ok st')
    (hcm' : st'.cm = false) : st.cm = false := by
  refine Bool.eq_false_iff.2 fun hcm => ?_
  obtain ⟨st2, hst2, hcm2⟩ := (dirStatus_cm_inv h hm hcm).1 k hk
  rw [childStatus, trackedOne, if_pos hd, hsub] at hst2
  cases hst2
  rw [hcm'] at hcm2; cases hcm2

/-- **a directory is up to date only if its manifest is recorded and in the cache** (the repaired
`dirArtifactStatus`: `ContentsMatch` starts from `HasChecksum && ChecksumInCache`).  Holds for every
fuel, recursive or not, and whatever sits in the workspace. -/
theorem dir_upToDate_needs_manifest {ctx : Ctx κ} {s : Store κ} {fuel : Nat} {nm : Bytes}
    {noRec : Bool} {sum : Digest} {cur : Option (Node κ)} {st : Status}
    (h : dirStatus ctx s fuel nm noRec sum cur = .ok st) (hcm : st.cm = true) :
    hasSum sum = true ∧ s.has sum = true := by
  cases fuel with
  | zero => cases h
  | succ fuel =>
    by_cases hd : ∃ es, cur = some (.dir es)
    · obtain ⟨es, rfl⟩ := hd
      obtain ⟨_, _, _, _, _, _, _, _, rfl⟩ := dirStatus_dir_ok h
      simp only [Bool.and_eq_true] at hcm
      exact hcm.1.1
    · rw [dirStatus_not_dir ctx s fuel nm noRec sum fun es e => hd ⟨es, e⟩] at h
      cases h
      exact (quick_cm.1 hcm).2

/-- consequently a directory artifact that was never committed (`sum = ""`) is never reported
up to date, however empty the workspace directory is -/
theorem dir_uncommitted_not_upToDate {ctx : Ctx κ} {s : Store κ} {fuel : Nat} {nm : Bytes}
    {noRec : Bool} {cur : Option (Node κ)} {st : Status}
    (h : dirStatus ctx s fuel nm noRec "" cur = .ok st) : st.cm = false := by
  cases hcm : st.cm with
  | false => rfl
  | true =>
    have := (dir_upToDate_needs_manifest h hcm).1
    rw [hasSum_empty] at this; cases this

/-- in `UpToDate` terms: whatever is not up to date is never reported clean and well typed -/
theorem status_detects_edit {ctx : Ctx κ} {s : Store κ} {fuel : Nat} {nm : Bytes} {sum : Digest}
    {n : Node κ} {st : Status} (h : dirStatus ctx s fuel nm false sum (some n) = .ok st)
    (hne : ¬ UpToDate ctx s fuel true sum n) : st.cm = false ∨ st.typed = false := by
  cases hcm : st.cm with
  | false => exact Or.inl rfl
  | true =>
    cases hty : st.typed with
    | false => exact Or.inr rfl
    | true =>
      obtain ⟨n', hn', hu⟩ := (dirStatus_cm_iff h).mp ⟨hcm, hty⟩
      cases hn'; exact absurd hu hne

section render
omit [DecidableEq κ]

/-- the three renderings that claim "up to date" -/
def Status.saysUpToDate (st : Status) : Prop :=
  st.leafString = some "up-to-date" ∨ st.leafString = some "up-to-date (link)" ∨
    st.leafString = some "up-to-date (not cached)"

def leafOf (isDir skip : Bool) (ws : WS) (has inCache cm : Bool) : Option String :=
  Status.leafString ⟨[], isDir, skip, ws, has, inCache, cm, []⟩

theorem leafString_eq (st : Status) :
    st.leafString = leafOf st.isDir st.skip st.ws st.has st.inCache st.cm := by cases st; rfl

theorem leafOf_uptodate_iff (isDir skip : Bool) (ws : WS) (has inCache cm : Bool) :
    (leafOf isDir skip ws has inCache cm = some "up-to-date" ∨
      leafOf isDir skip ws has inCache cm = some "up-to-date (link)" ∨
      leafOf isDir skip ws has inCache cm = some "up-to-date (not cached)") ↔
      (isDir = false ∧ has = true ∧ cm = true ∧
        ((ws = .regular ∧ (inCache = true ∨ skip = true)) ∨
         (ws = .link ∧ skip = false ∧ inCache = true))) := by
  revert skip has inCache cm
  cases ws <;> cases isDir <;> decide +kernel

/-- **(e)** a non-directory status is rendered "up-to-date…" exactly when it is a file artifact
with a checksum whose `ContentsMatch` holds, on a regular file (object cached, or artifact skipped)
or — not skipped — on a link with the object cached. -/
theorem render_uptodate_iff (st : Status) :
    st.saysUpToDate ↔
      (st.isDir = false ∧ st.has = true ∧ st.cm = true ∧
        ((st.ws = .regular ∧ (st.inCache = true ∨ st.skip = true)) ∨
         (st.ws = .link ∧ st.skip = false ∧ st.inCache = true))) := by
  unfold Status.saysUpToDate
  rw [leafString_eq]
  exact leafOf_uptodate_iff ..

theorem render_leaf (st : Status) (str : String) (h : st.leafString = some str) : st.render = str := by
  simp [Status.render, h]

/-- for the statuses `fileStatus` computes (not skipped) the rendering is truthful:
"up-to-date…" iff `ContentsMatch` -/
theorem fileStatus_render_iff [DecidableEq κ] (ctx : Ctx κ) (s : Store κ) (nm : Bytes)
    (sum : Digest) (cur : Option (Node κ)) :
    (fileStatus ctx s nm false sum cur).saysUpToDate ↔ (fileStatus ctx s nm false sum cur).cm = true := by
  rw [render_uptodate_iff]
  constructor
  · exact fun h => h.2.2.1
  · intro hcm
    obtain ⟨n, rfl, hh, o, ho, hn⟩ := (fileStatus_cm_iff ctx s nm sum cur).mp hcm
    have hhas : s.has sum = true := by simp [Store.has, ho]
    rcases hn with rfl | rfl
    · refine ⟨?_, ?_, hcm, Or.inl ⟨?_, Or.inl ?_⟩⟩ <;> simp [fileStatus, quick, hh, hhas, ho, wsOf]
    · refine ⟨?_, ?_, hcm, Or.inr ⟨?_, ?_, ?_⟩⟩ <;> simp [fileStatus, quick, hh, hhas, wsOf]

end render

namespace C05
def ctx : Ctx Nat :=
  { H := fun n => if n = 0 then "aaa" else if n = 1 then "bbb" else "ccc"
    encMan := fun _ _ _ => 99, decBlob := fun _ => none, reload := fun _ c => c
    nameOK := fun _ => true }
/-- `mmm` = {x ↦ aaa, s/ ↦ nnn}, `nnn` = {z ↦ bbb} -/
def store : Store Nat :=
  [("aaa", .blob 0), ("bbb", .blob 1),
   ("mmm", .man .new [] [⟨[120], "aaa", false⟩, ⟨[115], "nnn", true⟩]),
   ("nnn", .man .new [115] [⟨[122], "bbb", false⟩])]
/-- the workspace `store` describes under `mmm` (x as a link, s/z as a copy) -/
def good : Node Nat := .dir [([120], .link (.obj "aaa")), ([115], .dir [([122], .file 1)])]
end C05

/-- for the concrete witnesses below: the run and all the facts claimed of its result are checked
by ONE kernel evaluation (`decide +kernel`) instead of one evaluation of the run per conjunct -/
theorem exists_ok_of_decide {ε α : Type} {x : Except ε α} {p : α → Prop} [DecidablePred p]
    (h : (match x with | .ok a => decide (p a) | .error _ => false) = true) :
    ∃ a, x = .ok a ∧ p a := by
  cases x with
  | error e => cases h
  | ok a => exact ⟨a, rfl, of_decide_eq_true h⟩

-- a theorem beside the `example` of the same statement: the examples after it use the one evaluation
theorem C05.status_good : ∃ st, dirStatus ctx store 3 [] false "mmm" (some good) = .ok st ∧
    st.cm = true ∧ st.typed = true ∧
    st.render = "2x directory, 1x up-to-date, 1x up-to-date (link)" :=
  exists_ok_of_decide (by decide +kernel)
open C05 in
example : ∃ st, dirStatus ctx store 3 [] false "mmm" (some good) = .ok st ∧ st.cm = true ∧
    st.typed = true ∧ st.render = "2x directory, 1x up-to-date, 1x up-to-date (link)" :=
  status_good
open C05 in
example : UpToDate ctx store 3 true "mmm" good := by
  obtain ⟨st, hst, hcm, hty, _⟩ := status_good
  obtain ⟨n, hn, hu⟩ := (dirStatus_cm_iff hst).mp ⟨hcm, hty⟩
  cases hn; exact hu

open C05 in
-- (b)/(c): the stored tree, and the hypotheses of `status_sound` on a workspace listed in ANOTHER
-- order than the manifest and mixing a link with a copy
example : stored ctx store 3 ⟨[], "mmm", true⟩
    = some (.dir [([120], .file 0), ([115], .dir [([122], .file 1)])]) := rfl
theorem C05.status_reordered : ∃ st, dirStatus ctx store 3 [] false "mmm"
      (some (.dir [([115], .dir [([122], .file 1)]), ([120], .link (.obj "aaa"))])) = .ok st ∧
    st.cm = true ∧ st.typed = true ∧
    (Node.dir [([115], .dir [([122], .file 1)]), ([120], .link (.obj "aaa"))] : Node Nat).sorted = true :=
  exists_ok_of_decide (by decide +kernel)
open C05 in
example : ∃ st, dirStatus ctx store 3 [] false "mmm"
      (some (.dir [([115], .dir [([122], .file 1)]), ([120], .link (.obj "aaa"))])) = .ok st ∧
    st.cm = true ∧ st.typed = true ∧
    (Node.dir [([115], .dir [([122], .file 1)]), ([120], .link (.obj "aaa"))] : Node Nat).sorted = true :=
  status_reordered
open C05 in
example : SameTree (deref ctx store (.dir [([115], .dir [([122], .file 1)]), ([120], .link (.obj "aaa"))]))
    (.dir [([120], .file 0), ([115], .dir [([122], .file 1)])]) :=
  let ⟨_, h, hcm, hty, hs⟩ := status_reordered
  status_sound h hcm hty hs rfl
namespace C05
/-- a consistent toy cache: every object sits under the hash of its bytes
(`mm2` = {x ↦ aaa, y ↦ bbb}, all manifests encode to the bytes 99) -/
def ctx2 : Ctx Nat :=
  { H := fun n => if n = 0 then "aaa" else if n = 1 then "bbb" else if n = 99 then "mm2" else "ccc"
    encMan := fun _ _ _ => 99, decBlob := fun _ => none, reload := fun _ c => c
    nameOK := fun _ => true }
def store2 : Store Nat :=
  [("aaa", .blob 0), ("bbb", .blob 1),
   ("mm2", .man .new [] [⟨[120], "aaa", false⟩, ⟨[121], "bbb", false⟩])]
theorem store2_consistent : Consistent ctx2 store2 := by
  intro d o h
  have hmem := alookup_mem h
  simp only [store2, List.mem_cons, Prod.mk.injEq, List.not_mem_nil, or_false] at hmem
  rcases hmem with ⟨rfl, rfl⟩ | ⟨rfl, rfl⟩ | ⟨rfl, rfl⟩ <;> rfl
theorem store2_nodup : ManifestsNodup ctx2 store2 := manifestsNodup_of_check (by decide)
end C05
open C05 in
-- (c): workspace in another order, one link and one copy; hypotheses hold, conclusion computed too
example : ∃ st, dirStatus ctx2 store2 2 [] false "mm2"
    (some (.dir [([121], .link (.obj "bbb")), ([120], .file 0)])) = .ok st ∧ st.cm = true ∧
    st.typed = true :=
  status_complete_tree store2_consistent store2_nodup
    (t := .dir [([120], .file 0), ([121], .file 1)]) rfl
    (by
      simp only [deref, derefList, store2, Store.get, alookup, Obj.bytes, SameTree, SameList]
      refine ⟨_, rfl, ⟨⟨_, rfl, rfl⟩, ⟨_, rfl, rfl⟩, trivial⟩, ?_⟩
      intro e he
      simp only [List.mem_cons, List.not_mem_nil, or_false] at he
      rcases he with rfl | rfl <;> rfl)
open C05 in
/-- **Negative witness (rendering is weaker than the flag).**  The manifest names a sub-directory
`s/` that is absent from the workspace: `ContentsMatch = false`, yet the human rendering shows no
stale word — the missing directory is counted as "1x empty directory". -/
theorem render_hides_missing_subdir :
    ∃ st, dirStatus ctx store 3 [] false "mmm" (some (.dir [([120], .file 0)])) = .ok st ∧
      st.cm = false ∧ st.render = "1x directory, 1x empty directory, 1x up-to-date" :=
  exists_ok_of_decide (by decide +kernel)

open C05 in
/-- **Negative witness (the flag lies).**  A link to the manifest object where the directory `s/`
should be: `ContentsMatch = true` for the whole artifact although the workspace has no directory
`s/` at all, and the rendering is the same harmless-looking line as above (`dirStatusCounts` never
calls `String()` on a directory child, so its "incorrect file type" is not shown).  Only the spec
predicate `Status.typed` sees it. -/
theorem status_cm_link_to_manifest :
    ∃ st, dirStatus ctx store 3 [] false "mmm"
        (some (.dir [([120], .file 0), ([115], .link (.obj "nnn"))])) = .ok st ∧
      st.cm = true ∧ st.typed = false ∧
      st.render = "1x directory, 1x empty directory, 1x up-to-date" :=
  exists_ok_of_decide (by decide +kernel)

open C05 in
-- the three edits of (d), concretely: modified bytes, deleted entry, added empty directory
example : ∃ st, dirStatus ctx store 3 [] false "mmm"
    (some (.dir [([120], .file 7), ([115], .dir [([122], .file 1)])])) = .ok st ∧ st.cm = false :=
  exists_ok_of_decide (by decide +kernel)
open C05 in
example : ∃ st, dirStatus ctx store 3 [] false "mmm"
    (some (.dir [([120], .file 0), ([115], .dir [])])) = .ok st ∧ st.cm = false :=
  exists_ok_of_decide (by decide +kernel)
open C05 in
example : ∃ st, dirStatus ctx store 3 [] false "mmm"
    (some (.dir [([120], .file 0), ([115], .dir [([122], .file 1)]), ([101], .dir [])])) = .ok st ∧
    st.cm = false := exists_ok_of_decide (by decide +kernel)
open C05 in
/-- **repaired behaviour, concretely (1).**  An EMPTY workspace directory whose artifact has no
checksum (never committed): `ContentsMatch = false`.  Before the repair of `dirArtifactStatus`
(`ContentsMatch` started from `true`) this was `true`. -/
theorem empty_dir_no_checksum_not_upToDate :
    ∃ st, dirStatus ctx store 3 [] false "" (some (.dir [])) = .ok st ∧ st.cm = false ∧
      st.has = false ∧ st.inCache = false ∧ st.children = [] ∧ st.render = "1x empty directory" :=
  exists_ok_of_decide (by decide +kernel)
open C05 in
/-- **repaired behaviour, concretely (2).**  The same empty directory with a well-formed checksum
whose manifest is NOT in the store: `ContentsMatch = false` (was `true` before the repair). -/
theorem empty_dir_manifest_missing_not_upToDate :
    ∃ st, dirStatus ctx store 3 [] false "zzz" (some (.dir [])) = .ok st ∧ st.cm = false ∧
      st.has = true ∧ st.inCache = false ∧ st.children = [] ∧ st.render = "1x empty directory" :=
  exists_ok_of_decide (by decide +kernel)
open C05 in
theorem C05.store_nodup : ManifestsNodup ctx store := manifestsNodup_of_check (by decide)
theorem C05.checkout_store : checkoutNode ctx .copy store 3 none ⟨[], "mmm", true⟩
    = .ok (.dir [([120], .file 0), ([115], .dir [([122], .file 1)])]) := by rfl
open C05 in
example : ∃ st, dirStatus ctx store 3 [] false "mmm"
    (some (.dir [([120], .file 0), ([115], .dir [([122], .file 1)])])) = .ok st ∧ st.cm = true :=
  let ⟨st, h, hcm, _⟩ := (status_after_checkout store_nodup checkout_store).1 rfl
  ⟨st, h, hcm⟩
open C05 in
example : checkoutNode ctx .copy store 3 none ⟨[], "mmm", true⟩
    = .ok (.dir [([120], .file 0), ([115], .dir [([122], .file 1)])]) := checkout_store

-- (a): all hypotheses of `status_after_commit` hold for the example tree of C01
open Example in
example (strat : Strat) : ∃ t' c' s', commitNode ctx strat tree ⟨[116], "", true⟩ [] = .ok (t', c', s') ∧
    ∃ st, dirStatus ctx s' 3 [116] false c'.sum (some t') = .ok st ∧ st.cm = true := by
  obtain ⟨t', c', s', h, _⟩ :=
    commit_fresh_roundtrip ctx good tree [116] tree_plain tree_sorted tree_names [] empty_consistent
      strat
  obtain ⟨st, hst, hcm, _⟩ := (status_after_commit ctx good tree [116] tree_plain tree_sorted tree_names
    [] empty_consistent strat h (Store.le_refl _ _) 0).1 rfl
  rw [tree_depth] at hst
  exact ⟨t', c', s', h, st, hst, hcm⟩

end Dud

#print axioms Dud.dirStatus_cm_iff
#print axioms Dud.fileStatus_cm_iff'
#print axioms Dud.status_sound_dir
#print axioms Dud.status_complete
#print axioms Dud.status_sound
#print axioms Dud.status_sound_file
#print axioms Dud.status_complete_tree
#print axioms Dud.status_complete_tree_file
#print axioms Dud.upToDate_after_commit
#print axioms Dud.status_after_commit
#print axioms Dud.status_after_checkout
#print axioms Dud.status_detects_deleted
#print axioms Dud.status_detects_modified
#print axioms Dud.status_detects_added
#print axioms Dud.status_detects_nested
#print axioms Dud.status_detects_edit
#print axioms Dud.dir_upToDate_needs_manifest
#print axioms Dud.dir_uncommitted_not_upToDate
#print axioms Dud.empty_dir_no_checksum_not_upToDate
#print axioms Dud.empty_dir_manifest_missing_not_upToDate
#print axioms Dud.render_uptodate_iff
#print axioms Dud.fileStatus_render_iff
#print axioms Dud.render_hides_missing_subdir
#print axioms Dud.status_cm_link_to_manifest
