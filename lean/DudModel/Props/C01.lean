import DudModel.Lemmas.Codec
import DudModel.Lemmas.Recommit
/-!
# C01 — committing a fresh tree and checking it out again is the identity

`commit_fresh_roundtrip`: for a plain, sorted tree with safe names, `commitNode` with a fresh child
artifact (no recorded checksum) succeeds, records `treeDigest`, keeps the store consistent and
growing, leaves the logical content of the workspace unchanged, and from every later
store `checkoutNode` into an empty place rebuilds the tree.

The same for `LocalCache.Commit` / `LocalCache.Checkout` of a top-level artifact: (c1)
`commitArt_dir_roundtrip`, a recursive directory artifact; (c2) `commitArt_noRec_roundtrip`, one with
`DisableRecursion` (what comes back is the listing without its sub-directories, `dropSubdirs`); (c3)
`commitArt_file_roundtrip`, `commitArt_file_skip`, a file artifact without and with `skip-cache`.
`commit_error_on_invalid_name`: an entry name commit does not accept makes the commit fail.
-/
namespace Dud

variable {κ : Type}

/-- Post-condition of `commitEntries` with an empty old manifest. -/
def EntriesPost (ctx : Ctx κ) (es : List (Name × Node κ)) : Prop :=
  ∀ (s : Store κ) (strat : Strat), Consistent ctx s →
    ∃ es' s', commitEntries ctx strat false es [] s = .ok (es', childrenOf ctx es, s') ∧
      Consistent ctx s' ∧ Store.le ctx s s' ∧ derefList ctx s' es' = es ∧
      ∀ s'', Store.le ctx s' s'' → ∀ (strat2 : Strat) (fuel : Nat),
        depthList es ≤ fuel → ∀ acc : List (Name × Node κ), (∀ p ∈ acc, ∀ e ∈ es, p.1 ≠ e.1) →
          ∃ res, checkoutChildren (checkoutNode ctx strat2 s'' fuel) acc (childrenOf ctx es)
              = .ok (acc ++ res) ∧ derefList ctx s'' res = es

/-- **a fresh commit** (no recorded checksum) of a plain tree: the exact result, and the new cache
holds the tree; `Re.recommitNodeL_post` at `Re.RecommitOK.empty` -/
theorem commitNode_fresh {ctx : Ctx κ} (g : Good ctx) (t : Node κ) (hp : t.plain = true)
    (hn : NamesOK ctx t) (nm : Bytes) (s : Store κ) (strat : Strat) (hc : Consistent ctx s) :
    ∃ s', commitNode ctx strat t ⟨nm, "", t.isDir⟩ s =
        .ok (wsAfter ctx strat t, ⟨nm, treeDigest ctx nm t, t.isDir⟩, s') ∧
      Consistent ctx s' ∧ Store.le ctx s s' ∧ HoldsNode ctx s' newChoice nm t := by
  have h := Re.recommitNodeL_post g t hn ⟨nm, "", t.isDir⟩ s strat rfl
    (by rw [deref_plain ctx s t hp]; exact hp) (Re.RecommitOK.empty ctx s t) hc
  rw [deref_plain ctx s t hp] at h
  obtain ⟨s', h, hc', hle, hh, _⟩ := h
  exact ⟨s', h, hc', hle, hh⟩

theorem commitEntries_post {ctx : Ctx κ} (g : Good ctx) : ∀ (es : List (Name × Node κ)),
    plainList es = true → sortedList es = true → NamesOKList ctx es → EntriesPost ctx es
  | es, hp, hs, hn => by
    intro s strat hc
    have hd0 : derefList ctx s es = es := derefList_plain ctx s es hp
    obtain ⟨es', s', h, hc', hle, hh, hd⟩ := Re.recommitEntriesL_post g es hn [] s strat
      (by rw [hd0]; exact hp) (fun s1 _ _ => Re.readableList_nil ctx s1 es) hc
    rw [hd0] at h hh hd
    refine ⟨es', s', h, hc', hle, hd, fun s'' hle'' strat2 fuel hf acc hacc => ?_⟩
    have hh'' := HoldsList.mono hle'' es _ hh
    have hco := checkoutChildren_holds g s'' strat2 es newChoice fuel hp hs hn hh'' hf acc hacc
    rw [childrenAs_new] at hco
    refine ⟨wsAfterList ctx strat2 es, hco, ?_⟩
    cases strat2 with
    | link => exact derefList_linked es _ hp hh''
    | copy => exact derefList_plain ctx s'' es hp

/-- **C01.** Commit of a fresh plain tree, then checkout anywhere later, is the identity. -/
theorem commit_fresh_roundtrip (ctx : Ctx κ) (g : Good ctx) (t : Node κ) (nm : Bytes)
    (hp : t.plain = true) (hs : t.sorted = true) (hn : NamesOK ctx t)
    (s : Store κ) (hc : Consistent ctx s) (strat : Strat) :
    ∃ t' c' s', commitNode ctx strat t ⟨nm, "", t.isDir⟩ s = .ok (t', c', s') ∧
      c'.name = nm ∧ c'.isDir = t.isDir ∧ c'.sum = treeDigest ctx nm t ∧
      Consistent ctx s' ∧ Store.le ctx s s' ∧ deref ctx s' t' = t ∧
      ∀ s'', Store.le ctx s' s'' → ∀ (strat2 : Strat) (k : Nat),
        ∃ r, checkoutNode ctx strat2 s'' (depth t + k) none c' = .ok r ∧ deref ctx s'' r = t := by
  obtain ⟨s', h, hc', hle, hh⟩ := commitNode_fresh g t hp hn nm s strat hc
  refine ⟨_, _, s', h, rfl, rfl, rfl, hc', hle, deref_wsAfter hp hh strat,
    fun s'' hle'' strat2 k => ?_⟩
  have hh'' := HoldsNode.mono hle'' t _ _ hh
  have hco := checkoutNode_holds g s'' strat2 t newChoice nm (depth t + k) hp hs hn hh'' (by omega)
  rw [digestAs_new] at hco
  exact ⟨wsAfter ctx strat2 t, hco, deref_wsAfter hp hh'' strat2⟩

/-- Commit leaves the logical content of the workspace unchanged. -/
theorem commit_preserves_logical (ctx : Ctx κ) (g : Good ctx) (t : Node κ) (nm : Bytes)
    (hp : t.plain = true) (hs : t.sorted = true) (hn : NamesOK ctx t)
    (s : Store κ) (hc : Consistent ctx s) (strat : Strat) :
    ∃ t' c' s', commitNode ctx strat t ⟨nm, "", t.isDir⟩ s = .ok (t', c', s') ∧
      deref ctx s' t' = t := by
  obtain ⟨t', c', s', h, _, _, _, _, _, hd, _⟩ := commit_fresh_roundtrip ctx g t nm hp hs hn s hc strat
  exact ⟨t', c', s', h, hd⟩

/-- The recorded checksum is `treeDigest ctx nm t`: a function of the name and the tree only,
whatever the store and the checkout strategy. -/
theorem commit_digest_is_treeDigest (ctx : Ctx κ) (g : Good ctx) (t : Node κ) (nm : Bytes)
    (hp : t.plain = true) (hs : t.sorted = true) (hn : NamesOK ctx t)
    (s : Store κ) (hc : Consistent ctx s) (strat : Strat)
    {t' : Node κ} {c' : Child} {s' : Store κ}
    (h : commitNode ctx strat t ⟨nm, "", t.isDir⟩ s = .ok (t', c', s')) :
    c'.sum = treeDigest ctx nm t := by
  obtain ⟨t₁, c₁, s₁, h₁, _, _, hsum, _⟩ := commit_fresh_roundtrip ctx g t nm hp hs hn s hc strat
  rw [h₁] at h
  cases h
  exact hsum

/-- Two fresh commits of the same tree under the same name record the same checksum. -/
theorem commit_digest_independent (ctx : Ctx κ) (g : Good ctx) (t : Node κ) (nm : Bytes)
    (hp : t.plain = true) (hs : t.sorted = true) (hn : NamesOK ctx t)
    (s₁ s₂ : Store κ) (hc₁ : Consistent ctx s₁) (hc₂ : Consistent ctx s₂) (strat₁ strat₂ : Strat)
    {t₁ t₂ : Node κ} {c₁ c₂ : Child} {s₁' s₂' : Store κ}
    (h₁ : commitNode ctx strat₁ t ⟨nm, "", t.isDir⟩ s₁ = .ok (t₁, c₁, s₁'))
    (h₂ : commitNode ctx strat₂ t ⟨nm, "", t.isDir⟩ s₂ = .ok (t₂, c₂, s₂')) :
    c₁.sum = c₂.sum := by
  rw [commit_digest_is_treeDigest ctx g t nm hp hs hn s₁ hc₁ strat₁ h₁,
    commit_digest_is_treeDigest ctx g t nm hp hs hn s₂ hc₂ strat₂ h₂]

/-- the listing a non-recursive directory artifact tracks: sub-directories are left out -/
def dropSubdirs (es : List (Name × Node κ)) : List (Name × Node κ) :=
  es.filter (fun e => !e.2.isDir)

theorem checkoutArt_noskip {ctx : Ctx κ} {strat : Strat} {fuel : Nat} {a : Art} {d : Digest}
    {s : Store κ} {r : Node κ} (hskip : a.skip = false)
    (h : checkoutNode ctx strat s fuel none ⟨a.path, d, a.isDir⟩ = .ok r) :
    checkoutArt ctx strat fuel { a with sum := d } none s = .ok (some r) := by
  simp [checkoutArt, hskip, Art.child, h]

/-- **C01, directory artifact (c1).** `LocalCache.Commit` of a fresh recursive directory artifact
records `treeDigest`, and `LocalCache.Checkout` of the committed artifact into an absent
workspace, from any later store, rebuilds the tree. -/
theorem commitArt_dir_roundtrip (ctx : Ctx κ) (g : Good ctx) (a : Art)
    (es : List (Name × Node κ))
    (hd : a.isDir = true) (hsum : a.sum = "") (hskip : a.skip = false) (hnr : a.noRec = false)
    (hp : (Node.dir es).plain = true) (hs : (Node.dir es).sorted = true)
    (hn : NamesOK ctx (.dir es)) (s : Store κ) (hc : Consistent ctx s) (strat : Strat) :
    ∃ t' d s', commitArt ctx strat a (some (.dir es)) s = .ok (t', d, s') ∧
      d = treeDigest ctx a.path (.dir es) ∧
      Consistent ctx s' ∧ Store.le ctx s s' ∧ deref ctx s' t' = .dir es ∧
      ∀ s'', Store.le ctx s' s'' → ∀ (strat2 : Strat) (fuel : Nat), depth (Node.dir es) ≤ fuel →
        ∃ r, checkoutArt ctx strat2 fuel { a with sum := d } none s'' = .ok (some r) ∧
          deref ctx s'' r = .dir es := by
  obtain ⟨t', ⟨_, d, _⟩, s', hcn, rfl, rfl, hdig, hc', hle, hder, hco⟩ :=
    commit_fresh_roundtrip ctx g (.dir es) a.path hp hs hn s hc strat
  have hca : commitArt ctx strat a (some (.dir es)) s = .ok (t', d, s') := by
    rw [commitArt_eq_commitNode ctx strat (n := .dir es) hd.symm (fun _ => hnr)
      (fun h => by rw [hd] at h; cases h), Art.child, hsum, hd]
    exact congrArg _ hcn
  refine ⟨_, _, _, hca, hdig, hc', hle, hder, ?_⟩
  intro s'' hle'' strat2 fuel hfuel
  obtain ⟨r, hr, hdr⟩ := hco s'' hle'' strat2 (fuel - depth (Node.dir es))
  have hfe : depth (Node.dir es) + (fuel - depth (Node.dir es)) = fuel := by omega
  rw [hfe] at hr
  exact ⟨r, checkoutArt_noskip hskip (by rw [hd]; exact hr), hdr⟩

/-- **C01, non-recursive directory artifact (c2), weakest hypotheses**: only the tracked part of
the listing has to be sorted and to have safe names. -/
theorem commitArt_noRec_roundtrip' (ctx : Ctx κ) (g : Good ctx) (a : Art)
    (es : List (Name × Node κ))
    (hd : a.isDir = true) (hsum : a.sum = "") (hskip : a.skip = false) (hnr : a.noRec = true)
    (hp : (Node.dir es).plain = true) (hs : (Node.dir (dropSubdirs es)).sorted = true)
    (hn : NamesOK ctx (.dir (dropSubdirs es))) (s : Store κ) (hc : Consistent ctx s)
    (strat : Strat) :
    ∃ t' d s', commitArt ctx strat a (some (.dir es)) s = .ok (t', d, s') ∧
      d = treeDigest ctx a.path (.dir (dropSubdirs es)) ∧
      Consistent ctx s' ∧ Store.le ctx s s' ∧ deref ctx s' t' = .dir es ∧
      ∀ s'', Store.le ctx s' s'' → ∀ (strat2 : Strat) (fuel : Nat),
        depth (Node.dir (dropSubdirs es)) ≤ fuel →
        ∃ r, checkoutArt ctx strat2 fuel { a with sum := d } none s'' = .ok (some r) ∧
          deref ctx s'' r = .dir (dropSubdirs es) := by
  have hpl : plainList es = true := by simpa [Node.plain] using hp
  have hp' : (Node.dir (dropSubdirs es)).plain = true := by
    simp only [Node.plain]
    exact plainList_filter _ es hpl
  obtain ⟨t', ⟨_, d, _⟩, s', hcn, rfl, rfl, hdig, hc', hle, hder, hco⟩ :=
    commit_fresh_roundtrip ctx g (.dir (dropSubdirs es)) a.path hp' hs hn s hc strat
  replace hcn : commitNode ctx strat (.dir (dropSubdirs es)) ⟨a.path, "", true⟩ s =
    .ok (t', ⟨a.path, d, true⟩, s') := hcn
  have hca := commitArt_noRec ctx strat hd hnr es s
  rw [Art.child, hsum, hd, ← dropSubdirs, hcn] at hca
  obtain ⟨rfl, _⟩ := (commit_shape ctx strat).1 _ _ _ _ _ _ hcn
  refine ⟨_, _, _, hca, hdig, hc', hle, ?_, ?_⟩
  · rw [wsAfter_dir] at hder
    simp only [deref, Node.dir.injEq] at hder ⊢
    have hpf : plainList (dropSubdirs es) = true := plainList_filter _ es hpl
    rw [derefList_wsAfterSk s' s' es (fun _ _ _ => rfl) (hder.trans (derefList_plain ctx s' _ hpf).symm),
      derefList_plain ctx s' es hpl]
  · intro s'' hle'' strat2 fuel hfuel
    obtain ⟨r, hr, hdr⟩ := hco s'' hle'' strat2 (fuel - depth (Node.dir (dropSubdirs es)))
    have hfe : depth (Node.dir (dropSubdirs es)) + (fuel - depth (Node.dir (dropSubdirs es)))
        = fuel := by omega
    rw [hfe] at hr
    exact ⟨r, checkoutArt_noskip hskip (by rw [hd]; exact hr), hdr⟩

/-- **C01, non-recursive directory artifact (c2)**, hypotheses on the whole tree. -/
theorem commitArt_noRec_roundtrip (ctx : Ctx κ) (g : Good ctx) (a : Art)
    (es : List (Name × Node κ))
    (hd : a.isDir = true) (hsum : a.sum = "") (hskip : a.skip = false) (hnr : a.noRec = true)
    (hp : (Node.dir es).plain = true) (hs : (Node.dir es).sorted = true)
    (hn : NamesOK ctx (.dir es)) (s : Store κ) (hc : Consistent ctx s) (strat : Strat) :
    ∃ t' d s', commitArt ctx strat a (some (.dir es)) s = .ok (t', d, s') ∧
      d = treeDigest ctx a.path (.dir (dropSubdirs es)) ∧
      Consistent ctx s' ∧ Store.le ctx s s' ∧ deref ctx s' t' = .dir es ∧
      ∀ s'', Store.le ctx s' s'' → ∀ (strat2 : Strat) (fuel : Nat),
        depth (Node.dir (dropSubdirs es)) ≤ fuel →
        ∃ r, checkoutArt ctx strat2 fuel { a with sum := d } none s'' = .ok (some r) ∧
          deref ctx s'' r = .dir (dropSubdirs es) := by
  refine commitArt_noRec_roundtrip' ctx g a es hd hsum hskip hnr hp ?_ ?_ s hc strat
  · have : sortedList es = true := by simpa [Node.sorted] using hs
    simp only [Node.sorted]
    exact sortedList_filter _ es this
  · intro x hx
    refine hn x ?_
    simp only [allNames] at hx ⊢
    exact mem_allNamesList_filter _ es x hx

/-- **C01, file artifact (c3).** Commit of a regular file (whatever checksum the artifact
carried), then checkout into an absent workspace from any later store, both strategies. -/
theorem commitArt_file_roundtrip (ctx : Ctx κ) (g : Good ctx) (a : Art) (c : κ)
    (hd : a.isDir = false) (hskip : a.skip = false)
    (s : Store κ) (hc : Consistent ctx s) (strat : Strat) :
    ∃ t' s', commitArt ctx strat a (some (.file c)) s = .ok (t', ctx.H c, s') ∧
      Consistent ctx s' ∧ Store.le ctx s s' ∧ deref ctx s' t' = .file c ∧
      ∀ s'', Store.le ctx s' s'' → ∀ (strat2 : Strat) (fuel : Nat), 1 ≤ fuel →
        ∃ r, checkoutArt ctx strat2 fuel { a with sum := ctx.H c } none s'' = .ok (some r) ∧
          deref ctx s'' r = .file c := by
  have hput : Consistent ctx (s.put (ctx.H c) (.blob c)) := hc.put (.blob c)
  have hle : Store.le ctx s (s.put (ctx.H c) (.blob c)) := Store.le_put g hc (.blob c)
  have hco : ∀ s'', Store.le ctx (s.put (ctx.H c) (.blob c)) s'' →
      ∀ (strat2 : Strat) (fuel : Nat), 1 ≤ fuel →
        ∃ r, checkoutArt ctx strat2 fuel { a with sum := ctx.H c } none s'' = .ok (some r) ∧
          deref ctx s'' r = .file c := by
    intro s'' hle'' strat2 fuel hfuel
    have hh : HoldsNode ctx s'' newChoice a.path (.file c) :=
      hle''.holds ⟨_, Store.get_put_self _ _ _, rfl⟩
    have hr := checkoutNode_ws g s'' none strat2 (.file c)
      ⟨rfl, rfl, fun _ hx => by simp [allNames] at hx, hh, hfuel⟩
    rw [digestAs] at hr
    exact ⟨_, checkoutArt_noskip hskip (by rw [hd]; exact hr), deref_wsAfter rfl hh strat2⟩
  refine ⟨wsAfter ctx strat (.file c), s.put (ctx.H c) (.blob c), ?_, hput, hle, ?_, hco⟩
  · rw [commitArt_file ctx strat hd, hskip, commitFile_file]
    rfl
  · cases strat <;> simp [wsAfter, linked, deref, Store.get_put_self, Obj.bytes]

/-- **skip-cache file artifact (c3).** Commit only records the checksum: node and store are
unchanged; checkout does not touch the workspace. -/
theorem commitArt_file_skip (ctx : Ctx κ) (a : Art) (c : κ)
    (hd : a.isDir = false) (hskip : a.skip = true) (s : Store κ) (strat : Strat) :
    commitArt ctx strat a (some (.file c)) s = .ok (.file c, ctx.H c, s) := by
  rw [commitArt_file ctx strat hd, hskip, commitFile_file]
  rfl

theorem checkoutArt_skip (ctx : Ctx κ) (a : Art) (hskip : a.skip = true) (strat : Strat)
    (fuel : Nat) (cur : Option (Node κ)) (s : Store κ) :
    checkoutArt ctx strat fuel a cur s = .ok cur := by
  simp [checkoutArt, hskip]

/-- If a top-level entry has a name commit does not accept, `commitEntries` (recursive mode) fails:
it never records a manifest with a different name. -/
theorem commit_error_on_invalid_name (ctx : Ctx κ) (strat : Strat) :
    ∀ (es : List (Name × Node κ)), (∃ e ∈ es, ctx.nameOK e.1 = false) →
      ∀ (old : List Child) (s : Store κ), ∃ err, commitEntries ctx strat false es old s = .error err
  | [], h, _, _ => by simp at h
  | (nm, n) :: r, h, old, s => by
    by_cases hnm : ctx.nameOK nm = true
    · have hr : ∃ e ∈ r, ctx.nameOK e.1 = false := by
        obtain ⟨e, he, hbad⟩ := h
        rcases List.mem_cons.1 he with rfl | he'
        · simp [hnm] at hbad
        · exact ⟨e, he', hbad⟩
      simp only [commitEntries_cons, Bool.false_and, Bool.false_eq_true, if_false, hnm, Bool.not_true]
      split
      · exact ⟨_, rfl⟩
      · next n' c' s1 _ =>
        obtain ⟨err, herr⟩ := commit_error_on_invalid_name ctx strat r hr old s1
        exact ⟨err, by simp [herr]⟩
    · exact ⟨.invalid, by simp [commitEntries_cons, hnm]⟩

/-- the same for a whole directory artifact: `LocalCache.Commit` fails -/
theorem commitArt_error_on_invalid_name (ctx : Ctx κ) (strat : Strat) (a : Art)
    (es : List (Name × Node κ)) (hd : a.isDir = true) (hnr : a.noRec = false)
    (h : ∃ e ∈ es, ctx.nameOK e.1 = false) (s : Store κ) :
    ∃ err, commitArt ctx strat a (some (.dir es)) s = .error err := by
  rw [commitArt_dir ctx strat hd, hnr]
  cases hold : oldManifest ctx s a.sum with
  | error e => exact ⟨e, rfl⟩
  | ok old =>
    obtain ⟨err, herr⟩ := commit_error_on_invalid_name ctx strat es h old s
    exact ⟨err, by simp [herr]⟩

/-! ## Non-vacuity: a concrete context with `Good`, a concrete tree, and the round trip -/

namespace Example
open Dud.Example

/-- two levels of directories, an empty directory, the same file content twice -/
def tree : Node K :=
  .dir [([97], .file (.raw "alpha")),
        ([98], .dir [([99], .file (.raw "gamma")), ([100], .dir [])]),
        ([101], .file (.raw "alpha"))]

theorem tree_plain : tree.plain = true := by simp [tree, Node.plain, plainList]
theorem tree_sorted : tree.sorted = true := by
  simp [tree, Node.sorted, sortedList, headName]; decide
theorem tree_names : NamesOK ctx tree := .of_check (fun _ _ => rfl) (by decide)
theorem tree_depth : depth tree = 3 := by simp [tree, depth, depthList]
theorem empty_consistent : Consistent ctx [] := Consistent.nil ctx

/-- All hypotheses of C01 are satisfiable together (`good : Good ctx` is proved in
`Lemmas/Codec.lean`), and the conclusion specialises to the concrete round trip. -/
example (strat strat2 : Strat) :
    ∃ t' c' s', commitNode ctx strat tree ⟨[116], "", true⟩ [] = .ok (t', c', s') ∧
      c'.sum = treeDigest ctx [116] tree ∧ deref ctx s' t' = tree ∧
      ∃ r, checkoutNode ctx strat2 s' 3 none c' = .ok r ∧ deref ctx s' r = tree := by
  obtain ⟨t', c', s', h, _, _, hsum, _, _, hd, hco⟩ :=
    commit_fresh_roundtrip ctx good tree [116] tree_plain tree_sorted tree_names [] empty_consistent
      strat
  obtain ⟨r, hr, hdr⟩ := hco s' (Store.le_refl _ _) strat2 0
  rw [tree_depth] at hr
  exact ⟨t', c', s', h, hsum, hd, r, hr, hdr⟩

mutual
def nodeBEq : Node K → Node K → Bool
  | .file a, .file b => a == b
  | .dir a, .dir b => listBEq a b
  | .link a, .link b => a == b
  | .other, .other => true
  | _, _ => false
def listBEq : List (Name × Node K) → List (Name × Node K) → Bool
  | [], [] => true
  | (n, a) :: r, (m, b) :: r' => n == m && nodeBEq a b && listBEq r r'
  | _, _ => false
end

/-- executable evidence: commit with one strategy, check out with the other -/
def roundtrip (strat strat2 : Strat) : String :=
  match commitNode ctx strat tree ⟨[116], "", true⟩ [] with
  | .error e => s!"commit error {e}"
  | .ok (t', c', s') =>
    match checkoutNode ctx strat2 s' 3 none c' with
    | .error e => s!"checkout error {e}"
    | .ok r =>
      s!"checkout∘commit = id: {nodeBEq (deref ctx s' r) tree}; " ++
      s!"logical workspace unchanged: {nodeBEq (deref ctx s' t') tree}; " ++
      s!"sum = treeDigest: {c'.sum == treeDigest ctx [116] tree}; objects: {s'.length}"

#eval roundtrip .link .copy
#eval roundtrip .copy .link
#eval roundtrip .link .link
#eval roundtrip .copy .copy

/-- executable evidence for the artifact level: non-recursive directory artifact -/
def artNoRec (strat strat2 : Strat) : String :=
  let a : Art := { path := [116], isDir := true, noRec := true }
  match tree with
  | .dir es =>
    match commitArt ctx strat a (some tree) [] with
    | .error e => s!"commit error {e}"
    | .ok (t', d, s') =>
      match checkoutArt ctx strat2 2 { a with sum := d } none s' with
      | .error e => s!"checkout error {e}"
      | .ok none => "checkout gave nothing"
      | .ok (some r) =>
        s!"checkout = dropSubdirs: {nodeBEq (deref ctx s' r) (.dir (dropSubdirs es))}; " ++
        s!"workspace unchanged: {nodeBEq (deref ctx s' t') tree}; " ++
        s!"sum = treeDigest of dropSubdirs: {d == treeDigest ctx [116] (.dir (dropSubdirs es))}"
  | _ => "not a directory"

#eval artNoRec .link .copy
#eval artNoRec .copy .link

/-- a context rejecting the name `b`: commit of the example tree must fail -/
def ctxBad : Ctx K := { ctx with nameOK := fun nm => nm != [98] }

#eval match commitArt ctxBad .link { path := [116], isDir := true } (some tree) [] with
  | .error e => s!"error {e}"
  | .ok _ => "ok (unexpected)"

end Example

#print axioms namesOK_node
#print axioms namesOK_tail
#print axioms namesOK_head_entry
#print axioms childrenOK_childrenOf
#print axioms checkedChildren_eq_ok
#print axioms readManifest_childrenOK
#print axioms readManifest_man
#print axioms readManifest_man_bad
#print axioms readManifest_of_bytes
#print axioms readManifest_eq_dec
#print axioms commitNode_fresh
#print axioms commitEntries_post
#print axioms commit_fresh_roundtrip
#print axioms commit_preserves_logical
#print axioms commit_digest_is_treeDigest
#print axioms commit_digest_independent
#print axioms checkoutArt_noskip
#print axioms commitArt_dir_roundtrip
#print axioms commitArt_noRec_roundtrip'
#print axioms commitArt_noRec_roundtrip
#print axioms commitArt_file_roundtrip
#print axioms commitArt_file_skip
#print axioms checkoutArt_skip
#print axioms commit_error_on_invalid_name
#print axioms commitArt_error_on_invalid_name
#print axioms Dud.Example.good
#print axioms Example.tree_plain
#print axioms Example.tree_sorted
#print axioms Example.tree_names
#print axioms Example.tree_depth
#print axioms Example.empty_consistent

end Dud
