import DudModel.Hasher
import DudModel.Generated.Facts
/-!
# C14 (reader): `checksum.ChecksumBuffer` hashes exactly the reader's content

Whatever the prior state of the pooled hasher, however the reader cuts its content into `Read`
results (empty reads with a nil error included) and whatever the (positive) buffer size, the digest
is the spec hash of the concatenated content; with a `TeeReader` in front, the sink receives exactly
the hashed bytes.  Without the `h.Reset()` the statement is false (`no_reset_breaks`).
-/
namespace Dud.Hasher

variable {σ : Type}

theorem splitChunk_flatten {n : Nat} (hn : 0 < n) :
    ∀ (fuel : Nat) (c : Bytes), c.length < fuel → (splitChunk n fuel c).flatten = c := by
  intro fuel
  induction fuel with
  | zero => intro c h; omega
  | succ fuel ih =>
    intro c h
    simp only [splitChunk]
    split
    · simp
    · rw [List.flatten_cons, ih (c.drop n) (by simp only [List.length_drop]; omega),
        List.take_append_drop]

theorem splitChunk_le (n : Nat) :
    ∀ (fuel : Nat) (c : Bytes), ∀ r ∈ splitChunk n fuel c, r.length ≤ n := by
  intro fuel
  induction fuel with
  | zero => intro c r h; simp [splitChunk] at h
  | succ fuel ih =>
    intro c r h
    simp only [splitChunk] at h
    split at h
    · simp only [List.mem_singleton] at h; subst h; assumption
    · rcases List.mem_cons.mp h with h | h
      · subst h; simp only [List.length_take]; omega
      · exact ih _ _ h

/-- Every `Read` result fits the buffer. -/
theorem readResults_le (n : Nat) (reads : List Bytes) : ∀ r ∈ readResults n reads, r.length ≤ n := by
  induction reads with
  | nil => intro r h; simp [readResults] at h
  | cons c rest ih =>
    intro r h
    simp only [readResults, List.mem_append] at h
    rcases h with h | h
    · exact splitChunk_le n _ c r h
    · exact ih r h

/-- The `Read` results concatenate to the reader's content. -/
theorem readResults_flatten {n : Nat} (hn : 0 < n) (reads : List Bytes) :
    (readResults n reads).flatten = reads.flatten := by
  induction reads with
  | nil => rfl
  | cons c rest ih =>
    simp only [readResults, List.flatten_append, List.flatten_cons, ih,
      splitChunk_flatten hn (c.length + 1) c (Nat.lt_succ_self _)]

/-- If the source never has more than a bufferful ready, `Read` returns it as is. -/
theorem readResults_id {n : Nat} {reads : List Bytes} (h : ∀ r ∈ reads, r.length ≤ n) :
    readResults n reads = reads := by
  induction reads with
  | nil => rfl
  | cons c rest ih =>
    have hc : c.length ≤ n := h c (List.mem_cons_self ..)
    simp only [readResults, splitChunk, hc, if_true,
      ih (fun r hr => h r (List.mem_cons_of_mem _ hr)), List.singleton_append]

/-- `io.CopyBuffer` writes the non-empty read results, in order. -/
theorem copyLoop_eq (hs : HasherSpec σ) (cs : List Bytes) (s : σ) :
    copyLoop hs cs s = (cs.filter (fun c => decide (c.length > 0))).foldl hs.write s := by
  induction cs generalizing s with
  | nil => rfl
  | cons c rest ih =>
    simp only [copyLoop, ih, List.filter_cons]
    by_cases h : c.length > 0 <;> simp [h]

theorem flatten_filter_nonempty (cs : List Bytes) :
    (cs.filter (fun c => decide (c.length > 0))).flatten = cs.flatten := by
  induction cs with
  | nil => rfl
  | cons c rest ih =>
    simp only [List.filter_cons]
    by_cases h : c.length > 0
    · simp [h, ih]
    · have : c = [] := List.eq_nil_of_length_eq_zero (by omega)
      subst this; simp [ih]

theorem teeCopyLoop_eq (hs : HasherSpec σ) (cs : List Bytes) (s : σ) (sink : Bytes) :
    teeCopyLoop hs cs (s, sink) = (copyLoop hs cs s, sink ++ cs.flatten) := by
  induction cs generalizing s sink with
  | nil => simp [teeCopyLoop, copyLoop]
  | cons c rest ih =>
    simp only [teeCopyLoop, copyLoop, ih, List.flatten_cons]
    by_cases h : c.length > 0
    · simp [h]
    · have : c = [] := List.eq_nil_of_length_eq_zero (by omega)
      subst this; simp

/-- **C14 reader.**  For every list of reads (empty ones included), every dirty pooled hasher
state `s0` and every positive buffer size, `ChecksumBuffer` returns the hash of the content. -/
theorem checksum_reader {hs : HasherSpec σ} {Hh : Bytes → Bytes} (hc : Contract hs Hh)
    {bufSize : Nat} (hb : 0 < bufSize) (reads : List Bytes) (s0 : σ) :
    checksumBuffer hs true bufSize reads s0 = Hh reads.flatten := by
  simp only [checksumBuffer, if_true, copyLoop_eq, hc s0, flatten_filter_nonempty,
    readResults_flatten hb]

/-- Same, phrased with the content and any chunking of it. -/
theorem checksum_chunking {hs : HasherSpec σ} {Hh : Bytes → Bytes} (hc : Contract hs Hh)
    {bufSize : Nat} (hb : 0 < bufSize) {c : Bytes} {reads : List Bytes}
    (hch : Chunking bufSize c reads) (s0 : σ) :
    checksumBuffer hs true bufSize reads s0 = Hh c := by
  rw [checksum_reader hc hb, hch.1]

/-- The digest does not depend on how the content is chunked, nor on the two buffer sizes. -/
theorem checksum_chunking_irrelevant {hs : HasherSpec σ} {Hh : Bytes → Bytes} (hc : Contract hs Hh)
    {b1 b2 : Nat} (h1 : 0 < b1) (h2 : 0 < b2) {c : Bytes} {r1 r2 : List Bytes}
    (hc1 : Chunking b1 c r1) (hc2 : Chunking b2 c r2) (s1 s2 : σ) :
    checksumBuffer hs true b1 r1 s1 = checksumBuffer hs true b2 r2 s2 := by
  rw [checksum_chunking hc h1 hc1, checksum_chunking hc h2 hc2]

/-- **Tee.**  With `io.TeeReader(reader, sink)` the digest is the hash of the content and the sink
receives exactly the hashed bytes (appended to what it held). -/
theorem tee_copy {hs : HasherSpec σ} {Hh : Bytes → Bytes} (hc : Contract hs Hh)
    {bufSize : Nat} (hb : 0 < bufSize) (reads : List Bytes) (s0 : σ) (sink0 : Bytes) :
    checksumBufferTee hs true bufSize reads s0 sink0
      = (Hh reads.flatten, sink0 ++ reads.flatten) := by
  simp only [checksumBufferTee, if_true, teeCopyLoop_eq, copyLoop_eq, hc s0,
    flatten_filter_nonempty, readResults_flatten hb]

/-- The tee does not disturb the digest. -/
theorem tee_digest {hs : HasherSpec σ} (resetFirst : Bool) (bufSize : Nat) (reads : List Bytes)
    (s0 : σ) (sink0 : Bytes) :
    (checksumBufferTee hs resetFirst bufSize reads s0 sink0).1
      = checksumBuffer hs resetFirst bufSize reads s0 := by
  simp only [checksumBufferTee, checksumBuffer, teeCopyLoop_eq]

theorem toy_foldl (cs : List Bytes) (acc : Bytes) :
    cs.foldl (fun (s c : Bytes) => s ++ c) acc = acc ++ cs.flatten := by
  induction cs generalizing acc with
  | nil => simp
  | cons c rest ih => rw [List.foldl_cons, ih, List.flatten_cons, List.append_assoc]

theorem toy_contract : Contract toy id := by
  intro s chunks
  show List.foldl (fun (s c : Bytes) => s ++ c) [] chunks = chunks.flatten
  rw [toy_foldl, List.nil_append]

/-- **Negative witness.**  Without `Reset` a dirty pooled hasher yields a wrong digest, although the
hasher satisfies the contract: the `resetFirst = true` obligation is not vacuous. -/
theorem no_reset_breaks :
    ∃ (hs : HasherSpec Bytes) (Hh : Bytes → Bytes) (s0 : Bytes) (reads : List Bytes),
      Contract hs Hh ∧ checksumBuffer hs false 4 reads s0 ≠ Hh reads.flatten :=
  ⟨toy, id, [7], [[1, 2], [], [3]], toy_contract, by decide⟩

/-- **Regenerated-fact obligation.**  In the Go source `h.Reset()` precedes `io.CopyBuffer`. -/
theorem reset_fact_obligation : Dud.Facts.hasherResetBeforeCopy = true := by decide

/-- The model instantiated with the extracted fact. -/
theorem checksum_reader_fact {hs : HasherSpec σ} {Hh : Bytes → Bytes} (hc : Contract hs Hh)
    {bufSize : Nat} (hb : 0 < bufSize) (reads : List Bytes) (s0 : σ) :
    checksumBuffer hs Dud.Facts.hasherResetBeforeCopy bufSize reads s0 = Hh reads.flatten := by
  rw [reset_fact_obligation]; exact checksum_reader hc hb reads s0

-- `Contract` is satisfiable (toy hasher), with a dirty state, empty reads and an over-long burst
example : Contract toy id ∧ (0 : Nat) < 4 ∧
    checksumBuffer toy true 4 [[1, 2], [], [3, 4, 5, 6, 7, 8, 9], []] [42, 42]
      = id ([[1, 2], [], [3, 4, 5, 6, 7, 8, 9], []] : List Bytes).flatten :=
  ⟨toy_contract, by decide, checksum_reader toy_contract (by decide) _ _⟩
-- the over-long burst really is re-cut by the 4-byte buffer
example : readResults 4 [[1, 2], [], [3, 4, 5, 6, 7, 8, 9, 10, 11], []]
    = [[1, 2], [], [3, 4, 5, 6], [7, 8, 9, 10], [11], []] := by decide
example : Chunking 4 [1, 2, 3, 4, 5] [[1, 2], [], [3, 4, 5]] := by
  constructor
  · decide
  · intro r hr; simp only [List.mem_cons, List.not_mem_nil, or_false] at hr
    rcases hr with rfl | rfl | rfl <;> decide
example : Chunking 2 [1, 2, 3, 4, 5] [[1, 2], [3], [4, 5], []] := by
  constructor
  · decide
  · intro r hr; simp only [List.mem_cons, List.not_mem_nil, or_false] at hr
    rcases hr with rfl | rfl | rfl | rfl <;> decide
example : checksumBufferTee toy true 4 [[1, 2], [], [3, 4, 5, 6, 7]] [42] [9]
    = ([1, 2, 3, 4, 5, 6, 7], [9, 1, 2, 3, 4, 5, 6, 7]) := by decide
-- `bufSize > 0` is needed by the model (Go panics instead): a zero-length buffer loses data
example : checksumBuffer toy true 0 [[1, 2]] [] ≠ [1, 2] := by decide

end Dud.Hasher

#print axioms Dud.Hasher.readResults_le
#print axioms Dud.Hasher.readResults_flatten
#print axioms Dud.Hasher.readResults_id
#print axioms Dud.Hasher.checksum_reader
#print axioms Dud.Hasher.checksum_chunking
#print axioms Dud.Hasher.checksum_chunking_irrelevant
#print axioms Dud.Hasher.tee_copy
#print axioms Dud.Hasher.tee_digest
#print axioms Dud.Hasher.toy_contract
#print axioms Dud.Hasher.no_reset_breaks
#print axioms Dud.Hasher.reset_fact_obligation
#print axioms Dud.Hasher.checksum_reader_fact
