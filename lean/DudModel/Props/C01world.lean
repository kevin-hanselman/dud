import DudModel.Props.C01
import DudModel.Props.C08
import DudModel.Lemmas.WorldTripRe
import DudModel.Lemmas.WorldCheck
/-!
# C01 at the world level — `dud commit` then `dud checkout` in a fresh workspace

`Props/C01.lean` proves the round trip for one artifact (`commitArt` / `checkoutArt`).  This file
states it for a FIRST commit (plain workspace, fresh directory outputs: `ArtPre`, `PipelineOK`)

1. through the workspace addressing (`getPath` / `setPath` on paths that do not overlap),
2. through a stage (`commitAct`, then `checkoutAct` in any world that has the committed index, a
   cache that extends the committed one and nothing at the output paths),
3. through the index traversals of `cmdCommit` and `cmdCheckout` (every stage upstream of a target).

The commit side is the instance `ArtPreRe.of_artPre` / `PipelineOKRe.of_pipelineOK` of the
development for arbitrary commits in `Lemmas/WorldTripRe.lean` (a plain workspace is its own logical
content); the vocabulary and the checkout side are in `Lemmas/WorldCheckout.lean`.

Vocabulary: `WT.Apart p q` (neither path is a prefix of the other), `WT.Writable ws p` (`setPath`
at `p` succeeds), `trackedOf a n` (the part of the subtree `n` the artifact `a` tracks: everything,
or, with `DisableRecursion`, the listing without sub-directories), `committedArt` (the artifact with
`sum := treeDigest …` of the tracked tree), `RoundTrip` (checkout of the committed artifact into an
absent place, from any later cache, rebuilds the tracked tree).

Main statements: `stage_commit_checkout_roundtrip` (stage), `commit_checkout_world_roundtrip` and
`commit_checkout_empty_workspace` (commands), `Example2.two_stage_roundtrip` (non-vacuity).

What the statements do NOT cover (inherited from the artifact-level theorems they lift):
* "reproduces" means equality of the logical content (`deref`: a link into the cache counts as a
  regular file with the object's bytes), as in `Props/C01.lean`;
* a directory output must be fresh (no recorded checksum; re-commits: `Props/C01re.lean`) and not
  `skip-cache`; a file output may carry any checksum;
* an input that no stage owns is committed by `commitAct` itself: it has to be a file, or a
  directory that overlaps no output (otherwise commit rewrites files inside it, cf. C07);
* `commit` success is a hypothesis (it is the first command of the property); `checkout` success
  is proved; `--single-stage` is not considered (`single = false`).
-/
namespace Dud

open WT

variable {κ : Type}

/-! ## path algebra (proved in `Lemmas/Tree.lean` and `Lemmas/WorldTrip.lean`) -/

/-- what was written at `p` is found at `p` -/
theorem getPath_setPath_same (p : List Name) (ws ws' n : Node κ) (h : setPath ws p n = some ws') :
    getPath ws' p = some n :=
  getPath_setPath_self p ws ws' n h

/-- writing at `p` does not change what is found at a path `q` that does not overlap `p` -/
theorem getPath_setPath_other (p q : List Name) (ws ws' n : Node κ) (hpq : ¬ p <+: q) (hqp : ¬ q <+: p)
    (h : setPath ws p n = some ws') : getPath ws' q = getPath ws q :=
  WT.getPath_setPath_apart ⟨hpq, hqp⟩ h

/-- `setPath` succeeds in an empty workspace, and wherever the parent directory exists or something
is already there -/
theorem setPath_succeeds (ws : Node κ) (p : List Name) (n : Node κ)
    (h : ws = .dir [] ∨ (∃ m, getPath ws p = some m) ∨
      ∃ pre x es, p = pre ++ [x] ∧ getPath ws pre = some (.dir es)) :
    ∃ ws', setPath ws p n = some ws' := by
  rcases h with rfl | ⟨m, hm⟩ | ⟨pre, x, es, rfl, hpre⟩
  · exact WT.writable_empty p n
  · exact WT.writable_of_getPath p ws m hm n
  · exact WT.writable_of_parent pre x ws es hpre n

/-- writing at `p` keeps a non-overlapping path `q` writable -/
theorem setPath_keeps_writable (p q : List Name) (ws ws' n : Node κ) (hpq : ¬ p <+: q) (hqp : ¬ q <+: p)
    (h : setPath ws p n = some ws') (hq : ∀ v, ∃ w1, setPath ws q v = some w1) :
    ∀ v, ∃ w1, setPath ws' q v = some w1 :=
  WT.writable_setPath_apart ⟨hpq, hqp⟩ h hq

/-- the four artifact-level theorems of `Props/C01.lean` (`commitArt_dir_roundtrip`,
`commitArt_noRec_roundtrip`, `commitArt_file_roundtrip`, `commitArt_file_skip`) in one statement -/
theorem commitArt_roundtrip (cfg : Cfg κ) (g : Good cfg.ctx) (a : Art) (n : Node κ)
    (hpre : ArtPre cfg.ctx cfg.fuel a n) (s : Store κ) (hc : Consistent cfg.ctx s) (strat : Strat) :
    ∃ t' s', commitArt cfg.ctx strat a (some n) s
        = .ok (t', treeDigest cfg.ctx a.path (trackedOf a n), s') ∧
      Consistent cfg.ctx s' ∧ Store.le cfg.ctx s s' ∧ deref cfg.ctx s' t' = n ∧
      (a.skip = false → RoundTrip cfg a (trackedOf a n) s') := by
  obtain ⟨t', s', h1, h2, h3, h4, h5⟩ :=
    Re.commitArt_roundtrip_re' cfg g a n s (Re.ArtPreRe.of_artPre s hpre) hc strat
  rw [deref_plain cfg.ctx s n hpre.plain] at h1 h4 h5
  exact ⟨t', s', h1, h2, h3, h4, h5.1⟩

theorem commitArtW_post (cfg : Cfg κ) (g : Good cfg.ctx) (strat : Strat) (a a' : Art) (w w' : World κ)
    (n : Node κ) (hn : getPath w.ws (Path.comps a.path) = some n)
    (hpre : ArtPre cfg.ctx cfg.fuel a n) (hc : Consistent cfg.ctx w.store)
    (h : commitArtW cfg strat a w = .ok (a', w')) :
    a' = committedArt cfg.ctx w.ws a ∧ Consistent cfg.ctx w'.store ∧
      Store.le cfg.ctx w.store w'.store ∧ w'.idx = w.idx ∧ w'.done = w.done ∧
      (∃ t', getPath w'.ws (Path.comps a.path) = some t' ∧ deref cfg.ctx w'.store t' = n) ∧
      (a.skip = false → RoundTrip cfg a (trackedOf a n) w'.store) ∧
      (∀ q, Apart (Path.comps a.path) q → getPath w'.ws q = getPath w.ws q) := by
  obtain ⟨t, d, s, ws', hca, hsp, rfl, rfl⟩ := WT.commitArtW_inv h
  obtain ⟨t', s', hc', h2, h3, h4, h5⟩ := commitArt_roundtrip cfg g a n hpre w.store hc strat
  rw [hn, hc'] at hca
  simp only [Except.ok.injEq, Prod.mk.injEq] at hca
  obtain ⟨rfl, rfl, rfl⟩ := hca
  refine ⟨?_, h2, h3, rfl, rfl, ⟨t', getPath_setPath_self _ _ _ _ hsp, h4⟩, h5,
    fun q hq => WT.getPath_setPath_apart hq hsp⟩
  simp [committedArt, origAt_of_getPath hn]

/-- at the path of an artifact satisfying `ArtPre` the logical workspace is the workspace -/
theorem origAt_logWs_of_pre {cfg : Cfg κ} {w : World κ} {a : Art}
    (h : ∃ n, getPath w.ws (Path.comps a.path) = some n ∧ ArtPre cfg.ctx cfg.fuel a n) :
    origAt (Re.logWs cfg w) a = origAt w.ws a := by
  obtain ⟨n, hn, hp⟩ := h
  rw [Re.origAt_logWs_of_getPath hn, deref_plain _ _ _ hp.plain, origAt_of_getPath hn]

theorem committedArt_logWs_of_pre {cfg : Cfg κ} {w : World κ} {l : List Art}
    (h : ∀ a, a ∈ l → ∃ n, getPath w.ws (Path.comps a.path) = some n ∧ ArtPre cfg.ctx cfg.fuel a n) :
    l.map (committedArt cfg.ctx (Re.logWs cfg w)) = l.map (committedArt cfg.ctx w.ws) :=
  List.map_congr_left fun a ha => Re.committedArt_congr_orig cfg.ctx (origAt_logWs_of_pre (h a ha))

theorem commitArts_post (cfg : Cfg κ) (g : Good cfg.ctx) (strat : Strat) :
    ∀ (as as' : List Art) (w w' : World κ), ApartArts as →
      (∀ a, a ∈ as → ∃ n, getPath w.ws (Path.comps a.path) = some n ∧ ArtPre cfg.ctx cfg.fuel a n) →
      Consistent cfg.ctx w.store → commitArts cfg strat as w = .ok (as', w') →
      as' = as.map (committedArt cfg.ctx w.ws) ∧ Consistent cfg.ctx w'.store ∧
        Store.le cfg.ctx w.store w'.store ∧ w'.idx = w.idx ∧ w'.done = w.done ∧
        (∀ a, a ∈ as → ∃ t', getPath w'.ws (Path.comps a.path) = some t' ∧
          deref cfg.ctx w'.store t' = origAt w.ws a) ∧
        (∀ a, a ∈ as → a.skip = false → RoundTrip cfg a (trackedOf a (origAt w.ws a)) w'.store) ∧
        (∀ q, (∀ a, a ∈ as → Apart (Path.comps a.path) q) → getPath w'.ws q = getPath w.ws q) := by
  intro as as' w w' hap hpre hc h
  obtain ⟨e, c, l, i, d, lg, rt, f⟩ := Re.commitArts_postP cfg g strat (fun _ _ _ => True)
    (fun _ _ => trivial) as as' w w' hap
    (fun a ha => by
      obtain ⟨n, hn, hp⟩ := hpre a ha
      exact ⟨n, hn, Re.ArtPreRe.of_artPre w.store hp⟩) (fun _ _ _ _ _ _ _ _ _ _ => trivial) hc h
  refine ⟨e.trans (committedArt_logWs_of_pre hpre), c, l, i, d, fun a ha => ?_, fun a ha => ?_, f⟩
  · rw [← origAt_logWs_of_pre (hpre a ha)]
    exact let ⟨t', gt, hd, _⟩ := lg a ha; ⟨t', gt, hd⟩
  · rw [← origAt_logWs_of_pre (hpre a ha)]; exact (rt a ha).1

/-- **Stage level, commit.** `commitAct` on a stage whose outputs do not overlap and satisfy
`ArtPre`: the cache stays consistent and grows, the stage recorded in the index has the outputs
`committedArt …` (checksum `treeDigest` of the tracked tree), the logical content of the workspace
at the outputs is unchanged, every non-skip output has the `RoundTrip` property, and paths apart
from the outputs (and from the un-owned directory inputs) are untouched. -/
theorem commitAct_post (cfg : Cfg κ) (g : Good cfg.ctx) (strat : Strat) (sp : Bytes) (w w' : World κ)
    (stg : Stage) (hs : alookup w.idx sp = some stg) (hap : ApartArts stg.outputs)
    (hpre : ∀ a, a ∈ stg.outputs → ∃ n, getPath w.ws (Path.comps a.path) = some n ∧
      ArtPre cfg.ctx cfg.fuel a n)
    (hin : ∀ a, a ∈ stg.outputs → PlainInputsApart cfg w.idx stg (Path.comps a.path))
    (hc : Consistent cfg.ctx w.store) (h : commitAct cfg strat sp w = .ok w') :
    Consistent cfg.ctx w'.store ∧ Store.le cfg.ctx w.store w'.store ∧ w'.done = sp :: w.done ∧
      (∃ stg', w'.idx = setStage w.idx sp stg' ∧ alookup w'.idx sp = some stg' ∧
        stg'.outputs = (sortArts stg.outputs).map (committedArt cfg.ctx w.ws)) ∧
      (∀ a, a ∈ stg.outputs → ∃ t', getPath w'.ws (Path.comps a.path) = some t' ∧
        deref cfg.ctx w'.store t' = origAt w.ws a) ∧
      (∀ a, a ∈ stg.outputs → a.skip = false →
        RoundTrip cfg a (trackedOf a (origAt w.ws a)) w'.store) ∧
      (∀ q, (∀ a, a ∈ stg.outputs → Apart (Path.comps a.path) q) →
        PlainInputsApart cfg w.idx stg q → getPath w'.ws q = getPath w.ws q) := by
  obtain ⟨c, l, d, ⟨stg', hi, hl, ho⟩, lg, rt, f⟩ := Re.commitAct_postR cfg g strat sp w w' stg hs hap
    (fun a ha => by
      obtain ⟨n, hn, hp⟩ := hpre a ha
      exact ⟨n, hn, Re.ArtPreRe.of_artPre w.store hp⟩) hin hc h
  refine ⟨c, l, d, ⟨stg', hi, hl, ho.trans (committedArt_logWs_of_pre fun a ha =>
    hpre a (mem_of_mem_sortArts ha))⟩, fun a ha => ?_, fun a ha => ?_, f⟩
  · rw [← origAt_logWs_of_pre (hpre a ha)]; exact lg a ha
  · rw [← origAt_logWs_of_pre (hpre a ha)]; exact (rt a ha).1

/-- **C01, stage level.** Let `commitAct` succeed on a stage whose outputs have pairwise
non-overlapping paths and satisfy the hypotheses of the artifact-level theorems (`ArtPre`; the
un-owned inputs, which `commitAct` commits too, are files or directories apart from the outputs).
Then (a) the cache stays consistent and only grows; (b) the stage recorded in the index lists, for
each output `a`, the artifact `committedArt … a`, whose checksum is `treeDigest` of the tracked
subtree; (c) in ANY world `v` with the same index and a cache extending the committed one, in which
the non-skip outputs are absent and writable (e.g. their parent directories exist, or the workspace
is empty: `setPath_succeeds`), `checkoutAct` with either strategy succeeds and puts at every non-skip
output path a node whose logical content (`deref`) is the tracked subtree of the original. -/
theorem stage_commit_checkout_roundtrip (cfg : Cfg κ) (g : Good cfg.ctx) (strat : Strat) (sp : Bytes)
    (w w' : World κ) (stg : Stage) (hs : alookup w.idx sp = some stg) (hap : ApartArts stg.outputs)
    (hpre : ∀ a, a ∈ stg.outputs → ∃ n, getPath w.ws (Path.comps a.path) = some n ∧
      ArtPre cfg.ctx cfg.fuel a n)
    (hin : ∀ a, a ∈ stg.outputs → PlainInputsApart cfg w.idx stg (Path.comps a.path))
    (hc : Consistent cfg.ctx w.store) (h : commitAct cfg strat sp w = .ok w') :
    (Consistent cfg.ctx w'.store ∧ Store.le cfg.ctx w.store w'.store) ∧
    (∃ stg', alookup w'.idx sp = some stg' ∧
      stg'.outputs = (sortArts stg.outputs).map (committedArt cfg.ctx w.ws) ∧
      ∀ a, a ∈ stg.outputs → ∃ a', a' ∈ stg'.outputs ∧ a'.path = a.path ∧
        a'.sum = treeDigest cfg.ctx a.path (trackedOf a (origAt w.ws a))) ∧
    (∀ a, a ∈ stg.outputs → ∃ t', getPath w'.ws (Path.comps a.path) = some t' ∧
      deref cfg.ctx w'.store t' = origAt w.ws a) ∧
    ∀ (v : World κ) (strat2 : Strat), v.idx = w'.idx → Store.le cfg.ctx w'.store v.store →
      (∀ a, a ∈ stg.outputs → a.skip = false →
        getPath v.ws (Path.comps a.path) = none ∧ Writable v.ws (Path.comps a.path)) →
      ∃ v', checkoutAct cfg strat2 sp v = .ok v' ∧ v'.store = v.store ∧
        ∀ a, a ∈ stg.outputs → a.skip = false → ∃ r, getPath v'.ws (Path.comps a.path) = some r ∧
          deref cfg.ctx v'.store r = trackedOf a (origAt w.ws a) := by
  obtain ⟨c', l', _, ⟨stg', _, hl', hout⟩, hlog, hrt, _⟩ :=
    commitAct_post cfg g strat sp w w' stg hs hap hpre hin hc h
  refine ⟨⟨c', l'⟩, ⟨stg', hl', hout, ?_⟩, hlog, ?_⟩
  · intro a ha
    refine ⟨committedArt cfg.ctx w.ws a, ?_, rfl, rfl⟩
    rw [hout]
    exact List.mem_map.2 ⟨a, mem_sortArts_of_mem hap.paths_ne ha, rfl⟩
  · intro v strat2 hidx hle habs
    obtain ⟨v', h1, h2, _, _, h5, _⟩ := checkoutAct_committed cfg strat2 sp w.ws stg stg' v w'.store
      (by rw [hidx]; exact hl') hout hap hrt hle habs
    exact ⟨v', h1, h2, fun a ha hsk => by rw [h2]; exact h5 a ha hsk⟩

/-- invariant of the commit traversal started in `w0`: the cache is consistent and extends the
initial one; a stage that is not done has its original entry in the index and its outputs are as
in `w0`; a stage that is done satisfies the stage-level post-condition -/
structure CommitInv (cfg : Cfg κ) (Sc : Bytes → Prop) (w0 w : World κ) : Prop where
  cons : Consistent cfg.ctx w.store
  le : Store.le cfg.ctx w0.store w.store
  pending_idx : ∀ sp, w.done.contains sp = false → alookup w.idx sp = alookup w0.idx sp
  pending_ws : ∀ sp stg, Sc sp → w.done.contains sp = false → alookup w0.idx sp = some stg →
    ∀ a, a ∈ stg.outputs →
      getPath w.ws (Path.comps a.path) = getPath w0.ws (Path.comps a.path)
  finished : ∀ sp, Sc sp → w.done.contains sp = true → ∃ stg stg', alookup w0.idx sp = some stg ∧
    alookup w.idx sp = some stg' ∧
    stg'.outputs = (sortArts stg.outputs).map (committedArt cfg.ctx w0.ws) ∧
    ∀ a, a ∈ stg.outputs → a.skip = false → RoundTrip cfg a (trackedOf a (origAt w0.ws a)) w.store

theorem CommitInv.init (cfg : Cfg κ) (Sc : Bytes → Prop) (w0 : World κ)
    (hc : Consistent cfg.ctx w0.store) : CommitInv cfg Sc w0 (fresh w0) where
  cons := hc
  le := Store.le_refl _ _
  pending_idx := fun _ _ => rfl
  pending_ws := fun _ _ _ _ _ _ _ => rfl
  finished := fun sp _ h => by simp [fresh] at h

theorem CommitInv.pend {cfg : Cfg κ} {Sc : Bytes → Prop} {w0 w : World κ}
    (h : CommitInv cfg Sc w0 w) : Re.CommitPend cfg Sc w0 w :=
  ⟨h.cons, h.le, h.pending_idx, h.pending_ws⟩

/-- one stage action keeps `CommitInv`; `P` is one more fact about each output of the stage, which the one
`commitArt` establishes (`hest`), and the action is a `Re.StageStep` (`Re.commitPend_step` for `PipelineOK`) -/
theorem commitInv_stepP (cfg : Cfg κ) (g : Good cfg.ctx) (strat : Strat)
    (P : Art → Node κ → Store κ → Prop)
    (P_mono : ∀ {a t' s s1}, P a t' s → Store.le cfg.ctx s s1 → P a t' s1) (Sc : Bytes → Prop)
    (w0 : World κ) (hok : PipelineOK cfg Sc w0) (sp : Bytes) (w w1 : World κ) (hsc : Sc sp)
    (hsh : SameShape w.idx w0.idx) (hinv : CommitInv cfg Sc w0 w)
    (hnd : w.done.contains sp = false)
    (hest : ∀ stg, alookup w0.idx sp = some stg → ∀ a, a ∈ stg.outputs → ∀ n,
      getPath w0.ws (Path.comps a.path) = some n → ∀ s, Consistent cfg.ctx s → ∀ t' s',
      commitArt cfg.ctx strat a (some n) s
        = .ok (t', (committedArt cfg.ctx w0.ws a).sum, s') → P a t' s')
    (h : commitAct cfg strat sp w = .ok w1) :
    CommitInv cfg Sc w0 w1 ∧ ∃ stg, alookup w0.idx sp = some stg ∧
      (∀ a, a ∈ stg.outputs → ∃ t', getPath w1.ws (Path.comps a.path) = some t' ∧ P a t' w1.store) ∧
      Re.StageStep cfg w0.idx sp stg w w1 := by
  have hokR := Re.PipelineOKRe.of_pipelineOK hok
  -- `PipelineOK`: at the outputs the workspace of `w0` is its own logical content
  obtain ⟨stg, stg', hs0, hl1, ho1, rt1, lg1, hst⟩ :=
    Re.commitPend_step cfg g strat P P_mono Sc w0 hokR sp w w1 hsc hsh hinv.pend hnd
      (fun stg hs0 a ha n hn s hcs t' s' hca => hest stg hs0 a ha n hn s hcs t' s' (by
        rwa [Re.committedArt_congr_orig cfg.ctx (origAt_logWs_of_pre (hok.pre sp stg hsc hs0 a ha))]
          at hca)) h
  have hp1 := hinv.pend.step hokR hsc hs0 hst
  refine ⟨⟨hp1.cons, hp1.le, hp1.pending_idx, hp1.pending_ws, fun x hscx hx => ?_⟩, stg, hs0,
    fun a ha => let ⟨t', gt, _, pt⟩ := lg1 a ha; ⟨t', gt, pt⟩, hst⟩
  rcases hst.was_done hx with rfl | ⟨hxs, hx'⟩
  · exact ⟨stg, stg', hs0, hl1,
      ho1.trans (committedArt_logWs_of_pre fun a ha => hok.pre x stg hscx hs0 a (mem_of_mem_sortArts ha)),
      fun a ha hsk => origAt_logWs_of_pre (hok.pre x stg hscx hs0 a ha) ▸ (rt1 a ha).1 hsk⟩
  · obtain ⟨s0, s1, e0, e1, e2, e3⟩ := hinv.finished x hscx hx'
    exact ⟨s0, s1, e0, (hst.idx x hxs).trans e1, e2, fun a ha hsk => (e3 a ha hsk).mono hst.le⟩

theorem commitInv_step (cfg : Cfg κ) (g : Good cfg.ctx) (strat : Strat) (Sc : Bytes → Prop)
    (w0 : World κ) (hok : PipelineOK cfg Sc w0) (sp : Bytes) (w w1 : World κ) (hsc : Sc sp)
    (hsh : SameShape w.idx w0.idx) (hinv : CommitInv cfg Sc w0 w)
    (hnd : w.done.contains sp = false) (h : commitAct cfg strat sp w = .ok w1) :
    CommitInv cfg Sc w0 w1 :=
  (commitInv_stepP cfg g strat (fun _ _ _ => True) (fun _ _ => trivial) Sc w0 hok sp w w1 hsc hsh hinv
    hnd (fun _ _ _ _ _ _ _ _ _ _ _ => trivial) h).1

/-- **`dud commit`.** After a successful `cmdCommit` on a pipeline satisfying `PipelineOK` the
invariant holds, and the stages done are exactly those in scope (the log `l'` of the traversal lists
them, owners first). -/
theorem cmdCommit_inv (cfg : Cfg κ) (g : Good cfg.ctx) (strat : Strat) (targets : List Bytes)
    (w0 w' : World κ) (hc : Consistent cfg.ctx w0.store)
    (hok : PipelineOK cfg (InScope cfg w0 targets) w0)
    (h : cmdCommit cfg strat targets w0 = .ok w') :
    CommitInv cfg (InScope cfg w0 targets) w0 w' ∧ SameShape w'.idx w0.idx ∧
      ∃ l' : List Bytes, l'.Nodup ∧ (∀ x, x ∈ l' ↔ InScope cfg w0 targets x) ∧
        (∀ x, w'.done.contains x = l'.contains x) ∧
        (∀ x, x ∈ l' → ∀ o, o ∈ ownIdx cfg w0.idx x → Before l' o x) ∧
        (∀ t, t ∈ (if targets.isEmpty then allStages w0 else targets) → t ∈ l') ∧ (∃ t, t ∈ l') :=
  ⟨cmdCommit_preserves hok.keys _ (CommitInv.init cfg _ w0 hc)
    (fun sp v v1 hsc hi hq hnd _ hs => commitInv_step cfg g strat _ w0 hok sp v v1 hsc hi hq hnd hs) h,
    cmdCommit_scope hok.keys h⟩

/-- **C01, command level.** `dud commit [targets]` on a pipeline satisfying `PipelineOK` (for the
stages in scope: the targets and everything upstream), followed by `dud checkout [targets]` (either
strategy) in ANY world `v` that has the committed index, a cache extending the committed cache,
and in which the non-skip outputs of the stages in scope are absent and writable: the checkout
succeeds, and at the path of every non-skip output of every stage in scope there is a node whose
logical content (`deref`) is the tracked subtree of the original workspace.  Moreover (a) the
committed cache is consistent and extends the initial one, and (b) every stage in scope is recorded
with the outputs `committedArt …`, i.e. with `sum = treeDigest` of the tracked subtree. -/
theorem commit_checkout_world_roundtrip (cfg : Cfg κ) (g : Good cfg.ctx) (strat strat2 : Strat)
    (targets : List Bytes) (w0 w' : World κ) (hc : Consistent cfg.ctx w0.store)
    (hok : PipelineOK cfg (InScope cfg w0 targets) w0)
    (h : cmdCommit cfg strat targets w0 = .ok w') :
    (Consistent cfg.ctx w'.store ∧ Store.le cfg.ctx w0.store w'.store) ∧
    (∀ sp stg, InScope cfg w0 targets sp → alookup w0.idx sp = some stg →
      ∃ stg', alookup w'.idx sp = some stg' ∧
        stg'.outputs = (sortArts stg.outputs).map (committedArt cfg.ctx w0.ws)) ∧
    ∀ v : World κ, v.idx = w'.idx → Store.le cfg.ctx w'.store v.store →
      (∀ sp stg, InScope cfg w0 targets sp → alookup w0.idx sp = some stg →
        ∀ a, a ∈ stg.outputs → a.skip = false →
          getPath v.ws (Path.comps a.path) = none ∧ Writable v.ws (Path.comps a.path)) →
      ∃ v', cmdCheckout cfg strat2 false targets v = .ok v' ∧ v'.store = v.store ∧ v'.idx = v.idx ∧
        ∀ sp stg, InScope cfg w0 targets sp → alookup w0.idx sp = some stg →
          ∀ a, a ∈ stg.outputs → a.skip = false →
            ∃ r, getPath v'.ws (Path.comps a.path) = some r ∧
              deref cfg.ctx v'.store r = trackedOf a (origAt w0.ws a) := by
  have hci := (cmdCommit_inv cfg g strat targets w0 w' hc hok h).1
  refine ⟨⟨hci.cons, hci.le⟩, fun sp stg hsp hs => ?_, ?_⟩
  · obtain ⟨stg0, stg', e0, e1, e2, _⟩ := hci.finished sp hsp (cmdCommit_stage hok.keys h hsp).1
    rw [hs] at e0
    cases e0
    exact ⟨stg', e1, e2⟩
  intro v hv hle hfresh
  obtain ⟨v', h1, h2, h3, h4⟩ := Re.cmdCheckout_in_clone cfg g strat strat2 targets w0 w' hc
    (Re.PipelineOKRe.of_pipelineOK hok) h v hv hle hfresh
  refine ⟨v', h1, h2, h3, fun sp stg hsp hs a ha hsk => ?_⟩
  rw [← origAt_logWs_of_pre (hok.pre sp stg hsp hs a ha)]
  exact h4 sp stg hsp hs a ha hsk

/-- **C01, command level, empty workspace.** The clone has the committed index, a cache extending
the committed one and an EMPTY workspace (no output path is "." itself): `dud checkout` succeeds
and reproduces every tracked tree in scope. -/
theorem commit_checkout_empty_workspace (cfg : Cfg κ) (g : Good cfg.ctx) (strat strat2 : Strat)
    (targets : List Bytes) (w0 w' : World κ) (hc : Consistent cfg.ctx w0.store)
    (hok : PipelineOK cfg (InScope cfg w0 targets) w0)
    (hdot : ∀ sp stg, InScope cfg w0 targets sp → alookup w0.idx sp = some stg →
      ∀ a, a ∈ stg.outputs → a.skip = false → Path.comps a.path ≠ [])
    (h : cmdCommit cfg strat targets w0 = .ok w')
    (v : World κ) (hidx : v.idx = w'.idx) (hws : v.ws = .dir [])
    (hle : Store.le cfg.ctx w'.store v.store) :
    ∃ v', cmdCheckout cfg strat2 false targets v = .ok v' ∧ v'.store = v.store ∧
      ∀ sp stg, InScope cfg w0 targets sp → alookup w0.idx sp = some stg →
        ∀ a, a ∈ stg.outputs → a.skip = false →
          ∃ r, getPath v'.ws (Path.comps a.path) = some r ∧
            deref cfg.ctx v'.store r = trackedOf a (origAt w0.ws a) := by
  obtain ⟨_, _, hco⟩ := commit_checkout_world_roundtrip cfg g strat strat2 targets w0 w' hc hok h
  obtain ⟨v', h1, h2, _, h4⟩ := hco v hidx hle (fun sp stg hsp hs a ha hsk => by
    rw [hws]
    refine ⟨?_, WT.writable_empty _⟩
    cases hp : Path.comps a.path with
    | nil => exact absurd hp (hdot sp stg hsp hs a ha hsk)
    | cons c r => exact getPath_nil_dir r c)
  exact ⟨v', h1, h2, h4⟩

/-! ## non-vacuity: a two-stage pipeline (stage B consumes the output directory of stage A) -/

namespace Example2
open Dud.Example

def cfg : Cfg K :=
  { ctx := ctx, ofBytes := fun _ => .raw "", toBytes := fun _ => [], walkAccumulates := true, fuel := 8 }

/-- output of stage A: a directory `a/` with a file and a sub-directory -/
def treeA : Node K := .dir [([120], .file (.raw "x")), ([121], .dir [([122], .file (.raw "z"))])]

def outA : Art := { path := [97], isDir := true }
def outB : Art := { path := [98] }
def stageA : Stage := { cmd := [1], outputs := [outA] }
/-- stage B reads `a/` (owned by stage A) and writes the file `b` -/
def stageB : Stage := { cmd := [2], inputs := [{ path := [97], isDir := true }], outputs := [outB] }

def w0 : World K :=
  { ws := .dir [([97], treeA), ([98], .file (.raw "out"))],
    idx := [([1], stageA), ([2], stageB)] }

/-- the world after `dud commit` (link strategy), computed by the model -/
def w1 : World K :=
  match cmdCommit cfg .link [] w0 with
  | .ok w => w
  | .error _ => default

/-- the one evaluation of the commit: it succeeds, and the checksum it records for `a/` -/
theorem run1 : cmdCommit cfg .link [] w0 = .ok w1 ∧
    (alookup w1.idx [1]).map (fun s => s.outputs.map (·.sum)) = some [treeDigest ctx [97] treeA] :=
  ⟨rfl, rfl⟩

theorem commit_ok : cmdCommit cfg .link [] w0 = .ok w1 := run1.1

/-- a fresh clone: committed index and cache, empty workspace -/
def clone : World K := { idx := w1.idx, store := w1.store }

theorem idx_cases {sp : Bytes} {stg : Stage} (h : alookup w0.idx sp = some stg) :
    (sp = [1] ∧ stg = stageA) ∨ (sp = [2] ∧ stg = stageB) := by
  simpa [w0] using alookup_mem h

/-- every input of a stage of the example is an output of the other stage -/
theorem inputs_owned (Sc : Bytes → Prop) : ∀ sp stg, Sc sp → alookup w0.idx sp = some stg →
    ∀ b ∈ stg.inputs, (findOwner cfg.walkAccumulates w0.idx b.path).isNone = false :=
  stage_forall (by decide)

/-- every hypothesis of the command-level theorem holds for the example (for ALL stages, hence for
those in scope) -/
theorem pipelineOK (Sc : Bytes → Prop) : PipelineOK cfg Sc w0 :=
  .of_check (fun _ _ => rfl) (by decide) Sc

theorem scope_all (sp : Bytes) (h : sp = [1] ∨ sp = [2]) : InScope cfg w0 [] sp :=
  inScope_all cfg (by rcases h with rfl | rfl <;> decide)

/-- **The command-level theorem instantiated**: `dud commit` of the two-stage pipeline, then
`dud checkout` (either strategy) in the fresh clone with an empty workspace, rebuilds the directory
`a/` of stage A and the file `b` of stage B. -/
theorem two_stage_roundtrip (strat2 : Strat) :
    ∃ v', cmdCheckout cfg strat2 false [] clone = .ok v' ∧
      (∃ r, getPath v'.ws [[97]] = some r ∧ deref ctx v'.store r = treeA) ∧
      (∃ r, getPath v'.ws [[98]] = some r ∧ deref ctx v'.store r = .file (.raw "out")) := by
  obtain ⟨v', h1, _, h3⟩ := commit_checkout_empty_workspace cfg good .link strat2 [] w0 w1
    (Consistent.nil _) (pipelineOK _) (stage_forall (by decide))
    commit_ok clone rfl rfl (Store.le_refl _ _)
  refine ⟨v', h1, ?_, ?_⟩
  · exact h3 [1] stageA (scope_all _ (.inl rfl)) rfl outA (by simp [stageA]) rfl
  · exact h3 [2] stageB (scope_all _ (.inr rfl)) rfl outB (by simp [stageB]) rfl

/-- the same by running the model: with the copy strategy the clone's workspace IS the original -/
def copyExact : Bool :=
  match cmdCheckout cfg .copy false [] clone with
  | .ok v => nodeBEq v.ws w0.ws
  | .error _ => false

#eval copyExact

/-- the recorded checksum of `a/` is `treeDigest` of the tree (clause (b), evaluated) -/
theorem two_stage_sum : (alookup w1.idx [1]).map (fun s => s.outputs.map (·.sum)) =
    some [treeDigest ctx [97] treeA] := run1.2

end Example2

#print axioms getPath_setPath_same
#print axioms getPath_setPath_other
#print axioms setPath_succeeds
#print axioms setPath_keeps_writable
#print axioms trackedOf_sum
#print axioms RoundTrip.mono
#print axioms commitArt_roundtrip
#print axioms origAt_of_getPath
#print axioms committedArt_congr
#print axioms commitArtW_post
#print axioms commitArts_post
#print axioms commitAct_post
#print axioms checkoutArtW_skip
#print axioms checkoutArtW_absent
#print axioms checkoutArts_fresh
#print axioms checkoutAct_fresh
#print axioms committedArt_paths
#print axioms trackedOf_committedArt
#print axioms checkoutAct_committed
#print axioms stage_commit_checkout_roundtrip
#print axioms findOwner_isNone_sim
#print axioms PlainInputsApart.sim
#print axioms CommitInv.init
#print axioms commitInv_step
#print axioms cmdCommit_inv
#print axioms lawfulOn_congr_own
#print axioms reach_congr_own
#print axioms commit_checkout_world_roundtrip
#print axioms commit_checkout_empty_workspace
#print axioms Example2.commit_ok
#print axioms Example2.idx_cases
#print axioms Example2.pipelineOK
#print axioms Example2.scope_all
#print axioms Example2.two_stage_roundtrip
#print axioms Example2.two_stage_sum

end Dud
