import DudModel.Props.C03
import DudModel.Lemmas.InterleaveTree
/-!
# C03 (second tier) — concurrent workers: every interleaving is crash-safe

`Sys.lean` generates the trace of a directory commit with the entries processed one after the other.
The Go code runs up to 64+1 workers; their calls interleave.  `interleave_crash_safe`: two traces that are
each `Allowed`-disciplined when run alone from the same safe state, and that own disjoint private paths
(`Owned A₁`, `Owned A₂`: workspace files and temp names; objects and shard directories are shared), can be
interleaved in ANY way (`Interleave`) — every call is still allowed in the state it meets
(`interleaving_sim`, `Lemmas/InterleaveN.lean`), so the state after every prefix is safe.  The argument
is the one in the comment of `commitBytes`: everyone racing for the same digest name puts the same
bytes there (`Good.inj`), and rename is atomic.

`commit_siblings_interleave_crash_safe` instantiates this with the traced commits of two directory
entries with different names (and disjoint temp names).

`Interleave` is the relation `Interleaving` of `Lemmas/InterleaveN.lean` once more
(`Interleaving.toInterleave` / `.ofInterleave`); only the two theorems of this file are stated with it.

Then two enumerated examples — two workers racing for the same object name; every prefix of every
interleaving is evaluated with the Boolean checker `safeB` (`interReport`, `interReportE`) — and
`commit_siblings_interleave_crash_safe` applied to the first of them, so its hypotheses are satisfiable.
-/
namespace Dud.Sys

open Dud

variable {κ : Type}

inductive Interleave {α : Type} : List α → List α → List α → Prop
  | nil : Interleave [] [] []
  | left {a : α} {l1 l2 l : List α} : Interleave l1 l2 l → Interleave (a :: l1) l2 (a :: l)
  | right {a : α} {l1 l2 l : List α} : Interleave l1 l2 l → Interleave l1 (a :: l2) (a :: l)

theorem Interleave.nil_left {α : Type} : ∀ (l : List α), Interleave [] l l
  | [] => .nil
  | _ :: l => .right (Interleave.nil_left l)

theorem Interleave.nil_right {α : Type} : ∀ (l : List α), Interleave l [] l
  | [] => .nil
  | _ :: l => .left (Interleave.nil_right l)

/-- sequential composition is one of the interleavings -/
theorem Interleave.append {α : Type} : ∀ (l1 l2 : List α), Interleave l1 l2 (l1 ++ l2)
  | [], l2 => Interleave.nil_left l2
  | _ :: l1, l2 => .left (Interleave.append l1 l2)

theorem Interleaving.toInterleave {α : Type} {t1 t2 t : List α} (h : Interleaving t1 t2 t) :
    Interleave t1 t2 t := by
  induction h with
  | nil => exact .nil
  | left _ ih => exact .left ih
  | right _ ih => exact .right ih

theorem Interleaving.ofInterleave {α : Type} {t1 t2 t : List α} (h : Interleave t1 t2 t) :
    Interleaving t1 t2 t := by
  induction h with
  | nil => exact .nil
  | left _ ih => exact .left ih
  | right _ ih => exact .right ih

/-- **Interleavings are crash-safe**: from a safe state, two traces that are each disciplined when
run alone and own disjoint private paths can be interleaved in any way — the state after every
prefix of the interleaving is safe. -/
theorem interleave_crash_safe {ctx : Ctx κ} (g : Good ctx) {tracked : List (P × κ)} (emp : κ)
    {A1 A2 : P → Prop} (hA1 : Priv A1) (hA2 : Priv A2) (hdisj : ∀ p, A1 p → ¬ A2 p)
    {l1 l2 l : List (Call κ)} (hi : Interleave l1 l2 l) {fs : FS κ} (hs : Safe ctx tracked fs)
    (ha1 : AllowedTrace ctx emp tracked fs l1) (ha2 : AllowedTrace ctx emp tracked fs l2)
    (ho1 : ∀ c ∈ l1, Owned A1 c) (ho2 : ∀ c ∈ l2, Owned A2 c) :
    ∀ k, Safe ctx tracked (replay emp fs (l.take k)) :=
  (interleaving_sim g emp hA1 hA2 hdisj (.ofInterleave hi) fs fs fs hs (Sim.refl _ _ _)
    ha1 ha2 ho1 ho2).1.prefixSafe g hs

/-- **Two workers committing sibling entries concurrently.**  The traces of the traced commit of two
entries with different names and disjoint temp names, interleaved in any way, leave a safe state
after every prefix. -/
theorem commit_siblings_interleave_crash_safe {t : TCfg κ} (g : Good t.ctx) {tracked : List (P × κ)}
    (htw : TrackedWs tracked) {emp : κ} (hemp : ∀ c, t.isEmp c = true → c = emp)
    {pre : List Name} {nm1 nm2 : Name} (hne : nm1 ≠ nm2) {nd1 nd2 : Node κ}
    (hu1 : uniqNode nd1) (hu2 : uniqNode nd2)
    {c1 c2 : Child} {s1 s2 : Store κ} {n1 n1' n2 n2' : Nat}
    {r1 r2 : Node κ × Child × Store κ} {calls1 calls2 : List (Call κ)}
    (h1 : commitNodeT t (pre ++ [nm1]) nd1 c1 s1 n1 = .ok (r1, calls1, n1'))
    (h2 : commitNodeT t (pre ++ [nm2]) nd2 c2 s2 n2 = .ok (r2, calls2, n2'))
    (hn : n1' ≤ n2)
    {fs : FS κ} (hs : Safe t.ctx tracked fs)
    (hin1 : ∀ p ∈ trackedOf (pre ++ [nm1]) nd1, ∃ m, fs.get p.1 = some (.file p.2 m))
    (hin2 : ∀ p ∈ trackedOf (pre ++ [nm2]) nd2, ∃ m, fs.get p.1 = some (.file p.2 m))
    (hfr : ∀ k, n1 ≤ k → fs.get (.ctmp k) = none)
    {l : List (Call κ)} (hi : Interleave calls1 calls2 l) :
    ∀ k, Safe t.ctx tracked (replay emp fs (l.take k)) := by
  have hle1 := (commitNodeT_trace t nd1 h1).foot.1
  have d1 := commitNodeT_disciplined g htw hemp hu1 h1 hs hin1 hfr
  have d2 := commitNodeT_disciplined g htw hemp hu2 h2 hs hin2 (fun k hk => hfr k (by omega))
  exact interleave_crash_safe g emp d1.priv d2.priv
    (privOf_disjoint hne nd1 nd2 (.inl hn)) hi hs
    d1.allowed d2.allowed d1.owned d2.owned

namespace Example
open Dud.Example

/-- all interleavings of two lists -/
def interleavings {α : Type} : List α → List α → List (List α)
  | [], l2 => [l2]
  | l1, [] => [l1]
  | a :: l1, b :: l2 =>
    (interleavings l1 (b :: l2)).map (a :: ·) ++ (interleavings (a :: l1) l2).map (b :: ·)

def twoFiles : Node K := .dir [([97], .file (.raw "alpha")), ([98], .file (.raw "alpha"))]

/-- the two workers' traces: file `t/a` (temp 1) and file `t/b` (temp 2), same content — they race
for the same object name -/
def trace1 (strat : Strat) (canRename : Bool) : List (Call K) :=
  commitFileCalls isEmp strat canRename (.ws [[116], [97]]) 1 (.raw "alpha") (ctx.H (.raw "alpha"))
def trace2 (strat : Strat) (canRename : Bool) : List (Call K) :=
  commitFileCalls isEmp strat canRename (.ws [[116], [98]]) 2 (.raw "alpha") (ctx.H (.raw "alpha"))

/-- the same with two empty files (shorter traces: no write calls) -/
def twoEmpty : Node K := .dir [([97], .file (.raw "")), ([98], .file (.raw ""))]
def traceE (nm : Name) (n : Nat) : List (Call K) :=
  commitFileCalls isEmp .link false (.ws [[116], nm]) n (.raw "") (ctx.H (.raw ""))

/-- every prefix of every interleaving passes the Boolean checker -/
def interReport (strat : Strat) (canRename : Bool) : String :=
  let fs0 := fsOf ctx [[116]] twoFiles []
  let tracked := trackedOf [[116]] twoFiles
  let ls := interleavings (trace1 strat canRename) (trace2 strat canRename)
  let ok := ls.all (fun l => (List.range (l.length + 1)).all (fun k => safeB tracked (replay emp fs0 (l.take k))))
  s!"{ls.length} interleavings, every prefix of each safe: {ok}"

def interReportE : String :=
  let fs0 := fsOf ctx [[116]] twoEmpty []
  let tracked := trackedOf [[116]] twoEmpty
  let ls := interleavings (traceE [97] 1) (traceE [98] 2)
  let ok := ls.all (fun l => (List.range (l.length + 1)).all (fun k => safeB tracked (replay emp fs0 (l.take k))))
  s!"{ls.length} interleavings, every prefix of each safe: {ok}"

#eval interReport .link true
#eval interReportE          -- link strategy without rename: copy, unlink, symlink
#eval interReport .copy false

/-- worker `n` (1 or 2) of `interReport`: entry `nm` of `twoFiles` with temp `n` issues `commitFileCalls` -/
theorem trace_commit (strat : Strat) (canRename : Bool) (nm : Name) (n : Nat) :
    commitNodeT (tc strat canRename) ([[116]] ++ [nm]) (.file (.raw "alpha")) ⟨nm, "", false⟩ [] n
      = .ok ((if strat = .link then .link (.obj (ctx.H (.raw "alpha"))) else .file (.raw "alpha"),
              ⟨nm, ctx.H (.raw "alpha"), false⟩, [(ctx.H (.raw "alpha"), .blob (.raw "alpha"))]),
             commitFileCalls isEmp strat canRename (.ws [[116], nm]) n (.raw "alpha") (ctx.H (.raw "alpha")),
             if strat == .link && canRename then n else n + 1) := by
  cases strat <;> cases canRename <;> rfl

/-- the theorem on this instance: the hypotheses are satisfiable -/
example (strat : Strat) (canRename : Bool) (l : List (Call K))
    (hi : Interleave (trace1 strat canRename) (trace2 strat canRename) l) (k : Nat) :
    Safe ctx (trackedOf [[116]] twoFiles) (replay emp (fsOf ctx [[116]] twoFiles []) (l.take k)) := by
  have hu : uniqNode twoFiles := by simp [twoFiles, uniqNode, uniqList]
  have hsafe := fsOf_safe ctx [[116]] twoFiles [] hu empty_consistent
  have hget := fsOf_get_tracked ctx [[116]] twoFiles [] hu
  have ha : (.ws [[116], [97]], K.raw "alpha") ∈ trackedOf [[116]] twoFiles := by
    simp [twoFiles, trackedOf, trackedList]
  have hb : (.ws [[116], [98]], K.raw "alpha") ∈ trackedOf [[116]] twoFiles := by
    simp [twoFiles, trackedOf, trackedList]
  refine commit_siblings_interleave_crash_safe (t := tc strat canRename) good (trackedOf_ws _ _) hemp
    (by decide : ([97] : Name) ≠ [98]) (by simp [uniqNode]) (by simp [uniqNode])
    (trace_commit strat canRename [97] 1) (trace_commit strat canRename [98] 2)
    (by cases strat <;> cases canRename <;> simp) hsafe ?_ ?_
    (fun k _ => fsOf_get_ctmp ctx _ _ _ k) hi k
  · intro p hp
    simp [trackedOf] at hp; subst hp
    exact ⟨_, hget _ ha⟩
  · intro p hp
    simp [trackedOf] at hp; subst hp
    exact ⟨_, hget _ hb⟩

end Example

#print axioms Interleave.append
#print axioms apply_get_congr
#print axioms objLe_apply
#print axioms Allowed.transfer
#print axioms Rel.step_own
#print axioms Rel.step_other
#print axioms interleave_crash_safe
#print axioms CommitTrace.owned
#print axioms commitEntriesT_owned
#print axioms commit_siblings_interleave_crash_safe

end Dud.Sys
