import DudModel.Props.C01world
/-!
# C16 at the world level — the checksums `dud commit` records depend on path and content only

`Props/C16.lean` shows, for one artifact, that the recorded checksum is `treeDigest` of the tree,
whatever the cache held before.  Here the statement is lifted to the command `cmdCommit` over a
multi-stage index, as a corollary of `commit_checkout_world_roundtrip` (b)
(`stg'.outputs = (sortArts stg.outputs).map (committedArt cfg.ctx w0.ws)`):

* `cmdCommit_records`: every output `a` of every stage in scope is recorded with the checksum
  `recordedSum cfg.ctx w0.ws a`, and `recordedSum_congr`: that is a function of the artifact's path,
  its `DisableRecursion` flag and the subtree found at the path — no strategy, no cache, no other
  stage, no previously recorded checksum enters;
* `commit_sums_world_independent`: two worlds with the same workspace and index, ARBITRARY consistent
  caches (content and history), remotes, memos, and arbitrary strategies record EQUAL outputs for
  every stage in scope;
* `commit_sums_world_local`: two PROJECTS (different indexes, workspaces, targets, even different
  stage paths) that agree on one stage's outputs up to the checksums recorded so far
  (`Art.noSum`) and on the subtrees at these output paths record equal outputs for that stage.

Hypotheses: those of `commit_checkout_world_roundtrip` (`PipelineOK`: distinct stage paths,
non-overlapping outputs satisfying `ArtPre`, …; in particular a directory output has no recorded
checksum yet — re-commits of directories are `Props/C16.lean` / C15 at the artifact level), and both
commits succeed.
-/
namespace Dud

open WT

variable {κ : Type}

/-- the checksum a commit of the workspace `ws` records for the artifact `a` -/
def recordedSum (ctx : Ctx κ) (ws : Node κ) (a : Art) : Digest :=
  treeDigest ctx a.path (trackedOf a (origAt ws a))

theorem committedArt_sum (ctx : Ctx κ) (ws : Node κ) (a : Art) :
    (committedArt ctx ws a).sum = recordedSum ctx ws a ∧ (committedArt ctx ws a).path = a.path ∧
      (committedArt ctx ws a).isDir = a.isDir ∧ (committedArt ctx ws a).noRec = a.noRec ∧
      (committedArt ctx ws a).skip = a.skip := ⟨rfl, rfl, rfl, rfl, rfl⟩

theorem trackedOf_congr {a b : Art} (h : b.noRec = a.noRec) (n : Node κ) :
    trackedOf b n = trackedOf a n := by
  cases n <;> simp [trackedOf, h]

/-- **The recorded checksum is a function of the path, the `DisableRecursion` flag and the subtree
at the path**: two artifacts with the same path and flag, in two workspaces that have the same
subtree (or nothing) at that path, get the same checksum -/
theorem recordedSum_congr (ctx : Ctx κ) {ws ws' : Node κ} {a b : Art} (hp : b.path = a.path)
    (hn : b.noRec = a.noRec)
    (h : getPath ws' (Path.comps a.path) = getPath ws (Path.comps a.path)) :
    recordedSum ctx ws' b = recordedSum ctx ws a := by
  simp only [recordedSum, origAt, hp, h, trackedOf_congr hn]

theorem committedArt_noSum (ctx : Ctx κ) (ws : Node κ) (a : Art) :
    committedArt ctx ws a.noSum = committedArt ctx ws a := by
  simp only [committedArt, Art.noSum, origAt]
  rw [trackedOf_sum]

theorem insertArt_map (f : Art → Art) (hf : ∀ a, (f a).path = a.path) (a : Art) (l : List Art) :
    insertArt (f a) (l.map f) = (insertArt a l).map f :=
  insertArt_eq ▸ (insertBy_map f hf a l).symm

theorem sortArts_map (f : Art → Art) (hf : ∀ a, (f a).path = a.path) :
    ∀ l : List Art, sortArts (l.map f) = (sortArts l).map f
  | [] => rfl
  | c :: cs => sortArts_eq ▸ (sortBy_map f hf (c :: cs)).symm

theorem recorded_outputs_noSum (ctx : Ctx κ) (ws : Node κ) (outs : List Art) :
    (sortArts outs).map (committedArt ctx ws) =
      (sortArts (outs.map Art.noSum)).map (committedArt ctx ws) := by
  rw [sortArts_map Art.noSum (fun _ => rfl), List.map_map]
  exact List.map_congr_left (fun a _ => (committedArt_noSum ctx ws a).symm)

theorem inScope_congr (cfg : Cfg κ) {w v : World κ} (h : v.idx = w.idx) (targets : List Bytes)
    (sp : Bytes) : InScope cfg v targets sp ↔ InScope cfg w targets sp := by
  simp only [InScope, allStages, h]

theorem PipelineOK.congr {cfg : Cfg κ} {Sc : Bytes → Prop} {w v : World κ} (hi : v.idx = w.idx)
    (hw : v.ws = w.ws) (h : PipelineOK cfg Sc w) : PipelineOK cfg Sc v where
  keys := by rw [hi]; exact h.keys
  apart_in := by rw [hi]; exact h.apart_in
  apart_across := by rw [hi]; exact h.apart_across
  pre := by rw [hi, hw]; exact h.pre
  inputs := by rw [hi]; exact h.inputs

/-- **What `dud commit` records, world level.** For every stage in scope: the recorded outputs are
the sorted outputs with `sum := recordedSum …`; in particular every output `a` listed in the stage
is recorded, under its path, with the checksum `recordedSum cfg.ctx w0.ws a`. -/
theorem cmdCommit_records (cfg : Cfg κ) (g : Good cfg.ctx) (strat : Strat) (targets : List Bytes)
    (w0 w' : World κ) (hc : Consistent cfg.ctx w0.store)
    (hok : PipelineOK cfg (InScope cfg w0 targets) w0)
    (h : cmdCommit cfg strat targets w0 = .ok w') :
    ∀ sp stg, InScope cfg w0 targets sp → alookup w0.idx sp = some stg →
      ∃ stg', alookup w'.idx sp = some stg' ∧
        stg'.outputs = (sortArts stg.outputs).map (committedArt cfg.ctx w0.ws) ∧
        (∀ a, a ∈ stg.outputs → ∃ a', a' ∈ stg'.outputs ∧ a'.path = a.path ∧
          a'.sum = recordedSum cfg.ctx w0.ws a) ∧
        (∀ a', a' ∈ stg'.outputs → ∃ a, a ∈ stg.outputs ∧ a'.path = a.path ∧
          a'.sum = recordedSum cfg.ctx w0.ws a) := by
  intro sp stg hsc hs
  obtain ⟨stg', h1, h2⟩ :=
    (commit_checkout_world_roundtrip cfg g strat strat targets w0 w' hc hok h).2.1 sp stg hsc hs
  refine ⟨stg', h1, h2, ?_, ?_⟩
  · intro a ha
    refine ⟨committedArt cfg.ctx w0.ws a, ?_, rfl, rfl⟩
    rw [h2]
    exact List.mem_map.2 ⟨a, mem_sortArts_of_mem (hok.apart_in sp stg hsc hs).paths_ne ha, rfl⟩
  · intro a' ha'
    rw [h2] at ha'
    obtain ⟨a, ha, rfl⟩ := List.mem_map.1 ha'
    exact ⟨a, mem_of_mem_sortArts ha, rfl, rfl⟩

/-- **Two projects, one stage in common.** `wA` and `wB` may differ in everything — index, workspace,
cache, remote, targets, strategy, even the path of the stage file — provided the stage `spA` of `wA`
and the stage `spB` of `wB` list the same outputs up to the checksums recorded so far, and the two
workspaces hold the same subtree at each of these output paths.  If both commits succeed (each
pipeline satisfying `PipelineOK`), the two stages are recorded with EQUAL outputs (paths, flags and
checksums). -/
theorem commit_sums_world_local (cfg : Cfg κ) (g : Good cfg.ctx) (sA sB : Strat)
    (tA tB : List Bytes) (wA wB wA' wB' : World κ)
    (hcA : Consistent cfg.ctx wA.store) (hcB : Consistent cfg.ctx wB.store)
    (hokA : PipelineOK cfg (InScope cfg wA tA) wA) (hokB : PipelineOK cfg (InScope cfg wB tB) wB)
    (hA : cmdCommit cfg sA tA wA = .ok wA') (hB : cmdCommit cfg sB tB wB = .ok wB')
    (spA spB : Bytes) (stgA stgB : Stage)
    (hinA : InScope cfg wA tA spA) (hinB : InScope cfg wB tB spB)
    (hsA : alookup wA.idx spA = some stgA) (hsB : alookup wB.idx spB = some stgB)
    (hout : stgB.outputs.map Art.noSum = stgA.outputs.map Art.noSum)
    (hws : ∀ a, a ∈ stgA.outputs →
      getPath wB.ws (Path.comps a.path) = getPath wA.ws (Path.comps a.path)) :
    ∃ stgA' stgB', alookup wA'.idx spA = some stgA' ∧ alookup wB'.idx spB = some stgB' ∧
      stgB'.outputs = stgA'.outputs ∧
      stgA'.outputs = (sortArts stgA.outputs).map (committedArt cfg.ctx wA.ws) := by
  obtain ⟨stgA', a1, a2, _⟩ := cmdCommit_records cfg g sA tA wA wA' hcA hokA hA spA stgA hinA hsA
  obtain ⟨stgB', b1, b2, _⟩ := cmdCommit_records cfg g sB tB wB wB' hcB hokB hB spB stgB hinB hsB
  refine ⟨stgA', stgB', a1, b1, ?_, a2⟩
  rw [a2, b2, recorded_outputs_noSum cfg.ctx wB.ws, recorded_outputs_noSum cfg.ctx wA.ws, hout]
  refine List.map_congr_left (fun a ha => committedArt_congr cfg.ctx ?_)
  obtain ⟨a0, ha0, rfl⟩ := List.mem_map.1 (mem_of_mem_sortArts ha)
  exact hws a0 ha0

/-- **C16, world level: recorded checksums do not depend on the strategy, nor on the content or the
history of the cache.** `wA` and `wB` have the same workspace and the same index; their caches (any
consistent ones: empty, or left by any sequence of earlier commits of anything), remotes and memos
are arbitrary, and so are the strategies `sA`, `sB`.  If both `dud commit [targets]` succeed, every
stage in scope is recorded with EQUAL outputs in both, namely the sorted outputs with the checksum
`recordedSum` — a function of path, flag and subtree (`recordedSum_congr`). -/
theorem commit_sums_world_independent (cfg : Cfg κ) (g : Good cfg.ctx) (sA sB : Strat)
    (targets : List Bytes) (wA wB wA' wB' : World κ) (hws : wB.ws = wA.ws) (hidx : wB.idx = wA.idx)
    (hcA : Consistent cfg.ctx wA.store) (hcB : Consistent cfg.ctx wB.store)
    (hok : PipelineOK cfg (InScope cfg wA targets) wA)
    (hA : cmdCommit cfg sA targets wA = .ok wA') (hB : cmdCommit cfg sB targets wB = .ok wB') :
    ∀ sp stg, InScope cfg wA targets sp → alookup wA.idx sp = some stg →
      ∃ stgA' stgB', alookup wA'.idx sp = some stgA' ∧ alookup wB'.idx sp = some stgB' ∧
        stgB'.outputs = stgA'.outputs ∧
        stgA'.outputs = (sortArts stg.outputs).map (committedArt cfg.ctx wA.ws) ∧
        ∀ a, a ∈ stg.outputs → ∃ a', a' ∈ stgA'.outputs ∧ a'.path = a.path ∧
          a'.sum = recordedSum cfg.ctx wA.ws a := by
  intro sp stg hsc hs
  have hscB : ∀ x, InScope cfg wA targets x → InScope cfg wB targets x :=
    fun x hx => (inScope_congr cfg hidx targets x).2 hx
  have hokB : PipelineOK cfg (InScope cfg wB targets) wB := by
    have : InScope cfg wB targets = InScope cfg wA targets :=
      funext (fun x => propext (inScope_congr cfg hidx targets x))
    rw [this]
    exact hok.congr hidx hws
  obtain ⟨stgA', stgB', a1, b1, e, a2⟩ := commit_sums_world_local cfg g sA sB targets targets
    wA wB wA' wB' hcA hcB hok hokB hA hB sp sp stg stg hsc (hscB sp hsc) hs (by rw [hidx]; exact hs)
    rfl (fun a _ => by rw [hws])
  refine ⟨stgA', stgB', a1, b1, e, a2, ?_⟩
  intro a ha
  refine ⟨committedArt cfg.ctx wA.ws a, ?_, rfl, rfl⟩
  rw [a2]
  exact List.mem_map.2 ⟨a, mem_sortArts_of_mem (hok.apart_in sp stg hsc hs).paths_ne ha, rfl⟩

/-! ## non-vacuity: the two-stage pipeline of `Props/C01world.lean`

`Example2.w0` committed with the link strategy into an empty cache (`Example2.w1`), and the same
workspace and index committed with the COPY strategy into the cache the first commit left behind. -/
namespace Example2
open Dud.Example

/-- same workspace and index as `w0`, but the cache (and the remote) hold what the first commit
stored: another history -/
def w0B : World K := { w0 with store := w1.store, remote := w1.store }

def w1B : World K :=
  match cmdCommit cfg .copy [] w0B with
  | .ok w => w
  | .error _ => default

theorem commitB_ok : cmdCommit cfg .copy [] w0B = .ok w1B := rfl

/-- **`commit_sums_world_independent` instantiated**: both commits record the same outputs for
stage A (the directory `a/`) and for stage B (the file `b`) -/
theorem two_histories_same_sums :
    (∃ sA sB, alookup w1.idx [1] = some sA ∧ alookup w1B.idx [1] = some sB ∧
      sB.outputs = sA.outputs ∧ ∃ a', a' ∈ sA.outputs ∧ a'.path = [97] ∧
        a'.sum = treeDigest ctx [97] treeA) ∧
    (∃ sA sB, alookup w1.idx [2] = some sA ∧ alookup w1B.idx [2] = some sB ∧
      sB.outputs = sA.outputs) := by
  have hc0 : Consistent cfg.ctx w0.store := Consistent.nil _
  have hc1 : Consistent cfg.ctx w1.store :=
    (commit_checkout_world_roundtrip cfg good .link .link [] w0 w1 hc0 (pipelineOK _) commit_ok).1.1
  have h := commit_sums_world_independent cfg good .link .copy [] w0 w0B w1 w1B rfl rfl hc0 hc1
    (pipelineOK _) commit_ok commitB_ok
  constructor
  · obtain ⟨sA, sB, h1, h2, h3, _, h5⟩ := h [1] stageA (scope_all _ (.inl rfl)) rfl
    obtain ⟨a', ha', hp, hsum⟩ := h5 outA (by simp [stageA])
    exact ⟨sA, sB, h1, h2, h3, a', ha', hp, hsum⟩
  · obtain ⟨sA, sB, h1, h2, h3, _⟩ := h [2] stageB (scope_all _ (.inr rfl)) rfl
    exact ⟨sA, sB, h1, h2, h3⟩

/-- the same by running the model -/
def sumsOf (w : World K) : List (Bytes × List Digest) :=
  w.idx.map (fun p => (p.1, p.2.outputs.map (·.sum)))

#eval sumsOf w1 == sumsOf w1B
#eval (sumsOf w1).map (·.2.map (·.length))

end Example2

#print axioms committedArt_sum
#print axioms trackedOf_congr
#print axioms recordedSum_congr
#print axioms committedArt_noSum
#print axioms insertArt_map
#print axioms sortArts_map
#print axioms recorded_outputs_noSum
#print axioms inScope_congr
#print axioms PipelineOK.congr
#print axioms cmdCommit_records
#print axioms commit_sums_world_local
#print axioms commit_sums_world_independent
#print axioms Example2.commitB_ok
#print axioms Example2.two_histories_same_sums

end Dud
