import DudModel.Lemmas.CrashCmdStable
import DudModel.Lemmas.SysConcCmd
import DudModel.Props.C03cmd
/-!
# C03 at the level of the whole command, stage files written after each target (Go's order)

`cmdCommitT` (`Props/C03cmd.lean`) issues all stage-file writes after all artifacts.  The loop of
`src/cmd/commit.go` writes, after the traversal of EACH target, the stage files of the stages that
traversal committed; with several targets (or no target and several stages) stage-file writes and
artifact commits therefore alternate.  `cmdCommitGoT` (`SysCmd.lean`) follows that order.  This file
proves for it what `C03cmd.lean` proves for `cmdCommitT`:

* `cmdCommitGoT_refines` — erasing the trace gives `cmdCommit`;
* `cmdCommitGoT_single` — with one (effective) target the two traced commands are EQUAL, calls included;
* `cmdCommitGoT_crash_safe` — after every prefix: every byte sequence of a regular workspace file is
  retrievable, no object is torn;
* `cmdCommitGoT_stage_files_never_torn` — after every prefix every stage file holds what it held before
  the command or the COMPLETE encoding of a stage (no hypothesis on the index);
* `cmdCommitGoT_stage_files_atomic` — … of the stage the FINAL index holds, as for `cmdCommitT`; here this
  needs that a stage whose file has been written is not committed again by a later target, a fact about the
  traversal that holds when the stage paths of the index are pairwise distinct (hypothesis `hk`; Go: a map);
* `cmdCommitGoT_lock_window` — the lock exists exactly strictly between the first and the last call.

Same hypotheses as in `C03cmd.lean`; none on the index except `hk` in `cmdCommitGoT_stage_files_atomic`.
-/
namespace Dud.Sys
open Dud
variable {κ : Type}

/-- **Erasing the trace of `cmdCommitGoT` gives exactly `cmdCommit`.** -/
theorem cmdCommitGoT_refines (c : CmdCfg κ) (strat : Strat) (targets : List Bytes) (w : World κ) :
    (cmdCommitGoT c strat targets w).map (·.1) = cmdCommit c.cfg strat targets w := by
  unfold cmdCommitGoT cmdCommitGoSegs cmdCommit
  simp only
  generalize (if targets.isEmpty then allStages w else targets) = ts
  by_cases hts : ts.isEmpty = true
  · rw [if_pos hts, if_pos hts]; rfl
  · rw [if_neg hts, if_neg hts, ← goTargets_refines c strat ts (fresh w, [])]
    cases goTargets c strat ts (fresh w, []) <;> rfl

theorem newlyDone_nil (d : List Bytes) : newlyDone [] d = d.reverse := by
  simp [newlyDone]

/-- **One target: the two orders are the same call sequence.**  `targets = [t]`, or no target and a
single stage in the index. -/
theorem cmdCommitGoT_single (c : CmdCfg κ) (strat : Strat) (targets : List Bytes) (w : World κ) (t : Bytes)
    (h1 : (if targets.isEmpty then allStages w else targets) = [t]) :
    cmdCommitGoT c strat targets w = cmdCommitT c strat targets w := by
  unfold cmdCommitGoT cmdCommitGoSegs cmdCommitT cmdCommitSegs
  simp only [h1, List.isEmpty_cons, Bool.false_eq_true, if_false, goTargets, perTargetP]
  cases hb : (alookup (fresh w).idx t).isNone with
  | true => simp only [if_true]
  | false =>
    simp only [Bool.false_eq_true, if_false]
    cases visit (commitTravT c strat) true ((fresh w).idx.length + 1) (allStages (fresh w)) t (fresh w, []) with
    | error e => rfl
    | ok q =>
      obtain ⟨w', arts⟩ := q
      have : (fresh w).done = [] := rfl
      simp only [goCalls_eq, CmdTrace.calls, List.nil_append, flatSegs_append, flatSegs_arts, this,
        newlyDone_nil, flatSegs_metas, List.append_assoc]

theorem cmdCommitGoT_cmdInv {c : CmdCfg κ} {strat : Strat} (g : Good c.cfg.ctx) {emp : κ}
    (hemp : ∀ x, c.isEmp x = true → x = emp) {targets : List Bytes} {w w' : World κ}
    {calls : List (Call κ)} (hu : uniqNode w.ws) (hc : Consistent c.cfg.ctx w.store)
    (h : cmdCommitGoT c strat targets w = .ok (w', calls)) :
    ∃ segs : List (Bool × List (Call κ)),
      calls = [.createExcl .lock] ++ flatSegs segs ++ [.unlink .lock] ∧
      CmdInv c emp (trackedOf [] w.ws) (replay emp (fsOfWorld c w) [.createExcl .lock]) (w', segs) := by
  obtain ⟨segs, hgo, rfl⟩ := cmdCommitGoT_ok_inv h
  have htw := trackedOf_ws (κ := κ) [] w.ws
  have hsb := lock_safe (emp := emp) g htw (fsOfWorld_safe c w hu hc)
  exact ⟨segs, rfl, goTargets_segs (Q := fun w1 sg => CmdInv c emp (trackedOf [] w.ws) _ (w1, sg))
    (CmdInv.art g htw hemp hsb) CmdInv.stage (CmdInv.meta htw) (p := (fresh w, []))
    (CmdInv.init (lock_rel (Rel.init c w hu))) hgo⟩

/-- everything about a successful run, in one place -/
theorem cmdCommitGoT_run {c : CmdCfg κ} {strat : Strat} (g : Good c.cfg.ctx) {emp : κ}
    (hemp : ∀ x, c.isEmp x = true → x = emp) {targets : List Bytes} {w w' : World κ}
    {calls : List (Call κ)} (hu : uniqNode w.ws) (hc : Consistent c.cfg.ctx w.store)
    (h : cmdCommitGoT c strat targets w = .ok (w', calls)) :
    ∃ segs : List (Bool × List (Call κ)),
      calls = [.createExcl .lock] ++ flatSegs segs ++ [.unlink .lock] ∧
      GInv c emp (trackedOf [] w.ws) (replay emp (fsOfWorld c w) [.createExcl .lock]) (w', segs) ∧
      AllowedTrace c.cfg.ctx emp (trackedOf [] w.ws) (fsOfWorld c w) calls := by
  obtain ⟨segs, rfl, hi⟩ := cmdCommitGoT_cmdInv g hemp hu hc h
  refine ⟨segs, rfl, hi.ginv stage_write_fact hemp fun sp => ?_, hi.allowed_cmd (trackedOf_ws [] w.ws)⟩
  rw [replay_get_frame emp _ _ _ (by intro x hx; simp at hx; subst hx; simp [callWrites, callPaths])]
  exact fsOfWorld_get_stageTmp c w sp

/-- **Command-level crash safety, Go's order.**  After every prefix of the calls the file system is `Safe`
for all regular files the workspace held before the command. -/
theorem cmdCommitGoT_crash_safe {c : CmdCfg κ} {strat : Strat} (g : Good c.cfg.ctx) {emp : κ}
    (hemp : ∀ x, c.isEmp x = true → x = emp) {targets : List Bytes} {w w' : World κ}
    {calls : List (Call κ)} (hu : uniqNode w.ws) (hc : Consistent c.cfg.ctx w.store)
    (h : cmdCommitGoT c strat targets w = .ok (w', calls)) :
    ∀ k, Safe c.cfg.ctx (trackedOf [] w.ws) (replay emp (fsOfWorld c w) (calls.take k)) := by
  obtain ⟨segs, rfl, hi⟩ := cmdCommitGoT_cmdInv g hemp hu hc h
  exact (hi.allowed_cmd (trackedOf_ws [] w.ws)).prefixSafe g (fsOfWorld_safe c w hu hc)

/-- … for the regular files below any list of artifacts (e.g. the outputs of the stages in scope) -/
theorem cmdCommitGoT_crash_safe_below {c : CmdCfg κ} {strat : Strat} (g : Good c.cfg.ctx) {emp : κ}
    (hemp : ∀ x, c.isEmp x = true → x = emp) {targets : List Bytes} {w w' : World κ}
    {calls : List (Call κ)} (hu : uniqNode w.ws) (hc : Consistent c.cfg.ctx w.store)
    (h : cmdCommitGoT c strat targets w = .ok (w', calls)) (arts : List Art) :
    ∀ k, Safe c.cfg.ctx (trackedBelow w.ws arts) (replay emp (fsOfWorld c w) (calls.take k)) :=
  fun k => (cmdCommitGoT_crash_safe g hemp hu hc h k).mono (trackedBelow_sub hu arts)

/-- **Stage files are never torn, Go's order.**  After every prefix every stage file holds what it held
before the command or the complete encoding of a stage. -/
theorem cmdCommitGoT_stage_files_never_torn {c : CmdCfg κ} {strat : Strat} (g : Good c.cfg.ctx) {emp : κ}
    (hemp : ∀ x, c.isEmp x = true → x = emp) {targets : List Bytes} {w w' : World κ}
    {calls : List (Call κ)} (hu : uniqNode w.ws) (hc : Consistent c.cfg.ctx w.store)
    (h : cmdCommitGoT c strat targets w = .ok (w', calls)) (sp : Bytes) :
    ∀ k, (replay emp (fsOfWorld c w) (calls.take k)).get (.stageFile sp)
          = (fsOfWorld c w).get (.stageFile sp) ∨
      ∃ stg m, (replay emp (fsOfWorld c w) (calls.take k)).get (.stageFile sp)
          = some (.file (c.encStage stg) m) := by
  obtain ⟨segs, rfl, hi⟩ := cmdCommitGoT_cmdInv g hemp hu hc h
  exact fun k => ((stageSegs_cmd stage_write_fact hemp hi.segs (fsOfWorld_get_stageTmp c w)).2 sp k).imp id
    fun ⟨stg, m, _, hg⟩ => ⟨stg, m, hg⟩

/-- **Stage files are never torn, Go's order, full strength.**  With pairwise distinct stage paths in the
index (Go: the index is a map): after every prefix every stage file holds what it held before the command
or the complete encoding of the stage the FINAL index holds — a stage whose file has been written is
never committed again, and committing other stages leaves its index entry alone
(`visit_commitTravT_stable`). -/
theorem cmdCommitGoT_stage_files_atomic {c : CmdCfg κ} {strat : Strat} (g : Good c.cfg.ctx) {emp : κ}
    (hemp : ∀ x, c.isEmp x = true → x = emp) {targets : List Bytes} {w w' : World κ}
    {calls : List (Call κ)} (hu : uniqNode w.ws) (hc : Consistent c.cfg.ctx w.store)
    (hk : (w.idx.map (·.1)).Nodup)
    (h : cmdCommitGoT c strat targets w = .ok (w', calls)) (sp : Bytes) :
    ∀ k, (replay emp (fsOfWorld c w) (calls.take k)).get (.stageFile sp)
          = (fsOfWorld c w).get (.stageFile sp) ∨
      ∃ stg m, alookup w'.idx sp = some stg ∧
        (replay emp (fsOfWorld c w) (calls.take k)).get (.stageFile sp)
          = some (.file (c.encStage stg) m) := by
  obtain ⟨segs, hgo, rfl⟩ := cmdCommitGoT_ok_inv h
  have hi2 := goTargets_writtenInv (idx0 := w.idx) hk _ _ _ (WrittenInv.init (fresh w)) hgo
  exact (stageSegs_cmd stage_write_fact hemp (fun seg hseg => (hi2.segsF seg hseg).mono fun _ _ h => h.2)
    (fsOfWorld_get_stageTmp c w)).2 sp

/-- **The lock file exists exactly strictly between the first and the last call, Go's order.** -/
theorem cmdCommitGoT_lock_window {c : CmdCfg κ} {strat : Strat} (g : Good c.cfg.ctx) {emp : κ}
    (hemp : ∀ x, c.isEmp x = true → x = emp) {targets : List Bytes} {w w' : World κ}
    {calls : List (Call κ)} (hu : uniqNode w.ws) (hc : Consistent c.cfg.ctx w.store)
    (h : cmdCommitGoT c strat targets w = .ok (w', calls)) :
    2 ≤ calls.length ∧ calls.head? = some (.createExcl .lock) ∧ calls.getLast? = some (.unlink .lock) ∧
    ∀ k, (replay emp (fsOfWorld c w) (calls.take k)).get .lock =
      if 0 < k ∧ k < calls.length then some (.file emp 0o600) else none :=
  Conc.cmdCommitGoT_lock_window_any emp (fsOfWorld_get_lock c w) h

/-- **After the last call, Go's order**: regular files of the final logical workspace in place, no temp
file left, lock gone. -/
theorem cmdCommitGoT_final {c : CmdCfg κ} {strat : Strat} (g : Good c.cfg.ctx) {emp : κ}
    (hemp : ∀ x, c.isEmp x = true → x = emp) {targets : List Bytes} {w w' : World κ}
    {calls : List (Call κ)} (hu : uniqNode w.ws) (hc : Consistent c.cfg.ctx w.store)
    (h : cmdCommitGoT c strat targets w = .ok (w', calls)) :
    Rel w'.ws (replay emp (fsOfWorld c w) calls) ∧
      StageTmpFree (replay emp (fsOfWorld c w) calls) ∧
      (replay emp (fsOfWorld c w) calls).get .lock = none := by
  obtain ⟨segs, rfl, hi⟩ := cmdCommitGoT_cmdInv g hemp hu hc h
  exact hi.final stage_write_fact hemp (fsOfWorld_get_stageTmp c w)

namespace ExampleCmd
open Dud Dud.Sys Dud.Example

/-- two independent stages: with no target each is a target of its own -/
def stageC : Stage := { cmd := [3], outputs := [{ path := [99] }] }
def w2 : World K :=
  { ws := .dir [([98], .file (.raw "o")), ([99], .file (.raw "i"))],
    idx := [([2], { cmd := [2], outputs := [{ path := [98] }] }), ([3], stageC)] }

theorem w2_uniq : uniqNode w2.ws := by simp [w2, uniqNode, uniqList]
theorem w2_consistent (cr : Bool) : Consistent (cc cr).cfg.ctx w2.store := Consistent.nil _

def goCallsOf (w : World K) (strat : Strat) (cr : Bool) (ts : List Bytes) : List (Call K) :=
  match cmdCommitGoT (cc cr) strat ts w with
  | .ok (_, calls) => calls
  | .error _ => []

def drvCallsOf (w : World K) (strat : Strat) (cr : Bool) (ts : List Bytes) : List (Call K) :=
  match cmdCommitT (cc cr) strat ts w with
  | .ok (_, calls) => calls
  | .error _ => []

theorem goCallsOf_length : (goCallsOf w2 .link true []).length = 30 := by decide +kernel

/-- both orders issue 30 calls on the two independent stages; the `#eval`s below show them: with
`cmdCommitGoT` the stage file of the first target is written before the artifact of the second target is
touched, with `cmdCommitT` (`drvCallsOf`: all stage files last) after it -/
example : (goCallsOf w2 .link true []).length = 30 := goCallsOf_length
example : (drvCallsOf w2 .link true []).length = 30 := by decide +kernel

theorem goCallsOf_ne_nil : goCallsOf w2 .link true [] ≠ [] :=
  fun h => absurd (h ▸ goCallsOf_length) (by decide)

theorem goCallsOf_ok : ∃ w', cmdCommitGoT (cc true) .link [] w2 = .ok (w', goCallsOf w2 .link true []) := by
  have hne := goCallsOf_ne_nil
  unfold goCallsOf at hne ⊢
  cases hT : cmdCommitGoT (cc true) .link [] w2 with
  | error e => rw [hT] at hne; exact absurd rfl hne
  | ok v => exact ⟨v.1, rfl⟩

example :
    ∃ w' calls, cmdCommitGoT (cc true) .link [] w2 = .ok (w', calls) ∧ 10 < calls.length ∧
      (∀ k, Safe ctx (trackedOf [] w2.ws) (replay Example.emp (fsOfWorld (cc true) w2) (calls.take k))) ∧
      (∀ sp k, (replay Example.emp (fsOfWorld (cc true) w2) (calls.take k)).get (.stageFile sp)
            = (fsOfWorld (cc true) w2).get (.stageFile sp) ∨
          ∃ stg m, (replay Example.emp (fsOfWorld (cc true) w2) (calls.take k)).get (.stageFile sp)
              = some (.file (encStage stg) m)) := by
  obtain ⟨w', hT⟩ := goCallsOf_ok
  exact ⟨w', _, hT, by rw [goCallsOf_length]; decide,
    cmdCommitGoT_crash_safe (c := cc true) good Example.hemp w2_uniq (w2_consistent true) hT,
    cmdCommitGoT_stage_files_never_torn (c := cc true) good Example.hemp w2_uniq (w2_consistent true) hT⟩

theorem w2_keys : (w2.idx.map (·.1)).Nodup := by decide

/-- … and, the stage paths being distinct, every stage file shows old or FINAL new at every prefix -/
example :
    ∃ w' calls, cmdCommitGoT (cc true) .link [] w2 = .ok (w', calls) ∧
      ∀ sp k, (replay Example.emp (fsOfWorld (cc true) w2) (calls.take k)).get (.stageFile sp)
            = (fsOfWorld (cc true) w2).get (.stageFile sp) ∨
          ∃ stg m, alookup w'.idx sp = some stg ∧
            (replay Example.emp (fsOfWorld (cc true) w2) (calls.take k)).get (.stageFile sp)
              = some (.file (encStage stg) m) := by
  obtain ⟨w', hT⟩ := goCallsOf_ok
  exact ⟨w', _, hT, cmdCommitGoT_stage_files_atomic (c := cc true) good Example.hemp w2_uniq
    (w2_consistent true) w2_keys hT⟩

def showCalls (l : List (Call K)) : String := "; ".intercalate (l.map Example.showCall)

#eval showCalls (goCallsOf w2 .link true [])
#eval showCalls (drvCallsOf w2 .link true [])
-- one target: equal
#eval showCalls (goCallsOf w0 .link false [[2]]) == showCalls (drvCallsOf w0 .link false [[2]])

end ExampleCmd

#print axioms cmdCommitGoT_refines
#print axioms cmdCommitGoT_single
#print axioms cmdCommitGoT_run
#print axioms cmdCommitGoT_crash_safe
#print axioms cmdCommitGoT_crash_safe_below
#print axioms cmdCommitGoT_stage_files_never_torn
#print axioms cmdCommitGoT_stage_files_atomic
#print axioms cmdCommitGoT_lock_window
#print axioms cmdCommitGoT_final

end Dud.Sys
