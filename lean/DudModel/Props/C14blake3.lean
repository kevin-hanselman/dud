import DudModel.Lemmas.Blake3Block
import DudModel.Lemmas.Blake3Words
import DudModel.Props.C14
/-!
# C14 (hasher): the incremental BLAKE3 hasher equals the recursive tree specification

`Props/C14.lean` proves that `checksum.ChecksumBuffer` hashes exactly the reader's content, for every
way the reader cuts it into `Read` results, every buffer size and every dirty pooled hasher — but
ASSUMING `Dud.Hasher.Contract hs Hh`: "after `Reset` the digest depends only on the concatenation of
the written pieces and equals `Hh` of it".  This file DISCHARGES that contract for a faithful model
of an incremental BLAKE3 hasher (`DudModel/Blake3Incr.lean`, in the style of the BLAKE3 reference
implementation: open chunk, chunk counter, stack of subtree chaining values with the push-and-merge
discipline, lazy finalisation with ROOT only on the last compression), against the total recursive
specification of the BLAKE3 paper (`DudModel/Blake3Spec.lean`: `hashSpec`).

Main statements (all for inputs of ANY length, no bound anywhere):

* `incr_write_append`     `write (write s a) b = write s (a ++ b)`, for every state.
* `incr_correct`          `sum (chunks.foldl write (reset s0)) = hashSpec chunks.flatten` for every list
                          of pieces (empty ones included) and every prior state `s0`.
* `incr_contract`         hence `Contract (incrHasher P) (hashSpec P)`.
* `chunk_state_correct`, `block_correct`, `block_contract`: the same for the second machine, in which
  the open chunk is not kept as bytes but as chaining value + 64-byte block buffer + block count,
  over an abstract block compression.
* `real_contract`         the instance with the real compression function `Blake3.compress`.
* `blake3_checksum_reader`, `blake3_checksum_chunking_irrelevant`, `blake3_tee_copy` (and the
  `…_real` versions): the theorems of `Props/C14.lean` with the contract hypothesis removed.

What is NOT covered.
* The compression function is abstract in every theorem (`Params` / `BlockParams`): the theorems say
  that the streaming machine computes the SAME tree of compressions as the specification, whatever
  the compression is.  That the real instance `hashSpecReal` is BLAKE3 is checked on official test
  vectors (kernel-evaluated below and in `Props/C14blake3Vectors.lean`) and against the
  `partial def` `Blake3.hash` (`#eval` tests, NOT theorems); no theorem relates `hashSpecReal` to `Blake3.hash`,
  which is a `partial def` (its total twin `Blake3T.hash` is proved equal in `Props/C14total.lean`).
* The model is of the reference-style algorithm, not a line-by-line model of `zeebo/blake3`'s Go/asm
  code.  That library buffers 8 KiB, compresses 8 chunks at a time with SIMD, keeps its stack indexed
  by tree level with an occupancy bit set, and batches parent compressions; its finalisation walks
  the occupied levels from the lowest up.  The occupancy bit set is the binary-counter structure of
  `Stk` (`Lemmas/Blake3Incr.lean`), but that code is not modelled here.  Keyed hashing / key
  derivation and extended output (more than 32 bytes) are out of scope (dud uses neither).
* Machine integers: counters are `Nat`; the 2^64-chunk limit of the real counter is ignored.
-/
namespace Dud.Blake3Incr
open Dud.Blake3Spec Dud.Hasher

variable {CV Digest : Type}

/-- **Writes compose.**  Writing `a` and then `b` leaves the hasher in exactly the state that writing
`a ++ b` at once does — for EVERY state `s` (for states that are not well-formed, i.e. hold more than
1024 bytes in the open chunk, both sides are `s`: such states are unreachable and stuck). -/
theorem incr_write_append (P : Params CV Digest) (s : State CV) (a b : Bytes) :
    write P (write P s a) b = write P s (a ++ b) := by
  by_cases h : WF s
  · exact (write_fold P).append h a b
  · simp only [write, writeF_stuck P h]

/-- Every state reachable from a reset by writes is well-formed. -/
theorem incr_reachable_wf (P : Params CV Digest) (s0 : State CV) (chunks : List Bytes) :
    WF (chunks.foldl (write P) (reset s0)) :=
  (write_fold P).ok_foldl_write chunks (reset_wf s0)

/-- After a reset, any sequence of writes is one write of the concatenation. -/
theorem incr_writes_flatten (P : Params CV Digest) (s0 : State CV) (chunks : List Bytes) :
    chunks.foldl (write P) (reset s0) = write P (reset s0) chunks.flatten := by
  rw [(write_fold P).foldl_eq chunks (reset_wf s0), write_eq_foldl P (reset_wf s0)]

/-- **Correctness of the incremental hasher.**  Reset (from ANY prior state `s0`), write the pieces
`chunks` one after the other (any number, any sizes, empty ones included), and finalise: the result
is the recursive tree hash of the concatenation. -/
theorem incr_correct (P : Params CV Digest) (s0 : State CV) (chunks : List Bytes) :
    sum P (chunks.foldl (write P) (reset s0)) = hashSpec P chunks.flatten := by
  rw [incr_writes_flatten, sum_write_reset]

/-- The digest depends only on the concatenation of the pieces: not on how it was cut, and not on
what the two hashers had computed before their resets. -/
theorem incr_chunking_irrelevant (P : Params CV Digest) (s1 s2 : State CV) (c1 c2 : List Bytes)
    (h : c1.flatten = c2.flatten) :
    sum P (c1.foldl (write P) (reset s1)) = sum P (c2.foldl (write P) (reset s2)) := by
  rw [incr_correct, incr_correct, h]

/-- `Sum` may be called at any time and does not disturb the stream (`sum` is a function of the state
and returns no new state): after further writes the digest is that of everything written. -/
theorem incr_sum_then_more (P : Params CV Digest) (s0 : State CV) (chunks more : List Bytes) :
    sum P (more.foldl (write P) (chunks.foldl (write P) (reset s0)))
      = hashSpec P (chunks.flatten ++ more.flatten) := by
  rw [← List.foldl_append, incr_correct, List.flatten_append]

/-- The stack never holds more entries than the chunk count has binary digits: if fewer than `2^k`
chunks have been completed, the stack depth is at most `k` (so 64 entries suffice for a 64-bit
chunk counter — the reference implementation's fixed-size stack cannot overflow). -/
theorem incr_stack_depth (P : Params CV Digest) (s0 : State CV) (chunks : List Bytes) (k : Nat)
    (h : (chunks.foldl (write P) (reset s0)).n < 2 ^ k) :
    (chunks.foldl (write P) (reset s0)).stack.length ≤ k := by
  rw [incr_writes_flatten] at h ⊢
  obtain ⟨j, hj⟩ := exists_pieces (m := 1024) (by decide) chunks.flatten.length
  obtain ⟨_, hn, hstk⟩ := write_reset_spec P s0 chunks.flatten j hj
  exact (Nat.pow_le_pow_iff_right (by decide)).1 (Nat.le_trans hstk.pow_length_le (hn ▸ h))

/-- **The contract assumed in `Props/C14.lean` holds** for the incremental hasher, with the recursive
tree specification as the hash function — for every compression interface `P`. -/
theorem incr_contract (P : Params CV Bytes) : Contract (incrHasher P) (hashSpec P) :=
  fun s chunks => incr_correct P s chunks

/-- **The chunk state is correct**: absorbing the bytes of a chunk in ANY pieces (empty ones included)
and asking for the chaining value / the root output gives the one-shot blockwise `chunkCVOf` /
`chunkRootOf` of the concatenation, and `len` is the number of bytes absorbed. -/
theorem chunk_state_correct (B : BlockParams CV Digest) (ctr : Nat) (pieces : List Bytes) :
    (pieces.foldl (ChunkState.update B ctr) (ChunkState.init B)).outCV B ctr
        = chunkCVOf B pieces.flatten ctr ∧
    (pieces.foldl (ChunkState.update B ctr) (ChunkState.init B)).outRoot B ctr
        = chunkRootOf B pieces.flatten ctr ∧
    (pieces.foldl (ChunkState.update B ctr) (ChunkState.init B)).len = pieces.flatten.length := by
  have hrel := chunkRel_foldl B ctr pieces.flatten (chunkRel_init B ctr)
  rw [List.nil_append] at hrel
  rw [(update_fold B ctr).foldl_eq pieces (s := ChunkState.init B) (chunkRel_init B ctr).2.2]
  exact ⟨chunkRel_outCV B ctr hrel, chunkRel_outRoot B ctr hrel, hrel.2.1⟩

/-- Writes compose, for every well-formed state of the block-buffering hasher (block buffer at most
64 bytes, at most 1024 bytes absorbed by the open chunk: `breset_wf`, `block_reachable_wf` — every reachable
state). -/
theorem block_write_append (B : BlockParams CV Digest) {s : BState CV} (h : BWF s) (a b : Bytes) :
    bwrite B (bwrite B s a) b = bwrite B s (a ++ b) :=
  (bwrite_fold B).append h a b

theorem block_reachable_wf (B : BlockParams CV Digest) (s0 : BState CV) (chunks : List Bytes) :
    BWF (chunks.foldl (bwrite B) (breset B s0)) :=
  (bwrite_fold B).ok_foldl_write chunks (breset_wf B s0)

/-- The block-buffering hasher and the tree-layer hasher, fed the same pieces, stay in corresponding
states (same counter, same stack, chunk state = the open chunk's bytes absorbed). -/
theorem block_simulates (B : BlockParams CV Digest) (sb : BState CV) (s : State CV)
    (chunks : List Bytes) :
    Sim B (chunks.foldl (bwrite B) (breset B sb)) (chunks.foldl (write B.toParams) (reset s)) := by
  rw [(bwrite_fold B).foldl_eq chunks (breset_wf B sb), (write_fold B.toParams).foldl_eq chunks (reset_wf s)]
  exact List.foldl_rel (sim_reset B sb s) fun b _ _ _ h => sim_pushByte B h b

/-- **Correctness of the block-buffering incremental hasher**, against the specification whose chunk
functions are the one-shot blockwise `chunkCVOf` / `chunkRootOf`. -/
theorem block_correct (B : BlockParams CV Digest) (s0 : BState CV) (chunks : List Bytes) :
    bsum B (chunks.foldl (bwrite B) (breset B s0)) = hashSpec B.toParams chunks.flatten := by
  rw [sim_sum B (block_simulates B s0 (reset ⟨[], 0, []⟩) chunks), incr_correct]

theorem block_contract (B : BlockParams CV Bytes) :
    Contract (blockHasher B) (hashSpec B.toParams) :=
  fun s chunks => block_correct B s chunks

/-! ### Inputs that repeat one byte

The examples below feed the machines thousands of equal bytes.  The kernel is slow on long lists
(every `length`, `take`, `drop` of the `update` loop walks the input), so the input is cut into
chunks by a lemma and only the chunk-level steps are evaluated. -/

theorem map_chunkAt_replicate (a : UInt8) (n k : Nat) (h : 1024 * k ≤ n) :
    (List.range k).map (chunkAt (List.replicate n a)) = List.replicate k (List.replicate 1024 a) := by
  apply List.ext_getElem
  · simp only [List.length_map, List.length_range, List.length_replicate]
  · intro j h1 h2
    have : j < k := by simpa only [List.length_map, List.length_range] using h1
    simp only [List.getElem_map, List.getElem_range, chunkAt, List.drop_replicate, List.take_replicate,
      List.getElem_replicate]
    congr 1; omega

theorem splitChunks_replicate (a : UInt8) (n k : Nat) (h : Pieces 1024 k n) :
    splitChunks (List.replicate n a)
      = List.replicate k (List.replicate 1024 a) ++ [List.replicate (n - 1024 * k) a] := by
  rw [splitChunks_eq_chunkAt _ k (by rw [List.length_replicate]; exact h),
    map_chunkAt_replicate a n k (by omega), List.drop_replicate]

theorem write_reset_replicate (P : Params CV Digest) (s0 : State CV) (a : UInt8) (n k : Nat)
    (h : Pieces 1024 k n) :
    write P (reset s0) (List.replicate n a) =
      { (List.replicate k (List.replicate 1024 a)).foldl (fun s c => closeChunk P { s with cur := c })
          (reset s0) with cur := List.replicate (n - 1024 * k) a } := by
  rw [write_reset_closeChunks P s0 _ k (by rw [List.length_replicate]; exact h),
    map_chunkAt_replicate a n k (by omega), List.drop_replicate]

/-! ### The hypotheses `WF` / `BWF` are decidable and satisfiable on non-trivial states -/

instance (s : State CV) : Decidable (WF s) := inferInstanceAs (Decidable (s.cur.length ≤ 1024))
instance (s : BState CV) : Decidable (BWF s) :=
  inferInstanceAs (Decidable (s.chunk.buf.length ≤ 64 ∧ s.chunk.len ≤ 1024))

/-- A symbolic block compression interface: a chaining value records how many block compressions
produced it and the flags/counter of the last one. -/
def countBlockParams : BlockParams (List Nat) (List Nat) where
  iv := []
  compressBlock := fun cv b ctr start => cv ++ [1000 * ctr + 10 * b.length + (if start then 1 else 0)]
  finalCV := fun cv b ctr start => cv ++ [1000 * ctr + 10 * b.length + (if start then 1 else 0), 2]
  finalRoot := fun cv b ctr start => cv ++ [1000 * ctr + 10 * b.length + (if start then 1 else 0), 2, 8]
  parentCV := fun l r => l ++ r ++ [4]
  parentRoot := fun l r => l ++ r ++ [4, 8]

-- after 1100 bytes in three writes: one completed chunk on the stack, 76 bytes in the open chunk, of
-- which one block has been compressed and 12 bytes are buffered — a well-formed state
example :
    let s := [List.replicate 1000 (0 : UInt8), [], List.replicate 100 0].foldl
      (bwrite countBlockParams) (breset countBlockParams ⟨⟨[7], [1, 2, 3], 9⟩, 5, [[1]]⟩)
    BWF s ∧ s.n = 1 ∧ s.stack.length = 1 ∧ s.chunk.blocks = 1 ∧ s.chunk.buf.length = 12 := by
  decide +kernel
-- a full block buffer is NOT compressed until more input arrives (the last block needs CHUNK_END)
example :
    let s := bwrite countBlockParams (breset countBlockParams ⟨⟨[], [], 0⟩, 0, []⟩)
      (List.replicate 128 (0 : UInt8))
    s.chunk.blocks = 1 ∧ s.chunk.buf.length = 64 := by decide +kernel
-- `block_correct` on that stream
example :
    bsum countBlockParams ([List.replicate 1000 (0 : UInt8), [], List.replicate 100 0].foldl
      (bwrite countBlockParams) (breset countBlockParams ⟨⟨[7], [1, 2, 3], 9⟩, 5, [[1]]⟩))
    = hashSpec countBlockParams.toParams (List.replicate 1100 0) := by
  rw [block_correct]; simp only [List.flatten_cons, List.flatten_nil, List.nil_append, List.append_nil,
    List.replicate_append_replicate]
-- `WF` on a non-trivial tree-layer state, and an instance of `incr_write_append`
example : WF (write countBlockParams.toParams (reset ⟨[], 0, []⟩) (List.replicate 3000 0)) := by
  have h := incr_reachable_wf countBlockParams.toParams ⟨[], 0, []⟩ [List.replicate 3000 0]
  rwa [List.foldl_cons, List.foldl_nil] at h
example :
    write countBlockParams.toParams (write countBlockParams.toParams ⟨List.replicate 1024 1, 0, []⟩
      (List.replicate 1500 2)) (List.replicate 700 3)
    = write countBlockParams.toParams ⟨List.replicate 1024 1, 0, []⟩
      (List.replicate 1500 2 ++ List.replicate 700 3) := incr_write_append _ _ _ _

/-- The incremental BLAKE3 hasher over `Blake3.compress`. -/
def realHasher : HasherSpec (BState (Array UInt32)) := blockHasher realBlockParams

/-- **`Contract` for the real hasher**: streaming BLAKE3 = `hashSpecReal`. -/
theorem real_contract : Contract realHasher hashSpecReal :=
  block_contract realBlockParams

/-! ## `Props/C14.lean` without the contract hypothesis -/

/-- **C14 reader, unconditional** (tree-layer hasher, any compression interface). -/
theorem blake3_checksum_reader (P : Params CV Bytes) {bufSize : Nat} (hb : 0 < bufSize)
    (reads : List Bytes) (s0 : State CV) :
    checksumBuffer (incrHasher P) true bufSize reads s0 = hashSpec P reads.flatten :=
  checksum_reader (incr_contract P) hb reads s0

/-- **C14: independent of read chunking, buffer size and earlier checksum computations.** -/
theorem blake3_checksum_chunking_irrelevant (P : Params CV Bytes) {b1 b2 : Nat} (h1 : 0 < b1)
    (h2 : 0 < b2) {c : Bytes} {r1 r2 : List Bytes} (hc1 : Chunking b1 c r1) (hc2 : Chunking b2 c r2)
    (s1 s2 : State CV) :
    checksumBuffer (incrHasher P) true b1 r1 s1 = checksumBuffer (incrHasher P) true b2 r2 s2 :=
  checksum_chunking_irrelevant (incr_contract P) h1 h2 hc1 hc2 s1 s2

/-- **Tee, unconditional.** -/
theorem blake3_tee_copy (P : Params CV Bytes) {bufSize : Nat} (hb : 0 < bufSize)
    (reads : List Bytes) (s0 : State CV) (sink0 : Bytes) :
    checksumBufferTee (incrHasher P) true bufSize reads s0 sink0
      = (hashSpec P reads.flatten, sink0 ++ reads.flatten) :=
  tee_copy (incr_contract P) hb reads s0 sink0

/-- C14 reader for the block-buffering hasher over the real compression function. -/
theorem blake3_checksum_reader_real {bufSize : Nat} (hb : 0 < bufSize) (reads : List Bytes)
    (s0 : BState (Array UInt32)) :
    checksumBuffer realHasher true bufSize reads s0 = hashSpecReal reads.flatten :=
  checksum_reader real_contract hb reads s0

theorem blake3_checksum_chunking_irrelevant_real {b1 b2 : Nat} (h1 : 0 < b1) (h2 : 0 < b2)
    {c : Bytes} {r1 r2 : List Bytes} (hc1 : Chunking b1 c r1) (hc2 : Chunking b2 c r2)
    (s1 s2 : BState (Array UInt32)) :
    checksumBuffer realHasher true b1 r1 s1 = checksumBuffer realHasher true b2 r2 s2 :=
  checksum_chunking_irrelevant real_contract h1 h2 hc1 hc2 s1 s2

theorem blake3_tee_copy_real {bufSize : Nat} (hb : 0 < bufSize) (reads : List Bytes)
    (s0 : BState (Array UInt32)) (sink0 : Bytes) :
    checksumBufferTee realHasher true bufSize reads s0 sink0
      = (hashSpecReal reads.flatten, sink0 ++ reads.flatten) :=
  tee_copy real_contract hb reads s0 sink0

/-- The extracted fact "`h.Reset()` precedes `io.CopyBuffer`" plugged in. -/
theorem blake3_checksum_reader_fact_real {bufSize : Nat} (hb : 0 < bufSize) (reads : List Bytes)
    (s0 : BState (Array UInt32)) :
    checksumBuffer realHasher Dud.Facts.hasherResetBeforeCopy bufSize reads s0
      = hashSpecReal reads.flatten :=
  checksum_reader_fact real_contract hb reads s0

-- the hypotheses of the chunking theorem are satisfiable: two different cuts of the same content,
-- two buffer sizes, two different dirty hashers
example (s1 s2 : BState (Array UInt32)) :
    checksumBuffer realHasher true 4 [[1, 2], [], [3, 4, 5]] s1
      = checksumBuffer realHasher true 2 [[1, 2], [3], [4, 5], []] s2 :=
  blake3_checksum_chunking_irrelevant_real (c := [1, 2, 3, 4, 5]) (by decide) (by decide)
    (by unfold Chunking; decide) (by unfold Chunking; decide) s1 s2

/-! ## Sanity of the specification: the tree shape

A free ("symbolic") compression interface: chaining values are the trees themselves, so equal
outputs mean the same tree of compressions with the same counters and the same root flag. -/

inductive Shape where
  | chunk (len counter : Nat) (root : Bool)
  | parent (l r : Shape) (root : Bool)
deriving DecidableEq, Repr

def shapeParams : Params Shape Shape where
  chunkCV := fun b c => .chunk b.length c false
  chunkRoot := fun b c => .chunk b.length c true
  parentCV := fun l r => .parent l r false
  parentRoot := fun l r => .parent l r true

-- 4100 bytes = 5 chunks: left subtree = 4 chunks (largest power of two below 5), right = the rest
example : hashSpec shapeParams (List.replicate 4100 0) =
    .parent
      (.parent (.parent (.chunk 1024 0 false) (.chunk 1024 1 false) false)
               (.parent (.chunk 1024 2 false) (.chunk 1024 3 false) false) false)
      (.chunk 4 4 false) true := by
  rw [hashSpec, splitChunks_replicate _ _ 4 (by decide)]; decide +kernel
-- exactly 3 full chunks: 2 + 1, and the last chunk is a full one
example : hashSpec shapeParams (List.replicate 3072 0) =
    .parent (.parent (.chunk 1024 0 false) (.chunk 1024 1 false) false) (.chunk 1024 2 false) true := by
  rw [hashSpec, splitChunks_replicate _ _ 2 (by decide)]; decide +kernel
-- at most one chunk: the chunk is the root; the empty input is one empty chunk
example : hashSpec shapeParams (List.replicate 1024 0) = .chunk 1024 0 true := by
  rw [hashSpec, splitChunks_replicate _ _ 0 (by decide)]; decide +kernel
example : hashSpec shapeParams [] = .chunk 0 0 true := by decide +kernel
example : (List.range 12).map leftLen = [1, 1, 1, 2, 2, 4, 4, 4, 4, 8, 8, 8] := by decide +kernel

-- the streaming machine on a dirty state, with pieces straddling chunk boundaries and empty pieces,
-- same symbolic tree (an instance of `incr_correct`)
example :
    sum shapeParams
      ([List.replicate 1000 0, [], List.replicate 2073 0, List.replicate 1027 0].foldl
        (write shapeParams) (reset ⟨List.replicate 7 1, 5, [.chunk 9 9 false]⟩))
    = hashSpec shapeParams (List.replicate 4100 0) := by
  rw [incr_correct]; simp only [List.flatten_cons, List.flatten_nil, List.nil_append, List.append_nil,
    List.replicate_append_replicate]
-- the state in between: 4 completed chunks merged into ONE stack entry, 4 bytes in the open chunk
example :
    let s := [List.replicate 1000 (0 : UInt8), List.replicate 3100 0].foldl (write shapeParams)
      (reset ⟨[], 0, []⟩)
    s.n = 4 ∧ s.cur.length = 4 ∧ s.stack.length = 1 := by
  rw [incr_writes_flatten]
  simp only [List.flatten_cons, List.flatten_nil, List.append_nil, List.replicate_append_replicate,
    Nat.reduceAdd]
  rw [write_reset_replicate _ _ _ _ 4 (by decide)]; decide +kernel
-- 7 completed chunks: three stack entries (4 + 2 + 1), top = the single last chunk
example :
    let s := write shapeParams (reset ⟨[], 0, []⟩) (List.replicate 7169 (0 : UInt8))
    s.n = 7 ∧ s.stack.length = 3 ∧ s.stack.head? = some (.chunk 1024 6 false) := by
  rw [write_reset_replicate _ _ _ _ 7 (by decide)]; decide +kernel
-- a full open chunk is NOT closed until more input arrives
example :
    let s := write shapeParams (reset ⟨[], 0, []⟩) (List.replicate 2048 (0 : UInt8))
    s.n = 1 ∧ s.cur.length = 1024 := by
  rw [write_reset_replicate _ _ _ _ 1 (by decide)]; decide +kernel

/-! ## The real instance against the official test vectors

Kernel evaluation (`decide +kernel`: no `native_decide`, no extra axioms) of the SPECIFICATION with
the real compression function on official BLAKE3 test vectors (input = bytes 0,1,…,250 repeated;
digests from `corpus/blake3_vectors.json` = the first 32 bytes of the official `hash` outputs),
over `Nat` words (`Words.hashSpecReal_eq_nat`).  The two one-compression vectors are here; the
vectors of 1024, 1025, 2048, 2049 and 3073 bytes (up to 52 compressions) are in
`Props/C14blake3Vectors.lean` (`Dud.Blake3Spec.Vectors.V1025.digest` etc.); the end-to-end
corollaries for the streaming hasher (`real_streaming_vector_3073`, …) are in
`Props/C14blake3EndToEnd.lean`. -/

theorem vector_0 : toHex (hashSpecReal (testInput 0))
    = "af1349b9f5f9a1a6a0404dea36dcc9499bcb25c9adc112b7cc9a93cae41f3262" := by
  rw [Words.hashSpecReal_eq_nat]; exact toHex_eq_ofList (by decide +kernel)
theorem vector_1 : toHex (hashSpecReal (testInput 1))
    = "2d3adedff11b61f14c886e35afa036736dcd87a74d27b5c1510225d0f592e213" := by
  rw [Words.hashSpecReal_eq_nat]; exact toHex_eq_ofList (by decide +kernel)

/-- The real streaming hasher on the empty stream, from any dirty state, returns the official digest
of the empty input. -/
theorem real_streaming_vector_0 (s0 : BState (Array UInt32)) :
    toHex (realHasher.sum ([[], []].foldl realHasher.write (realHasher.reset s0)))
    = "af1349b9f5f9a1a6a0404dea36dcc9499bcb25c9adc112b7cc9a93cae41f3262" := by
  rw [real_contract s0]; exact vector_0

end Dud.Blake3Incr

/-! ## TESTS (executable evidence, NOT theorems)

`hashSpecReal` (the list-based total specification) against `Blake3.hash` (the `partial def` /
`ByteArray` implementation validated against all official vectors; the driver runs its total twin
`Blake3T.hash`), and the
streaming machine `realHasher` run on odd piece sizes.  Each line must print `true`. -/
section Tests
open Dud.Blake3Spec Dud.Blake3Incr

def specVsDriver (n : Nat) : Bool :=
  toHex (hashSpecReal (testInput n)) == Blake3.toHex (Blake3.hash ⟨(testInput n).toArray⟩)

/-- cut `xs` into pieces of sizes `sizes` cyclically (a 0 size yields an empty piece) -/
def cutLike (sizes : List Nat) : Nat → Nat → Dud.Bytes → List Dud.Bytes
  | 0, _, xs => [xs]
  | fuel + 1, i, xs =>
    if xs.length = 0 then []
    else
      let k := sizes.getD (i % sizes.length) 1
      xs.take k :: cutLike sizes fuel (i + 1) (xs.drop k)

def streamVsDriver (sizes : List Nat) (n : Nat) : Bool :=
  let pieces := cutLike sizes (2 * n + 2) 0 (testInput n)
  let dirty : BState (Array UInt32) := ⟨⟨Blake3.IV, [1, 2, 3], 7⟩, 11, [Blake3.IV]⟩
  pieces.flatten == testInput n &&
  toHex (realHasher.sum (pieces.foldl realHasher.write (realHasher.reset dirty)))
    == Blake3.toHex (Blake3.hash ⟨(testInput n).toArray⟩)

-- TEST: specification = `Blake3.hash`, 16 lengths up to 70 001 bytes
#eval [0, 1, 63, 64, 65, 1023, 1024, 1025, 2048, 2049, 3072, 3073, 4096, 8193, 31744, 70001].map
  specVsDriver
-- TEST: streaming machine (dirty state, pieces of 1, 0, 63, 65, 1024, 7, 3000 bytes cyclically) = `Blake3.hash`
#eval [0, 1, 64, 1024, 1025, 2049, 3073, 8193, 16384, 70001].map
  (streamVsDriver [1, 0, 63, 65, 1024, 7, 3000])
-- TEST: one byte at a time
#eval [1, 65, 1025, 5000].map (streamVsDriver [1])

end Tests

#print axioms Dud.Blake3Incr.incr_write_append
#print axioms Dud.Blake3Incr.incr_reachable_wf
#print axioms Dud.Blake3Incr.incr_writes_flatten
#print axioms Dud.Blake3Incr.incr_correct
#print axioms Dud.Blake3Incr.incr_chunking_irrelevant
#print axioms Dud.Blake3Incr.incr_sum_then_more
#print axioms Dud.Blake3Incr.incr_stack_depth
#print axioms Dud.Blake3Incr.incr_contract
#print axioms Dud.Blake3Incr.chunk_state_correct
#print axioms Dud.Blake3Incr.block_write_append
#print axioms Dud.Blake3Incr.block_reachable_wf
#print axioms Dud.Blake3Incr.block_simulates
#print axioms Dud.Blake3Incr.block_correct
#print axioms Dud.Blake3Incr.block_contract
#print axioms Dud.Blake3Incr.real_contract
#print axioms Dud.Blake3Incr.blake3_checksum_reader
#print axioms Dud.Blake3Incr.blake3_checksum_chunking_irrelevant
#print axioms Dud.Blake3Incr.blake3_tee_copy
#print axioms Dud.Blake3Incr.blake3_checksum_reader_real
#print axioms Dud.Blake3Incr.blake3_checksum_chunking_irrelevant_real
#print axioms Dud.Blake3Incr.blake3_tee_copy_real
#print axioms Dud.Blake3Incr.blake3_checksum_reader_fact_real
#print axioms Dud.Blake3Incr.vector_0
#print axioms Dud.Blake3Incr.vector_1
#print axioms Dud.Blake3Incr.real_streaming_vector_0
#print axioms Dud.Blake3Spec.treeNode_eq
#print axioms Dud.Blake3Spec.leftLen_eq
#print axioms Dud.Blake3Spec.splitChunks_eq
