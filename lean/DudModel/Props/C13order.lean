import DudModel.Lemmas.OrderCommit
import DudModel.Lemmas.OrderCheckout
import DudModel.Lemmas.OrderStatus
import DudModel.Lemmas.OrderPool
import DudModel.Lemmas.Codec
/-!
# C13 (result half) — directory operations give the sequential result whatever the order in which
the entries are processed

`Props/C13.lean` proves that the worker pools terminate, hand every entry to exactly one worker
and leave no goroutine behind; the results of the workers are abstract there.  This file proves
that the *results* — child records and checksums, cache objects, restored tree, status — do not
depend on the order in which the entries of a directory are processed.  The abstraction (not
proved: DESIGN records that the step from the goroutines to the protocol is by review and shape
facts): a worker processes one entry completely (recursively for a sub-directory), so a schedule
amounts to an order in which the effects of the entries are applied to the shared state.

* §1 commit: `commit_entry_frame` (the result for one entry is the same whatever the other
  workers have already put into the cache), `commitEntries_order_independent` (any permutation of
  the listing), `commitNode_tree_order_independent` / `commitArt_order_independent` (listings
  reordered at every level), `commit_fresh_order_independent` (first commit: the only hypothesis
  left is "no dangling link into the cache"), `commit_closed_cache_order_independent` (recommit
  on a cache that is closed under the references of its manifests), and two concrete
  counter-examples showing that the
  hypotheses cannot be dropped: **without them the outcome of a commit does depend on the order**.
* §2 checkout: `checkoutChildren_order_independent`, `checkoutNode_order_independent`.
* §3 status: `childStatuses_order_independent`, `dirStatus_listing_order_independent`,
  `dirStatus_order_independent`.
* §4 errors: an operation fails in one order iff it fails in every order, and it fails iff some
  entry fails *on the initial state*; the error *value* may differ between orders (example).
* §5 the protocol: for every run of the worker-pool protocol that returns without error the
  completion order is a permutation of the entries (`Pool.terminal_done_perm`), every permutation
  does occur (`Pool.every_order_occurs`), and the result for that order is the sequential result.

Store equality is `Store.eqv`: the same digests are present and hold the same *bytes* (the typed
model distinguishes a blob that happens to hold the bytes of a manifest from the manifest; the
cache on disk does not, and no operation of the model does — `Store.eqv.readManifest`).

## Hypotheses, and what is NOT covered

* `Good ctx` (collision-free hash, honest manifest decoder), `Consistent ctx s` (objects sit under
  the digest of their bytes): needed for "two puts commute".
* entry names pairwise distinct in a listing / a manifest (`Nodup`, `Node.nodupNames`,
  `ManifestsNodup`): true of every directory listing and of every Go map; needed because the
  manifest is built as a map keyed by name.
* commit only: `closedNode` / `closedList` / `closedArt` (decidable): the reads of a commit are
  stable.  (i) a workspace link that points into the cache resolves there; (ii) a directory
  checksum recovered from the old manifest is either unusable or present in the cache.  For a first
  commit (ii) is void.  Both are necessary: see `order_matters_dangling_link` and
  `order_matters_missing_manifest`.
* Not covered: interleavings *inside* the processing of one entry (entry-level atomicity is the
  abstraction), `shortCircuit = true` in status (the model has the full status only), progress
  bars and logs, the error value reported (any failing entry may be the one reported).
-/
namespace Dud

variable {κ : Type}

/-! ## 1. commit -/

/-- **Frame property.**  If the reads are stable (`closedNode`), committing one entry has the same
outcome in the initial cache `s` and in every larger consistent cache `t` (whatever the other
workers have added meanwhile): the same error, or the same workspace node, the same child record
(name, checksum, kind) and the same block `Δ` of new objects. -/
theorem commit_entry_frame {ctx : Ctx κ} (g : Good ctx) (strat : Strat) (n : Node κ) (c : Child)
    {s t : Store κ} (hs : Consistent ctx s) (ht : Consistent ctx t) (hle : Store.le ctx s t)
    (hcl : closedNode ctx s n c = true) :
    (∀ e, commitNode ctx strat n c s = .error e → commitNode ctx strat n c t = .error e) ∧
    (∀ n' c' s1, commitNode ctx strat n c s = .ok (n', c', s1) →
      ∃ Δ, s1 = Δ ++ s ∧ DeltaOK ctx Δ ∧ commitNode ctx strat n c t = .ok (n', c', Δ ++ t)) :=
  commitNode_frame g strat n c s t hs ht hle hcl

/-- **C13 (a), one directory.**  For every permutation `es'` of the listing `es` (names pairwise
distinct), `commitEntries` fails for `es'` iff it fails for `es`; when it succeeds

* the workspace entries returned are a permutation of each other, and each list keeps the names of
  its input in place (so they are "the same up to that permutation");
* the child records are a permutation of each other, hence `sortChildren` — the manifest — is
  *equal*, and so is the manifest digest under every path;
* the resulting caches are the same (`Store.eqv`). -/
theorem commitEntries_order_independent {ctx : Ctx κ} (g : Good ctx) (strat : Strat)
    (skipDirs : Bool) {es es' : List (Name × Node κ)} (hp : es.Perm es')
    (hnd : (es.map (·.1)).Nodup) (old : List Child) {s : Store κ} (hs : Consistent ctx s)
    (hcl : closedList ctx s skipDirs es old = true) :
    (∀ e, commitEntries ctx strat skipDirs es old s = .error e →
      ∃ e', commitEntries ctx strat skipDirs es' old s = .error e') ∧
    (∀ o1 cs1 s1, commitEntries ctx strat skipDirs es old s = .ok (o1, cs1, s1) →
      ∃ o2 cs2 s2, commitEntries ctx strat skipDirs es' old s = .ok (o2, cs2, s2) ∧
        o1.Perm o2 ∧ o1.map (·.1) = es.map (·.1) ∧ o2.map (·.1) = es'.map (·.1) ∧
        cs1.Perm cs2 ∧ sortChildren cs1 = sortChildren cs2 ∧
        (∀ p : Bytes, (Obj.man .new p (sortChildren cs1) : Obj κ).digest ctx =
          (Obj.man .new p (sortChildren cs2) : Obj κ).digest ctx) ∧
        Store.eqv ctx s1 s2) := by
  have h := commitEntries_perm g strat skipDirs hp old hs hcl
  refine ⟨fun e he => h.error_left he, fun o1 cs1 s1 h1 => ?_⟩
  obtain ⟨o2, cs2, s2, h2, hpo, hpc, hes⟩ := h.ok_left h1
  have hsc : sortChildren cs1 = sortChildren cs2 :=
    sortChildren_perm hpc (commitEntries_children_nodup hnd h1)
  exact ⟨o2, cs2, s2, h2, hpo, (commitEntries_names h1).1, (commitEntries_names h2).1, hpc, hsc,
    fun p => by rw [hsc], hes⟩

/-- **C13 (a), lifted to `commitNode` on a directory**: `.dir es` and `.dir es'` get the same
child record — the same checksum — and the same cache. -/
theorem commitNode_dir_order_independent {ctx : Ctx κ} (g : Good ctx) (strat : Strat)
    {es es' : List (Name × Node κ)} (hp : es.Perm es') (hnd : (Node.dir es).nodupNames = true)
    (c : Child) {s : Store κ} (hs : Consistent ctx s)
    (hcl : closedNode ctx s (.dir es) c = true) :
    (∀ e, commitNode ctx strat (.dir es) c s = .error e →
      ∃ e', commitNode ctx strat (.dir es') c s = .error e') ∧
    (∀ n1 c1 s1, commitNode ctx strat (.dir es) c s = .ok (n1, c1, s1) →
      ∃ n2 s2, commitNode ctx strat (.dir es') c s = .ok (n2, c1, s2) ∧ TreePerm n1 n2 ∧
        Store.eqv ctx s1 s2) := by
  have h := commitNode_treePerm g strat (.dir es) (.dir es') c s s (TreePerm.of_perm hp) hnd hs hs
    (Store.eqv.refl ctx s) hcl
  exact ⟨fun e he => h.error_left he, fun n1 c1 s1 h1 => h.ok_left h1⟩

/-- **C13 (a), recursively.**  Two workspace trees that differ only in the order of the listings,
at any depth (`TreePerm`), committed in two caches that are the same cache (`Store.eqv`): same
failure status; on success the same child record (checksum), the same cache, and the workspace
trees left behind again differ only in the order of the listings. -/
theorem commitNode_tree_order_independent {ctx : Ctx κ} (g : Good ctx) (strat : Strat)
    {n n' : Node κ} (hp : TreePerm n n') (hnd : n.nodupNames = true) (c : Child) {s t : Store κ}
    (hs : Consistent ctx s) (ht : Consistent ctx t) (he : Store.eqv ctx s t)
    (hcl : closedNode ctx s n c = true) :
    (∀ e, commitNode ctx strat n c s = .error e → ∃ e', commitNode ctx strat n' c t = .error e') ∧
    (∀ e, commitNode ctx strat n' c t = .error e → ∃ e', commitNode ctx strat n c s = .error e') ∧
    (∀ n1 c1 s1, commitNode ctx strat n c s = .ok (n1, c1, s1) →
      ∃ n2 s2, commitNode ctx strat n' c t = .ok (n2, c1, s2) ∧ TreePerm n1 n2 ∧
        Store.eqv ctx s1 s2) := by
  have h := commitNode_treePerm g strat n n' c s t hp hnd hs ht he hcl
  exact ⟨fun e he => h.error_left he, fun e he' => (NodeEq.iff_outEq.1 h).error_right he',
    fun n1 c1 s1 h1 => h.ok_left h1⟩

/-- **C13 (a) for `LocalCache.Commit`** (`commitArt`, including `DisableRecursion` and file
artifacts). -/
theorem commitArt_order_independent {ctx : Ctx κ} (g : Good ctx) (strat : Strat) (a : Art)
    {n n' : Node κ} (hp : TreePerm n n') (hnd : n.nodupNames = true) {s t : Store κ}
    (hs : Consistent ctx s) (ht : Consistent ctx t) (he : Store.eqv ctx s t)
    (hcl : closedArt ctx s a n = true) :
    (∀ e, commitArt ctx strat a (some n) s = .error e →
      ∃ e', commitArt ctx strat a (some n') t = .error e') ∧
    (∀ n1 d s1, commitArt ctx strat a (some n) s = .ok (n1, d, s1) →
      ∃ n2 s2, commitArt ctx strat a (some n') t = .ok (n2, d, s2) ∧ TreePerm n1 n2 ∧
        Store.eqv ctx s1 s2) := by
  have h := commitArt_treePerm g strat a hp hnd hs ht he hcl
  exact ⟨fun e he => h.error_left he, fun n1 d s1 h1 => h.ok_left h1⟩

/-- **First commit** (no checksum recorded yet): the only hypothesis on the workspace is that no
link into the cache dangles (`Node.linksResolve`, in particular: a tree of regular files and
directories). -/
theorem commit_fresh_order_independent {ctx : Ctx κ} (g : Good ctx) (strat : Strat)
    {n n' : Node κ} (hp : TreePerm n n') (hnd : n.nodupNames = true) (nm : Name) (isDir : Bool)
    {s : Store κ} (hs : Consistent ctx s) (hl : n.linksResolve s = true) :
    (∀ e, commitNode ctx strat n ⟨nm, "", isDir⟩ s = .error e →
      ∃ e', commitNode ctx strat n' ⟨nm, "", isDir⟩ s = .error e') ∧
    (∀ n1 c1 s1, commitNode ctx strat n ⟨nm, "", isDir⟩ s = .ok (n1, c1, s1) →
      ∃ n2 s2, commitNode ctx strat n' ⟨nm, "", isDir⟩ s = .ok (n2, c1, s2) ∧ TreePerm n1 n2 ∧
        Store.eqv ctx s1 s2) := by
  have h := commitNode_tree_order_independent g strat hp hnd ⟨nm, "", isDir⟩ hs hs
    (Store.eqv.refl ctx s) (closedNode_fresh ctx s n nm isDir hl)
  exact ⟨h.1, h.2.2⟩

/-- **Recommit on a reference-closed cache.**  If every sub-directory checksum recorded in a
manifest of the cache is itself in the cache (`StoreClosed`: nothing was fetched partially or
removed), the hypotheses on the workspace reduce to: no link into the cache dangles, and the
checksum recorded for the artifact is present (or unusable).  Edits of the workspace since the last
commit (new or changed regular files, new directories, removed entries) do not matter. -/
theorem commit_closed_cache_order_independent {ctx : Ctx κ} (g : Good ctx) (strat : Strat)
    {n n' : Node κ} (hp : TreePerm n n') (hnd : n.nodupNames = true) (c : Child) {s : Store κ}
    (hs : Consistent ctx s) (hsc : StoreClosed ctx s) (hl : n.linksResolve s = true)
    (hc : c.isDir = true → hasSum c.sum = true → s.has c.sum = true) :
    (∀ e, commitNode ctx strat n c s = .error e → ∃ e', commitNode ctx strat n' c s = .error e') ∧
    (∀ n1 c1 s1, commitNode ctx strat n c s = .ok (n1, c1, s1) →
      ∃ n2 s2, commitNode ctx strat n' c s = .ok (n2, c1, s2) ∧ TreePerm n1 n2 ∧
        Store.eqv ctx s1 s2) := by
  have h := commitNode_tree_order_independent g strat hp hnd c hs hs (Store.eqv.refl ctx s)
    (closedNode_of_storeClosed hsc n c hl hc)
  exact ⟨h.1, h.2.2⟩

/-! ## 2. checkout -/

/-- **C13 (b), one directory.**  For every permutation `cs'` of the manifest entries `cs` (names
pairwise distinct) `checkoutChildren` succeeds for `cs'` iff it does for `cs`, and the resulting
listings are equal as finite maps. -/
theorem checkoutChildren_order_independent (f : Option (Node κ) → Child → Except Err (Node κ))
    {cs cs' : List Child} (hp : cs.Perm cs') (hnd : (cs.map (·.name)).Nodup)
    (es : List (Name × Node κ)) :
    (∀ e, checkoutChildren f es cs = .error e → ∃ e', checkoutChildren f es cs' = .error e') ∧
    (∀ e, checkoutChildren f es cs' = .error e → ∃ e', checkoutChildren f es cs = .error e') ∧
    (∀ es1, checkoutChildren f es cs = .ok es1 →
      ∃ es2, checkoutChildren f es cs' = .ok es2 ∧ ∀ nm, alookup es1 nm = alookup es2 nm) := by
  have h := checkoutChildren_perm f hp hnd es
  exact ⟨fun e he => h.error_left he, fun e he => h.error_right he, fun es1 h1 => h.ok_left h1⟩

/-- **C13 (b), recursively.**  `checkoutNodeS … σ` is `checkoutNode` with the manifest entries of
every directory processed in the order `σ` chooses (any family of permutations: the choice may
depend on the nesting level, the directory and its manifest).  It succeeds iff `checkoutNode`
does, and the restored trees are equal as finite maps at every level (`MapEq`).  Assumed:
manifests list each name once (in Go the manifest is a map). -/
theorem checkoutNode_order_independent (ctx : Ctx κ) (strat : Strat) (s : Store κ)
    (σ : Nat → Child → List Child → List Child) (hσ : ∀ k c cs, (σ k c cs).Perm cs)
    (hm : ManifestsNodup ctx s) (fuel : Nat) (cur : Option (Node κ)) (c : Child) :
    (∀ e, checkoutNode ctx strat s fuel cur c = .error e →
      ∃ e', checkoutNodeS ctx strat s σ fuel cur c = .error e') ∧
    (∀ e, checkoutNodeS ctx strat s σ fuel cur c = .error e →
      ∃ e', checkoutNode ctx strat s fuel cur c = .error e') ∧
    (∀ n, checkoutNode ctx strat s fuel cur c = .ok n →
      ∃ n', checkoutNodeS ctx strat s σ fuel cur c = .ok n' ∧ MapEq n' n) := by
  have h := checkoutNodeS_mapEq ctx strat s σ hσ hm fuel cur c
  exact ⟨fun e he => h.error_right he, fun e he => h.error_left he, fun n hn => h.ok_right hn⟩

/-- … in particular the logical contents of the restored trees (links into the cache followed,
`deref`) are equal as finite maps at every level -/
theorem checkoutNode_order_independent_deref (ctx : Ctx κ) (strat : Strat) (s : Store κ)
    (σ : Nat → Child → List Child → List Child) (hσ : ∀ k c cs, (σ k c cs).Perm cs)
    (hm : ManifestsNodup ctx s) (fuel : Nat) (cur : Option (Node κ)) (c : Child) (n : Node κ)
    (hn : checkoutNode ctx strat s fuel cur c = .ok n) :
    ∃ n', checkoutNodeS ctx strat s σ fuel cur c = .ok n' ∧
      MapEq (deref ctx s n') (deref ctx s n) := by
  obtain ⟨n', h1, h2⟩ := (checkoutNode_order_independent ctx strat s σ hσ hm fuel cur c).2.2 n hn
  exact ⟨n', h1, h2.deref ctx s⟩

/-- the sequential order is one of the orders: `checkoutNodeS` with the identity is `checkoutNode`
up to `MapEq` (sanity check of the definition) -/
theorem checkoutNodeS_id (ctx : Ctx κ) (strat : Strat) (s : Store κ) (hm : ManifestsNodup ctx s)
    (fuel : Nat) (cur : Option (Node κ)) (c : Child) :
    ExRel MapEq (checkoutNodeS ctx strat s (fun _ _ cs => cs) fuel cur c)
      (checkoutNode ctx strat s fuel cur c) :=
  checkoutNodeS_id_eq ctx strat s fuel ▸ ExRel.refl MapEq.refl _

/-! ## 3. status -/

section
variable [DecidableEq κ]

/-- **C13 (c), the two loops.**  The statuses of the manifest entries (resp. of the untracked
listing entries) for a permuted manifest and a permuted listing (names pairwise distinct) are a
permutation of the sequential ones, and an error occurs in one order iff in the other. -/
theorem childStatuses_order_independent (ctx : Ctx κ) (s : Store κ)
    (fd : Bytes → Digest → Option (Node κ) → Except Err Status) {es es' : List (Name × Node κ)}
    (hes : es.Perm es') (hnd : (es.map (·.1)).Nodup) {cs cs' : List Child} (hp : cs.Perm cs') :
    ExRel List.Perm (childStatuses ctx s fd es cs) (childStatuses ctx s fd es' cs') ∧
    ExRel List.Perm (untrackedStatuses ctx s fd es) (untrackedStatuses ctx s fd es') :=
  ⟨childStatuses_perm ctx s fd (alookup_perm hes hnd) hp, untrackedStatuses_perm ctx s fd hes⟩

/-- **C13 (c), `dirStatus` of a permuted listing.**  Same failure status; on success the same
`name`, `isDir`, `skip`, `ws`, `has`, `inCache`, `cm`, and children statuses that are a
permutation of each other. -/
theorem dirStatus_listing_order_independent (ctx : Ctx κ) (s : Store κ)
    {es es' : List (Name × Node κ)} (hes : es.Perm es') (hnd : (es.map (·.1)).Nodup) (fuel : Nat)
    (name : Bytes) (noRec : Bool) (sum : Digest) :
    (∀ e, dirStatus ctx s fuel name noRec sum (some (.dir es)) = .error e →
      ∃ e', dirStatus ctx s fuel name noRec sum (some (.dir es')) = .error e') ∧
    (∀ st, dirStatus ctx s fuel name noRec sum (some (.dir es)) = .ok st →
      ∃ st', dirStatus ctx s fuel name noRec sum (some (.dir es')) = .ok st' ∧
        st.name = st'.name ∧ st.isDir = st'.isDir ∧ st.skip = st'.skip ∧ st.ws = st'.ws ∧
        st.has = st'.has ∧ st.inCache = st'.inCache ∧ st.cm = st'.cm ∧
        st.children.Perm st'.children) := by
  have h := dirStatus_listing_perm ctx s hes hnd fuel name noRec sum
  refine ⟨fun e he => h.error_left he, fun st hst => ?_⟩
  obtain ⟨st', h', hr⟩ := h.ok_left hst
  have hc := hr.children_perm
  obtain ⟨h1, h2, h3, h4, h5, h6, h7, _⟩ := hr
  exact ⟨st', h', h1, h2, h3, h4, h5, h6, h7, hc⟩

/-- **C13 (c), recursively.**  `dirStatusS … σ τ` is `dirStatus` with the manifest entries of every
directory processed in the order `σ` chooses and the untracked entries in the order `τ` chooses.
It fails iff `dirStatus` fails, and otherwise the two statuses agree on every field, the children
up to order, recursively (`StatusPerm`; in Go `ChildrenStatus` is a map keyed by name). -/
theorem dirStatus_order_independent (ctx : Ctx κ) (s : Store κ)
    (σ : Nat → Bytes → List Child → List Child)
    (τ : Nat → Bytes → List (Name × Node κ) → List (Name × Node κ))
    (hσ : ∀ k nm l, (σ k nm l).Perm l) (hτ : ∀ k nm l, (τ k nm l).Perm l)
    (fuel : Nat) (name : Bytes) (noRec : Bool) (sum : Digest) (cur : Option (Node κ)) :
    (∀ e, dirStatus ctx s fuel name noRec sum cur = .error e →
      ∃ e', dirStatusS ctx s σ τ fuel name noRec sum cur = .error e') ∧
    (∀ e, dirStatusS ctx s σ τ fuel name noRec sum cur = .error e →
      ∃ e', dirStatus ctx s fuel name noRec sum cur = .error e') ∧
    (∀ st, dirStatus ctx s fuel name noRec sum cur = .ok st →
      ∃ st', dirStatusS ctx s σ τ fuel name noRec sum cur = .ok st' ∧ StatusPerm st' st) := by
  have h := dirStatusS_perm ctx s σ τ hσ hτ fuel name noRec sum cur
  exact ⟨fun e he => h.error_right he, fun e he => h.error_left he, fun st hst => h.ok_right hst⟩

/-- what `StatusPerm` says at the top level: every field agrees, in particular `cm`
(`ContentsMatch`), `has`, `inCache` -/
theorem StatusPerm.fields {a b : Status} (h : StatusPerm a b) :
    a.name = b.name ∧ a.isDir = b.isDir ∧ a.skip = b.skip ∧ a.ws = b.ws ∧ a.has = b.has ∧
      a.inCache = b.inCache ∧ a.cm = b.cm ∧ a.children.length = b.children.length := by
  obtain ⟨h1, h2, h3, h4, h5, h6, h7, mid, h8, h9⟩ := h.rel
  exact ⟨h1, h2, h3, h4, h5, h6, h7, h8.length_eq.trans h9.length_eq⟩

end

/-! ## 4. errors -/

/-- **C13 (d), commit.**  `commitEntries` fails in one order iff it fails in every order, and it
fails iff the processing of some entry fails *on the initial cache* — whichever entries were
processed before.  (The error value reported may differ: see `error_value_depends_on_order`.) -/
theorem commitEntries_error_order_independent {ctx : Ctx κ} (g : Good ctx) (strat : Strat)
    (skipDirs : Bool) {es es' : List (Name × Node κ)} (hp : es.Perm es') (old : List Child)
    {s : Store κ} (hs : Consistent ctx s) (hcl : closedList ctx s skipDirs es old = true) :
    ((∃ e, commitEntries ctx strat skipDirs es old s = .error e) ↔
      (∃ e', commitEntries ctx strat skipDirs es' old s = .error e')) ∧
    ((∃ e, commitEntries ctx strat skipDirs es old s = .error e) ↔
      ∃ x ∈ es, ∃ e, commitHead ctx strat skipDirs old x s = .error e) := by
  have h := commitEntries_perm g strat skipDirs hp old hs hcl
  refine ⟨⟨fun ⟨e, he⟩ => h.error_left he, fun ⟨e, he⟩ => h.symm.error_left he⟩, ?_⟩
  rw [commitEntries_eq_mapE g strat es old skipDirs s hs hcl s hs (Store.le_refl ctx s)]
  exact (Except.map_error_iff _ _).trans (mapE_error_iff _ es)

/-- **C13 (d), checkout.**  `checkoutChildren` fails iff the processing of some manifest entry
fails on the node the *initial* listing has at its name — so it fails in every order or in none. -/
theorem checkoutChildren_error_order_independent
    (f : Option (Node κ) → Child → Except Err (Node κ)) (cs : List Child)
    (es : List (Name × Node κ)) (hnd : (cs.map (·.name)).Nodup) :
    (∃ e, checkoutChildren f es cs = .error e) ↔
      ∃ c ∈ cs, ∃ e, f (alookup es c.name) c = .error e := by
  have hiff := checkoutChildren_ok_iff f cs es hnd
  constructor
  · rintro ⟨e, he⟩
    obtain ⟨c, hc, hce⟩ := (checkoutChildren_char f cs es hnd).2 e he
    exact ⟨c, hc, e, hce⟩
  · rintro ⟨c, hc, e, he⟩
    cases hr : checkoutChildren f es cs with
    | error e' => exact ⟨e', rfl⟩
    | ok v =>
      obtain ⟨n, hn⟩ := hiff.1 ⟨v, hr⟩ c hc
      rw [he] at hn; cases hn

/-! ## 5. the protocol -/

open Pool in
/-- **Tie to the worker-pool protocol, commit.**  Take any run of the protocol of
`DudModel/Pool.lean` for a directory with listing `es` (`Pool.TSteps`: the counters of `Pool.P`
plus the entries themselves; every `TStep` is a `Pool.Step`, `TStep.step`), ending in a terminal
state without error.  By `Pool.terminal_done_perm` (which rests on `Pool.terminal_counts`) every
entry was processed exactly once, in the completion order `st.done`.  Committing the entries in
that order has the same outcome as committing them one at a time in listing order. -/
theorem commit_schedule_independent {ctx : Ctx κ} (g : Good ctx) (strat : Strat) (skipDirs : Bool)
    {D k : Nat} {es : List (Name × Node κ)} {st : TState (Name × Node κ)}
    (hrun : TSteps D (tinit es true) k st) (hterm : Terminal st.p) (hok : st.p.failed = false)
    (old : List Child) {s : Store κ} (hs : Consistent ctx s)
    (hcl : closedList ctx s skipDirs es old = true) :
    CommitEq ctx (commitEntries ctx strat skipDirs st.done old s)
      (commitEntries ctx strat skipDirs es old s) := by
  have hp := (terminal_done_perm hrun hterm hok).1
  exact commitEntries_perm g strat skipDirs hp old hs ((closedList_perm hp).2 hcl)

open Pool in
/-- … and the manifest written, hence the checksum of the directory, is the sequential one. -/
theorem commit_schedule_manifest {ctx : Ctx κ} (g : Good ctx) (strat : Strat) (skipDirs : Bool)
    {D k : Nat} {es : List (Name × Node κ)} {st : TState (Name × Node κ)}
    (hrun : TSteps D (tinit es true) k st) (hterm : Terminal st.p) (hok : st.p.failed = false)
    (hnd : (es.map (·.1)).Nodup) (old : List Child) {s : Store κ} (hs : Consistent ctx s)
    (hcl : closedList ctx s skipDirs es old = true) {o1 : List (Name × Node κ)}
    {cs1 : List Child} {s1 : Store κ}
    (h1 : commitEntries ctx strat skipDirs es old s = .ok (o1, cs1, s1)) :
    ∃ o2 cs2 s2, commitEntries ctx strat skipDirs st.done old s = .ok (o2, cs2, s2) ∧
      o1.Perm o2 ∧ sortChildren cs1 = sortChildren cs2 ∧ Store.eqv ctx s1 s2 := by
  have hp := (terminal_done_perm hrun hterm hok).1
  obtain ⟨o2, cs2, s2, h2, hpo, _, _, _, hsc, _, hes⟩ :=
    (commitEntries_order_independent g strat skipDirs hp.symm hnd old hs hcl).2 o1 cs1 s1 h1
  exact ⟨o2, cs2, s2, h2, hpo, hsc, hes⟩

open Pool in
/-- **Tie to the protocol, checkout** (variant without collector). -/
theorem checkout_schedule_independent (f : Option (Node κ) → Child → Except Err (Node κ))
    {D k : Nat} {cs : List Child} {st : TState Child}
    (hrun : TSteps D (tinit cs false) k st) (hterm : Terminal st.p) (hok : st.p.failed = false)
    (hnd : (cs.map (·.name)).Nodup) (es : List (Name × Node κ)) :
    ExRel (fun es1 es2 => ∀ nm, alookup es1 nm = alookup es2 nm)
      (checkoutChildren f es st.done) (checkoutChildren f es cs) := by
  have hp := (terminal_done_perm hrun hterm hok).1
  exact checkoutChildren_perm f hp ((hp.map _).nodup_iff.2 hnd) es

open Pool in
/-- **Tie to the protocol, status**: one run for the manifest entries, one for the untracked
entries of the listing (`dirArtifactStatus` calls `concurrentStatus` twice). -/
theorem status_schedule_independent [DecidableEq κ] (ctx : Ctx κ) (s : Store κ)
    (fd : Bytes → Digest → Option (Node κ) → Except Err Status) (base : Status) (q : Quick)
    (noRec : Bool) (es : List (Name × Node κ)) (cs : List Child) {D k1 k2 : Nat}
    {st1 : TState Child} {st2 : TState (Name × Node κ)}
    (hrun1 : TSteps D (tinit cs true) k1 st1) (hterm1 : Terminal st1.p)
    (hok1 : st1.p.failed = false)
    (hrun2 : TSteps D (tinit (untrackedOf noRec es cs) true) k2 st2) (hterm2 : Terminal st2.p)
    (hok2 : st2.p.failed = false) :
    ExRel (StatusRel (fun x y => x = y))
      (dirBody ctx s fd (fun _ => st1.done) (fun _ => st2.done) base q noRec es cs)
      (dirBody ctx s fd id id base q noRec es cs) := by
  have hp1 := (terminal_done_perm hrun1 hterm1 hok1).1
  have hp2 := (terminal_done_perm hrun2 hterm2 hok2).1
  exact dirBody_rel ctx s (fun x y => x = y) (fun _ _ => rfl) (fun a b h => by rw [h])
    (fun nm sm cu => ExRel.refl (fun _ => rfl) _) base q noRec (List.Perm.refl es)
    (fun _ => rfl) cs hp1 (List.Perm.refl _) hp2 (List.Perm.refl _)

/-- … and conversely every permutation of the entries is the completion order of some run that
returns without error: quantifying over schedules is quantifying over *all* permutations. -/
theorem every_order_is_a_schedule (D : Nat) {ι : Type} (es σ : List ι) (coll : Bool)
    (hp : σ.Perm es) :
    ∃ k st, Pool.TSteps D (Pool.tinit es coll) k st ∧ Pool.Terminal st.p ∧
      st.p.failed = false ∧ st.done = σ :=
  Pool.every_order_occurs D es σ coll hp

/-! ## 6. non-vacuity -/

namespace ExampleOrder
open Dud.Example

def X : K := .raw "a"

/-- the sub-directory, and the same with its listing reversed -/
def sub1 : Node K := .dir [([3], .file (.raw "g")), ([4], .dir [])]
def sub2 : Node K := .dir [([4], .dir []), ([3], .file (.raw "g"))]

/-- four entries: two files with identical bytes, a sub-directory (with an empty directory in
it), another file -/
def dirA : List (Name × Node K) :=
  [([1], .file X), ([2], sub1), ([5], .file X), ([6], .file (.raw "b"))]

/-- the same entries in the opposite order -/
def dirB : List (Name × Node K) :=
  [([6], .file (.raw "b")), ([5], .file X), ([2], sub1), ([1], .file X)]

/-- … and with the listing of the sub-directory reversed as well -/
def dirC : List (Name × Node K) :=
  [([6], .file (.raw "b")), ([5], .file X), ([2], sub2), ([1], .file X)]

theorem dirA_perm_dirB : dirA.Perm dirB := (List.reverse_perm dirA).symm

theorem treeA_perm_treeC : TreePerm (.dir dirA) (.dir dirC) := by
  refine TreePerm.dir (mid := [([1], .file X), ([2], sub2), ([5], .file X), ([6], .file (.raw "b"))])
    ?_ (List.reverse_perm _).symm
  refine EntriesRel.cons (TreePerm.refl _) (EntriesRel.cons ?_ (EntriesRel.refl _))
  exact TreePerm.of_perm (List.Perm.swap _ _ _)

/-- the hypotheses of the commit theorems hold for the example (empty cache, first commit) -/
theorem dirA_hyps :
    Good ctx ∧ Consistent ctx ([] : Store K) ∧ (dirA.map (·.1)).Nodup ∧
      (Node.dir dirA).nodupNames = true ∧ closedList ctx [] false dirA [] = true ∧
      closedNode ctx [] (.dir dirA) ⟨[7], "", true⟩ = true ∧
      (Node.dir dirA).linksResolve ([] : Store K) = true :=
  ⟨good, Consistent.of_le_nil ctx, by decide +kernel, by decide +kernel, by decide +kernel,
    by decide +kernel, by decide +kernel⟩

def isOk {α : Type} : Except Err α → Bool
  | .ok _ => true
  | .error _ => false

theorem dirA_entries_ok (strat : Strat) :
    isOk (commitEntries ctx strat false dirA [] []) = true := by
  cases strat <;> decide +kernel

theorem dirA_node_ok (strat : Strat) :
    isOk (commitNode ctx strat (.dir dirA) ⟨[7], "", true⟩ []) = true := by
  cases strat <;> decide +kernel

/-- the theorem applied to the two orders: both commits succeed, same manifest, same cache -/
example (strat : Strat) :
    ∃ o1 cs1 s1 o2 cs2 s2, commitEntries ctx strat false dirA [] [] = .ok (o1, cs1, s1) ∧
      commitEntries ctx strat false dirB [] [] = .ok (o2, cs2, s2) ∧ o1.Perm o2 ∧
      sortChildren cs1 = sortChildren cs2 ∧ Store.eqv ctx s1 s2 := by
  cases h : commitEntries ctx strat false dirA [] [] with
  | error e => have := dirA_entries_ok strat; rw [h] at this; cases this
  | ok v =>
    obtain ⟨o1, cs1, s1⟩ := v
    obtain ⟨o2, cs2, s2, h2, hp, _, _, _, hsc, _, he⟩ :=
      (commitEntries_order_independent good strat false dirA_perm_dirB dirA_hyps.2.2.1 []
        dirA_hyps.2.1 dirA_hyps.2.2.2.2.1).2 o1 cs1 s1 h
    exact ⟨o1, cs1, s1, o2, cs2, s2, rfl, h2, hp, hsc, he⟩

/-- the recorded child records of a commit outcome (the manifest), for evaluation -/
def manifestOf (r : Except Err (List (Name × Node K) × List Child × Store K)) :
    Option (List Child) :=
  match r with
  | .error _ => none
  | .ok (_, cs, _) => some (sortChildren cs)

/-- the manifests of the example, evaluated once: identical in both orders, under both strategies
and with the sub-directory listing reversed; the two equal files share one checksum -/
theorem manifests_agree :
    manifestOf (commitEntries ctx .link false dirA [] []) =
      manifestOf (commitEntries ctx .link false dirB [] []) ∧
    manifestOf (commitEntries ctx .copy false dirA [] []) =
      manifestOf (commitEntries ctx .link false dirB [] []) ∧
    (manifestOf (commitEntries ctx .link false dirA [] [])).map
      (fun cs => cs.map (fun c => (c.name, c.isDir))) =
      some [([1], false), ([2], true), ([5], false), ([6], false)] ∧
    manifestOf (commitEntries ctx .link false dirA [] []) =
      manifestOf (commitEntries ctx .copy false dirC [] []) := by decide +kernel

example : manifestOf (commitEntries ctx .link false dirA [] []) =
    manifestOf (commitEntries ctx .link false dirB [] []) := manifests_agree.1

example : manifestOf (commitEntries ctx .copy false dirA [] []) =
    manifestOf (commitEntries ctx .link false dirB [] []) := manifests_agree.2.1

example : (manifestOf (commitEntries ctx .link false dirA [] [])).map
    (fun cs => cs.map (fun c => (c.name, c.isDir))) =
    some [([1], false), ([2], true), ([5], false), ([6], false)] := manifests_agree.2.2.1

/-- listings reversed at both levels: the same checksum, by the theorem … -/
example (strat : Strat) :
    ∃ n1 c1 s1 n2 s2, commitNode ctx strat (.dir dirA) ⟨[7], "", true⟩ [] = .ok (n1, c1, s1) ∧
      commitNode ctx strat (.dir dirC) ⟨[7], "", true⟩ [] = .ok (n2, c1, s2) ∧
      TreePerm n1 n2 ∧ Store.eqv ctx s1 s2 := by
  cases h : commitNode ctx strat (.dir dirA) ⟨[7], "", true⟩ [] with
  | error e => have := dirA_node_ok strat; rw [h] at this; cases this
  | ok v =>
    obtain ⟨n1, c1, s1⟩ := v
    obtain ⟨n2, s2, h2, hp, he⟩ :=
      (commit_fresh_order_independent good strat treeA_perm_treeC dirA_hyps.2.2.2.1 [7] true
        dirA_hyps.2.1 dirA_hyps.2.2.2.2.2.2).2 n1 c1 s1 h
    exact ⟨n1, c1, s1, n2, s2, rfl, h2, hp, he⟩

/-- … and by evaluation: the child records (with the checksum of the sub-directory) agree -/
example : manifestOf (commitEntries ctx .link false dirA [] []) =
    manifestOf (commitEntries ctx .copy false dirC [] []) := manifests_agree.2.2.2

/-- a small tree for the recommit example -/
def small : Node K := .dir [([1], .file X), ([2], .dir [])]

/-- reverse order in every directory -/
def revσ : Nat → Child → List Child → List Child := fun _ _ cs => cs.reverse
def revσ' : Nat → Bytes → List Child → List Child := fun _ _ cs => cs.reverse
def revτ : Nat → Bytes → List (Name × Node K) → List (Name × Node K) := fun _ _ es => es.reverse

/-- a run succeeds with an outcome passing the check `f`, by one evaluation -/
theorem ok_of_check {α : Type} {r : Except Err α} {f : α → Bool}
    (h : (match r with | .ok v => f v | .error _ => false) = true) :
    ∃ v, r = .ok v ∧ f v = true := by
  cases r with
  | error e => cases h
  | ok v => exact ⟨v, rfl, h⟩

/-- the commit of `small`, evaluated once, with what the examples below read off its outcome `v`
(workspace node, child record, cache) -/
theorem small_committed :
    ∃ v, commitNode ctx .link small ⟨[7], "", true⟩ [] = .ok v ∧
      ((closedNode ctx v.2.2 v.1 v.2.1 && closedNode ctx v.2.2 small v.2.1) &&
        ((isOk (checkoutNodeS ctx .copy v.2.2 revσ 2 none v.2.1) &&
            isOk (checkoutNode ctx .copy v.2.2 2 none v.2.1)) &&
          (match dirStatusS ctx v.2.2 revσ' revτ 2 [7] false v.2.1.sum (some v.1),
                 dirStatus ctx v.2.2 2 [7] false v.2.1.sum (some v.1) with
           | .ok a, .ok b => a.cm && b.cm && a.children.length == 2 && b.children.length == 2
           | _, _ => false))) = true :=
  ok_of_check (by decide +kernel)

/-- the same for the commit of `dirA` -/
theorem dirA_committed :
    ∃ v, commitNode ctx .link (.dir dirA) ⟨[7], "", true⟩ [] = .ok v ∧
      ((storeClosedB ctx v.2.2 && v.1.linksResolve v.2.2) && manifestsNodupB ctx v.2.2) = true :=
  ok_of_check (by decide +kernel)

/-- a recommit on top of the manifest of the first commit: the stability hypothesis holds there
too (every recorded checksum is present), for the tree left by the commit and for the original -/
example :
    (match commitNode ctx .link small ⟨[7], "", true⟩ [] with
      | .ok (n', c', s') => closedNode ctx s' n' c' && closedNode ctx s' small c'
      | .error _ => false) = true := by
  obtain ⟨⟨n, c, s'⟩, e, h⟩ := small_committed
  simp only [e, Bool.and_eq_true] at h ⊢
  exact h.1

/-- the cache left by the commit of the example is reference-closed, and the workspace left
behind has no dangling link: the hypotheses of `commit_closed_cache_order_independent` hold for the
next commit, whatever is edited in between (as long as no link is left dangling) -/
example :
    (match commitNode ctx .link (.dir dirA) ⟨[7], "", true⟩ [] with
      | .ok (n', c', s') => storeClosedB ctx s' && n'.linksResolve s' && s'.has c'.sum
      | .error _ => false) = true := by
  obtain ⟨⟨n, c, s'⟩, e, h⟩ := dirA_committed
  simp only [e, Bool.and_eq_true] at h ⊢
  exact ⟨h.1, commitNode_dir_has_sum e⟩

/-! ### the hypotheses cannot be dropped: order-dependent outcomes -/

/-- **Order matters (1): a dangling link into the cache.**  `l` is a link to the cache path of the
bytes of `f`, which are not in the cache (yet).  If `f` is committed first the object exists when
`l` is looked at, and the commit succeeds; if `l` comes first the commit fails ("expected regular
file, got link").  In Go: `checksumOfCacheLink` stats the link target while a sibling worker may or
may not have moved the file there. -/
theorem order_matters_dangling_link :
    isOk (commitEntries ctx .copy false
      [([1], .file X), ([2], .link (.obj (ctx.H X)))] [] []) = true ∧
    isOk (commitEntries ctx .copy false
      [([2], .link (.obj (ctx.H X))), ([1], .file X)] [] []) = false ∧
    closedList ctx [] false [([1], .file X), ([2], .link (.obj (ctx.H X)))] [] = false := by
  decide +kernel

/-- **Order matters (2): a recorded directory checksum that is missing from the cache.**  The old
manifest records for the sub-directory `d` a checksum that is not in the cache but happens to be the
checksum of the file `f` (not a manifest).  `d` first: no old manifest is found, the commit
succeeds.  `f` first: the object is there when `d` is looked at, is read as a manifest, and the
commit fails with `badManifest`. -/
theorem order_matters_missing_manifest :
    isOk (commitEntries ctx .copy false
      [([2], .dir []), ([1], .file X)] [⟨[2], ctx.H X, true⟩] []) = true ∧
    isOk (commitEntries ctx .copy false
      [([1], .file X), ([2], .dir [])] [⟨[2], ctx.H X, true⟩] []) = false ∧
    closedList ctx [] false [([2], .dir []), ([1], .file X)] [⟨[2], ctx.H X, true⟩] = false := by
  decide +kernel

/-- a context that rejects the name `9` -/
def ctxBad : Ctx K := { ctx with nameOK := fun nm => nm != [9] }

/-- **The error value depends on the order** (both orders fail, as they must): the entry with the
rejected name gives `invalid`, the FIFO gives `notRegular`; the first failing entry in processing
order is the one reported. -/
theorem error_value_depends_on_order :
    commitEntries ctxBad .link false [([9], .file X), ([1], .other)] [] [] = .error .invalid ∧
    commitEntries ctxBad .link false [([1], .other), ([9], .file X)] [] [] = .error .notRegular := by
  constructor <;> rfl

/-! ### checkout and status of the committed example, entries processed in reverse order -/

/-- the cache after committing the example lists every name once per manifest, both checkouts
succeed, and (by the theorem) restore trees that are equal as maps at every level -/
example :
    ∃ n c s', commitNode ctx .link (.dir dirA) ⟨[7], "", true⟩ [] = .ok (n, c, s') ∧
      ManifestsNodup ctx s' ∧
      ∀ cur, ExRel MapEq (checkoutNodeS ctx .copy s' revσ 3 cur c)
        (checkoutNode ctx .copy s' 3 cur c) := by
  obtain ⟨⟨n, c, s'⟩, e, h⟩ := dirA_committed
  have hm := manifestsNodup_of_check (Bool.and_eq_true_iff.1 h).2
  exact ⟨n, c, s', e, hm, fun cur =>
      checkoutNodeS_mapEq ctx .copy s' revσ (fun _ _ cs => List.reverse_perm cs) hm 3 cur c⟩

/-- by evaluation on the small tree: both orders succeed -/
example :
    (match commitNode ctx .link small ⟨[7], "", true⟩ [] with
      | .ok (_, c, s') =>
        isOk (checkoutNodeS ctx .copy s' revσ 2 none c) && isOk (checkoutNode ctx .copy s' 2 none c)
      | .error _ => false) = true := by
  obtain ⟨⟨n, c, s'⟩, e, h⟩ := small_committed
  simp only [e, Bool.and_eq_true] at h ⊢
  exact h.2.1

/-- status of the committed small tree: up to date in both orders (evaluation), and related by
`StatusPerm` for every tree and cache (theorem) -/
example :
    (match commitNode ctx .link small ⟨[7], "", true⟩ [] with
      | .ok (n, c, s') =>
        (match dirStatusS ctx s' revσ' revτ 2 [7] false c.sum (some n),
               dirStatus ctx s' 2 [7] false c.sum (some n) with
         | .ok a, .ok b => a.cm && b.cm && a.children.length == 2 && b.children.length == 2
         | _, _ => false)
      | .error _ => false) = true := by
  obtain ⟨⟨n, c, s'⟩, e, h⟩ := small_committed
  simp only [e, Bool.and_eq_true] at h ⊢
  exact h.2.2

example (s : Store K) (fuel : Nat) (name : Bytes) (noRec : Bool) (sum : Digest)
    (cur : Option (Node K)) :
    ExRel StatusPerm (dirStatusS ctx s revσ' revτ fuel name noRec sum cur)
      (dirStatus ctx s fuel name noRec sum cur) :=
  dirStatusS_perm ctx s revσ' revτ (fun _ _ l => List.reverse_perm l)
    (fun _ _ l => List.reverse_perm l) fuel name noRec sum cur

/-! ### the protocol -/

/-- counters at the end of the run below -/
def endP : Pool.P :=
  { n := 2, coll := true, fed := 2, got := 2, idle := 0, busy := 0, spawned := 2, ded := 0,
    exited := 2, loopDone := true, failed := false, feedStop := false, collStop := false }

open Pool in
/-- two entries, two dedicated workers; the worker holding the *second* entry finishes first:
an explicit run of 9 steps ending in a terminal state with `done = [20, 10]` -/
example :
    ∃ st : TState Nat, TSteps 2 (tinit [10, 20] true) 9 st ∧ Terminal st.p ∧
      st.p.failed = false ∧ st.done = [20, 10] := by
  refine ⟨⟨endP, [], [], [20, 10], []⟩, ?_, ?_, ?_, rfl⟩
  · refine .cons (TStep.loc .spawnD (by decide) rfl (by decide)) ?_
    refine .cons (TStep.loc .spawnD (by decide) rfl (by decide)) ?_
    refine .cons (TStep.take 10 [20] (by decide) rfl) ?_
    refine .cons (TStep.take 20 [] (by decide) rfl) ?_
    refine .cons (TStep.finish .deliver [] 20 [10] (by decide) rfl rfl) ?_
    refine .cons (TStep.finish .deliver [] 10 [] (by decide) rfl rfl) ?_
    refine .cons (TStep.loc .loopEndReady (by decide) rfl (by decide)) ?_
    refine .cons (TStep.loc .exitD (by decide) rfl (by decide)) ?_
    refine .cons (TStep.loc .exitD (by decide) rfl (by decide)) ?_
    exact .refl
  · decide
  · rfl

open Pool in
/-- the example directory: there is a run of the protocol whose completion order is `dirB` (the
reverse of the listing), and for every such run the commit has the sequential outcome -/
example (strat : Strat) :
    ∃ k st, TSteps 1 (tinit dirA true) k st ∧ Terminal st.p ∧ st.p.failed = false ∧
      st.done = dirB ∧
      CommitEq ctx (commitEntries ctx strat false st.done [] [])
        (commitEntries ctx strat false dirA [] []) := by
  obtain ⟨k, st, hrun, hterm, hok, hdone⟩ :=
    every_order_is_a_schedule 1 dirA dirB true dirA_perm_dirB.symm
  exact ⟨k, st, hrun, hterm, hok, hdone,
    commit_schedule_independent good strat false hrun hterm hok [] dirA_hyps.2.1
      dirA_hyps.2.2.2.2.1⟩

end ExampleOrder
/-! ## 7. axioms -/

#print axioms commit_entry_frame
#print axioms commitEntries_order_independent
#print axioms commitNode_dir_order_independent
#print axioms commitNode_tree_order_independent
#print axioms commitArt_order_independent
#print axioms commit_fresh_order_independent
#print axioms commit_closed_cache_order_independent
#print axioms storeClosed_of_check
#print axioms checkoutChildren_order_independent
#print axioms checkoutNode_order_independent
#print axioms checkoutNode_order_independent_deref
#print axioms checkoutNodeS_id
#print axioms childStatuses_order_independent
#print axioms dirStatus_listing_order_independent
#print axioms dirStatus_order_independent
#print axioms StatusPerm.fields
#print axioms commitEntries_error_order_independent
#print axioms checkoutChildren_error_order_independent
#print axioms commit_schedule_independent
#print axioms commit_schedule_manifest
#print axioms checkout_schedule_independent
#print axioms status_schedule_independent
#print axioms every_order_is_a_schedule
#print axioms Pool.terminal_done_perm
#print axioms Pool.every_order_occurs
#print axioms Pool.tstep_of_step
#print axioms commitNode_frame
#print axioms commitEntries_frame
#print axioms commitEntries_perm
#print axioms commitNode_treePerm
#print axioms commitArt_treePerm
#print axioms checkoutChildren_perm_rel
#print axioms checkoutNodeS_mapEq
#print axioms dirBody_rel
#print axioms dirStatusS_perm
#print axioms dirStatus_listing_perm
#print axioms manifestsNodup_of_check
#print axioms ExampleOrder.dirA_hyps
#print axioms ExampleOrder.order_matters_dangling_link
#print axioms ExampleOrder.order_matters_missing_manifest
#print axioms ExampleOrder.error_value_depends_on_order

end Dud
