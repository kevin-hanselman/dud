import DudModel.Props.C03
import DudModel.Generated.Facts
/-!
# C03 (metadata part) — the obligation on the Go code

`meta_atomic` (in `C03.lean`) shows that rewriting a stage file / the index by temp file + rename is
atomic, `meta_torn_in_place` that create-truncate is not.  Which variant the Go code uses is a
regenerated fact (`tools/factgen` → `DudModel/Generated/Facts.lean`: `stageWrite`, `indexWrite`).

**This file does not build if a fact says `"createTrunc"`** (`os.Create` on the final path):
`meta_write_fact` is decided from the regenerated facts, so a writer (`stage.ToFile`, `index.ToFile`)
that stops going through a temp file and `os.Rename` breaks the build.
-/
namespace Dud.Sys

def stageWriteAtomic : Bool := Dud.Facts.stageWrite == "tempRename"
def indexWriteAtomic : Bool := Dud.Facts.indexWrite == "tempRename"

/-- the obligation: both metadata writers use the atomic variant -/
theorem meta_write_fact : stageWriteAtomic = true ∧ indexWriteAtomic = true := by decide

/-- hence every crash prefix of a stage-file / index rewrite shows the complete old or the complete
new version -/
theorem stage_write_atomic {κ : Type} (emp : κ) (isEmp : κ → Bool) (hemp : ∀ c, isEmp c = true → c = emp)
    (fs : FS κ) (rel : Bytes) (habs : fs.get (.stageTmp rel) = none) (new : κ) :
    ∀ k, (replay emp fs ((metaWriteCalls stageWriteAtomic (.stageFile rel) (.stageTmp rel) isEmp new).take k)).get
        (.stageFile rel) = fs.get (.stageFile rel) ∨
      ∃ m, (replay emp fs ((metaWriteCalls stageWriteAtomic (.stageFile rel) (.stageTmp rel) isEmp new).take k)).get
        (.stageFile rel) = some (.file new m) := by
  rw [meta_write_fact.1]
  exact meta_atomic emp isEmp hemp fs _ _ (by simp) habs new

theorem index_write_atomic {κ : Type} (emp : κ) (isEmp : κ → Bool) (hemp : ∀ c, isEmp c = true → c = emp)
    (fs : FS κ) (habs : fs.get .indexTmp = none) (new : κ) :
    ∀ k, (replay emp fs ((metaWriteCalls indexWriteAtomic .index .indexTmp isEmp new).take k)).get .index
        = fs.get .index ∨
      ∃ m, (replay emp fs ((metaWriteCalls indexWriteAtomic .index .indexTmp isEmp new).take k)).get .index
        = some (.file new m) := by
  rw [meta_write_fact.2]
  exact meta_atomic emp isEmp hemp fs _ _ (by simp) habs new

#print axioms meta_write_fact
#print axioms stage_write_atomic
#print axioms index_write_atomic

end Dud.Sys
