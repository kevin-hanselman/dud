import DudModel.Lemmas.Pool
import DudModel.Generated.Facts

/-!
# C13 — the worker pools terminate, process every entry once, and leave no goroutine behind

Model: `DudModel/Pool.lean` (goroutines counted per control location; the shared pool is the
environment).  Helpers: `DudModel/Lemmas/Pool.lean`.

Every step, of the instance or of its environment, keeps `WF` and decreases `mu`, so every run is
finite, failed or not (§1, §3), and so is every run of a tree of nested instances (§4).  With one
dedicated token (`dedicated_obligation`, §2) the scheduler `next` finds, in every non-terminal state, an
enabled *core* step — one that needs neither a shared token nor a cancellation nor an I/O error — so
nothing deadlocks whatever the shared pool does.  §5 is the order independence of content-addressed
puts on the toy store of `Pool.lean`; the result half for the model's commit, checkout and status is
`Props/C13order.lean`.
-/
namespace Dud.Pool

/-! ## 1. One instance -/

theorem wf_step {D : Nat} {p q : P} (h : Step D p q) (w : WF p) : WF q := by
  cases h with | mk l he => exact wf_fire he w

/-- Termination measure: every step (of the instance or of its environment) decreases `mu`. -/
theorem mu_decreases {D : Nat} {p q : P} (h : Step D p q) (w : WF p) : mu q < mu p := by
  cases h with | mk l he => exact mu_fire he w

/-- Progress, as a statement about the executable scheduler: with at least one dedicated token it
    answers, in a non-terminal well-formed state, with an enabled *core* step. -/
theorem next_total {D : Nat} {p : P} (hD : 0 < D) (w : WF p) (nt : ¬ Terminal p) :
    ∃ l, next D p = some l ∧ l.core = true ∧ enabled D l p = true := by
  cases hn : next D p with
  | none => exact absurd (next_none w hn (.inl hD)) nt
  | some l => exact ⟨l, rfl, (next_some w hn).1, (next_some w hn).2.1⟩

/-- Progress: with at least one dedicated token, a non-terminal well-formed state can always make
    a *core* step — one that exists in all three Go variants and needs neither a shared token
    (`spawnS`), nor an ancestor (`cancel`), nor an I/O error (`fail*`). -/
theorem progress {D : Nat} {p : P} (hD : 0 < D) (w : WF p) (nt : ¬ Terminal p) :
    ∃ l, l.core = true ∧ l ≠ .spawnS ∧ enabled D l p = true := by
  obtain ⟨l, _, hc, he⟩ := next_total hD w nt
  exact ⟨l, hc, (by rintro rfl; cases hc), he⟩

theorem progress_step {D : Nat} {p : P} (hD : 0 < D) (w : WF p) (nt : ¬ Terminal p) :
    ∃ q, Step D p q := by
  obtain ⟨l, _, _, he⟩ := progress hD w nt
  exact ⟨_, .mk l he⟩

/-- If no core step is enabled the instance has returned. -/
theorem stuck_core_terminal {D : Nat} {p : P} (hD : 0 < D) (w : WF p)
    (stuck : ∀ l, l.core = true → enabled D l p = false) : Terminal p := by
  apply Classical.byContradiction
  intro nt
  obtain ⟨l, hc, _, he⟩ := progress hD w nt
  rw [stuck l hc] at he; cases he

/-- Exactly once, at the level of counts: a run that ends without error fed every entry to a worker
    and collected every result. -/
theorem terminal_complete {p : P} (w : WF p) (t : Terminal p) (nf : p.failed = false) :
    p.fed = p.n ∧ p.got = p.n :=
  terminal_counts w t nf

/-- … and no result is collected twice, no entry fed twice, at any time. -/
theorem counts_bounded {p : P} (w : WF p) : p.got ≤ p.fed ∧ p.fed ≤ p.n ∧ p.spawned ≤ p.n := by
  have := w.got_busy_le; have := w.fed_le; have := w.spawned_le
  omega

theorem steps_wf_mu {D : Nat} {p q : P} {k : Nat} (w : WF p) (h : Steps D p k q) :
    WF q ∧ k + mu q ≤ mu p :=
  Run.bound (inv := WF) (m := mu) (fun _ _ w s => wf_step s w) (fun _ _ w s => mu_decreases s w) w h

/-- Every sequence of steps from `init n` has length ≤ `mu (init n) = 6 n + 4`, and a run that
    cannot be extended at all ends in a `Terminal` state.  (Such a run has failed: `cancel` is enabled
    as long as `failed = false`.  For a run without error, `stuck_core_terminal`: it is enough that no
    *core* step is enabled.) -/
theorem all_runs_terminate {D n : Nat} {c : Bool} {k : Nat} {q : P} (h : Steps D (init n c) k q) :
    k ≤ mu (init n c) ∧ mu (init n c) = 6 * n + 4 ∧
    (0 < D → (∀ r, ¬ Step D q r) → Terminal q) := by
  obtain ⟨w, hk⟩ := steps_wf_mu (wf_init n c) h
  exact ⟨by omega, mu_init n c, fun hD stuck => of_stuck (progress_step hD w) stuck⟩

theorem no_infinite_run {D n : Nat} {c : Bool} (f : Nat → P) (h0 : f 0 = init n c) :
    ¬ ∀ i, Step D (f i) (f (i + 1)) :=
  Run.no_infinite (inv := WF) (m := mu) (fun _ _ w s => wf_step s w)
    (fun _ _ w s => mu_decreases s w) f (h0 ▸ wf_init n c)

/-- The executable scheduler (`runToEnd`, usable by a driver) reaches, within `6 n + 4` steps, a
    terminal state in which every entry was fed and collected. -/
theorem runToEnd_init {D : Nat} (hD : 0 < D) (n : Nat) (c : Bool) :
    Terminal (runToEnd D (6 * n + 4) (init n c)) ∧ WF (runToEnd D (6 * n + 4) (init n c)) ∧
    (runToEnd D (6 * n + 4) (init n c)).failed = false ∧
    (runToEnd D (6 * n + 4) (init n c)).fed = n ∧ (runToEnd D (6 * n + 4) (init n c)).got = n := by
  obtain ⟨t, w, hn, hf⟩ :=
    runToEnd_spec hD (6 * n + 4) (init n c) (wf_init n c) (Nat.le_of_eq (mu_init n c))
  have := terminal_complete w t hf
  rw [hn] at this
  exact ⟨t, w, hf, this⟩

/-! ## 2. Why the dedicated pool must not be empty -/

/-- With `D = 0` no core step is enabled at the start, in every variant and for every non-empty
    directory. -/
theorem deadlock_without_dedicated_general (n : Nat) (c : Bool) (hn : 0 < n) :
    ¬ Terminal (init n c) ∧ ∀ l, l.core = true → enabled 0 l (init n c) = false := by
  constructor
  · intro t; exact absurd t.1 (by simp [init])
  · intro l hl
    cases l <;> first
      | (exact absurd hl (by decide))
      | (simp [enabled, init]; done)
      | (have := Nat.ne_of_lt hn; simp [enabled, init, this])

/-- With `D = 0` and a shared pool that never grants a token (all `S` tokens are held by ancestors
    waiting for this very directory) the instance is stuck in a non-terminal state: the only enabled
    steps are those of the environment (`spawnS`: a shared token; `cancel`: an ancestor fails), and
    no core step is enabled. -/
theorem deadlock_without_dedicated :
    WF (init 1) ∧ ¬ Terminal (init 1) ∧
    (∀ l, enabled 0 l (init 1) = true → l = .spawnS ∨ l = .cancel) ∧
    (∀ l, l.core = true → enabled 0 l (init 1) = false) ∧
    next 0 (init 1) = none := by
  obtain ⟨nt, hcore⟩ := deadlock_without_dedicated_general 1 true (by decide)
  exact ⟨wf_init 1 true, nt, fun l => by cases l <;> decide, hcore, by decide⟩

/-- The obligation on the Go constant (regenerated by factgen from `src/cache/cache.go`). -/
theorem dedicated_obligation : 0 < Dud.Facts.maxDedicatedWorkers := by decide

/-- The three spawn loops select on the shared pool, the dedicated pool and `ctx.Done`, and the three
    dedicated pools have capacity `maxDedicatedWorkers`. -/
theorem spawn_select_obligation :
    ("$param <- struct{}{}" ∈ Dud.Facts.commitSpawnSelect ∧
     "$local<make> <- struct{}{}" ∈ Dud.Facts.commitSpawnSelect ∧
     "<-$param.Done()" ∈ Dud.Facts.commitSpawnSelect) ∧
    ("$param <- struct{}{}" ∈ Dud.Facts.checkoutSpawnSelect ∧
     "$local<make> <- struct{}{}" ∈ Dud.Facts.checkoutSpawnSelect ∧
     "<-$param.Done()" ∈ Dud.Facts.checkoutSpawnSelect) ∧
    ("$param <- struct{}{}" ∈ Dud.Facts.statusSpawnSelect ∧
     "$local<make> <- struct{}{}" ∈ Dud.Facts.statusSpawnSelect ∧
     "<-$param.Done()" ∈ Dud.Facts.statusSpawnSelect) ∧
    Dud.Facts.dedicatedCaps =
      ["maxDedicatedWorkers", "maxDedicatedWorkers", "maxDedicatedWorkers"] := by
  decide +kernel

/-- The model instantiated with the Go constant makes progress. -/
theorem progress_with_go_constant {p : P} (w : WF p) (nt : ¬ Terminal p) :
    ∃ l, l.core = true ∧ l ≠ .spawnS ∧ enabled Dud.Facts.maxDedicatedWorkers l p = true :=
  progress dedicated_obligation w nt

/-! ## 3. Errors and cancellation -/

theorem failed_persists {D : Nat} {p q : P} (h : Step D p q) (hf : p.failed = true) :
    q.failed = true := by
  cases h with
  | mk l he => cases l <;> first | exact hf | rfl

/-- Once the context is cancelled, a non-terminal state can always move, by a core step that is not
    even a spawn: no token of any pool is needed (so no hypothesis on `D`). -/
theorem error_progress (D : Nat) {p : P} (w : WF p) (hf : p.failed = true) (nt : ¬ Terminal p) :
    ∃ l, l.core = true ∧ l ≠ .spawnS ∧ l ≠ .spawnD ∧ enabled D l p = true := by
  cases hn : next D p with
  | none => exact absurd (next_none w hn (.inr hf)) nt
  | some l =>
    obtain ⟨hc, he, hs⟩ := next_some w hn
    exact ⟨l, hc, (by rintro rfl; cases hc), (fun e => by rw [hs e] at hf; cases hf), he⟩

/-- After a failure every run is finite: at most `mu p` more steps, and the failure persists. -/
theorem error_terminates {D : Nat} {p q : P} {k : Nat} (w : WF p) (hf : p.failed = true)
    (h : Steps D p k q) : k + mu q ≤ mu p ∧ q.failed = true := by
  refine ⟨(steps_wf_mu w h).2, ?_⟩
  induction h with
  | refl => exact hf
  | cons s _ ih => exact ih (wf_step s w) (failed_persists s hf)

/-- A failing run that cannot be extended has returned. -/
theorem error_maximal_terminal {D : Nat} {p : P} (w : WF p) (hf : p.failed = true)
    (stuck : ∀ r, ¬ Step D p r) : Terminal p :=
  of_stuck (fun nt => let ⟨l, _, _, _, he⟩ := error_progress D w hf nt; ⟨_, .mk l he⟩) stuck

/-- No goroutine outlives the call, failed or not: when `errGroup.Wait` returns every spawned worker
    has exited, every dedicated token is released, and the spawn loop, feeder and collector have
    returned. -/
theorem terminal_no_goroutine_left {p : P} (w : WF p) (t : Terminal p) :
    p.idle = 0 ∧ p.busy = 0 ∧ p.exited = p.spawned ∧ p.ded = 0 ∧ p.loopDone = true := by
  obtain ⟨tl, ti, tb, _, _⟩ := t
  have := w.workers; have := w.ded_le
  exact ⟨ti, tb, by omega, by omega, tl⟩

/-! ## 4. Nesting -/

/-- The key fact behind nesting: a nested instance can always move by itself, whatever the shared
    pool does, because the scheduler `next` never proposes `spawnS` (nor any non-core step). -/
theorem child_progress_independent_of_shared {D : Nat} {p : P} (hD : 0 < D) (w : WF p)
    (nt : ¬ Terminal p) :
    ∃ l, next D p = some l ∧ l.core = true ∧ l ≠ .spawnS ∧ l ≠ .cancel ∧ enabled D l p = true := by
  obtain ⟨l, hn, hc, he⟩ := next_total hD w nt
  exact ⟨l, hn, hc, (by intro e; rw [e] at hc; cases hc), (by intro e; rw [e] at hc; cases hc), he⟩

/-- Termination of a whole tree.  `level D coll ok d` is the composite system of depth `d` (every
    directory node carries its own `P` state, its pending entries and the running nested instances;
    steps are `DStep`).  `ok` is any set of permitted labels containing the needed ones — in
    particular the set without `spawnS`, i.e. a shared pool that never grants a token.
    For every directory `dir cs`:
    * every run from the initial state has at most `cost (dir cs)` steps;
    * there is no infinite run;
    * with `D ≥ 1` at every level, a run that cannot be extended has terminated. -/
theorem nested_terminates {D : Nat} (coll : Bool) (ok : Label → Bool) (d : Nat) (cs : List Shape) :
    (∀ k t, Run (level D coll ok d).step ((level D coll ok d).start cs) k t →
        k ≤ cost (.dir cs)) ∧
    (∀ f : Nat → (level D coll ok d).σ, f 0 = (level D coll ok d).start cs →
        ¬ ∀ i, (level D coll ok d).step (f i) (f (i + 1))) ∧
    (0 < D → (∀ l, l.needed = true → ok l = true) →
      ∀ k t, Run (level D coll ok d).step ((level D coll ok d).start cs) k t →
        (∀ t', ¬ (level D coll ok d).step t t') → (level D coll ok d).term t) := by
  have safe := level_safe D coll ok d
  refine ⟨fun k t h => ?_, fun f h0 => ?_, fun hD hok k t h stuck => ?_⟩
  · have := (Run.bound safe.inv_step safe.dec (safe.inv_start cs) h).2
    have := (level_mu_start D coll ok d cs).1
    omega
  · exact Run.no_infinite safe.inv_step safe.dec f (h0 ▸ safe.inv_start cs)
  · exact of_stuck ((level_good hD coll hok d).prog t
      (Run.bound safe.inv_step safe.dec (safe.inv_start cs) h).1) stuck

/-- Instance: the shared pool never grants a token, nobody cancels from outside (`ok` = the needed
    labels only).  The tree still terminates: the dedicated token of every directory suffices. -/
theorem nested_terminates_shared_exhausted {D : Nat} (hD : 0 < D) (coll : Bool) (d : Nat)
    (cs : List Shape) (k : Nat) (t : (level D coll Label.needed d).σ)
    (h : Run (level D coll Label.needed d).step ((level D coll Label.needed d).start cs) k t) :
    k ≤ cost (.dir cs) ∧
    ((∀ t', ¬ (level D coll Label.needed d).step t t') → (level D coll Label.needed d).term t) :=
  ⟨(nested_terminates coll _ d cs).1 k t h,
   (nested_terminates coll _ d cs).2.2 hD (fun _ h => h) k t h⟩

/-- Some run of the tree does reach termination (the termination theorem is not vacuous). -/
theorem nested_reaches_terminal {D : Nat} (hD : 0 < D) (coll : Bool) (ok : Label → Bool)
    (hok : ∀ l, l.needed = true → ok l = true) (d : Nat) (cs : List Shape) :
    ∃ k t, Run (level D coll ok d).step ((level D coll ok d).start cs) k t ∧
      (level D coll ok d).term t :=
  have g := level_good hD coll hok d
  have ⟨k, t, hr, ht, _⟩ := g.reaches_term _ _ (Nat.lt_succ_self _) (g.inv_start cs)
  ⟨k, t, hr, ht⟩

/-- The bound `cost` is exact for the measure as soon as the tower is as deep as the tree: no
    sub-directory is treated as atomic. -/
theorem nested_cost_exact (D : Nat) (coll : Bool) (ok : Label → Bool) (cs : List Shape) :
    (level D coll ok (depth (.dir cs))).mu ((level D coll ok (depth (.dir cs))).start cs) =
      cost (.dir cs) :=
  (level_mu_start D coll ok _ cs).2 (Nat.le_refl _)

/-- When the call for a directory returns, none of its nested calls is still running, and if it did
    not fail every entry was taken. -/
theorem nested_terminal_clean {C : Sys} {s : DState C.σ} (i : DInv C s) (t : Terminal s.p) :
    s.act = [] ∧ s.p.exited = s.p.spawned ∧ (s.p.failed = false → s.pend = []) :=
  have k := i.entries.terminal t
  ⟨k.1, (terminal_no_goroutine_left i.wf t).2.2.1, k.2⟩

/-! ## 5. The result does not depend on the order in which workers finish -/

/-- Content-addressed puts commute as maps. -/
theorem lookup_put_comm (k1 k2 : String) (v1 v2 : Nat) (m : List (String × Nat))
    (h : k1 ≠ k2 ∨ (k1 = k2 ∧ v1 = v2)) (k : String) :
    lookup k (put k1 v1 (put k2 v2 m)) = lookup k (put k2 v2 (put k1 v1 m)) := by
  simp only [lookup_put]
  rcases h with h | ⟨h, hv⟩
  · by_cases a : k = k1
    · have : k ≠ k2 := fun e => h (a.symm.trans e)
      simp [a, h]
    · simp [a]
  · subst h; subst hv; rfl

/-- The store after a list of puts is, as a map: the value written for written keys (unambiguous by
    content addressing), the old value for the others. -/
theorem lookup_putAll (l : List (String × Nat)) (hc : Consistent l) (m : List (String × Nat))
    (k : String) :
    (∀ v, (k, v) ∈ l → lookup k (putAll m l) = some v) ∧
    ((∀ v, (k, v) ∉ l) → lookup k (putAll m l) = lookup k m) :=
  ⟨fun v h => lookup_putAll_of_mem k v l m hc h, lookup_putAll_of_not_mem k l m⟩

/-- Any two orders of the same content-addressed puts give the same map. -/
theorem lookup_foldl_perm {l1 l2 : List (String × Nat)} (hp : l1.Perm l2) (hc : Consistent l1)
    (m : List (String × Nat)) (k : String) :
    lookup k (l1.foldl (fun m kv => put kv.1 kv.2 m) m) =
    lookup k (l2.foldl (fun m kv => put kv.1 kv.2 m) m) := by
  show lookup k (putAll m l1) = lookup k (putAll m l2)
  by_cases hex : ∃ v, (k, v) ∈ l1
  · obtain ⟨v, hv⟩ := hex
    rw [lookup_putAll_of_mem k v l1 m hc hv,
      lookup_putAll_of_mem k v l2 m (hc.perm hp) (hp.mem_iff.1 hv)]
  · have h1 : ∀ v, (k, v) ∉ l1 := fun v hv => hex ⟨v, hv⟩
    have h2 : ∀ v, (k, v) ∉ l2 := fun v hv => hex ⟨v, hp.mem_iff.2 hv⟩
    rw [lookup_putAll_of_not_mem k l1 m h1, lookup_putAll_of_not_mem k l2 m h2]

/-- In particular: the order in which the workers finish (`done`, a permutation of the sequential
    order `seq`) does not change the cache. -/
theorem cache_independent_of_finish_order {seq done : List (String × Nat)} (hp : seq.Perm done)
    (hc : Consistent seq) (m : List (String × Nat)) :
    ∀ k, lookup k (putAll m done) = lookup k (putAll m seq) :=
  fun k => (lookup_foldl_perm hp hc m k).symm

/-! ## 6. Non-vacuity -/

/-- commit/status, one dedicated worker, two entries: an explicit schedule reaches `Terminal`. -/
theorem example_dedicated_only :
    runLabels 1 [.spawnD, .take, .deliver, .take, .deliver, .loopEndReady, .exitD] (init 2) =
      some { n := 2, coll := true, fed := 2, got := 2, idle := 0, busy := 0, spawned := 1, ded := 0,
             exited := 1, loopDone := true, failed := false, feedStop := false,
             collStop := false } := by decide

theorem example_dedicated_only_run :
    ∃ q, Steps 1 (init 2) 7 q ∧ Terminal q ∧ q.fed = 2 ∧ q.got = 2 :=
  ⟨_, runLabels_steps _ _ _ example_dedicated_only, by decide, rfl, rfl⟩

/-- A shared and a dedicated worker side by side. -/
theorem example_shared_and_dedicated :
    ∃ q, runLabels 1 [.spawnS, .spawnD, .take, .take, .deliver, .deliver, .loopEndN, .exitS, .exitD]
      (init 2) = some q ∧ Terminal q ∧ q.got = 2 ∧ q.exited = 2 := by decide

/-- checkout: no `ready` channel, so the spawn loop goes on acquiring the dedicated token and
    starting workers that find the channel closed, until it has run `n` iterations. -/
theorem example_checkout :
    ∃ q, runLabels 1 [.spawnD, .take, .deliver, .take, .deliver, .exitD, .spawnD, .exitD, .loopEndN]
      (init 2 false) = some q ∧ Terminal q ∧ q.got = 2 ∧ q.exited = 2 := by decide

/-- A failing run: the worker returns an error while holding the first entry; spawn loop, feeder and
    collector leave on `ctx.Done`; nothing is left behind. -/
theorem example_failure :
    ∃ q, runLabels 1 [.spawnD, .take, .failD, .loopEndCancel, .feedStop, .collStop] (init 2) = some q ∧
      Terminal q ∧ q.failed = true ∧ q.idle = 0 ∧ q.busy = 0 ∧ q.exited = q.spawned ∧ q.got = 0 := by
  decide

/-- The executable scheduler on a directory of 5 entries. -/
theorem example_runToEnd :
    (runToEnd 1 34 (init 5)).got = 5 ∧ Terminal (runToEnd 1 34 (init 5)) := by decide

/-- `cost` of a small tree: `dir [leaf, dir [leaf, leaf]]`. -/
theorem example_cost : cost (.dir [.leaf, .dir [.leaf, .leaf]]) = 32 := by decide

/-! ### A nested run, step by step: `dir [dir [leaf]]` -/

abbrev okAll : Label → Bool := fun _ => true
/-- trees of depth ≤ 1 / ≤ 2, `D = 1`, commit/status variant, all labels permitted -/
abbrev S1 : Sys := level 1 true okAll 1
abbrev S2 : Sys := level 1 true okAll 2

def doneP : P :=
  { n := 1, coll := true, fed := 1, got := 1, idle := 0, busy := 0, spawned := 1, ded := 0,
    exited := 1, loopDone := true, failed := false, feedStop := false, collStop := false }

def childDone : S1.σ := (⟨doneP, [], []⟩ : DState Unit)
def rootDone : S2.σ := (⟨doneP, [], []⟩ : DState S1.σ)

/-- the nested instance for `dir [leaf]` runs to completion in 5 steps -/
theorem example_child_run : Run S1.step (S1.start [.leaf]) 5 childDone := by
  refine .cons (DStep.loc .spawnD rfl (by decide) rfl (by decide)) ?_
  refine .cons (DStep.take .leaf [] rfl (by decide) rfl) ?_
  refine .cons (DStep.consume .deliver [] none [] rfl (by decide) rfl rfl trivial (fun _ => rfl)) ?_
  refine .cons (DStep.loc .loopEndReady rfl (by decide) rfl (by decide)) ?_
  refine .cons (DStep.loc .exitD rfl (by decide) rfl (by decide)) ?_
  exact .refl

/-- the root spawns its dedicated worker, which takes the sub-directory, runs the nested instance
    (5 inner steps), delivers; then the root winds down: 10 steps in all, `cost` allows 20. -/
theorem example_nested :
    Run S2.step (S2.start [.dir [.leaf]]) 10 rootDone ∧ S2.term rootDone ∧
    cost (.dir [.dir [.leaf]]) = 20 := by
  refine ⟨?_, by show Terminal doneP; decide, by decide⟩
  refine .cons (DStep.loc .spawnD rfl (by decide) rfl (by decide)) ?_
  refine .cons (DStep.take (.dir [.leaf]) [] rfl (by decide) rfl) ?_
  have h := inner_run (D := 1) (ok := okAll) (fire .take (fire .spawnD (init 1))) []
    example_child_run
  have tail : Run S2.step
      (⟨fire .take (fire .spawnD (init 1)), [], [some childDone]⟩ : DState S1.σ) 3 rootDone := by
    refine .cons (DStep.consume .deliver [] (some childDone) [] rfl (by decide) rfl rfl
      (by show Terminal doneP; decide) (fun _ => rfl)) ?_
    refine .cons (DStep.loc .loopEndReady rfl (by decide) rfl (by decide)) ?_
    refine .cons (DStep.loc .exitD rfl (by decide) rfl (by decide)) ?_
    exact .refl
  exact Run.append h tail

/-- The composite system really deadlocks when `D = 0` and the shared pool grants nothing: the
    initial state of `dir [leaf]` is not terminal and has no step at all. -/
theorem example_nested_deadlock :
    ¬ (dirSys 0 true Label.needed baseSys).term ((dirSys 0 true Label.needed baseSys).start [.leaf]) ∧
    ∀ t, ¬ (dirSys 0 true Label.needed baseSys).step
      ((dirSys 0 true Label.needed baseSys).start [.leaf]) t := by
  constructor
  · show ¬ Terminal (init 1); decide
  · intro t h
    cases h with
    | loc l hok he _ _ =>
      replace he : enabled 0 l (init 1) = true := he
      cases l <;> first | (exact absurd hok (by decide)) | (exact absurd he (by decide))
    | take sh rest _ he _ =>
      replace he : enabled 0 .take (init 1) = true := he
      exact absurd he (by decide)
    | consume l pre j post _ _ _ hact _ _ =>
      replace hact : ([] : List (Option Unit)) = pre ++ j :: post := hact
      cases pre <;> cases hact
    | inner pre c c' post hact _ =>
      replace hact : ([] : List (Option Unit)) = pre ++ some c :: post := hact
      cases pre <;> cases hact

#print axioms wf_init
#print axioms wf_step
#print axioms progress
#print axioms progress_step
#print axioms next_total
#print axioms stuck_core_terminal
#print axioms mu_decreases
#print axioms terminal_complete
#print axioms counts_bounded
#print axioms all_runs_terminate
#print axioms no_infinite_run
#print axioms runToEnd_init
#print axioms deadlock_without_dedicated
#print axioms deadlock_without_dedicated_general
#print axioms dedicated_obligation
#print axioms spawn_select_obligation
#print axioms progress_with_go_constant
#print axioms failed_persists
#print axioms error_progress
#print axioms error_terminates
#print axioms error_maximal_terminal
#print axioms terminal_no_goroutine_left
#print axioms child_progress_independent_of_shared
#print axioms nested_terminates
#print axioms nested_terminates_shared_exhausted
#print axioms nested_reaches_terminal
#print axioms nested_cost_exact
#print axioms nested_terminal_clean
#print axioms level_safe
#print axioms level_good
#print axioms lookup_put_comm
#print axioms lookup_putAll
#print axioms lookup_foldl_perm
#print axioms cache_independent_of_finish_order
#print axioms example_dedicated_only_run
#print axioms example_shared_and_dedicated
#print axioms example_checkout
#print axioms example_failure
#print axioms example_runToEnd
#print axioms example_child_run
#print axioms example_nested
#print axioms example_nested_deadlock

end Dud.Pool
