import DudModel.Lemmas.PathSpec
import DudModel.OwnerSpec
/-!
# C01 — "from whichever directory dud is invoked": re-basing of command-line arguments

`src/cmd/root.go`, `prepare(paths)`: before the process changes directory to the project root,
every stage-file argument is replaced by `pathAbsThenRel(rootDir, path)`:

    absPath, err := filepath.Abs(path)        // Clean(path) if IsAbs(path) else Join(cwd, path)
    return filepath.Rel(base, absPath)

and the result is what is looked up in the index (whose keys are root-relative clean paths).  In
the model (`World.lean`) stage paths *are* root-relative clean paths, so the claim "an argument
spelled relative to any invocation directory inside the project denotes the same root-relative
stage path" is outside the world model; stream S7-path tests it (harness hook `PathAbsThenRel`).
Here it is proved about the byte-level model of Go's `path/filepath` in `DudModel/Path.lean`, for
all paths:
no bound on the length of names, on the depth of the root, of the invocation directory or of the
stage path.  The model is byte-level, so names that are not valid UTF-8 are covered as well.

Vocabulary (`DudModel/PathSpec.lean`): `absOf cs` is the absolute clean path with the components
`cs`, `relOf cs` the relative one (`"."` for `[]`), `Good cs` says that every component is one that
`Clean` keeps (not empty, not ".", not "..", no '/'), `denote cwd arg` is the absolute location an
argument denotes lexically for a process in `absOf cwd` (the walk along the raw segments of `arg`,
starting at "/" for an absolute argument), `segsOf arg` are the segments of `arg` other than "" and
".".

Main statements
* `absPath_eq`, `pathAbsThenRel_eq`: what the two Go calls compute, for EVERY argument string;
* `rebase_iff`: the re-based argument is the stage path `p` iff the argument denotes `root/p`;
* `rebase_relative` (a): every spelling in `Spelling r d p` — the `..`-spelling from the invocation
  directory, the shortest one when `d` and `p` share a prefix, whatever `filepath.Rel(cwd, root/p)`
  yields, the absolute one, and each of these with a trailing slash, a leading "./", doubled
  slashes, "/./" or any other rearrangement of noise segments — is re-based to `p`;
* `rebase_total`, `rebase_outside`, `rebase_outside_not_stage`, `rebase_inside` (b): with an
  absolute root and working directory `Rel` never fails; an argument outside the root is re-based
  to a path whose first component is ".." and that therefore equals no root-relative stage path;
  `rel_abs_eq_none_iff` (Lemmas): from an absolute base `Rel` fails exactly for a relative target;
* `rebase_injective` (c): two arguments have the same re-based form iff they denote the same
  absolute path — inside the root or not;
* `rebase_lexical_respelling` (d): a different *lexical* spelling of the root or of the working
  directory ("/home//u/./proj/") changes nothing.

What is NOT covered
* (d) Everything here is lexical, exactly like `filepath.Abs` / `filepath.Rel`.  If the root is
  reached through a symbolic link (`os.Getwd()` returns the logical `$PWD`, an absolute argument
  spells the physical path, or the other way round) the two are different component lists and the
  argument is treated as outside the root (`rebase_outside`): the statements are NOT expected to
  hold across such spellings and nothing is claimed about them.  Likewise `a/../b` is identified
  with `b` although with a symbolic link `a` the kernel would resolve it differently (Go does the
  same).
* `getProjectRootDir` itself (which directory contains `.dud`) needs the file system; only its
  purely lexical step is covered: `walk_up` (`filepath.Dir` applied `d.length` times leads from
  `root/d` to `root`, through the prefixes).  `os.Getwd()` is assumed to return an absolute clean
  path (`absOf cwd` with `Good cwd`), as the kernel / `$PWD` check guarantee.
* `filepath.Abs` fails only when `os.Getwd()` fails; that error path is not modelled.
-/
namespace Dud.C01path
open Dud.Path Dud.PathSpec

/- `absPath` and `pathAbsThenRel` (the model of the two Go calls) are defined in `DudModel/PathSpec.lean`,
where the driver executes them against the real `pathAbsThenRel` (stream S7-path of the C01 check). -/

/-! ## what the two calls compute, for every argument -/

/-- `filepath.Abs` for any absolute spelling of the working directory -/
theorem absPath_abs {cwd : Bytes} (hc : isAbs cwd = true) (arg : Bytes) :
    absPath cwd arg = absOf (denote (resolve [] (splitSlash cwd)) arg) := by
  unfold absPath
  cases h : isAbs arg with
  | true => rw [if_pos rfl]; exact clean_abs_denote _ h
  | false => rw [if_neg Bool.false_ne_true, join_abs hc, denote_rel h]

/-- `filepath.Abs` returns the absolute clean path of what the argument denotes -/
theorem absPath_eq {cwd : Comps} (hc : Good cwd) (arg : Bytes) :
    absPath (absOf cwd) arg = absOf (denote cwd arg) := by
  rw [absPath_abs (isAbs_absOf cwd), resolve_nil_absOf hc]

theorem pathAbsThenRel_eq {r cwd : Comps} (hc : Good cwd) (arg : Bytes) :
    pathAbsThenRel (absOf r) (absOf cwd) arg = rel (absOf r) (absOf (denote cwd arg)) := by
  rw [pathAbsThenRel, absPath_eq hc]

/-- two arguments are re-based to the same result exactly when they denote the same location,
inside the root or not: `Rel` from a fixed base is injective -/
theorem rebase_eq_iff {r cwd : Comps} (hr : Good r) (hc : Good cwd) (a b : Bytes) :
    pathAbsThenRel (absOf r) (absOf cwd) a = pathAbsThenRel (absOf r) (absOf cwd) b ↔
      denote cwd a = denote cwd b := by
  rw [pathAbsThenRel_eq hc, pathAbsThenRel_eq hc]
  exact ⟨rel_absOf_inj hr (denote_isGood hc a) (denote_isGood hc b), fun h => by rw [h]⟩

/-- The re-based argument is the root-relative path `p` exactly when the argument denotes
`root/p`.  (`p = []`, i.e. the root itself, gives ".") -/
theorem rebase_iff {r cwd p : Comps} (hr : Good r) (hc : Good cwd) (hp : Good p) (arg : Bytes) :
    pathAbsThenRel (absOf r) (absOf cwd) arg = some (relOf p) ↔ denote cwd arg = r ++ p := by
  rw [pathAbsThenRel_eq hc]
  constructor
  · intro h
    rw [← rel_absOf' hr hp] at h
    exact rel_absOf_inj hr (denote_isGood hc arg) (hr.append hp) h
  · intro h
    rw [h, rel_absOf' hr hp]

/-! ## (a) every spelling of a stage path is re-based to the stage path -/

/-- Spellings of the stage path `p` (root-relative components) for a process in `root/d`.
The first four are what users, `filepath.Rel` and shell completion produce; the others close the
set under the noise that shells and scripts add. -/
inductive Spelling (r d p : Comps) : Bytes → Prop
  /-- up to the root, then down: `../` once per component of `d`, then `p` -/
  | updown : Spelling r d p (intercalate (ups d.length ++ p))
  /-- `d` and `p` share the prefix `q`: up out of the rest of `d`, down the rest of `p`
  (the shortest spelling when `q` is the longest common prefix; "." when nothing remains) -/
  | shortest (q d' p' : Comps) (hd : d = q ++ d') (hp : p = q ++ p') :
      Spelling r d p (relOf (ups d'.length ++ p'))
  /-- whatever `filepath.Rel(cwd, root/p)` returns -/
  | rel (arg : Bytes) (h : Path.rel (absOf (r ++ d)) (absOf (r ++ p)) = some arg) :
      Spelling r d p arg
  /-- the absolute spelling -/
  | absolute : Spelling r d p (absOf (r ++ p))
  /-- a trailing slash -/
  | trailingSlash (a : Bytes) (h : Spelling r d p a) (hne : a ≠ []) : Spelling r d p (a ++ [slash])
  /-- a leading "./" on a relative spelling -/
  | dotSlash (a : Bytes) (h : Spelling r d p a) (hrel : isAbs a = false) :
      Spelling r d p (dot :: slash :: a)
  /-- a doubled slash anywhere -/
  | doubleSlash (a b : Bytes) (h : Spelling r d p (a ++ slash :: b)) :
      Spelling r d p (a ++ slash :: slash :: b)
  /-- a "/./" anywhere -/
  | dotSegment (a b : Bytes) (h : Spelling r d p (a ++ slash :: b)) :
      Spelling r d p (a ++ slash :: dot :: slash :: b)
  /-- any string that is absolute / relative like `a` and has the same segments apart from
  "" and "." -/
  | sameSegs (a b : Bytes) (h : Spelling r d p a) (habs : isAbs b = isAbs a)
      (hseg : segsOf b = segsOf a) : Spelling r d p b

theorem isAbs_append_slash (a b c : Bytes) :
    isAbs (a ++ slash :: c) = isAbs (a ++ slash :: b) := by
  cases a with
  | nil => rfl
  | cons x a => rfl

/-- every spelling denotes `root/p` -/
theorem Spelling.denote {r d p : Comps} (hr : Good r) (hd : Good d) (hp : Good p) (hne : p ≠ [])
    {arg : Bytes} (h : Spelling r d p arg) : denote (r ++ d) arg = r ++ p := by
  have hrd : Good (r ++ d) := hr.append hd
  induction h with
  | updown =>
    rw [← relOf_eq_intercalate (by simp [hne]), denote_updown hrd _ hp,
      dropLastN_append (Nat.le_refl _), dropLastN_length, List.append_nil]
  | shortest q d' p' hd' hp' =>
    subst hd' hp'
    rw [denote_updown hrd _ hp.right, ← List.append_assoc r q d',
      dropLastN_append (Nat.le_refl _), dropLastN_length, List.append_nil, List.append_assoc]
  | rel arg h =>
    obtain ⟨h1, h2⟩ := rel_roundtrip hrd (hr.append hp) h
    rw [denote_rel h1, h2]
  | absolute => exact denote_absOf _ (hr.append hp)
  | trailingSlash a _ hne' ih =>
    rw [← ih]
    exact denote_congr _ (isAbs_append hne' _) (segsOf_trailing_slash a)
  | dotSlash a _ hrel ih =>
    rw [← ih]
    exact denote_congr _ (by rw [isAbs_dot_slash, hrel]) (segsOf_dot_slash a)
  | doubleSlash a b _ ih =>
    rw [← ih]
    exact denote_congr _ (isAbs_append_slash a b _) (segsOf_double_slash a b)
  | dotSegment a b _ ih =>
    rw [← ih]
    exact denote_congr _ (isAbs_append_slash a b _) (segsOf_dot_segment a b)
  | sameSegs a b _ habs hseg ih =>
    rw [← ih]
    exact denote_congr _ habs hseg

/-- **(a)** For a project root `absOf r`, an invocation directory `absOf (r ++ d)` inside it (any
depth, `d = []` included) and a stage path with root-relative components `p`, every spelling of the
argument is re-based to the stage path `intercalate p`. -/
theorem rebase_relative {r d p : Comps} (hr : Good r) (hd : Good d) (hp : Good p) (hne : p ≠ [])
    {arg : Bytes} (h : Spelling r d p arg) :
    pathAbsThenRel (absOf r) (absOf (r ++ d)) arg = some (intercalate p) := by
  rw [← relOf_eq_intercalate hne]
  exact (rebase_iff hr (hr.append hd) hp arg).2 (h.denote hr hd hp hne)

/-- (a), first spelling, as `filepath.Rel(cwd, root/p)` yields it when `d` and `p` have no common
first component: `../` for every component of `d`, then `p` -/
theorem rebase_updown {r d p : Comps} (hr : Good r) (hd : Good d) (hp : Good p) (hne : p ≠ []) :
    pathAbsThenRel (absOf r) (absOf (r ++ d))
      (intercalate (List.replicate d.length dotdot ++ p)) = some (intercalate p) :=
  rebase_relative hr hd hp hne .updown

/-- (a), the shortest spelling: invocation directory `root/q/d'`, stage path `q/p'` -/
theorem rebase_shortest {r q d' p' : Comps} (hr : Good r) (hq : Good q) (hd : Good d')
    (hp : Good p') (hne : q ++ p' ≠ []) :
    pathAbsThenRel (absOf r) (absOf (r ++ (q ++ d')))
      (relOf (List.replicate d'.length dotdot ++ p')) = some (intercalate (q ++ p')) :=
  rebase_relative hr (hq.append hd) (hq.append hp) hne (.shortest q d' p' rfl rfl)

/-- (a), round trip with `filepath.Rel`: whatever `Rel(cwd, root/p)` returns is re-based to `p` -/
theorem rebase_of_rel {r d p : Comps} (hr : Good r) (hd : Good d) (hp : Good p) (hne : p ≠ [])
    {arg : Bytes} (h : rel (absOf (r ++ d)) (absOf (r ++ p)) = some arg) :
    pathAbsThenRel (absOf r) (absOf (r ++ d)) arg = some (intercalate p) :=
  rebase_relative hr hd hp hne (.rel arg h)

/-- (a), the absolute spelling -/
theorem rebase_absolute {r d p : Comps} (hr : Good r) (hd : Good d) (hp : Good p) (hne : p ≠ []) :
    pathAbsThenRel (absOf r) (absOf (r ++ d)) (absOf (r ++ p)) = some (intercalate p) :=
  rebase_relative hr hd hp hne .absolute

/-- noise is invisible, for every argument and every (absolute clean) root and working directory:
two arguments that are both absolute or both relative and have the same segments apart from ""
and "." are re-based to the same result -/
theorem rebase_same_segments {r cwd : Comps} (hc : Good cwd) {a b : Bytes}
    (habs : isAbs a = isAbs b) (hseg : segsOf a = segsOf b) :
    pathAbsThenRel (absOf r) (absOf cwd) a = pathAbsThenRel (absOf r) (absOf cwd) b := by
  rw [pathAbsThenRel_eq hc, pathAbsThenRel_eq hc, denote_congr cwd habs hseg]

/-! ## (b) arguments outside the root; `Rel` never fails -/

/-- **(b)** with an absolute clean root and working directory `pathAbsThenRel` never fails,
whatever the argument -/
theorem rebase_total {r cwd : Comps} (hr : Good r) (hc : Good cwd) (arg : Bytes) :
    ∃ out, pathAbsThenRel (absOf r) (absOf cwd) arg = some out := by
  rw [pathAbsThenRel_eq hc, rel_absOf_absOf hr (denote_isGood hc arg)]
  exact ⟨_, rfl⟩

/-- the same for ANY absolute strings as root and working directory -/
theorem rebase_total_abs {root cwd : Bytes} (hr : isAbs root = true) (hc : isAbs cwd = true)
    (arg : Bytes) : pathAbsThenRel root cwd arg ≠ none := by
  rw [pathAbsThenRel, absPath_abs hc, Ne, rel_abs_eq_none_iff hr, isAbs_absOf]
  decide

/-- an argument inside the root (or the root itself) is re-based to its root-relative path -/
theorem rebase_inside {r cwd : Comps} (hr : Good r) (hc : Good cwd) {arg : Bytes}
    (h : r <+: denote cwd arg) :
    ∃ c, Good c ∧ denote cwd arg = r ++ c ∧
      pathAbsThenRel (absOf r) (absOf cwd) arg = some (relOf c) := by
  obtain ⟨c, e⟩ := h
  have hg : Good c := by
    have := denote_isGood hc arg
    rw [← e] at this
    exact this.right
  exact ⟨c, hg, e.symm, (rebase_iff hr hc hg arg).2 e.symm⟩

/-- **(b)** an argument that denotes a path outside the root is re-based to a path whose first
component is ".." -/
theorem rebase_outside {r cwd : Comps} (hr : Good r) (hc : Good cwd) {arg : Bytes}
    (h : ¬ r <+: denote cwd arg) :
    ∃ rest, RelSeg rest ∧
      pathAbsThenRel (absOf r) (absOf cwd) arg = some (intercalate (dotdot :: rest)) := by
  rw [pathAbsThenRel_eq hc]
  exact rel_absOf_outside hr (denote_isGood hc arg) h

/-- (b), in bytes: the result is ".." or begins with "../" -/
theorem rebase_outside_bytes {r cwd : Comps} (hr : Good r) (hc : Good cwd) {arg : Bytes}
    (h : ¬ r <+: denote cwd arg) :
    ∃ tail, pathAbsThenRel (absOf r) (absOf cwd) arg = some (dot :: dot :: tail) ∧
      (tail = [] ∨ ∃ t, tail = slash :: t) := by
  obtain ⟨rest, -, e⟩ := rebase_outside hr hc h
  cases rest with
  | nil => exact ⟨[], e, .inl rfl⟩
  | cons y rest =>
    refine ⟨slash :: intercalate (y :: rest), ?_, .inr ⟨_, rfl⟩⟩
    rw [e, intercalate_cons_cons]; rfl

/-- (b) … and so it is not the path of any stage of the index (root-relative clean paths): dud
answers `unknown stage`, it cannot pick a stage by accident -/
theorem rebase_outside_not_stage {r cwd : Comps} (hr : Good r) (hc : Good cwd) {arg : Bytes}
    (h : ¬ r <+: denote cwd arg) {q : Comps} (hq : Good q) :
    pathAbsThenRel (absOf r) (absOf cwd) arg ≠ some (relOf q) := by
  intro e
  have := (rebase_iff hr hc hq arg).1 e
  exact h ⟨q, this.symm⟩

/-- the re-based form is a root-relative stage path exactly for arguments inside the root -/
theorem rebase_stage_iff_inside {r cwd : Comps} (hr : Good r) (hc : Good cwd) (arg : Bytes) :
    (∃ q, Good q ∧ pathAbsThenRel (absOf r) (absOf cwd) arg = some (relOf q)) ↔
      r <+: denote cwd arg := by
  constructor
  · rintro ⟨q, hq, e⟩
    exact ⟨q, ((rebase_iff hr hc hq arg).1 e).symm⟩
  · intro h
    obtain ⟨c, hg, -, e⟩ := rebase_inside hr hc h
    exact ⟨c, hg, e⟩

/-! ## (c) injectivity -/

/-- **(c)** two arguments are re-based to the same result iff they denote the same absolute
path (`filepath.Abs` agrees on them) — whether inside the root or not -/
theorem rebase_injective {r cwd : Comps} (hr : Good r) (hc : Good cwd) (a b : Bytes) :
    pathAbsThenRel (absOf r) (absOf cwd) a = pathAbsThenRel (absOf r) (absOf cwd) b ↔
      absPath (absOf cwd) a = absPath (absOf cwd) b := by
  rw [rebase_eq_iff hr hc, absPath_eq hc, absPath_eq hc]
  exact ⟨congrArg absOf, absOf_inj (denote_isGood hc a) (denote_isGood hc b)⟩

/-- (c) for stage paths: two arguments inside the root denote the same stage iff their re-based
forms are equal; the re-based forms are the stage paths -/
theorem rebase_injective_inside {r cwd p q : Comps} (hr : Good r) (hc : Good cwd) (hp : Good p)
    (hq : Good q) {a b : Bytes} (ha : denote cwd a = r ++ p) (hb : denote cwd b = r ++ q) :
    pathAbsThenRel (absOf r) (absOf cwd) a = pathAbsThenRel (absOf r) (absOf cwd) b ↔ p = q := by
  rw [(rebase_iff hr hc hp a).2 ha, (rebase_iff hr hc hq b).2 hb]
  exact ⟨fun h => relOf_inj hp.relSeg hq.relSeg (Option.some.inj h),
    fun h => by rw [h]⟩

/-! ## (d) lexical re-spellings of the root and of the working directory -/

/-- **(d)** any *lexical* re-spelling of the (absolute) root and working directory — doubled
slashes, "/./", a trailing slash, "x/.." detours — is invisible: only the clean paths matter.
Spellings that differ by symbolic links are different clean paths and are NOT identified. -/
theorem rebase_lexical_respelling {root cwd : Bytes} (hc : isAbs cwd = true) (arg : Bytes) :
    pathAbsThenRel root cwd arg = pathAbsThenRel (clean root) (clean cwd) arg := by
  have hg := resolve_isGood good_nil (splitSlash_slashFree cwd)
  rw [pathAbsThenRel, pathAbsThenRel, rel_clean_left, absPath_abs hc, clean_abs hc,
    absPath_abs (isAbs_absOf _), resolve_nil_absOf hg]

/-! ## the lexical step of `getProjectRootDir` -/

/-- `filepath.Dir` applied `n` times -/
def dirN : Nat → Bytes → Bytes
  | 0, s => s
  | n + 1, s => dirN n (dir s)

/-- walking up from `root/d` with `filepath.Dir` passes through the prefixes and reaches `root`
after `d.length` steps -/
theorem walk_up {r : Comps} (hr : Good r) : ∀ {drev : Comps}, Good drev →
    dirN drev.length (absOf (r ++ drev.reverse)) = absOf r := by
  intro drev
  induction drev with
  | nil => intro _; simp [dirN]
  | cons c drev ih =>
    intro h
    have h1 : Good drev := fun x hx => h x (List.mem_cons_of_mem _ hx)
    have h2 : Good ((r ++ drev.reverse) ++ [c]) :=
      (hr.append h1.reverse).append (fun x hx => h x (by simp at hx; simp [hx]))
    rw [List.length_cons, dirN, List.reverse_cons, ← List.append_assoc, dir_absOf_snoc h2]
    exact ih h1

/-! ## stage paths of the model: `CleanRel` -/

/-- the component predicate of `PathSpec.lean` is the one of `OwnerSpec.lean` -/
theorem goodComp_iff (c : Bytes) : PathSpec.GoodComp c ↔ Dud.GoodComp c := Iff.rfl

/-- the result of (a) is a `CleanRel` path in the sense of `OwnerSpec.lean` (the shape of the
stage and artifact paths of the model) -/
theorem cleanRel_intercalate {p : Comps} (hp : Good p) (hne : p ≠ []) :
    Dud.CleanRel (intercalate p) :=
  ⟨p, hne, hp, rfl⟩

/-! ## non-vacuity: concrete instances, checked by `decide` -/

namespace Example

/-- "/home/jo doe/proj" (a blank in a name) -/
def r : Comps := [[0x68, 0x6F, 0x6D, 0x65], [0x6A, 0x6F, 0x20, 0x64, 0x6F, 0x65], [0x70, 0x72, 0x6F, 0x6A]]
/-- invocation directory "data/raw" below the root -/
def d : Comps := [[0x64, 0x61, 0x74, 0x61], [0x72, 0x61, 0x77]]
/-- stage path "data/..hidden/a..b.yaml": dots that are not ".." -/
def p : Comps := [[0x64, 0x61, 0x74, 0x61], [0x2E, 0x2E, 0x68, 0x69, 0x64, 0x64, 0x65, 0x6E],
  [0x61, 0x2E, 0x2E, 0x62, 0x2E, 0x79, 0x61, 0x6D, 0x6C]]
/-- "data/..hidden/a..b.yaml" -/
def pStr : Bytes := [0x64, 0x61, 0x74, 0x61, 0x2F, 0x2E, 0x2E, 0x68, 0x69, 0x64, 0x64, 0x65, 0x6E, 0x2F,
  0x61, 0x2E, 0x2E, 0x62, 0x2E, 0x79, 0x61, 0x6D, 0x6C]
/-- "/home/jo doe/proj" -/
def rootStr : Bytes := [0x2F, 0x68, 0x6F, 0x6D, 0x65, 0x2F, 0x6A, 0x6F, 0x20, 0x64, 0x6F, 0x65, 0x2F,
  0x70, 0x72, 0x6F, 0x6A]
/-- "/home/jo doe/proj/data/raw" -/
def cwdStr : Bytes := [0x2F, 0x68, 0x6F, 0x6D, 0x65, 0x2F, 0x6A, 0x6F, 0x20, 0x64, 0x6F, 0x65, 0x2F,
  0x70, 0x72, 0x6F, 0x6A, 0x2F, 0x64, 0x61, 0x74, 0x61, 0x2F, 0x72, 0x61, 0x77]

/-- the hypotheses of the theorems hold for these data -/
theorem hyps : Good r ∧ Good d ∧ Good p ∧ p ≠ [] := by decide +kernel

theorem strings : absOf r = rootStr ∧ absOf (r ++ d) = cwdStr ∧ intercalate p = pStr := by decide +kernel

/-- "../../data/..hidden/a..b.yaml" -/
theorem updown : pathAbsThenRel rootStr cwdStr
    [0x2E, 0x2E, 0x2F, 0x2E, 0x2E, 0x2F, 0x64, 0x61, 0x74, 0x61, 0x2F, 0x2E, 0x2E, 0x68, 0x69, 0x64,
     0x64, 0x65, 0x6E, 0x2F, 0x61, 0x2E, 0x2E, 0x62, 0x2E, 0x79, 0x61, 0x6D, 0x6C] = some pStr := by
  decide +kernel

/-- the shortest spelling "../..hidden/a..b.yaml" (common prefix "data") is what `Rel` yields -/
theorem shortest : rel cwdStr (absOf (r ++ p)) =
      some [0x2E, 0x2E, 0x2F, 0x2E, 0x2E, 0x68, 0x69, 0x64, 0x64, 0x65, 0x6E, 0x2F, 0x61, 0x2E, 0x2E,
        0x62, 0x2E, 0x79, 0x61, 0x6D, 0x6C] ∧
    pathAbsThenRel rootStr cwdStr
      [0x2E, 0x2E, 0x2F, 0x2E, 0x2E, 0x68, 0x69, 0x64, 0x64, 0x65, 0x6E, 0x2F, 0x61, 0x2E, 0x2E,
        0x62, 0x2E, 0x79, 0x61, 0x6D, 0x6C] = some pStr := by
  decide +kernel

/-- the absolute spelling "/home/jo doe/proj/data/..hidden/a..b.yaml" -/
theorem absolute : pathAbsThenRel rootStr cwdStr
    [0x2F, 0x68, 0x6F, 0x6D, 0x65, 0x2F, 0x6A, 0x6F, 0x20, 0x64, 0x6F, 0x65, 0x2F, 0x70, 0x72, 0x6F,
     0x6A, 0x2F, 0x64, 0x61, 0x74, 0x61, 0x2F, 0x2E, 0x2E, 0x68, 0x69, 0x64, 0x64, 0x65, 0x6E, 0x2F,
     0x61, 0x2E, 0x2E, 0x62, 0x2E, 0x79, 0x61, 0x6D, 0x6C] = some pStr := by
  decide +kernel

/-- noise: ".//..//..hidden/./a..b.yaml/" -/
theorem noisy : pathAbsThenRel rootStr cwdStr
    [0x2E, 0x2F, 0x2F, 0x2E, 0x2E, 0x2F, 0x2F, 0x2E, 0x2E, 0x68, 0x69, 0x64, 0x64, 0x65, 0x6E, 0x2F,
     0x2E, 0x2F, 0x61, 0x2E, 0x2E, 0x62, 0x2E, 0x79, 0x61, 0x6D, 0x6C, 0x2F] = some pStr := by
  decide +kernel

/-- a detour through the directory above the root and back:
"../../../proj/data/raw/../..hidden/a..b.yaml" (covered by `rebase_iff`) -/
theorem detour : pathAbsThenRel rootStr cwdStr
    [0x2E, 0x2E, 0x2F, 0x2E, 0x2E, 0x2F, 0x2E, 0x2E, 0x2F, 0x70, 0x72, 0x6F, 0x6A, 0x2F, 0x64, 0x61,
     0x74, 0x61, 0x2F, 0x72, 0x61, 0x77, 0x2F, 0x2E, 0x2E, 0x2F, 0x2E, 0x2E, 0x68, 0x69, 0x64, 0x64,
     0x65, 0x6E, 0x2F, 0x61, 0x2E, 0x2E, 0x62, 0x2E, 0x79, 0x61, 0x6D, 0x6C] = some pStr := by
  decide +kernel

/-- outside the root: "../../../other/x" ↦ "../other/x", "/etc" ↦ "../../../etc" -/
theorem outside :
    pathAbsThenRel rootStr cwdStr
      [0x2E, 0x2E, 0x2F, 0x2E, 0x2E, 0x2F, 0x2E, 0x2E, 0x2F, 0x6F, 0x74, 0x68, 0x65, 0x72, 0x2F, 0x78]
      = some [0x2E, 0x2E, 0x2F, 0x6F, 0x74, 0x68, 0x65, 0x72, 0x2F, 0x78] ∧
    pathAbsThenRel rootStr cwdStr [0x2F, 0x65, 0x74, 0x63]
      = some [0x2E, 0x2E, 0x2F, 0x2E, 0x2E, 0x2F, 0x2E, 0x2E, 0x2F, 0x65, 0x74, 0x63] ∧
    ¬ r <+: denote (r ++ d) [0x2F, 0x65, 0x74, 0x63] := by
  decide +kernel

/-- the root itself: "../.." ↦ "." ; the empty argument denotes the working directory -/
theorem root_and_empty :
    pathAbsThenRel rootStr cwdStr [0x2E, 0x2E, 0x2F, 0x2E, 0x2E] = some [0x2E] ∧
    pathAbsThenRel rootStr cwdStr [] = some [0x64, 0x61, 0x74, 0x61, 0x2F, 0x72, 0x61, 0x77] := by
  decide +kernel

/-- names that are not valid UTF-8 (0xFF 0xFE) are ordinary components: "../\xFF\xFE" from
"root/data/raw" is "data/\xFF\xFE" -/
theorem non_utf8 :
    Good [[0x64, 0x61, 0x74, 0x61], [0xFF, 0xFE]] ∧
    pathAbsThenRel rootStr cwdStr [0x2E, 0x2E, 0x2F, 0xFF, 0xFE]
      = some [0x64, 0x61, 0x74, 0x61, 0x2F, 0xFF, 0xFE] := by
  decide +kernel

/-- a lexically re-spelt root "/home//jo doe/./proj/" gives the same answers -/
theorem respelt_root : pathAbsThenRel
    [0x2F, 0x68, 0x6F, 0x6D, 0x65, 0x2F, 0x2F, 0x6A, 0x6F, 0x20, 0x64, 0x6F, 0x65, 0x2F, 0x2E, 0x2F,
     0x70, 0x72, 0x6F, 0x6A, 0x2F] cwdStr
    [0x2E, 0x2E, 0x2F, 0x2E, 0x2E, 0x68, 0x69, 0x64, 0x64, 0x65, 0x6E, 0x2F, 0x61, 0x2E, 0x2E,
     0x62, 0x2E, 0x79, 0x61, 0x6D, 0x6C] = some pStr := by
  decide +kernel

/-- the Go quirk of `Rel` — `Rel("a", ".") = "../."`, not ".." — is in the model; it needs a
relative target and so never shows in `pathAbsThenRel` (the target is absolute: `rebase_iff`,
`root_and_empty`) -/
theorem go_quirk : rel [0x61] [0x2E] = some [0x2E, 0x2E, 0x2F, 0x2E] ∧
    rel [0x2F, 0x61] [0x2F] = some [0x2E, 0x2E] := by
  decide +kernel

/-- `Rel` fails: absolute base, relative target (`rel_abs_eq_none_iff`); relative base whose
remaining part begins with ".." -/
theorem rel_fails : rel rootStr [0x61] = none ∧ rel [0x2E, 0x2E] [0x61] = none := by
  decide +kernel

/-- `Clean` is idempotent also where it changes its argument: "a/../../b//" ↦ "../b" -/
theorem clean_example :
    clean [0x61, 0x2F, 0x2E, 0x2E, 0x2F, 0x2E, 0x2E, 0x2F, 0x62, 0x2F, 0x2F] = [0x2E, 0x2E, 0x2F, 0x62] ∧
    clean [0x2E, 0x2E, 0x2F, 0x62] = [0x2E, 0x2E, 0x2F, 0x62] := by
  decide +kernel

/-- the walk of `getProjectRootDir`: two `Dir` steps from the working directory reach the root -/
theorem walk : dirN 2 cwdStr = rootStr := by decide +kernel

/-- the general theorems instantiated at these data (so the hypotheses are satisfiable on a
non-trivial input) -/
example : pathAbsThenRel (absOf r) (absOf (r ++ d))
    (intercalate (List.replicate d.length dotdot ++ p)) = some (intercalate p) :=
  rebase_updown hyps.1 hyps.2.1 hyps.2.2.1 hyps.2.2.2

example : Spelling r d p
    [0x2E, 0x2F, 0x2F, 0x2E, 0x2E, 0x2F, 0x2F, 0x2E, 0x2E, 0x68, 0x69, 0x64, 0x64, 0x65, 0x6E, 0x2F,
     0x2E, 0x2F, 0x61, 0x2E, 0x2E, 0x62, 0x2E, 0x79, 0x61, 0x6D, 0x6C, 0x2F] :=
  .sameSegs _ _ (.shortest [[0x64, 0x61, 0x74, 0x61]] [[0x72, 0x61, 0x77]]
    [[0x2E, 0x2E, 0x68, 0x69, 0x64, 0x64, 0x65, 0x6E], [0x61, 0x2E, 0x2E, 0x62, 0x2E, 0x79, 0x61, 0x6D, 0x6C]]
    rfl rfl) (by decide +kernel) (by decide +kernel)

end Example

#print axioms absPath_eq
#print axioms pathAbsThenRel_eq
#print axioms rebase_iff
#print axioms Spelling.denote
#print axioms rebase_relative
#print axioms rebase_updown
#print axioms rebase_shortest
#print axioms rebase_of_rel
#print axioms rebase_absolute
#print axioms rebase_same_segments
#print axioms rebase_total
#print axioms rebase_total_abs
#print axioms rebase_inside
#print axioms rebase_outside
#print axioms rebase_outside_bytes
#print axioms rebase_outside_not_stage
#print axioms rebase_stage_iff_inside
#print axioms rebase_injective
#print axioms rebase_injective_inside
#print axioms rebase_lexical_respelling
#print axioms walk_up
#print axioms cleanRel_intercalate
#print axioms Dud.PathSpec.clean_idem
#print axioms Dud.PathSpec.clean_absOf
#print axioms Dud.PathSpec.join_absOf_rel
#print axioms Dud.PathSpec.rel_absOf
#print axioms Dud.PathSpec.rel_absOf_self
#print axioms Dud.PathSpec.join_absOf_updown
#print axioms Dud.PathSpec.join_rel
#print axioms Dud.PathSpec.rel_abs_eq_none_iff
#print axioms Example.updown
#print axioms Example.noisy
#print axioms Example.go_quirk

end Dud.C01path
