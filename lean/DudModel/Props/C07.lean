import DudModel.Props.C02
import DudModel.Lemmas.Checkout
import DudModel.Generated.Facts
/-!
# C07 — only commit records data; inputs and read-only commands are side-effect free

* `status_pure`, `graph_pure`: `dud status` / `dud graph` leave workspace, both caches and the index
  unchanged;
* `noncommit_keeps_index`: run, checkout, push, fetch never alter a stage file;
* `noncommit_keeps_cache`: run, status, checkout, push never add, change or remove a cache object;
* `run_touches_only_via_exec`: dud itself never touches the workspace during a run;
* `commitArtW_skip_file`, `WT.commitArtW_skip`, `commitAct_plain_inputs`: committing a skip-cache file /
  a plain file input changes neither the workspace nor the cache; `commitAct_elsewhere`: the stage
  action of commit leaves alone every path that parts ways (`Diverge`) with the stage's outputs and
  its plain directory inputs;
* `commit_moves_directory_input`: **negative witness** — a plain *directory* input is moved into
  the cache by `dud commit` (`commitDirArtifact` never looks at `SkipCache`).

The hypotheses on the stage command are stated as `ExecKeeps π` (the command keeps the component `π`
of the world).  This file imports `Props/C02.lean`, whose `ExecFrame` (both caches are kept) has the
full name of the `ExecFrame` of `Props/C08.lean`, so neither this file nor one above it can be loaded
together with `Props/C08.lean`.
-/
namespace Dud

variable {κ : Type}

def ExecKeeps {α : Type} (π : World κ → α) (exec : Exec κ) : Prop :=
  ∀ stg w w', exec stg w = .ok w' → π w' = π w

/-- `π` does not look at the traversal's bookkeeping (memo, run log, status report) -/
def Bookless {α : Type} (π : World κ → α) : Prop :=
  ∀ (w : World κ) done ran log stat, π { w with done := done, ran := ran, log := log, stat := stat } = π w

theorem traversal_keeps {α : Type} (π : World κ → α) (hπ : Bookless π) {T : Trav (World κ)}
    (hact : ∀ sp w w', T.act sp w = .ok w' → π w' = π w) {r : Bool} {targets : List Bytes} {w w' : World κ}
    (h : runTargets T r targets w = .ok w') : π w' = π w :=
  runTargets_keeps (fun x => π x = π w) (fun sp a b ha hb => (hact sp a b hb).trans ha) (hπ w [] [] [] []) h

/-- the four components that make up the project on disk -/
def World.disk (w : World κ) : Node κ × Store κ × Store κ × Index := (w.ws, w.store, w.remote, w.idx)

theorem bookless_disk : Bookless (World.disk (κ := κ)) := fun _ _ _ _ _ => rfl
theorem bookless_idx : Bookless (fun w : World κ => w.idx) := fun _ _ _ _ _ => rfl
theorem bookless_store : Bookless (fun w : World κ => w.store) := fun _ _ _ _ _ => rfl
theorem bookless_ws : Bookless (fun w : World κ => w.ws) := fun _ _ _ _ _ => rfl

theorem statusAct_disk [DecidableEq κ] (cfg : Cfg κ) (sp : Bytes) (w w' : World κ)
    (h : statusAct cfg sp w = .ok w') : w'.disk = w.disk := by
  obtain ⟨_, _, -, -, rfl⟩ := statusAct_inv h
  rfl

theorem checkoutAct_idx (cfg : Cfg κ) (strat : Strat) (sp : Bytes) (w w' : World κ)
    (h : checkoutAct cfg strat sp w = .ok w') : w'.idx = w.idx := by
  rw [checkoutAct_world h]

/-- `runAct` changes the world only through `exec` and its own bookkeeping (`ran`, `log`) -/
theorem runAct_keeps [DecidableEq κ] {α : Type} (π : World κ → α) (hπ : Bookless π) (cfg : Cfg κ) (exec : Exec κ)
    (hexec : ExecKeeps π exec) (r : Bool) (sp : Bytes) (w w' : World κ)
    (h : runAct cfg exec r sp w = .ok w') : π w' = π w := by
  obtain ⟨w1, _, _, hw, rfl⟩ := runAct_cases h
  refine (hπ w1 w1.done _ _ w1.stat).trans ?_
  rcases hw with rfl | ⟨stg, he⟩
  · rfl
  · exact hexec stg w w1 he

/-- `dud status` leaves the project unchanged: workspace, both caches, every stage file -/
theorem status_pure [DecidableEq κ] (cfg : Cfg κ) (targets : List Bytes) (w w' : World κ)
    (h : cmdStatus cfg targets w = .ok w') :
    w'.ws = w.ws ∧ w'.store = w.store ∧ w'.remote = w.remote ∧ w'.idx = w.idx := by
  have := traversal_keeps World.disk bookless_disk (statusAct_disk cfg) (cmdStatus_ok_iff.1 h).2
  simp only [World.disk, Prod.mk.injEq] at this
  exact this

/-- `dud graph`: the status traversal with its report discarded (as the driver does) -/
def cmdGraph [DecidableEq κ] (cfg : Cfg κ) (targets : List Bytes) (w : World κ) : Except Err (World κ) :=
  (cmdStatus cfg targets w).map (fun _ => w)

theorem graph_pure [DecidableEq κ] (cfg : Cfg κ) (targets : List Bytes) (w w' : World κ)
    (h : cmdGraph cfg targets w = .ok w') : w' = w := by
  unfold cmdGraph at h
  cases hs : cmdStatus cfg targets w with
  | error e => rw [hs] at h; cases h
  | ok w1 =>
    rw [hs] at h
    simp only [Except.map, Except.ok.injEq] at h
    exact h.symm

theorem cmdRun_keeps [DecidableEq κ] {α : Type} (π : World κ → α) (hπ : Bookless π) (cfg : Cfg κ) (exec : Exec κ)
    (hexec : ExecKeeps π exec) (single : Bool) (targets : List Bytes) (w w' : World κ)
    (h : cmdRun cfg exec single targets w = .ok w') : π w' = π w :=
  traversal_keeps π hπ (runAct_keeps π hπ cfg exec hexec (!single)) (cmdRun_ok_iff.1 h).2

theorem cmdCheckout_keeps_index (cfg : Cfg κ) (strat : Strat) (single : Bool) (targets : List Bytes) (w w' : World κ)
    (h : cmdCheckout cfg strat single targets w = .ok w') : w'.idx = w.idx :=
  traversal_keeps (fun w => w.idx) bookless_idx (checkoutAct_idx cfg strat) (cmdCheckout_ok_iff.1 h).2

theorem cmdPush_frame (cfg : Cfg κ) (single : Bool) (targets : List Bytes) (w w' : World κ)
    (h : cmdPush cfg single targets w = .ok w') : w'.ws = w.ws ∧ w'.store = w.store ∧ w'.idx = w.idx :=
  ⟨(cmdPush_le h).ws, (cmdPush_le h).store, (cmdPush_le h).idx⟩

theorem cmdFetch_frame (cfg : Cfg κ) (single : Bool) (targets : List Bytes) (w w' : World κ)
    (h : cmdFetch cfg single targets w = .ok w') : w'.ws = w.ws ∧ w'.remote = w.remote ∧ w'.idx = w.idx :=
  ⟨(cmdFetch_le h).ws, (cmdFetch_le h).remote, (cmdFetch_le h).idx⟩

/-- **run, checkout, push and fetch never alter a stage file** (for run: provided the stage
commands themselves do not) -/
theorem noncommit_keeps_index [DecidableEq κ] (cfg : Cfg κ) (exec : Exec κ)
    (hexec : ExecKeeps (fun w => w.idx) exec) (strat : Strat) (single : Bool) (targets : List Bytes)
    (w w' : World κ) :
    (cmdRun cfg exec single targets w = .ok w' → w'.idx = w.idx) ∧
    (cmdCheckout cfg strat single targets w = .ok w' → w'.idx = w.idx) ∧
    (cmdPush cfg single targets w = .ok w' → w'.idx = w.idx) ∧
    (cmdFetch cfg single targets w = .ok w' → w'.idx = w.idx) :=
  ⟨cmdRun_keeps (fun w => w.idx) bookless_idx cfg exec hexec single targets w w',
   cmdCheckout_keeps_index cfg strat single targets w w',
   fun h => (cmdPush_frame cfg single targets w w' h).2.2,
   fun h => (cmdFetch_frame cfg single targets w w' h).2.2⟩

/-- **run, status, checkout and push never add, change or remove a cache object** (for run:
provided the stage commands themselves do not) -/
theorem noncommit_keeps_cache [DecidableEq κ] (cfg : Cfg κ) (exec : Exec κ)
    (hexec : ExecKeeps (fun w => w.store) exec) (strat : Strat) (single : Bool) (targets : List Bytes)
    (w w' : World κ) :
    (cmdRun cfg exec single targets w = .ok w' → w'.store = w.store) ∧
    (cmdStatus cfg targets w = .ok w' → w'.store = w.store) ∧
    (cmdCheckout cfg strat single targets w = .ok w' → w'.store = w.store) ∧
    (cmdPush cfg single targets w = .ok w' → w'.store = w.store) :=
  ⟨cmdRun_keeps (fun w => w.store) bookless_store cfg exec hexec single targets w w',
   fun h => (status_pure cfg targets w w' h).2.1,
   fun h => (cmdCheckout_rel cfg strat single targets w w' h).1,
   fun h => (cmdPush_frame cfg single targets w w' h).2.1⟩

/-- if the stage commands do nothing, a run leaves the workspace alone: dud itself never touches an
artifact during `dud run` -/
theorem run_touches_only_via_exec [DecidableEq κ] (cfg : Cfg κ) (exec : Exec κ)
    (hexec : ∀ stg w, exec stg w = .ok w) (single : Bool) (targets : List Bytes) (w w' : World κ)
    (h : cmdRun cfg exec single targets w = .ok w') : w'.ws = w.ws := by
  refine cmdRun_keeps (fun w => w.ws) bookless_ws cfg exec ?_ single targets w w' h
  intro stg a b hb
  rw [hexec] at hb
  injection hb with hb
  rw [hb]

/-- the same under the weaker hypothesis that no stage command changes the workspace (the commands may
change other components of the world) -/
theorem run_keeps_workspace [DecidableEq κ] (cfg : Cfg κ) (exec : Exec κ)
    (hexec : ExecKeeps (fun w => w.ws) exec) (single : Bool) (targets : List Bytes) (w w' : World κ)
    (h : cmdRun cfg exec single targets w = .ok w') : w'.ws = w.ws :=
  cmdRun_keeps (fun w => w.ws) bookless_ws cfg exec hexec single targets w w' h

/-- committing a skip-cache file artifact changes nothing (`WT.commitArtW_skip`); when a regular file
is found at its path, moreover the checksum recorded is the hash of its bytes -/
theorem commitArtW_skip_file (cfg : Cfg κ) (strat : Strat) (a a' : Art) (w w' : World κ) (c : κ)
    (hskip : a.skip = true) (hfile : a.isDir = false)
    (hnode : getPath w.ws (Path.comps a.path) = some (.file c))
    (h : commitArtW cfg strat a w = .ok (a', w')) :
    w'.ws = w.ws ∧ w'.store = w.store ∧ a'.sum = cfg.ctx.H c := by
  obtain ⟨n, d, s, ws', hc, -, rfl, -⟩ := WT.commitArtW_inv h
  cases WT.commitArtW_skip cfg strat a _ w w' hskip hfile h
  rw [hnode, commitArt_file _ _ hfile, hskip, commitFile_file, if_pos rfl] at hc
  cases hc
  exact ⟨rfl, rfl, rfl⟩

/-- the two paths part ways at some component (neither is a prefix of the other: this is `WT.Apart`,
by `WT.apart_iff_diverge`) -/
def Diverge (p q : List Name) : Prop :=
  ∃ (pre : List Name) (x y : Name) (p' q' : List Name), x ≠ y ∧ p = pre ++ x :: p' ∧ q = pre ++ y :: q'

/-- **Commit and plain inputs.**  `commitAct` commits the inputs no stage owns with `skip := true`.
Whatever path `q` diverges from the stage's outputs and from its plain *directory* inputs holds the
same node after the commit: the plain *file* inputs are committed without touching the workspace. -/
theorem commitAct_elsewhere (cfg : Cfg κ) (strat : Strat) (sp : Bytes) (w w' : World κ) (stg : Stage)
    (q : List Name) (hs : w.stage sp = .ok stg) (h : commitAct cfg strat sp w = .ok w')
    (hdirs : ∀ b, b ∈ stg.inputs → b.isDir = true → (findOwner cfg.walkAccumulates w.idx b.path).isNone = true →
      Diverge (Path.comps b.path) q)
    (houts : ∀ b, b ∈ stg.outputs → Diverge (Path.comps b.path) q) :
    getPath w'.ws q = getPath w.ws q := by
  obtain ⟨pl, w1, outs, w2, h1, h2, rfl⟩ := WStat.commitAct_inv (World.stage_eq_ok.1 hs) h
  show getPath w2.ws q = getPath w.ws q
  rw [(WT.commitArts_world h2).2 q fun b hb => .inr (WT.apart_iff_diverge.2 (houts b (mem_of_mem_sortArts hb))),
    (WT.commitArts_world h1).2 q fun b hb => ?_]
  obtain ⟨b0, hin, hown, rfl⟩ := WStat.mem_plainIn (mem_of_mem_sortArts hb)
  rcases Bool.eq_false_or_eq_true b0.isDir with hdir | hdir
  · exact .inr (WT.apart_iff_diverge.2 (hdirs b0 hin hdir hown))
  · exact .inl ⟨rfl, hdir⟩

/-- … in particular at the path of a plain file input `a` itself -/
theorem commitAct_plain_inputs (cfg : Cfg κ) (strat : Strat) (sp : Bytes) (w w' : World κ) (stg : Stage) (a : Art)
    (hs : w.stage sp = .ok stg) (h : commitAct cfg strat sp w = .ok w')
    (hdirs : ∀ b, b ∈ stg.inputs → b.isDir = true → (findOwner cfg.walkAccumulates w.idx b.path).isNone = true →
      Diverge (Path.comps b.path) (Path.comps a.path))
    (houts : ∀ b, b ∈ stg.outputs → Diverge (Path.comps b.path) (Path.comps a.path)) :
    getPath w'.ws (Path.comps a.path) = getPath w.ws (Path.comps a.path) :=
  commitAct_elsewhere cfg strat sp w w' stg _ hs h hdirs houts

/-- full frame: a stage without outputs whose plain inputs are all files — committing it changes
neither the workspace nor the cache (only the stage file gets its checksums) -/
theorem commitAct_inputs_only (cfg : Cfg κ) (strat : Strat) (sp : Bytes) (w w' : World κ) (stg : Stage)
    (hs : w.stage sp = .ok stg) (h : commitAct cfg strat sp w = .ok w') (houts : stg.outputs = [])
    (hfiles : ∀ b, b ∈ stg.inputs → (findOwner cfg.walkAccumulates w.idx b.path).isNone = true → b.isDir = false) :
    w'.ws = w.ws ∧ w'.store = w.store ∧ w'.remote = w.remote := by
  obtain ⟨pl, w1, outs, w2, h1, h2, rfl⟩ := WStat.commitAct_inv (World.stage_eq_ok.1 hs) h
  rw [houts] at h2
  cases h2
  rw [(WT.commitArts_skip_files (fun b hb => ?_) h1).1]
  · exact ⟨rfl, rfl, rfl⟩
  · obtain ⟨b0, hin, hown, rfl⟩ := WStat.mem_plainIn (mem_of_mem_sortArts hb)
    exact ⟨rfl, hfiles b0 hin hown⟩

namespace ToyInput

/-- one stage with a command and a single plain *directory* input `d/` holding one file -/
def w0 : World String :=
  { ws := .dir [([100], .dir [([101], .file "data")])],
    idx := [([1], { cmd := [1], inputs := [{ path := [100], isDir := true }] })] }

end ToyInput

/-- **`dud commit` moves the files of a directory input into the cache.**  The input is not owned
by any stage, so `commitAct` commits it with `skip := true`; `commitArt` (Go `commitDirArtifact`)
ignores the flag for a directory: after the commit the file inside the input directory is a link
into the cache and the cache, empty before, holds its bytes. -/
theorem commit_moves_directory_input :
    ∃ w', cmdCommit ToyGood.cfg .link [] ToyInput.w0 = .ok w' ∧
      findOwner ToyGood.cfg.walkAccumulates ToyInput.w0.idx [100] = none ∧
      getPath ToyInput.w0.ws [[100], [101]] = some (.file "data") ∧
      getPath w'.ws [[100], [101]] = some (.link (.obj "abcdata")) ∧
      ToyInput.w0.store = [] ∧ w'.store.get "abcdata" = some (.blob "data") ∧ w'.store.length = 2 :=
  ⟨_, rfl, rfl, rfl, rfl, rfl, rfl, rfl⟩

/-- the code fact behind it: `commitDirArtifact` does not consult `SkipCache` -/
theorem dir_ignores_skip_fact : Dud.Facts.commitDirChecksSkip = false := by decide

/-- `commitFileArtifact` returns for a skip-cache artifact before anything is written to the cache -/
theorem skip_before_cache_fact : Dud.Facts.commitFileSkipBeforeCache = true := by decide

section Examples
open ToyGood

theorem toy_exec_id : ∀ stg (w : World String), exec stg w = .ok w := fun _ _ => rfl

/-- status, graph, run, checkout, push, fetch all succeed on a committed toy project -/
example : ∃ w1 w2, cmdCommit cfg .copy [] w0 = .ok w1 ∧ cmdStatus cfg [] w1 = .ok w2 ∧ w2.stat ≠ [] ∧
    cmdGraph cfg [] w1 = .ok w1 := ⟨_, _, rfl, rfl, by simp, rfl⟩
example : ∃ w1 w2 w3 w4 w5, cmdCommit cfg .copy [] w0 = .ok w1 ∧ cmdRun cfg exec false [] w1 = .ok w2 ∧
    cmdPush cfg false [] w2 = .ok w3 ∧ cmdFetch cfg false [] w3 = .ok w4 ∧
    cmdCheckout cfg .link false [] w4 = .ok w5 := ⟨_, _, _, _, _, rfl, rfl, rfl, rfl, rfl⟩

/-- a plain file input is committed (its checksum recorded) without touching workspace or cache -/
def wIn : World String :=
  { ws := .dir [([100], .file "data")], idx := [([1], { cmd := [1], inputs := [{ path := [100] }] })] }
example : ∃ w', cmdCommit cfg .link [] wIn = .ok w' ∧ w'.ws = wIn.ws ∧ w'.store = [] ∧
    (alookup w'.idx [1]).map (fun s => s.inputs.map (·.sum)) = some ["abcdata"] := ⟨_, rfl, rfl, rfl, rfl⟩
example : ∃ a' w', commitArtW cfg .link { path := [100], skip := true } wIn = .ok (a', w') ∧
    a'.sum = "abcdata" := ⟨_, _, rfl, rfl⟩
example : Diverge [[100], [101]] [[100], [102], [103]] := ⟨[[100]], [101], [102], [], [[103]], by decide, rfl, rfl⟩

end Examples

#print axioms traversal_keeps
#print axioms statusAct_disk
#print axioms checkoutAct_idx
#print axioms runAct_keeps
#print axioms status_pure
#print axioms graph_pure
#print axioms cmdRun_keeps
#print axioms cmdCheckout_keeps_index
#print axioms cmdPush_frame
#print axioms cmdFetch_frame
#print axioms noncommit_keeps_index
#print axioms noncommit_keeps_cache
#print axioms run_touches_only_via_exec
#print axioms run_keeps_workspace
#print axioms commitFile_skip
#print axioms WT.commitArtW_skip
#print axioms commitArtW_skip_file
#print axioms setPath_getPath_same
#print axioms getPath_setPath_diverge
#print axioms WT.commitArts_elsewhere
#print axioms commitAct_elsewhere
#print axioms commitAct_plain_inputs
#print axioms commitAct_inputs_only
#print axioms commit_moves_directory_input
#print axioms dir_ignores_skip_fact
#print axioms skip_before_cache_fact

end Dud
