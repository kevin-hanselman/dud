import DudModel.Lemmas.Blake3Total
/-!
# C14 (hash, last link): the executable BLAKE3 equals the list specification, for every input

Core-only.  `DudModel/Blake3Total.lean` is the executable BLAKE3 (`ByteArray`, indexed access, the tree
recursion of the paper) written with TOTAL functions only; it differs from
`DudModel/Blake3.lean` only in how the three loops are expressed (`Blake3.leftLen`, `Blake3.subtree` are
`partial def`s there, and so opaque to the logic).  `DudModel/Blake3Spec.lean` is the list-based
specification `hashSpecReal`, which `Props/C14blake3.lean` proves equal to the incremental (streaming)
algorithm for every chunking of the input and checks against the official test vectors by kernel
evaluation.

This file closes the chain: **`Blake3T.hash b` is `hashSpecReal` of the bytes of `b`, for every `b`**
(no bound on the length), by induction over the block loop and the tree recursion.

The official test vectors for the EXECUTABLE function, as theorems (transported from the kernel-evaluated
spec vectors; no evaluation of `Blake3T.hash` in the kernel), are in `Props/C14totalVectors.lean`.

What is NOT covered: the equality of `Blake3T.hash` with the `partial def` version `Blake3.hash` cannot
be proved (a `partial def` is opaque to the logic); it is TESTED below on 14 lengths up to 200 001 bytes
(and both are the same code line by line).  The driver calls `Blake3T.hash` (`Driver/Main.lean`: `H`),
for which the theorems hold.  The compression function `Blake3.compress` itself is shared by implementation and
specification (it is validated by the official vectors in `Props/C14blake3*.lean`, not specified
further).  Keyed / derive-key modes and digests longer than 32 bytes are not modelled (dud uses neither).  As for
every compiled Lean program, the theorems are about the reference definitions of `ByteArray.get!`,
`ByteArray.push`, `UInt32` arithmetic, …; that the runtime's native implementations of these agree with
them is the usual trust in the Lean compiler and runtime.
-/
namespace Dud.Blake3Total
open Dud Dud.Blake3Spec

/-- The executable `leftLen` (a fuelled `while` loop) is the spec's `leftLen`. -/
theorem leftLenT_eq_spec (n : Nat) : Blake3T.leftLen n = Blake3Spec.leftLen n :=
  leftLenFrom_eq_spec n 1 n

/-- Hence it is the largest power of two strictly below `n`: `2^k < n ≤ 2^(k+1)` gives `2^k`. -/
theorem leftLenT_pow {n k : Nat} (hlo : 2 ^ k < n) (hhi : n ≤ 2 ^ (k + 1)) :
    Blake3T.leftLen n = 2 ^ k := by
  rw [leftLenT_eq_spec]; exact Blake3Spec.leftLen_eq hlo hhi

/-- The message words the executable code reads by index from the array are the spec's words of the
sub-list `slice b off len = (b.data.toList.drop off).take len` — unconditionally. -/
theorem wordsT_eq_spec (b : ByteArray) (off len : Nat) :
    Blake3.wordsOfBlock b off len = wordsOfBytes ((b.data.toList.drop off).take len) :=
  wordsOfBlock_eq b off len

/-- **Chunk layer.**  For a slice `[off, off+len)` lying inside the array and any chunk counter `ctr`,
the executable chunk output, compressed as an inner node (`chaining`), is the spec's `chunkCVOf` of the
corresponding sub-list, and compressed as the root (`rootBytes`) it is the spec's `chunkRootOf`.
(No `len ≤ 1024` is needed: the block loop and the spec agree on every length.) -/
theorem chunkOutputT_eq_spec (b : ByteArray) (off len ctr : Nat) (h : off + len ≤ b.size) :
    (Blake3T.chunkOutput b off len ctr.toUInt64).chaining
        = chunkCVOf realBlockParams ((b.data.toList.drop off).take len) ctr ∧
    (Blake3T.chunkOutput b off len ctr.toUInt64).rootBytes.data.toList
        = chunkRootOf realBlockParams ((b.data.toList.drop off).take len) ctr := by
  show _ = chunkCVOf realBlockParams (slice b off len) ctr ∧ _ = chunkRootOf realBlockParams (slice b off len) ctr
  rw [rootBytes_toList]
  simp only [chunkCVOf, chunkRootOf, Blake3T.chunkOutput, Blake3.Output.chaining]
  generalize hk : (if len = 0 then 1 else (len + 63) / 64) - 1 = k
  have hk' : Pieces 64 k len := by split at hk <;> omega
  rw [chunkTail_slice b off len ctr h k hk']
  simp only [realBlockParams, wordsOfBlock_eq, slice_length_of_le b (show off + 64 * k + (len - 64 * k) ≤ b.size by omega),
    startFlag, beq_iff_eq, and_self]

/-- **Tree layer.**  For `n ≥ 1` chunks `c0, …, c0+n-1` that all start inside the array, the executable
subtree is the spec's tree node over the chunk list `[chunkBytes b c0, …, chunkBytes b (c0+n-1)]` (where
`chunkBytes b c` is the sub-list of the bytes `[1024 c, 1024 c + min 1024 (size - 1024 c))`): same chaining
value and same root output. -/
theorem subtreeT_eq_spec (b : ByteArray) (n c0 : Nat) (h1 : 1 ≤ n)
    (hsz : 1024 * (c0 + n - 1) ≤ b.size) :
    (Blake3T.subtree b c0 n b.size).chaining
        = treeCV realParams c0 ((List.range' c0 n).map (chunkBytes b)) ∧
    (Blake3T.subtree b c0 n b.size).rootBytes.data.toList
        = (treeNode realParams c0 ((List.range' c0 n).map (chunkBytes b))).root realParams := by
  induction n using Nat.strongRecOn generalizing c0 with
  | _ n ih =>
    unfold treeCV
    rw [Blake3T.subtree, treeNode_eq]
    simp only [List.length_map, List.length_range']
    by_cases hn : n ≤ 1
    · have hn1 : n = 1 := by omega
      subst hn1
      simp only [Nat.le_refl, dite_true, if_true]
      exact chunkOutputT_eq_spec b (1024 * c0) (min 1024 (b.size - 1024 * c0)) c0 (by omega)
    · simp only [hn, dite_false, if_false]
      have hlt := Blake3Spec.leftLen_lt (n := n) (by omega)
      have hpos := Blake3Spec.leftLen_pos n
      rw [leftLenT_eq_spec]
      rw [← List.map_take, ← List.map_drop, List.take_range'_of_length_ge (by omega),
        List.drop_range', Nat.mul_one]
      obtain ⟨hl, _⟩ := ih (Blake3Spec.leftLen n) hlt c0 hpos (by omega)
      obtain ⟨hr, _⟩ := ih (n - Blake3Spec.leftLen n) (by omega) (c0 + Blake3Spec.leftLen n)
        (by omega) (by
          have : c0 + Blake3Spec.leftLen n + (n - Blake3Spec.leftLen n) - 1 = c0 + n - 1 := by omega
          rw [this]; exact hsz)
      refine ⟨?_, ?_⟩
      · show (Blake3.parentOutput _ _).chaining = realParams.parentCV (treeCV _ _ _) (treeCV _ _ _)
        rw [hl, hr]; rfl
      · rw [rootBytes_toList]
        show _ = realParams.parentRoot (treeCV _ _ _) (treeCV _ _ _)
        simp only [Blake3.parentOutput]
        rw [hl, hr]; rfl

/-- The chunk list of the specification, read off the array: `chunkBytes b` over the chunk indices. -/
theorem splitChunksT (b : ByteArray) :
    splitChunks b.data.toList = (List.range' 0 (numChunks b.size)).map (chunkBytes b) := by
  have hsz := size_eq_length b
  obtain ⟨k, hk, hlo, hhi⟩ := numChunks_spec b.size
  rw [splitChunks_eq_chunkAt _ k (by omega), ← List.range_eq_range', hk, List.range_succ,
    List.map_append, funext (chunkBytes_eq_chunkAt b), List.map_singleton, chunkAt,
    List.take_of_length_le (by rw [List.length_drop]; omega)]

/-- The main equation on the underlying array's list. -/
theorem hashT_eq_spec_data (b : ByteArray) :
    (Blake3T.hash b).data.toList = hashSpecReal b.data.toList := by
  unfold hashSpecReal hashSpec treeHash
  rw [splitChunksT]
  obtain ⟨k, hk, hlo, _⟩ := numChunks_spec b.size
  -- `Blake3T.hash b` unfolds to `(Blake3T.subtree b 0 (numChunks b.size) b.size).rootBytes`
  exact (subtreeT_eq_spec b (numChunks b.size) 0 (by omega) (by omega)).2

/-- **Main theorem.**  For EVERY byte array `b` (no bound on its size), the total executable BLAKE3
returns exactly the bytes the list specification prescribes for the bytes of `b`. -/
theorem hashT_eq_spec (b : ByteArray) : (Blake3T.hash b).toList = hashSpecReal b.toList := by
  rw [toList_eq, toList_eq]; exact hashT_eq_spec_data b

/-- The same, starting from a byte list (the way the model's `Bytes` are handed to the hasher). -/
theorem hashT_ofList (l : Bytes) : (Blake3T.hash ⟨l.toArray⟩).toList = hashSpecReal l := by
  rw [hashT_eq_spec, toList_eq]

theorem hashT_size (b : ByteArray) : (Blake3T.hash b).size = 32 := by
  rw [size_eq_length]
  show (Blake3.Output.rootBytes _).data.toList.length = 32
  rw [rootBytes_toList, bytesOfWords_length]

/-- What the driver prints: the hex digest of the executable hash is the hex rendering of the spec's
digest. -/
theorem hashT_hex (b : ByteArray) :
    Blake3.toHex (Blake3T.hash b) = Blake3Spec.toHex (hashSpecReal b.toList) := by
  rw [toHex_eq_spec, hashT_eq_spec_data, toList_eq]

/-- The same for a byte list handed over as an array. -/
theorem hashT_hex_ofList (l : Bytes) :
    Blake3.toHex (Blake3T.hash ⟨l.toArray⟩) = Blake3Spec.toHex (hashSpecReal l) := by
  rw [hashT_hex, toList_eq]

end Dud.Blake3Total

/-! ## Non-vacuity and TESTS (executable evidence, NOT theorems)

`subtreeT_eq_spec` and `chunkOutputT_eq_spec` have side conditions ("the chunks / the slice lie inside
the array"); `hashT_eq_spec` has none.  The examples instantiate the side conditions on a three-chunk
input.  The `#eval`s compare the total `Blake3T.hash` with the `partial def` `Blake3.hash` and
with the list specification; each line must print only `true`. -/
section Tests
open Dud Dud.Blake3Spec Dud.Blake3Total

/-- the official test input as a byte array, built without going through a list -/
def testArray (n : Nat) : ByteArray := Id.run do
  let mut b := ByteArray.emptyWithCapacity n
  for i in [0:n] do b := b.push (i % 251).toUInt8
  return b

theorem size_ofList (l : Bytes) : (ByteArray.mk l.toArray).size = l.length := by
  rw [size_eq_length]

/-- non-vacuity of the side conditions: the three chunks of any 2049-byte input (e.g. `testInput 2049`),
and its last, 1-byte chunk with chunk counter 2 -/
example (l : Bytes) (h : l.length = 2049) :
    (Blake3T.subtree ⟨l.toArray⟩ 0 3 (ByteArray.mk l.toArray).size).chaining
      = treeCV realParams 0 ((List.range' 0 3).map (chunkBytes ⟨l.toArray⟩)) :=
  (subtreeT_eq_spec ⟨l.toArray⟩ 3 0 (by decide) (by rw [size_ofList]; omega)).1

example (l : Bytes) (h : l.length = 2049) :
    (Blake3T.chunkOutput ⟨l.toArray⟩ 2048 1 (2 : Nat).toUInt64).chaining
      = chunkCVOf realBlockParams ((l.drop 2048).take 1) 2 :=
  (chunkOutputT_eq_spec ⟨l.toArray⟩ 2048 1 2 (by rw [size_ofList]; omega)).1

example : (testInput 2049).length = 2049 := by simp [testInput]

-- TEST: total version = the `partial def` version, 14 lengths up to 200 001 bytes
#eval [0, 1, 63, 64, 65, 1023, 1024, 1025, 2048, 2049, 3073, 31744, 70001, 200001].map fun n =>
  Blake3T.hash (testArray n) == Blake3.hash (testArray n)
-- TEST: total version = list specification (what `hashT_eq_spec` proves), evaluated on 8 lengths
#eval [0, 1, 64, 65, 1024, 1025, 3073, 8193].map fun n =>
  (Blake3T.hash (testArray n)).toList == hashSpecReal (testArray n).toList
-- TEST: official vectors through the total version (0, 1, 1024, 3073 bytes)
#eval [(0, "af1349b9f5f9a1a6a0404dea36dcc9499bcb25c9adc112b7cc9a93cae41f3262"),
       (1, "2d3adedff11b61f14c886e35afa036736dcd87a74d27b5c1510225d0f592e213"),
       (1024, "42214739f095a406f3fc83deb889744ac00df831c10daa55189b5d121c855af7"),
       (3073, "7124b49501012f81cc7f11ca069ec9226cecb8a2c850cfe644e327d22d3e1cd3")].map fun (n, d) =>
  Blake3.toHex (Blake3T.hash (testArray n)) == d

end Tests

#print axioms Dud.Blake3Total.leftLenT_eq_spec
#print axioms Dud.Blake3Total.leftLenT_pow
#print axioms Dud.Blake3Total.wordsT_eq_spec
#print axioms Dud.Blake3Total.chunkOutputT_eq_spec
#print axioms Dud.Blake3Total.subtreeT_eq_spec
#print axioms Dud.Blake3Total.splitChunksT
#print axioms Dud.Blake3Total.hashT_eq_spec_data
#print axioms Dud.Blake3Total.hashT_eq_spec
#print axioms Dud.Blake3Total.hashT_ofList
#print axioms Dud.Blake3Total.hashT_size
#print axioms Dud.Blake3Total.hashT_hex
#print axioms Dud.Blake3Total.hashT_hex_ofList
