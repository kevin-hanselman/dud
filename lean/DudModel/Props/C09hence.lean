import DudModel.PipeSpec
import DudModel.Lemmas.PipeRun
import DudModel.Lemmas.PipeCommit
import DudModel.Lemmas.PipeHence
import DudModel.Lemmas.Codec
import DudModel.Lemmas.WorldDec
/-!
# C09, the `Hence` clause — "when commits are made only after successful runs, every output equals
what its command produces from the current sources, and a `dud run` straight after
`dud run; dud commit` executes no stage that has inputs"

The vocabulary (`Fun`, `ExecIs`, `logicalAt`, `FreshStage` / `Fresh`, `Recorded`, `PipeOK` / `FilePipe`,
`AllFilesAt`) is that of `PipeSpec.lean`.

Main statements

* (a) `run_establishes_fresh` (and its core `run_fresh_core`): a successful recursive run of all
  stages makes every command stage fresh, provided the stages that do not run were fresh — any
  artifacts, files or directories; only `PipeOK` and `ExecIs` are needed.
* (b) `commit_preserves_fresh`: `dud commit` changes the logical content of no input and no output, so
  `Fresh` is preserved, and afterwards every stage is `Recorded` — for pipelines of FILE artifacts.
* (c) `Hist` (histories `run; commit; edits*; run; commit; …` in which every commit directly follows a
  successful run; the edits are ARBITRARY changes of the workspace and of the stage definitions),
  `hence_fresh`: `Fresh` holds after every run of every history; `hence_second_run_idle`: a run
  straight after `run; commit` executes nothing, provided no command stage without inputs is upstream
  (the known finding of C09, kept as a hypothesis); `run_commit_edit_run`: the two-step instance.
* Non-vacuity: `execOf` / `execOf_is` (every `F` has an implementation satisfying `ExecIs`), and the
  namespace `Pipe`: a three-stage diamond over a tiny command language, every hypothesis proved, the
  theorems instantiated, the concrete worlds computed by the kernel; `Pipe.commit_after_edit_is_stale`
  shows that the proviso "commits only after successful runs" cannot be dropped.

How the proof of (c) goes: the invariant of a history is `SoundIdx` (`Lemmas/PipeHence.lean`) — "for
every command stage whose definition checksum is current, in EVERY world in which the files found at
its inputs and outputs hash to the checksums it records, its outputs are what `F` yields from its
inputs". It mentions neither workspace nor cache, so runs and workspace edits keep it; a commit after
a run establishes it (hash injectivity); an edit of a definition falsifies the premise "definition
checksum current". After a run a stage either executed — then it is fresh by `ExecIs` and the order
theorem of C08 — or is unchanged since its last commit together with all its owners (`run_sound`) —
then the files found hash to what it records, and `SoundIdx` applies.

What is NOT covered: directory artifacts in (b) and (c); runs / commits restricted to targets or with
`--single-stage` (except in `hence_second_run_idle`); edits of the cache; `exec` is a deterministic
function of the logical content of the inputs (a command that reads anything else is not an `ExecIs`).
-/
namespace Dud

open WT

variable {κ : Type} [DecidableEq κ]

/-- `Recorded` is `UpToDate` (`Props/C09.lean`) of the stage found in the index -/
theorem recorded_iff (cfg : Cfg κ) (w : World κ) (sp : Bytes) :
    Recorded cfg w sp ↔ ∃ stg, alookup w.idx sp = some stg ∧ UpToDate cfg w stg := Iff.rfl

/-- **`ExecIs` implies the frame condition of `run_sound`** (`ExecFrame'` of `Props/C09.lean`), for the
stages of a `PipeOK` index: the command of one stage changes the status of no output and of no
un-owned input of a stage with another stage path. The unrelativised `ExecFrame'` quantifies over
ALL indexes and cannot hold for an `exec` that writes its outputs: in an index where two stages
share an output, running one changes the status of the other's output. `cmdRun_sound_on`
(`Lemmas/PipeRun.lean`) is `cmdRun_sound` under the relativised condition. -/
theorem execIs_implies_frame (cfg : Cfg κ) (F : Fun κ) (exec : Exec κ) (hex : ExecIs cfg F exec)
    (idx : Index) (hok : PipeOK cfg idx) : ExecFrameOn cfg exec idx := hex.frameOn hok

/-- The run traversal, once and for all (`dud run`, recursive, all stages, from `w` to `w'`; `exec`
implements `F`, the index is `PipeOK`): index and cache are untouched; `run_sound` holds for EVERY
stage of the index; a stage whose command was executed is `FreshStage` in the final world; a stage
that was not executed, and none of whose owners was, is as fresh in `w'` as it was in `w`. -/
theorem run_fresh_core (cfg : Cfg κ) (F : Fun κ) (exec : Exec κ) (hex : ExecIs cfg F exec)
    (w w' : World κ) (hok : PipeOK cfg w.idx) (h : cmdRun cfg exec false [] w = .ok w') :
    w'.idx = w.idx ∧ w'.store = w.store ∧
    (∀ x stg, alookup w.idx x = some stg → RunSound cfg w.idx w' x stg) ∧
    (∀ x stg, alookup w.idx x = some stg → x ∈ w'.log → FreshStage cfg F w' stg) ∧
    (∀ x stg, alookup w.idx x = some stg → x ∉ w'.log →
      (∀ o, o ∈ ownIdx cfg w.idx x → o ∉ w'.log) → FreshStage cfg F w stg → FreshStage cfg F w' stg) ∧
    (∀ o, didRun w' o = false → o ∉ w'.log) := by
  have hfo := hex.frameOn hok
  obtain ⟨hidx, ⟨hr, hf⟩, hdone⟩ := runTargets_lift (I := fun u => RunInv cfg w.idx u ∧ FInv cfg F w.idx w u)
    (runTrav_lawfulOn cfg exec hfo.1 true w.idx) rfl (fun _ => rfl)
    ⟨.nil rfl rfl, rfl, fun _ _ => rfl, fun _ hx => nomatch hx⟩
    (fun sp u u' _ hi hq hnd hown ha =>
      ⟨runInv_step cfg exec w.idx hfo sp u u' hi hq.1 hnd (hown rfl) ha,
        fInv_step cfg F exec hex w.idx hok w sp u u' hi hq.1 hq.2 hnd (hown rfl) ha⟩)
    (cmdRun_ok_iff.1 h).2
  have hmemo : ∀ x stg, alookup w.idx x = some stg → (alookup w'.ran x).isSome = true := fun x stg hsx =>
    hdone x (.root (WT.mem_keys_of_alookup hsx))
  refine ⟨hidx, hf.store, fun x stg hsx => hr.sound x stg (hmemo x stg hsx) hsx,
    fun x stg hsx hxl => hf.fresh x hxl stg hsx,
    fun x stg hsx hxl hown h0 => hf.not_run hok hsx hxl hown h0, ?_⟩
  intro o hd hl
  have := hr.logged o hl
  rw [hd] at this; cases this

/-- **(a) A successful run establishes `Fresh`.** Let `exec` implement `F` (`ExecIs`), let the index
be well-formed (`PipeOK`: outputs do not overlap, un-owned inputs lie apart from all outputs, owned
inputs lie at or below the owning output), and let `dud run` (recursive, all stages) succeed from
`w` in `w'`. If every command stage that does NOT run in this invocation is `FreshStage` in `w` (the
induction hypothesis of the `Hence` clause), then in `w'`

* every stage with a command is `FreshStage`: each output is what `F` yields from what is found at
  the inputs in the FINAL state `w'`;
* and (`run_sound` for all stages) every stage either has memo entry `true` — and then, if it has a
  command, the command was executed in this run — or was not executed, has inputs (or no command),
  none of its owners ran, and it is `Recorded` in `w'`.

The proof carries the invariant of `run_sound` (`RunInv`) and `FInv` (`Lemmas/PipeRun.lean`) through
the traversal together, and uses the order theorem of C08 (when a stage is acted on its owners are in
the memo, so a stage that executes later is never an owner of a stage that executed earlier) and
`ExecIs`. Acyclicity of the index is not a hypothesis: a cycle makes the run
fail. Not covered: `--single-stage`, and runs restricted to targets. -/
theorem run_establishes_fresh (cfg : Cfg κ) (F : Fun κ) (exec : Exec κ) (hex : ExecIs cfg F exec)
    (w w' : World κ) (hok : PipeOK cfg w.idx) (h : cmdRun cfg exec false [] w = .ok w')
    (hind : ∀ x stg, alookup w.idx x = some stg → stg.hasCmd = true → didRun w' x = false →
      FreshStage cfg F w stg) :
    w'.idx = w.idx ∧ Fresh cfg F w' ∧
    ∀ x stg, alookup w.idx x = some stg →
      (didRun w' x = true ∧ (stg.hasCmd = true → x ∈ w'.log)) ∨
      (didRun w' x = false ∧ x ∉ w'.log ∧ stg.noInputs = false ∧ Recorded cfg w' x ∧
        ∀ o, o ∈ ownIdx cfg w.idx x → didRun w' o = false) := by
  obtain ⟨hidx, _, hsound, hexec, hkeep, hnotlog⟩ := run_fresh_core cfg F exec hex w w' hok h
  refine ⟨hidx, ?_, ?_⟩
  · intro x stg hsx hc
    rw [hidx] at hsx
    rcases hsound x stg hsx with ⟨_, hlog⟩ | ⟨hd, hxl, _, _, hown⟩
    · exact hexec x stg hsx (hlog hc)
    · exact hkeep x stg hsx hxl (fun o ho => hnotlog o (hown o ho).2) (hind x stg hsx hc hd)
  · intro x stg hsx
    rcases hsound x stg hsx with h1 | ⟨hd, hxl, hni, hup, hown⟩
    · exact .inl h1
    · exact .inr ⟨hd, hxl, hni, ⟨stg, by rw [hidx]; exact hsx, hup⟩, fun o ho => (hown o ho).2⟩

/-- **(b) `dud commit` preserves `Fresh`, and afterwards every stage is `Recorded`.** For a
well-formed pipeline of FILE artifacts (`PipeOK`, `FilePipe`) in a world `w` with a consistent cache
in which every output and every un-owned input is, logically, a regular file (`AllFilesAt`), and a
`Stable` function `F`: after a successful `dud commit` (all stages, either strategy)

* the logical content (`deref`) at every input and at every output of every stage is unchanged —
  so `Fresh` is preserved (the stage definitions are rewritten by the commit: artifacts re-sorted,
  checksums and `skip-cache` flags set; `F.Stable` says the command does not see any of that);
* every stage is `Recorded` (what `dud status` reports as up to date, C05) and, more precisely,
  records the hashes of the files found (`HashRec`);
* the index has the same shape and is again a well-formed pipeline of files; the cache is consistent.

Not covered: directory artifacts (re-commits of directories are C15/C16), commits restricted to
targets. -/
theorem commit_preserves_fresh (cfg : Cfg κ) (g : Good cfg.ctx) (F : Fun κ) (hF : F.Stable)
    (strat : Strat) (w w' : World κ) (hc : Consistent cfg.ctx w.store) (hok : PipeOK cfg w.idx)
    (hfp : FilePipe cfg w.idx) (hfiles : AllFilesAt cfg w) (h : cmdCommit cfg strat [] w = .ok w')
    (hfr : Fresh cfg F w) :
    Fresh cfg F w' ∧
    (∀ x stg, alookup w.idx x = some stg → Recorded cfg w' x) ∧
    (∀ x stg', alookup w'.idx x = some stg' → HashRec cfg w' stg') ∧
    (∀ sp stg, alookup w.idx sp = some stg →
      (∀ a, a ∈ stg.inputs → logicalAt cfg w' a.path = logicalAt cfg w a.path) ∧
      (∀ b, b ∈ stg.outputs → logicalAt cfg w' b.path = logicalAt cfg w b.path)) ∧
    SameShape w'.idx w.idx ∧ Consistent cfg.ctx w'.store ∧ PipeOK cfg w'.idx ∧ FilePipe cfg w'.idx := by
  have hp := cmdCommit_post cfg g F hF strat w w' hc hok hfp hfiles h
  refine ⟨hp.fresh hfr, ?_, fun x stg' hs' => (hp.recorded x stg' hs').2, hp.logical, hp.shape, hp.cons,
    hp.pipe, hp.files⟩
  intro x stg hsx
  rcases alookup_sim hp.shape x with ⟨_, h0⟩ | ⟨s, s0, h1, _, _⟩
  · rw [hsx] at h0; cases h0
  · exact ⟨s, h1, (hp.recorded x s h1).1⟩

/-- **Histories in which every commit directly follows a successful recursive run of all stages.**
`Hist cfg exec b w`: the world `w` is reachable, and `b` says whether the last step was a run.

* `init`: a project in which nothing is committed yet (no stage has a current definition checksum),
  with a consistent cache and a well-formed index of file artifacts;
* `run`: `dud run` (recursive, all stages) succeeds;
* `commit`: `dud commit` (all stages, any strategy) succeeds — allowed only directly after a run, in a
  world where every output and every un-owned input is a regular file (`AllFilesAt`; for the outputs
  of command stages this says that the commands did produce their outputs);
* `editWs`: ANY change of the workspace (edit sources, damage or delete outputs, …);
* `editIdx`: ANY change of the index (edit, add, remove, rename stage definitions) after which the
  index is again a well-formed pipeline of files and in which every stage whose definition checksum
  is current is a stage of the old index — i.e. an edit of a definition is visible in the definition
  checksum (the user does not forge checksums). -/
inductive Hist (cfg : Cfg κ) (exec : Exec κ) : Bool → World κ → Prop
  | init (w : World κ) : Consistent cfg.ctx w.store → PipeOK cfg w.idx → FilePipe cfg w.idx →
      (∀ x stg, alookup w.idx x = some stg → stg.sumOk cfg = false) → Hist cfg exec false w
  | run {b : Bool} {w w' : World κ} : Hist cfg exec b w → cmdRun cfg exec false [] w = .ok w' →
      Hist cfg exec true w'
  | commit {w w' : World κ} (strat : Strat) : Hist cfg exec true w → AllFilesAt cfg w →
      cmdCommit cfg strat [] w = .ok w' → Hist cfg exec false w'
  | editWs {b : Bool} {w : World κ} (ws' : Node κ) : Hist cfg exec b w →
      Hist cfg exec false { w with ws := ws' }
  | editIdx {b : Bool} {w : World κ} (idx' : Index) : Hist cfg exec b w →
      PipeOK cfg idx' → FilePipe cfg idx' →
      (∀ x stg', alookup idx' x = some stg' → stg'.sumOk cfg = true →
        ∃ y, alookup w.idx y = some stg') →
      Hist cfg exec false { w with idx := idx' }

structure HInv (cfg : Cfg κ) (F : Fun κ) (b : Bool) (w : World κ) : Prop where
  cons : Consistent cfg.ctx w.store
  pipe : PipeOK cfg w.idx
  files : FilePipe cfg w.idx
  sound : SoundIdx cfg F w.idx
  fresh : b = true → Fresh cfg F w

theorem hist_inv (cfg : Cfg κ) (g : Good cfg.ctx) (F : Fun κ) (hF : F.Stable) (exec : Exec κ)
    (hex : ExecIs cfg F exec) {b : Bool} {w : World κ} (h : Hist cfg exec b w) : HInv cfg F b w := by
  induction h with
  | init w hc hok hfp hno =>
    refine ⟨hc, hok, hfp, ?_, fun hb => by cases hb⟩
    intro x stg hs _ hsum
    rw [hno x stg hs] at hsum; cases hsum
  | @run b w w' _ hrun ih =>
    obtain ⟨hidx, hstore, hsound, hexec, _, _⟩ := run_fresh_core cfg F exec hex w w' ih.pipe hrun
    have hok' : PipeOK cfg w'.idx := by rw [hidx]; exact ih.pipe
    have hfp' : FilePipe cfg w'.idx := by rw [hidx]; exact ih.files
    have hc' : Consistent cfg.ctx w'.store := by rw [hstore]; exact ih.cons
    refine ⟨hc', hok', hfp', by rw [hidx]; exact ih.sound, fun _ => ?_⟩
    intro x stg hs' hcmd
    have hs : alookup w.idx x = some stg := by rw [← hidx]; exact hs'
    rcases hsound x stg hs with ⟨_, hlog⟩ | ⟨_, _, _, hup, hown⟩
    · exact hexec x stg hs (hlog hcmd)
    · -- not executed: unchanged since its last commit, and so are its owners
      have hh : HashRec cfg w' stg := by
        refine hashRec_of_upToDate hok' hfp' hc' hs' hup (fun o stgo ho hso => ?_)
        have ho' : o ∈ ownIdx cfg w.idx x := by rw [← hidx]; exact ho
        have hso0 : alookup w.idx o = some stgo := by rw [← hidx]; exact hso
        rcases hsound o stgo hso0 with ⟨hd, _⟩ | ⟨_, _, _, hupo, _⟩
        · rw [(hown o ho').2] at hd; cases hd
        · exact hupo
      exact ih.sound x stg hs hcmd hup.1 w' hh
  | @commit w w' strat _ hfiles hcom ih =>
    have hp := cmdCommit_post cfg g F hF strat w w' ih.cons ih.pipe ih.files hfiles hcom
    refine ⟨hp.cons, hp.pipe, hp.files, ?_, fun hb => by cases hb⟩
    intro x stg' hs' hcmd _
    exact soundStage_of_fresh cfg g F w' stg' (hp.fresh (ih.fresh rfl) x stg' hs' hcmd)
      (hp.recorded x stg' hs').2
  | @editWs b w ws' _ ih =>
    exact ⟨ih.cons, ih.pipe, ih.files, ih.sound, fun hb => by cases hb⟩
  | @editIdx b w idx' _ hok' hfp' hold ih =>
    refine ⟨ih.cons, hok', hfp', ?_, fun hb => by cases hb⟩
    intro x stg' hs' hcmd hsum
    obtain ⟨y, hy⟩ := hold x stg' hs' hsum
    exact ih.sound y stg' hy hcmd hsum

/-- **The `Hence` clause of C09, first half.** Let the hash be injective (`Good`), let `exec`
implement a `Stable` function `F`. In every history in which commits are made only directly after
successful recursive runs of all stages — with arbitrary edits of the workspace (sources edited,
outputs damaged or deleted) and of the stage definitions in between — after EVERY run of the history
every stage that has a command is `FreshStage`: each of its outputs is, logically, what its command
produces from what is found NOW at its inputs — for an un-owned input the current source, for an
owned input the output of the owning stage, which is itself fresh.

What is NOT covered: directory artifacts (the histories are over pipelines of file artifacts,
`FilePipe`); runs and commits restricted to targets or with `--single-stage`; edits of the cache;
and, as C09 says, commits that do not directly follow a successful run (a commit after an edit
records outputs that were not made from the inputs it records: that is the stale-output finding). -/
theorem hence_fresh (cfg : Cfg κ) (g : Good cfg.ctx) (F : Fun κ) (hF : F.Stable) (exec : Exec κ)
    (hex : ExecIs cfg F exec) {w : World κ} (h : Hist cfg exec true w) : Fresh cfg F w :=
  (hist_inv cfg g F hF exec hex h).fresh rfl

/-- **The `Hence` clause of C09, second half: a `dud run` straight after `dud run; dud commit`
executes nothing** — provided no command stage without inputs is upstream of a target. That proviso
is the known finding of C09 (`Toy.noinput_upstream_reruns_downstream`: a command stage without
inputs always runs and drags its dependants along) and cannot be dropped. Any targets, with or
without `--single-stage`: empty command log, workspace, cache and index untouched, every memo entry
`false`. -/
theorem hence_second_run_idle (cfg : Cfg κ) (g : Good cfg.ctx) (F : Fun κ) (hF : F.Stable)
    (exec : Exec κ) (hex : ExecIs cfg F exec) {w1 w2 w3 : World κ} (strat : Strat)
    (h : Hist cfg exec true w1) (hfiles : AllFilesAt cfg w1)
    (hcom : cmdCommit cfg strat [] w1 = .ok w2) (single : Bool) (targets : List Bytes)
    (hni : ∀ x stg, (∃ t, t ∈ (if targets.isEmpty then allStages w2 else targets) ∧
        Reach (ownIdx cfg w2.idx) t x) → alookup w2.idx x = some stg → stg.noInputs = false)
    (hrun : cmdRun cfg exec single targets w2 = .ok w3) :
    w3.log = [] ∧ w3.ws = w2.ws ∧ w3.store = w2.store ∧ w3.idx = w2.idx ∧
      ∀ x, didRun w3 x = false := by
  have hi := hist_inv cfg g F hF exec hex h
  have hp := cmdCommit_post cfg g F hF strat w1 w2 hi.cons hi.pipe hi.files hfiles hcom
  exact second_run_idle cfg exec hex.frame single targets w2 w3 hni
    (fun x stg _ hs => (hp.recorded x stg hs).1) hrun

/-- the two-step instance, spelled out: `run; commit; edit one source; run` -/
theorem run_commit_edit_run (cfg : Cfg κ) (g : Good cfg.ctx) (F : Fun κ) (hF : F.Stable)
    (exec : Exec κ) (hex : ExecIs cfg F exec) (strat : Strat) (w0 w1 w2 w4 : World κ) (ws' : Node κ)
    (hc : Consistent cfg.ctx w0.store) (hok : PipeOK cfg w0.idx) (hfp : FilePipe cfg w0.idx)
    (hno : ∀ x stg, alookup w0.idx x = some stg → stg.sumOk cfg = false)
    (h1 : cmdRun cfg exec false [] w0 = .ok w1) (hfiles : AllFilesAt cfg w1)
    (h2 : cmdCommit cfg strat [] w1 = .ok w2)
    (h4 : cmdRun cfg exec false [] { w2 with ws := ws' } = .ok w4) :
    Fresh cfg F w1 ∧ Fresh cfg F w4 :=
  have hh1 : Hist cfg exec true w1 := .run (.init w0 hc hok hfp hno) h1
  ⟨hence_fresh cfg g F hF exec hex hh1,
    hence_fresh cfg g F hF exec hex (.run (.editWs ws' (.commit strat hh1 hfiles h2)) h4)⟩

omit [DecidableEq κ]

def apartB (p q : List Name) : Bool := !(p.isPrefixOf q) && !(q.isPrefixOf p)

theorem apartB_iff (p q : List Name) : apartB p q = true ↔ Apart p q := by
  simp only [apartB, Apart, Bool.and_eq_true, Bool.not_eq_true', ← List.isPrefixOf_iff_prefix,
    Bool.not_eq_true]

def apartArtsB : List Art → Bool
  | [] => true
  | a :: r => r.all (fun b => apartB (Path.comps a.path) (Path.comps b.path)) && apartArtsB r

theorem apartArtsB_iff (l : List Art) : apartArtsB l = true ↔ ApartArts l := by
  induction l with
  | nil => simp [apartArtsB, ApartArts]
  | cons a r ih =>
    rw [ApartArts] at ih
    simp only [apartArtsB, Bool.and_eq_true, List.all_eq_true, apartB_iff, ih, ApartArts,
      List.pairwise_cons]

/-- write what `F` yields (`res`) at the output paths, one after the other; fails if an output is
not produced, is not a plain tree, or cannot be written -/
def writeOuts (res : List (Bytes × Node κ)) : List Art → Node κ → Option (Node κ)
  | [], ws => some ws
  | a :: r, ws =>
    match alookup res a.path with
    | none => none
    | some n =>
      if n.plain then
        match setPath ws (Path.comps a.path) n with
        | none => none
        | some ws' => writeOuts res r ws'
      else none

/-- the canonical implementation of `F`: read the inputs (links followed), compute, write the outputs;
the command fails if its outputs overlap -/
def execOf (cfg : Cfg κ) (F : Fun κ) : Exec κ := fun stg w =>
  if apartArtsB stg.outputs then
    match writeOuts (F stg (insOf cfg w stg)) stg.outputs w.ws with
    | some ws' => .ok { w with ws := ws' }
    | none => .error .other
  else .error .other

theorem writeOuts_spec (res : List (Bytes × Node κ)) (outs : List Art) (ws ws' : Node κ)
    (hap : ApartArts outs) (h : writeOuts res outs ws = some ws') :
    (∀ a, a ∈ outs → ∃ n, alookup res a.path = some n ∧ n.plain = true ∧
      getPath ws' (Path.comps a.path) = some n) ∧
    (∀ q, (∀ a, a ∈ outs → Apart (Path.comps a.path) q) → getPath ws' q = getPath ws q) := by
  induction outs generalizing ws with
  | nil =>
    simp only [writeOuts, Option.some.injEq] at h
    subst h
    exact ⟨by simp, fun _ _ => rfl⟩
  | cons a r ih =>
    have hap' := List.pairwise_cons.1 hap
    simp only [writeOuts] at h
    split at h
    · cases h
    rename_i n hn
    split at h
    · rename_i hpl
      split at h
      · cases h
      rename_i ws1 hs
      obtain ⟨ih1, ih2⟩ := ih ws1 hap'.2 h
      refine ⟨?_, ?_⟩
      · intro b hb
        rcases List.mem_cons.1 hb with rfl | hb
        · refine ⟨n, hn, hpl, ?_⟩
          rw [ih2 _ (fun c hc => (hap'.1 c hc).symm)]
          exact getPath_setPath_self _ _ _ _ hs
        · exact ih1 b hb
      · intro q hq
        rw [ih2 q (fun b hb => hq b (List.mem_cons_of_mem _ hb))]
        exact WT.getPath_setPath_apart (hq a List.mem_cons_self) hs
    · cases h

theorem writeOuts_total (res : List (Bytes × Node κ)) (outs : List Art) (ws : Node κ)
    (hap : ApartArts outs) (hw : ∀ a, a ∈ outs → Writable ws (Path.comps a.path))
    (hres : ∀ a, a ∈ outs → ∃ n, alookup res a.path = some n ∧ n.plain = true) :
    ∃ ws', writeOuts res outs ws = some ws' := by
  induction outs generalizing ws with
  | nil => exact ⟨ws, rfl⟩
  | cons a r ih =>
    have hap' := List.pairwise_cons.1 hap
    obtain ⟨n, hn, hpl⟩ := hres a List.mem_cons_self
    obtain ⟨ws1, hs⟩ := hw a List.mem_cons_self n
    obtain ⟨ws', h'⟩ := ih ws1 hap'.2
      (fun b hb => WT.writable_setPath_apart (hap'.1 b hb) hs (hw b (List.mem_cons_of_mem _ hb)))
      (fun b hb => hres b (List.mem_cons_of_mem _ hb))
    exact ⟨ws', by simp only [writeOuts, hn, hpl, if_true, hs, h']⟩

/-- **Every `Fun` is implemented by some `exec`**: `ExecIs` is satisfiable for every `F`. -/
theorem execOf_is (cfg : Cfg κ) (F : Fun κ) : ExecIs cfg F (execOf cfg F) := by
  have inv : ∀ stg w w', execOf cfg F stg w = .ok w' → ApartArts stg.outputs ∧
      ∃ ws', writeOuts (F stg (insOf cfg w stg)) stg.outputs w.ws = some ws' ∧
        w' = { w with ws := ws' } := by
    intro stg w w' h
    simp only [execOf] at h
    split at h
    · rename_i hap
      split at h
      · rename_i ws' hw
        cases h
        exact ⟨(apartArtsB_iff _).1 hap, ws', hw, rfl⟩
      · cases h
    · cases h
  refine ⟨?_, ?_, ?_, ?_⟩
  · intro stg w w' h
    obtain ⟨_, ws', _, rfl⟩ := inv stg w w' h
    exact ⟨rfl, rfl, rfl, rfl, rfl⟩
  · intro stg w w' h a ha
    obtain ⟨hap, ws', hw, rfl⟩ := inv stg w w' h
    obtain ⟨n, hn, hpl, hg⟩ := (writeOuts_spec _ _ _ _ hap hw).1 a ha
    simp only [logicalAt, hg, Option.map_some, hn, deref_plain _ _ n hpl]
  · intro stg w w' h q hq
    obtain ⟨hap, ws', hw, rfl⟩ := inv stg w w' h
    exact (writeOuts_spec _ _ _ _ hap hw).2 q hq
  · intro stg w hap hwr hres
    obtain ⟨ws', hw⟩ := writeOuts_total _ _ _ hap hwr hres
    exact ⟨{ w with ws := ws' }, by simp only [execOf, (apartArtsB_iff _).2 hap, if_true, hw]⟩

/-! ## non-vacuity: a three-stage diamond

Sources `s` and `t`; stage A: `a := s + 1`; stage B: `b := 2 * (s + t)`; stage C: `c := a + b` (the
diamond `s → A, B → C`). History: `run; commit; edit t; run` — the second run executes B and C and
leaves A alone. -/

namespace Pipe

/-- file contents of the example: a number, or a typed manifest (never used: only files) -/
inductive KK where
  | raw (n : Nat)
  | man (sch : Schema) (p : Bytes) (cs : List Child)
deriving DecidableEq, Repr, Inhabited

/-- an injective toy hash that the kernel evaluates quickly on numbers: `n ↦ "aaa" ++ "a"^n` -/
def hashK : KK → Digest
  | .raw n => String.ofList (List.replicate (n + 3) 'a')
  | .man sch p cs => Example.ctx.H (.man sch p cs)

def ctx : Ctx KK where
  H := hashK
  encMan := KK.man
  decBlob := fun k => match k with
    | .man _ _ cs => some cs
    | .raw _ => none
  reload := fun _ c => c
  nameOK := fun _ => true

theorem good : Good ctx where
  inj := by
    intro a b h
    cases a with
    | raw n =>
      cases b with
      | raw m =>
        have h' := congrArg List.length (String.ofList_injective h)
        simp only [List.length_replicate] at h'
        have : n = m := by omega
        rw [this]
      | man sch p cs =>
        have h' := String.ofList_injective h
        simp [List.replicate_succ] at h'
    | man sch p cs =>
      cases b with
      | raw m =>
        have h' := String.ofList_injective h
        simp [List.replicate_succ] at h'
      | man sch' p' cs' =>
        have := Example.good.inj _ _ h
        cases this
        rfl
  len := by
    intro a
    cases a with
    | raw n =>
      show 3 ≤ (String.ofList (List.replicate (n + 3) 'a')).length
      rw [String.length_ofList, List.length_replicate]
      omega
    | man sch p cs => exact Example.good.len _
  dec := by
    intro sch p cs
    simp [ctx]

/-- the example hashes every stage definition to the same value (the kernel cannot evaluate
`GoJson.str`); definitions never change in the example, so this is immaterial -/
def cfg : Cfg KK :=
  { ctx := ctx, ofBytes := fun _ => .raw 0, toBytes := fun _ => [], walkAccumulates := true, fuel := 8 }

/-- the number in a file (0 if there is none) -/
def val : Option (Node KK) → Nat
  | some (.file (.raw n)) => n
  | _ => 0

/-- A tiny command language: the command line is `op out in₁ in₂ …` (one byte each, the paths are
one-letter file names); the command writes to `out` the sum of the numbers in the inputs it names —
plus one for `i`, doubled for `d`. -/
def toyF : Fun KK := fun stg ins =>
  match stg.cmd with
  | op :: out :: args =>
    let s := (args.map fun p => val (alookup ins [p])).sum
    [([out], .file (.raw (if op = 105 then s + 1 else if op = 100 then 2 * s else s)))]
  | _ => []

theorem toyF_stable : Fun.Stable toyF := by
  intro stg stg' ins ins' hc _ hi p
  have : (fun p : UInt8 => val (alookup ins [p])) = (fun p => val (alookup ins' [p])) :=
    funext fun p => by rw [hi]
  simp only [toyF, ← hc, this]

def exec : Exec KK := execOf cfg toyF

theorem exec_is : ExecIs cfg toyF exec := execOf_is cfg toyF

def pS : Bytes := [115]
def pT : Bytes := [116]
def pA : Bytes := [97]
def pB : Bytes := [98]
def pC : Bytes := [99]

/-- A: `a := s + 1` -/
def stA : Stage := { cmd := [105, 97, 115], inputs := [{ path := pS }], outputs := [{ path := pA }] }
/-- B: `b := 2 * (s + t)` -/
def stB : Stage :=
  { cmd := [100, 98, 115, 116], inputs := [{ path := pS }, { path := pT }], outputs := [{ path := pB }] }
/-- C: `c := a + b` -/
def stC : Stage :=
  { cmd := [112, 99, 97, 98], inputs := [{ path := pA }, { path := pB }], outputs := [{ path := pC }] }

def idx0 : Index := [([65], stA), ([66], stB), ([67], stC)]

/-- a fresh project: the sources `s = 3` and `t = 1`, nothing generated, nothing committed -/
def w0 : World KK := { ws := .dir [(pS, .file (.raw 3)), (pT, .file (.raw 1))], idx := idx0 }

/-- after the first run: `a = 4`, `b = 8`, `c = 12` -/
def w1 : World KK :=
  { ws := .dir [(pS, .file (.raw 3)), (pT, .file (.raw 1)), (pA, .file (.raw 4)), (pB, .file (.raw 8)),
      (pC, .file (.raw 12))]
    idx := idx0
    ran := [([67], true), ([66], true), ([65], true)]
    log := [[65], [66], [67]] }

theorem run1 : cmdRun cfg exec false [] w0 = .ok w1 := by open WorldDec in decide +kernel

def stA2 : Stage :=
  { sum := "aaa", cmd := [105, 97, 115], inputs := [{ path := pS, sum := "aaaaaa", skip := true }],
    outputs := [{ path := pA, sum := "aaaaaaa" }] }
def stB2 : Stage :=
  { sum := "aaa", cmd := [100, 98, 115, 116],
    inputs := [{ path := pS, sum := "aaaaaa", skip := true }, { path := pT, sum := "aaaa", skip := true }],
    outputs := [{ path := pB, sum := "aaaaaaaaaaa" }] }
def stC2 : Stage :=
  { sum := "aaa", cmd := [112, 99, 97, 98],
    inputs := [{ path := pA, sum := "aaaaaaa" }, { path := pB, sum := "aaaaaaaaaaa" }],
    outputs := [{ path := pC, sum := "aaaaaaaaaaaaaaa" }] }

/-- after `dud commit` (links): the outputs are links into the cache, every checksum is recorded -/
def w2 : World KK :=
  { ws := .dir [(pS, .file (.raw 3)), (pT, .file (.raw 1)), (pA, .link (.obj "aaaaaaa")),
      (pB, .link (.obj "aaaaaaaaaaa")), (pC, .link (.obj "aaaaaaaaaaaaaaa"))]
    store := [("aaaaaaaaaaaaaaa", .blob (.raw 12)), ("aaaaaaaaaaa", .blob (.raw 8)),
      ("aaaaaaa", .blob (.raw 4))]
    idx := [([65], stA2), ([66], stB2), ([67], stC2)]
    done := [[67], [66], [65]] }

theorem commit1 : cmdCommit cfg .link [] w1 = .ok w2 := by open WorldDec in decide +kernel

/-- the source `t` is edited: `t = 2` -/
def ws3 : Node KK :=
  .dir [(pS, .file (.raw 3)), (pT, .file (.raw 2)), (pA, .link (.obj "aaaaaaa")),
    (pB, .link (.obj "aaaaaaaaaaa")), (pC, .link (.obj "aaaaaaaaaaaaaaa"))]

/-- after the second run: A did not run (`a` is still the link to `4`), `b = 10`, `c = 14` -/
def w4 : World KK :=
  { w2 with
    ws := .dir [(pS, .file (.raw 3)), (pT, .file (.raw 2)), (pA, .link (.obj "aaaaaaa")),
      (pB, .file (.raw 10)), (pC, .file (.raw 14))]
    done := []
    ran := [([67], true), ([66], true), ([65], false)]
    log := [[66], [67]] }

theorem run2 : cmdRun cfg exec false [] { w2 with ws := ws3 } = .ok w4 := by open WorldDec in decide +kernel

/-- a run straight after `run; commit`: nothing happens -/
theorem run_idle : (cmdRun cfg exec false [] w2).map (fun w => (w.log, w.ran, w.ws)) =
    .ok ([], [([67], false), ([66], false), ([65], false)], w2.ws) := by open WorldDec in decide +kernel

/-! ### the hypotheses hold

Each is a bounded statement about the three entries of the index (`lookup_forall` turns the
quantification over stage paths into one over the entries), checked by evaluation. -/

theorem pipeOK0 : PipeOK cfg idx0 where
  keys := by decide
  apart_in := lookup_forall (P := fun _ stg => ApartArts stg.outputs)
    (by decide +kernel)
  apart_across := fun _ _ _ _ hne h1 h2 => lookup_forall (idx := idx0)
    (P := fun sp1 stg1 => ∀ e, e ∈ idx0 → sp1 ≠ e.1 → ∀ a, a ∈ stg1.outputs → ∀ b, b ∈ e.2.outputs →
      Apart (Path.comps a.path) (Path.comps b.path))
    (by decide +kernel) _ _ h1 _ (alookup_mem h2) hne
  plain_apart := fun _ _ hs a ha hn _ _ hs' => lookup_forall (idx := idx0)
    (P := fun _ stg => ∀ a, a ∈ stg.inputs → findOwner cfg.walkAccumulates idx0 a.path = none →
      ∀ e, e ∈ idx0 → ∀ b, b ∈ e.2.outputs → Apart (Path.comps b.path) (Path.comps a.path))
    (by decide +kernel) _ _ hs a ha hn _ (alookup_mem hs')
  owner_contains := fun _ _ hs a ha o oa ho => lookup_forall (idx := idx0)
    (P := fun _ stg => ∀ a, a ∈ stg.inputs → ∀ r, r ∈ findOwner cfg.walkAccumulates idx0 a.path →
      Path.comps r.2.path <+: Path.comps a.path)
    (by decide +kernel) _ _ hs a ha (o, oa) ho

theorem filePipe0 : FilePipe cfg idx0 where
  ins_nodup := lookup_forall
    (P := fun _ stg => stg.inputs.Pairwise (fun a b => a.path ≠ b.path)) (by decide +kernel)
  ins_files := lookup_forall
    (P := fun _ stg => ∀ a, a ∈ stg.inputs → a.isDir = false) (by decide +kernel)
  outs_files := lookup_forall
    (P := fun _ stg => ∀ a, a ∈ stg.outputs → a.isDir = false) (by decide +kernel)
  owner_same := fun _ _ hs a ha o oa ho => lookup_forall (idx := idx0)
    (P := fun _ stg => ∀ a, a ∈ stg.inputs → ∀ r, r ∈ findOwner cfg.walkAccumulates idx0 a.path →
      Path.comps r.2.path = Path.comps a.path)
    (by decide +kernel) _ _ hs a ha (o, oa) ho

/-- every file of the example holds a number: `val` reads it back -/
theorem allFiles1 : AllFilesAt cfg w1 := by
  intro sp stg hs
  have h := lookup_forall (idx := idx0)
    (P := fun _ stg => ∀ a, a ∈ stg.outputs ++ stg.inputs.filter
        (fun a => findOwner cfg.walkAccumulates idx0 a.path = none) →
      logicalAt cfg w1 a.path = some (.file (.raw (val (logicalAt cfg w1 a.path)))))
    (by open WorldDec in decide +kernel) _ _ hs
  exact ⟨fun b hb => ⟨_, h b (List.mem_append_left _ hb)⟩, fun a ha hn =>
    ⟨_, h a (List.mem_append_right _ (List.mem_filter.2 ⟨ha, decide_eq_true hn⟩))⟩⟩

theorem hist1 : Hist cfg exec true w1 :=
  .run (.init w0 (fun _ _ h => nomatch h) pipeOK0 filePipe0
    (lookup_forall (P := fun _ stg => stg.sumOk cfg = false) (by decide +kernel))) run1

/-- the history `run; commit; edit the source `t`; run` -/
theorem hist4 : Hist cfg exec true w4 :=
  .run (.editWs ws3 (.commit .link hist1 allFiles1 commit1)) run2

/-- **`hence_fresh` instantiated**: after the second run every output is what its command yields
from the current inputs … -/
theorem fresh4 : Fresh cfg toyF w4 := hence_fresh cfg good toyF toyF_stable exec exec_is hist4

/-- … e.g. `c` is what `p c a b` yields from the old `a` (stage A did NOT run: nothing it reads has
changed, and `a`, a link into the cache, is still `3 + 1`) and the regenerated `b = 2 * (3 + 2)`,
namely `14` -/
example : logicalAt cfg w4 pC = alookup (toyF stC2 (insOf cfg w4 stC2)) pC ∧
    logicalAt cfg w4 pC = some (.file (.raw 14)) ∧
    insOf cfg w4 stC2 = [(pA, .file (.raw 4)), (pB, .file (.raw 10))] ∧
    didRun w4 [65] = false ∧ w4.log = [[66], [67]] ∧
    logicalAt cfg w4 pA = alookup (toyF stA2 (insOf cfg w4 stA2)) pA :=
  ⟨fresh4 [67] stC2 rfl rfl _ List.mem_cons_self, by open WorldDec in decide +kernel, by open WorldDec in decide +kernel, rfl, rfl,
    fresh4 [65] stA2 rfl rfl _ List.mem_cons_self⟩

/-- **`hence_second_run_idle` instantiated** (every stage of the diamond has inputs) -/
theorem idle2 (w3 : World KK) (h : cmdRun cfg exec false [] w2 = .ok w3) :
    w3.log = [] ∧ w3.ws = w2.ws ∧ w3.store = w2.store ∧ w3.idx = w2.idx ∧ ∀ x, didRun w3 x = false :=
  hence_second_run_idle cfg good toyF toyF_stable exec exec_is .link hist1 allFiles1 commit1 false []
    (fun x stg _ => lookup_forall (P := fun _ stg => stg.noInputs = false) (by decide +kernel) x stg) h

/-- **(b) instantiated**: after the commit every stage is `Recorded` -/
example : ∀ x stg, alookup w1.idx x = some stg → Recorded cfg w2 x :=
  (commit_preserves_fresh cfg good toyF toyF_stable .link w1 w2
    (fun _ _ h => nomatch h) pipeOK0 filePipe0 allFiles1 commit1
    (hence_fresh cfg good toyF toyF_stable exec exec_is hist1)).2.1

/-! ### the proviso "commits are made only after successful runs" cannot be dropped -/

/-- `{ w2 with ws := ws3 }` after the second commit: stage B now records the hash of the edited `t`
next to the hash of the `b` made from the old one -/
def w3 : World KK :=
  { w2 with
    ws := ws3
    idx := [([65], stA2),
      ([66], { stB2 with inputs :=
        [{ path := pS, sum := "aaaaaa", skip := true }, { path := pT, sum := "aaaaa", skip := true }] }),
      ([67], stC2)] }

/-- `run; commit; edit the source `t`; COMMIT; run`: the second commit records the edited source next
to the outputs made from the old one, the run finds everything up to date and executes nothing, and
`b` is still `8`, not `2 * (3 + 2)`. -/
theorem commit_after_edit_is_stale :
    ∃ w3 w5, cmdCommit cfg .link [] { w2 with ws := ws3 } = .ok w3 ∧
      cmdRun cfg exec false [] w3 = .ok w5 ∧ w5.log = [] ∧
      logicalAt cfg w5 pB = some (.file (.raw 8)) ∧
      alookup (toyF stB2 (insOf cfg w5 stB2)) pB = some (.file (.raw 10)) :=
  ⟨w3, { w3 with done := [], ran := [([67], false), ([66], false), ([65], false)] },
    by open WorldDec in decide +kernel⟩

end Pipe

#print axioms execIs_implies_frame
#print axioms run_fresh_core
#print axioms run_establishes_fresh
#print axioms commit_preserves_fresh
#print axioms hist_inv
#print axioms hence_fresh
#print axioms hence_second_run_idle
#print axioms run_commit_edit_run
#print axioms execOf_is
#print axioms Pipe.good
#print axioms Pipe.toyF_stable
#print axioms Pipe.run1
#print axioms Pipe.commit1
#print axioms Pipe.run2
#print axioms Pipe.run_idle
#print axioms Pipe.pipeOK0
#print axioms Pipe.filePipe0
#print axioms Pipe.allFiles1
#print axioms Pipe.hist4
#print axioms Pipe.fresh4
#print axioms Pipe.idle2
#print axioms Pipe.commit_after_edit_is_stale

end Dud
