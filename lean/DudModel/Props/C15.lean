import DudModel.Lemmas.Idem
import DudModel.Lemmas.CheckoutEq
import DudModel.Props.C16
/-!
# C15 — idempotence of commit and checkout

* `commit_idem`: committing the workspace a commit left, with the child artifact it recorded,
  records the same artifact again and adds nothing to the store (from `commit_holding`: commit of
  either workspace form, all links or all copies, in any store holding the tree).
* `checkout_idem_link`, `checkout_after_commit_noop`: link checkout is repeatable.
* `checkout_idem`, `checkout_idem_copy`: so is every other strategy pair (an up-to-date copy is
  left alone); `checkout_over_different_file_fails`: other bytes are still refused.
* `commit_checkout_sequence_partial`: any sequence of commits and checkouts (with removals of the
  workspace entry: `Props/C15seq.lean`).
* `commit_after_checkout`: commit of a checked-out workspace records the same artifact.
-/
namespace Dud

variable {κ : Type}

/-- the workspace after committing (strategy `strat2`) the workspace `wsAfter ctx strat1 t`:
links stay links, regular files follow `strat2` -/
def wsAfter2 (ctx : Ctx κ) (strat1 strat2 : Strat) (t : Node κ) : Node κ :=
  match strat1 with
  | .link => linked ctx t
  | .copy => wsAfter ctx strat2 t

theorem wsAfter2_link (ctx : Ctx κ) (strat2 : Strat) (t : Node κ) :
    wsAfter2 ctx .link strat2 t = wsAfter ctx .link t := rfl
theorem wsAfter2_copy_copy (ctx : Ctx κ) (t : Node κ) :
    wsAfter2 ctx .copy .copy t = wsAfter ctx .copy t := rfl
theorem wsAfter2_copy_link (ctx : Ctx κ) (t : Node κ) :
    wsAfter2 ctx .copy .link t = linked ctx t := rfl

/-- **Commit in a store that holds the tree** (manifests of any schemas `ch`), of either workspace
form (`strat1`), with either strategy (`strat2`): the current-format artifact is recorded, the store
afterwards holds the current-format version and gains nothing (up to bytes) if it did before. -/
theorem commit_holding (ctx : Ctx κ) (g : Good ctx) (t : Node κ) (nm : Bytes)
    (hp : t.plain = true) (hs : t.sorted = true) (hn : NamesOK ctx t)
    (s : Store κ) (hc : Consistent ctx s) (ch : Choice) (hh : HoldsNode ctx s ch nm t)
    (strat1 strat2 : Strat) :
    ∃ s', commitNode ctx strat2 (wsAfter ctx strat1 t) ⟨nm, digestAs ctx ch nm t, t.isDir⟩ s =
        .ok (wsAfter2 ctx strat1 strat2 t, ⟨nm, treeDigest ctx nm t, t.isDir⟩, s') ∧
      Consistent ctx s' ∧ Store.le ctx s s' ∧
      (HoldsNode ctx s newChoice nm t → Store.le ctx s' s) ∧
      HoldsNode ctx s' newChoice nm t ∧ deref ctx s' (wsAfter2 ctx strat1 strat2 t) = t := by
  cases strat1 with
  | link =>
    obtain ⟨s', h, hc', hle, hh', hback⟩ := commitNode_linked g t hp hs hn ch nm s strat2 hh hc
    exact ⟨s', h, hc', hle, hback, hh', deref_linked t _ nm hp hh'⟩
  | copy =>
    obtain ⟨s', h, hc', hle, hh', hback, _⟩ := recommitNode_post g t hp hn
      ⟨nm, digestAs ctx ch nm t, t.isDir⟩ s strat2 rfl (compatNode_of_holds g t ch nm hs hn hh) hc
    exact ⟨s', h, hc', hle, hback, hh', deref_wsAfter hp hh' strat2⟩

theorem commit_idem_holding (ctx : Ctx κ) (g : Good ctx) (t : Node κ) (nm : Bytes)
    (hp : t.plain = true) (hs : t.sorted = true) (hn : NamesOK ctx t)
    (s : Store κ) (hc : Consistent ctx s) (hh : HoldsNode ctx s newChoice nm t)
    (strat1 strat2 : Strat) :
    ∃ s', commitNode ctx strat2 (wsAfter ctx strat1 t) ⟨nm, treeDigest ctx nm t, t.isDir⟩ s =
        .ok (wsAfter2 ctx strat1 strat2 t, ⟨nm, treeDigest ctx nm t, t.isDir⟩, s') ∧
      Consistent ctx s' ∧ Store.le ctx s s' ∧ Store.le ctx s' s ∧
      HoldsNode ctx s' newChoice nm t ∧ deref ctx s' (wsAfter2 ctx strat1 strat2 t) = t := by
  obtain ⟨s', h, hc', hle, hback, hrest⟩ :=
    commit_holding ctx g t nm hp hs hn s hc newChoice hh strat1 strat2
  rw [digestAs_new] at h
  exact ⟨s', h, hc', hle, hback hh, hrest⟩

/-- **C15 (a).** Commit twice.  The second commit (any strategy) of the workspace and child the
first (fresh) commit produced returns the same child; the store is unchanged up to bytes; the
workspace is unchanged if the first commit linked, or both copied; after copy-then-link it is the
all-links version (same logical content). -/
theorem commit_idem (ctx : Ctx κ) (g : Good ctx) (t : Node κ) (nm : Bytes)
    (hp : t.plain = true) (hs : t.sorted = true) (hn : NamesOK ctx t)
    (s : Store κ) (hc : Consistent ctx s) (strat strat2 : Strat) :
    ∃ t' c' s', commitNode ctx strat t ⟨nm, "", t.isDir⟩ s = .ok (t', c', s') ∧
      ∃ t'' s'', commitNode ctx strat2 t' c' s' = .ok (t'', c', s'') ∧
        deref ctx s'' t'' = t ∧ Consistent ctx s'' ∧ Store.le ctx s' s'' ∧ Store.le ctx s'' s' ∧
        (strat = .link → t'' = t') ∧ (strat = .copy → strat2 = .copy → t'' = t') ∧
        (strat = .copy → strat2 = .link → t'' = linked ctx t) := by
  obtain ⟨s', h, hc', _, hh⟩ := commitNode_fresh g t hp hn nm s strat hc
  obtain ⟨s'', h2, hc'', hle, hback, _, hd⟩ :=
    commit_idem_holding ctx g t nm hp hs hn s' hc' hh strat strat2
  refine ⟨_, _, s', h, _, s'', h2, hd, hc'', hle, hback, ?_, ?_, ?_⟩
  · rintro rfl; rfl
  · rintro rfl rfl; rfl
  · rintro rfl rfl; rfl

/-- **C15 (b).** Link checkout of a committed artifact is repeatable: what it produced from an
absent workspace it leaves alone the second time. -/
theorem checkout_idem_link (ctx : Ctx κ) (g : Good ctx) (t : Node κ) (nm : Bytes)
    (hp : t.plain = true) (hs : t.sorted = true) (hn : NamesOK ctx t)
    (s : Store κ) (ch : Choice) (hh : HoldsNode ctx s ch nm t) (fuel : Nat) (hf : depth t ≤ fuel)
    {r : Node κ}
    (h : checkoutNode ctx .link s fuel none ⟨nm, digestAs ctx ch nm t, t.isDir⟩ = .ok r) :
    checkoutNode ctx .link s fuel (some r) ⟨nm, digestAs ctx ch nm t, t.isDir⟩ = .ok r := by
  rw [checkoutNode_holds g s .link t ch nm fuel hp hs hn hh hf] at h
  cases h
  exact checkoutNode_over g s .link .link t ch nm fuel hp hs hn hh hf

/-- Link checkout right after a link commit (from any later store) is a no-op on the workspace
the commit left. -/
theorem checkout_after_commit_noop (ctx : Ctx κ) (g : Good ctx) (t : Node κ) (nm : Bytes)
    (hp : t.plain = true) (hs : t.sorted = true) (hn : NamesOK ctx t)
    (s : Store κ) (hc : Consistent ctx s) :
    ∃ t' c' s', commitNode ctx .link t ⟨nm, "", t.isDir⟩ s = .ok (t', c', s') ∧
      ∀ s'', Store.le ctx s' s'' → ∀ fuel, depth t ≤ fuel →
        checkoutNode ctx .link s'' fuel (some t') c' = .ok t' := by
  obtain ⟨s', h, _, _, hh⟩ := commitNode_fresh g t hp hn nm s .link hc
  refine ⟨_, _, s', h, ?_⟩
  intro s'' hle fuel hf
  have := checkoutNode_over g s'' .link .link t newChoice nm fuel hp hs hn
    (HoldsNode.mono hle t _ nm hh) hf
  rwa [digestAs_new] at this

/-- **Checkout twice, all four strategy pairs.**  In a store holding the tree, checkout with
`strat2` over what a `strat1` checkout (or commit) left succeeds and returns
`wsAfter ctx (coStrat strat1 strat2) t`: regular copies are up to date and are left alone by both
strategies; exact links are kept by a link checkout and replaced by copies by a copy checkout. -/
theorem checkout_idem (ctx : Ctx κ) (g : Good ctx) (t : Node κ) (nm : Bytes)
    (hp : t.plain = true) (hs : t.sorted = true) (hn : NamesOK ctx t)
    (s : Store κ) (ch : Choice) (hh : HoldsNode ctx s ch nm t) (fuel : Nat) (hf : depth t ≤ fuel)
    (strat1 strat2 : Strat) :
    ∃ r, checkoutNode ctx strat1 s fuel none ⟨nm, digestAs ctx ch nm t, t.isDir⟩ = .ok r ∧
      r = wsAfter ctx strat1 t ∧
      checkoutNode ctx strat2 s fuel (some r) ⟨nm, digestAs ctx ch nm t, t.isDir⟩
        = .ok (wsAfter ctx (coStrat strat1 strat2) t) ∧
      deref ctx s (wsAfter ctx (coStrat strat1 strat2) t) = t :=
  ⟨_, checkoutNode_holds g s strat1 t ch nm fuel hp hs hn hh hf, rfl,
    checkoutNode_over g s strat1 strat2 t ch nm fuel hp hs hn hh hf, deref_wsAfter hp hh _⟩

theorem coStrat_copy (strat2 : Strat) : coStrat .copy strat2 = .copy := rfl
theorem coStrat_link (strat2 : Strat) : coStrat .link strat2 = strat2 := rfl
theorem coStrat_self (strat : Strat) : coStrat strat strat = strat := by cases strat <;> rfl

/-- **C15 (c), positive.**  What a copy checkout produced is left alone by a second checkout with
either strategy. -/
theorem checkout_idem_copy (ctx : Ctx κ) (g : Good ctx) (t : Node κ) (nm : Bytes)
    (hp : t.plain = true) (hs : t.sorted = true) (hn : NamesOK ctx t)
    (s : Store κ) (ch : Choice) (hh : HoldsNode ctx s ch nm t) (fuel : Nat) (hf : depth t ≤ fuel)
    (strat2 : Strat) {r : Node κ}
    (h : checkoutNode ctx .copy s fuel none ⟨nm, digestAs ctx ch nm t, t.isDir⟩ = .ok r) :
    checkoutNode ctx strat2 s fuel (some r) ⟨nm, digestAs ctx ch nm t, t.isDir⟩ = .ok r := by
  rw [checkoutNode_holds g s .copy t ch nm fuel hp hs hn hh hf] at h
  cases h
  exact checkoutNode_over g s .copy strat2 t ch nm fuel hp hs hn hh hf

/-- Every checkout is repeatable with the same strategy. -/
theorem checkout_idem_same (ctx : Ctx κ) (g : Good ctx) (t : Node κ) (nm : Bytes)
    (hp : t.plain = true) (hs : t.sorted = true) (hn : NamesOK ctx t)
    (s : Store κ) (ch : Choice) (hh : HoldsNode ctx s ch nm t) (fuel : Nat) (hf : depth t ≤ fuel)
    (strat : Strat) {r : Node κ}
    (h : checkoutNode ctx strat s fuel none ⟨nm, digestAs ctx ch nm t, t.isDir⟩ = .ok r) :
    checkoutNode ctx strat s fuel (some r) ⟨nm, digestAs ctx ch nm t, t.isDir⟩ = .ok r := by
  rw [checkoutNode_holds g s strat t ch nm fuel hp hs hn hh hf] at h
  cases h
  have := checkoutNode_over g s strat strat t ch nm fuel hp hs hn hh hf
  rwa [coStrat_self] at this

/-- **Negative witness: what is still refused.**  A regular file with *other* bytes is in the way
of a checkout, with either strategy. -/
theorem checkout_over_different_file_fails (ctx : Ctx κ) (g : Good ctx) (s : Store κ) (x y : κ)
    (hxy : y ≠ x) (nm : Bytes) {o : Obj κ} (ho : s.get (ctx.H x) = some o) (strat : Strat)
    (fuel : Nat) :
    checkoutNode ctx strat s (fuel + 1) (some (.file y)) ⟨nm, ctx.H x, false⟩ = .error .exists_ := by
  have hne : ctx.H y ≠ ctx.H x := fun h => hxy (g.inj _ _ h)
  rw [checkoutNode_file rfl]
  cases strat <;>
    simp [checkoutFile, upToDateCopy, quick, hasSum_H g, Store.has_of_get ho, ho, hne]

/-- The same one level up: a directory whose first entry is a regular file with other bytes. -/
theorem checkout_over_different_file_dir_fails (ctx : Ctx κ) (g : Good ctx) (s : Store κ)
    (ch : Choice) (nm : Bytes) (x : Name) (y y' : κ) (hy : y' ≠ y) (r r' : List (Name × Node κ))
    (hs : sortedList ((x, .file y) :: r) = true) (hn : NamesOKList ctx ((x, .file y) :: r))
    (hh : HoldsNode ctx s ch nm (.dir ((x, .file y) :: r))) (strat : Strat) (fuel : Nat) :
    checkoutNode ctx strat s (fuel + 2) (some (.dir ((x, .file y') :: r')))
      ⟨nm, digestAs ctx ch nm (.dir ((x, .file y) :: r)), true⟩ = .error .exists_ := by
  obtain ⟨hhas, hread⟩ := readManifest_holds g hs hn hh
  have hsum := hasSum_digestAs_dir g ch nm ((x, .file y) :: r)
  simp only [HoldsNode, HoldsList] at hh
  obtain ⟨o, ho, _⟩ := hh.2.1
  have h1 := checkout_over_different_file_fails ctx g s y y' hy x ho strat fuel
  have hstep : checkoutChildren (checkoutNode ctx strat s (fuel + 1)) ((x, Node.file y') :: r')
      (childrenAs ctx ch ((x, .file y) :: r)) = .error .exists_ := by
    simp only [childrenAs, checkoutChildren_cons, alookup, beq_self_eq_true, if_true, digestAs,
      Node.isDir, h1]
  rw [checkoutNode_dir (c := ⟨nm, digestAs ctx ch nm (.dir ((x, .file y) :: r)), true⟩) rfl hsum hhas hread
    (.inl rfl), hstep]

/-- **C15 (d).** Check an artifact out (either strategy) into an absent workspace, from a
consistent store holding it, and commit the result (either strategy): the same child artifact is
recorded, the logical content is unchanged, the store gains nothing. -/
theorem commit_after_checkout (ctx : Ctx κ) (g : Good ctx) (t : Node κ) (nm : Bytes)
    (hp : t.plain = true) (hs : t.sorted = true) (hn : NamesOK ctx t)
    (s : Store κ) (hc : Consistent ctx s) (hh : HoldsNode ctx s newChoice nm t)
    (fuel : Nat) (hf : depth t ≤ fuel) (strat1 strat2 : Strat) :
    ∃ w, checkoutNode ctx strat1 s fuel none ⟨nm, treeDigest ctx nm t, t.isDir⟩ = .ok w ∧
      ∃ w' s', commitNode ctx strat2 w ⟨nm, treeDigest ctx nm t, t.isDir⟩ s =
          .ok (w', ⟨nm, treeDigest ctx nm t, t.isDir⟩, s') ∧
        deref ctx s' w' = t ∧ Consistent ctx s' ∧ Store.le ctx s s' ∧ Store.le ctx s' s := by
  have hco := checkoutNode_holds g s strat1 t newChoice nm fuel hp hs hn hh hf
  rw [digestAs_new] at hco
  obtain ⟨s', h, hc', hle, hback, _, hd⟩ :=
    commit_idem_holding ctx g t nm hp hs hn s hc hh strat1 strat2
  exact ⟨_, hco, _, s', h, hd, hc', hle, hback⟩

/-- the full cycle from a fresh commit: commit, checkout elsewhere, commit again -/
theorem commit_checkout_commit (ctx : Ctx κ) (g : Good ctx) (t : Node κ) (nm : Bytes)
    (hp : t.plain = true) (hs : t.sorted = true) (hn : NamesOK ctx t)
    (s : Store κ) (hc : Consistent ctx s) (strat strat1 strat2 : Strat) :
    ∃ t' c' s', commitNode ctx strat t ⟨nm, "", t.isDir⟩ s = .ok (t', c', s') ∧
      ∃ w, checkoutNode ctx strat1 s' (depth t) none c' = .ok w ∧
        ∃ w' s'', commitNode ctx strat2 w c' s' = .ok (w', c', s'') ∧
          deref ctx s'' w' = t ∧ Store.le ctx s'' s' := by
  obtain ⟨s', h, hc', _, hh⟩ := commitNode_fresh g t hp hn nm s strat hc
  obtain ⟨w, hw, w', s'', h2, hd, _, _, hback⟩ := commit_after_checkout ctx g t nm hp hs hn s' hc'
    hh (depth t) (Nat.le_refl _) strat1 strat2
  exact ⟨_, _, s', h, w, hw, w', s'', h2, hd, hback⟩

/-- the four commands (on the workspace entry and the recorded child artifact) -/
inductive Cmd where
  | commit (strat : Strat)
  | checkout (strat : Strat)
deriving DecidableEq, Repr

/-- one command on (workspace node, recorded child, cache) -/
def runCmd (ctx : Ctx κ) (fuel : Nat) : Cmd → Node κ × Child × Store κ →
    Except Err (Node κ × Child × Store κ)
  | .commit strat, (w, c, s) => commitNode ctx strat w c s
  | .checkout strat, (w, c, s) =>
    match checkoutNode ctx strat s fuel (some w) c with
    | .error e => .error e
    | .ok r => .ok (r, c, s)

def runCmds (ctx : Ctx κ) (fuel : Nat) : List Cmd → Node κ × Child × Store κ →
    Except Err (Node κ × Child × Store κ)
  | [], st => .ok st
  | cmd :: r, st =>
    match runCmd ctx fuel cmd st with
    | .error e => .error e
    | .ok st' => runCmds ctx fuel r st'

/-- the workspace is all links or all copies, the child is the one first recorded, the store is
consistent and holds the tree -/
def SeqInv (ctx : Ctx κ) (t : Node κ) (nm : Bytes) (st : Node κ × Child × Store κ) : Prop :=
  (∃ σ, st.1 = wsAfter ctx σ t) ∧ st.2.1 = ⟨nm, treeDigest ctx nm t, t.isDir⟩ ∧
    Consistent ctx st.2.2 ∧ HoldsNode ctx st.2.2 newChoice nm t

theorem runCmd_inv (ctx : Ctx κ) (g : Good ctx) (t : Node κ) (nm : Bytes)
    (hp : t.plain = true) (hs : t.sorted = true) (hn : NamesOK ctx t) (fuel : Nat)
    (hf : depth t ≤ fuel) (cmd : Cmd) (st : Node κ × Child × Store κ) (hinv : SeqInv ctx t nm st) :
    ∃ st', runCmd ctx fuel cmd st = .ok st' ∧ SeqInv ctx t nm st' := by
  obtain ⟨w, c, s⟩ := st
  obtain ⟨⟨σ, hw⟩, hc, hcons, hh⟩ := hinv
  simp only at hw hc hcons hh
  subst hw hc
  cases cmd with
  | commit strat =>
    obtain ⟨s', h, hc', _, _, hh', _⟩ := commit_idem_holding ctx g t nm hp hs hn s hcons hh σ strat
    refine ⟨_, h, ⟨?_, rfl, hc', hh'⟩⟩
    cases σ
    · exact ⟨.link, rfl⟩
    · exact ⟨strat, rfl⟩
  | checkout strat =>
    have h := checkoutNode_over g s σ strat t newChoice nm fuel hp hs hn hh hf
    rw [digestAs_new] at h
    exact ⟨(wsAfter ctx (coStrat σ strat) t, ⟨nm, treeDigest ctx nm t, t.isDir⟩, s),
      by simp [runCmd, h], ⟨⟨_, rfl⟩, rfl, hcons, hh⟩⟩

theorem runCmds_inv (ctx : Ctx κ) (g : Good ctx) (t : Node κ) (nm : Bytes)
    (hp : t.plain = true) (hs : t.sorted = true) (hn : NamesOK ctx t) (fuel : Nat)
    (hf : depth t ≤ fuel) : ∀ (cmds : List Cmd) (st : Node κ × Child × Store κ),
    SeqInv ctx t nm st → ∃ st', runCmds ctx fuel cmds st = .ok st' ∧ SeqInv ctx t nm st'
  | [], st, hinv => ⟨st, rfl, hinv⟩
  | cmd :: r, st, hinv => by
    obtain ⟨st1, h1, hinv1⟩ := runCmd_inv ctx g t nm hp hs hn fuel hf cmd st hinv
    obtain ⟨st2, h2, hinv2⟩ := runCmds_inv ctx g t nm hp hs hn fuel hf r st1 hinv1
    exact ⟨st2, by simp [runCmds, h1, h2], hinv2⟩

/-- **Any sequence of commits and checkouts (either strategy each) after a first commit** of a
plain sorted tree succeeds, keeps the recorded child artifact and the logical content of the
workspace; the workspace is always all-links or all-copies.  (Checkouts here are over the existing
workspace; "partial": removal of the workspace entry in between is not among these commands,
`commit_checkout_wipe_sequence` in `Props/C15seq.lean` has it.) -/
theorem commit_checkout_sequence_partial (ctx : Ctx κ) (g : Good ctx) (t : Node κ) (nm : Bytes)
    (hp : t.plain = true) (hs : t.sorted = true) (hn : NamesOK ctx t)
    (s : Store κ) (hc : Consistent ctx s) (strat : Strat) (cmds : List Cmd) (fuel : Nat)
    (hf : depth t ≤ fuel) :
    ∃ t' c' s', commitNode ctx strat t ⟨nm, "", t.isDir⟩ s = .ok (t', c', s') ∧
      ∃ w s'', runCmds ctx fuel cmds (t', c', s') = .ok (w, c', s'') ∧
        deref ctx s'' w = t ∧ (∃ σ, w = wsAfter ctx σ t) ∧ Consistent ctx s'' ∧
        c'.sum = treeDigest ctx nm t := by
  obtain ⟨s', h, hc', _, hh⟩ := commitNode_fresh g t hp hn nm s strat hc
  obtain ⟨⟨w, c2, s''⟩, hrun, ⟨σ, hw⟩, hc2, hcons, hh''⟩ :=
    runCmds_inv ctx g t nm hp hs hn fuel hf cmds
      (wsAfter ctx strat t, ⟨nm, treeDigest ctx nm t, t.isDir⟩, s') ⟨⟨strat, rfl⟩, rfl, hc', hh⟩
  simp only at hw hc2 hcons hh''
  subst hw hc2
  exact ⟨_, _, s', h, _, s'', hrun, deref_wsAfter hp hh'' σ, ⟨σ, rfl⟩, hcons, rfl⟩

namespace Example

/-- (a) on the example tree -/
example (strat strat2 : Strat) :
    ∃ t' c' s', commitNode ctx strat tree ⟨[116], "", true⟩ [] = .ok (t', c', s') ∧
      ∃ t'' s'', commitNode ctx strat2 t' c' s' = .ok (t'', c', s'') ∧ deref ctx s'' t'' = tree ∧
        Store.le ctx s'' s' := by
  obtain ⟨t', c', s', h, t'', s'', h2, hd, _, _, hback, _⟩ :=
    commit_idem ctx good tree [116] tree_plain tree_sorted tree_names [] empty_consistent strat strat2
  exact ⟨t', c', s', h, t'', s'', h2, hd, hback⟩

/-- (c) on the example tree: every second checkout succeeds and keeps the logical content -/
example (strat strat1 strat2 : Strat) :
    ∃ t' c' s', commitNode ctx strat tree ⟨[116], "", true⟩ [] = .ok (t', c', s') ∧
      ∃ w w', checkoutNode ctx strat1 s' 3 none c' = .ok w ∧
        checkoutNode ctx strat2 s' 3 (some w) c' = .ok w' ∧ deref ctx s' w' = tree := by
  obtain ⟨s', h, _, _, hh⟩ := commitNode_fresh good tree tree_plain tree_names [116] [] strat
    empty_consistent
  obtain ⟨w, hw, _, hw2, hd⟩ := checkout_idem ctx good tree [116] tree_plain tree_sorted tree_names
    s' newChoice hh 3 (Nat.le_of_eq tree_depth) strat1 strat2
  rw [digestAs_new] at hw hw2
  exact ⟨_, _, s', h, w, _, hw, hw2, hd⟩

/-- the example tree with other bytes in `a` -/
def treeOther : Node K :=
  .dir [([97], .file (.raw "something else")),
        ([98], .dir [([99], .file (.raw "gamma")), ([100], .dir [])]),
        ([101], .file (.raw "alpha"))]

/-- negative witness on the example tree: a file with other bytes is in the way -/
example (strat strat2 : Strat) :
    ∃ t' c' s', commitNode ctx strat tree ⟨[116], "", true⟩ [] = .ok (t', c', s') ∧
      checkoutNode ctx strat2 s' 3 (some treeOther) c' = .error .exists_ := by
  obtain ⟨s', h, _, _, hh⟩ := commitNode_fresh good tree tree_plain tree_names [116] [] strat
    empty_consistent
  have := checkout_over_different_file_dir_fails ctx good s' newChoice [116] [97] (.raw "alpha")
    (.raw "something else") (by simp)
    [([98], .dir [([99], .file (.raw "gamma")), ([100], .dir [])]), ([101], .file (.raw "alpha"))]
    [([98], .dir [([99], .file (.raw "gamma")), ([100], .dir [])]), ([101], .file (.raw "alpha"))]
    (by have h := tree_sorted; simp only [tree, Node.sorted] at h; exact h)
    (namesOK_dir tree_names) hh strat2 1
  rw [digestAs_new] at this
  exact ⟨_, _, s', h, this⟩

def show_ (r : Except Err (Node K)) (s : Store K) : String :=
  match r with
  | .error e => s!"error {e}"
  | .ok w => s!"ok, logical content = tree: {nodeBEq (deref ctx s w) tree}"

/-- executable evidence: commit, commit again, checkout twice -/
def idem (strat strat2 : Strat) : String :=
  match commitNode ctx strat tree ⟨[116], "", true⟩ [] with
  | .error e => s!"commit error {e}"
  | .ok (t', c', s') =>
    match commitNode ctx strat2 t' c' s' with
    | .error e => s!"second commit error {e}"
    | .ok (t'', c'', s'') =>
      s!"second commit: same child {c'' == c'}, workspace unchanged {nodeBEq t'' t'}, " ++
      s!"logical {nodeBEq (deref ctx s'' t'') tree}; " ++
      (match checkoutNode ctx strat s'' 3 none c' with
       | .error e => s!"checkout error {e}"
       | .ok w =>
         s!"checkout ({repr strat2}) over the ({repr strat}) checkout: " ++
         s!"{show_ (checkoutNode ctx strat2 s'' 3 (some w) c') s''}, " ++
         (match checkoutNode ctx strat2 s'' 3 (some w) c' with
          | .ok w' => s!"workspace unchanged {nodeBEq w' w}; "
          | .error _ => "; ") ++
         s!"over other bytes: {show_ (checkoutNode ctx strat2 s'' 3 (some treeOther) c') s''}; " ++
         s!"commit of the checkout records the same child: " ++
         (match commitNode ctx strat w c' s'' with
          | .ok (_, c3, _) => s!"{c3 == c'}"
          | .error e => s!"error {e}"))

#eval idem .link .link
#eval idem .link .copy
#eval idem .copy .link
#eval idem .copy .copy

/-- executable evidence for the sequence theorem -/
def seqDemo (cmds : List Cmd) : String :=
  match commitNode ctx .copy tree ⟨[116], "", true⟩ [] with
  | .error e => s!"commit error {e}"
  | .ok (t', c', s') =>
    match runCmds ctx 3 cmds (t', c', s') with
    | .error e => s!"error {e}"
    | .ok (w, c, s) => s!"child kept: {c == c'}; logical content kept: {nodeBEq (deref ctx s w) tree}"

#eval seqDemo [.checkout .link, .commit .link, .checkout .copy, .commit .copy, .checkout .link,
  .checkout .copy, .commit .link, .commit .copy]

end Example

#print axioms wsAfter2_link
#print axioms wsAfter2_copy_copy
#print axioms wsAfter2_copy_link
#print axioms commit_holding
#print axioms commit_idem_holding
#print axioms commit_idem
#print axioms checkout_idem_link
#print axioms checkout_after_commit_noop
#print axioms checkout_idem
#print axioms coStrat_copy
#print axioms coStrat_link
#print axioms coStrat_self
#print axioms checkout_idem_copy
#print axioms checkout_idem_same
#print axioms checkout_over_different_file_fails
#print axioms checkout_over_different_file_dir_fails
#print axioms commit_after_checkout
#print axioms commit_checkout_commit
#print axioms runCmd_inv
#print axioms runCmds_inv
#print axioms commit_checkout_sequence_partial
#print axioms commitNode_linked
#print axioms commitEntries_linked
#print axioms checkoutChildren_linked
#print axioms checkoutNode_ws
#print axioms checkoutChildren_ws
#print axioms checkoutNode_over
#print axioms checkoutChildren_over
#print axioms childrenOK_childrenAs
#print axioms readManifest_holds
#print axioms checkoutNode_holds
#print axioms checkoutChildren_holds
#print axioms compatNode_of_holds
#print axioms compatList_of_holds

end Dud
