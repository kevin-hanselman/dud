import DudModel.Lemmas.Owner
import DudModel.Generated.Facts
/-!
# C10 — artifact ownership: no overlapping outputs in the index, no overlapping artifacts in a stage

All positive theorems are about the *intended* behaviour, selected by the two regenerated facts
`wa = walkAccumulates = true` (the ancestor walk of `FindDirArtifactOwnerForPath` accumulates the
directory) and `rev = addStageChecksReverse = true` (`AddStage` also rejects a new directory output
that encloses an existing output).  The negative witnesses (section 8) are stated with explicit
`false` arguments: they exhibit what the other value of each fact does (the generated
`Dud.Facts.ownerWalkAccumulates` and `Dud.Facts.addStageChecksReverse` are `true`, see
`ownership_facts_obligation`).

Hypotheses used throughout (`OutWF`, `StageWF`): artifact paths are `CleanRel` (what
`filepath.Clean` in `stage.FromFile` produces for a relative, non-escaping, non-"." path) and an
artifact map has one entry per path (Go maps keyed by path).
-/
namespace Dud
open Path

/-! ## 1. Go's path functions on clean relative paths

`Props/C10path.lean` (the owner walk of `Lemmas/Owner.lean` rests on it). -/

/-! ## 2. the owner walk decides `Inside` -/

/-- a reported owner is an entry of the map, and the path lies inside it (at any depth, honouring
disable-recursion).  No hypothesis on the map. -/
theorem findDirOwner_sound {p : Bytes} {arts : List Art} {o : Art} (hp : CleanRel p)
    (h : findDirOwner true p arts = some o) : o ∈ arts ∧ Inside { path := p } o :=
  ⟨(findDirOwner_sound_path hp h).1, (findDirOwner_sound_path hp h).2 _ rfl⟩

/-- `Inside` only looks at the path of its first argument -/
theorem findDirOwner_sound_any {p : Bytes} {arts : List Art} {o : Art} (hp : CleanRel p)
    (h : findDirOwner true p arts = some o) (x : Art) (hx : x.path = p) : Inside x o :=
  (findDirOwner_sound_path hp h).2 x hx

/-- if the path lies inside some entry of the map, an owner is reported.  Needs the map to have one
entry per path (see `findDirOwner_complete_needs_nodup`). -/
theorem findDirOwner_complete {p : Bytes} {arts : List Art} (hp : CleanRel p)
    (hnd : (arts.map (·.path)).Nodup)
    (h : ∃ o ∈ arts, CleanRel o.path ∧ Inside { path := p } o) :
    (findDirOwner true p arts).isSome = true := by
  obtain ⟨o, ho, hc, hin⟩ := h
  exact findDirOwner_complete_path hp hnd
    ⟨o, ho, hc, fun x hx => (Inside.congr_left (x := x) (y := { path := p }) hx).2 hin⟩

/-- both directions at once, for the path of an artifact -/
theorem findDirOwner_none_iff {x : Art} {arts : List Art} (hp : CleanRel x.path)
    (hnd : (arts.map (·.path)).Nodup) (hcl : ∀ o ∈ arts, CleanRel o.path) :
    findDirOwner true x.path arts = none ↔ ∀ o ∈ arts, ¬ Inside x o :=
  findDirOwner_eq_none_iff hp hnd hcl

/-- what the spec relation `Inside` says about the byte strings themselves: `x` lies inside `d` iff
its path is `d`'s path, a slash, and a non-empty rest — a single component when `d` has
`disable-recursion` set -/
theorem inside_iff_path_prefix {x d : Art} (hx : CleanRel x.path) (hd : CleanRel d.path) :
    Inside x d ↔ ∃ r, x.path = d.path ++ slash :: r ∧ (d.noRec = false ∨ slash ∉ r) := by
  obtain ⟨hxne, hxg, hxp⟩ := hx.comps
  obtain ⟨hdne, hdg, hdp⟩ := hd.comps
  constructor
  · rintro ⟨hlen, htake, hc⟩
    have hsplit : comps x.path = comps d.path ++ (comps x.path).drop (comps d.path).length := by
      conv => lhs; rw [← List.take_append_drop (comps d.path).length (comps x.path), htake]
    have htl : (comps x.path).drop (comps d.path).length ≠ [] := by
      intro e
      have := congrArg List.length e
      simp at this; omega
    refine ⟨intercalate ((comps x.path).drop (comps d.path).length), ?_, ?_⟩
    · conv => lhs; rw [hxp, hsplit, PathSpec.intercalate_append hdne htl, ← hdp]
    · rcases hc with h | h
      · exact Or.inl h
      · right
        obtain ⟨c, hh⟩ := List.length_eq_one_iff.1
          (show ((comps x.path).drop (comps d.path).length).length = 1 by simp; omega)
        rw [hh]
        exact (hxg c (List.mem_of_mem_drop (hh ▸ List.mem_singleton.2 rfl))).noslash
  · rintro ⟨r, hr, hc⟩
    have e1 : splitSlash x.path = comps x.path :=
      (congrArg splitSlash hxp).trans (splitSlash_cleanRel hxne hxg)
    have e2 : splitSlash (d.path ++ slash :: r) = comps d.path ++ splitSlash r := by
      rw [PathSpec.splitSlash_append_slash, ← splitSlash_cleanRel hdne hdg, ← hdp]
    have h1 : comps x.path = comps d.path ++ splitSlash r := by rw [← e1, hr, e2]
    have hne := PathSpec.splitSlash_ne_nil r
    have hpos : 0 < (splitSlash r).length := List.length_pos_iff.2 hne
    refine ⟨by rw [h1]; simp; omega, by rw [h1]; exact List.take_left' rfl, ?_⟩
    rcases hc with h | h
    · exact Or.inl h
    · right; rw [h1, PathSpec.splitSlash_noslash h]; simp

theorem overlaps_symm {a b : Art} : Overlaps a b ↔ Overlaps b a :=
  ⟨Overlaps.symm, Overlaps.symm⟩

/-! ## 3. `Stage.Validate` -/

/-- Full characterisation: a well-formed stage validates iff the side conditions hold and no
artifact (input or output) equals or lies inside another one. -/
theorem validate_iff {stg : Stage} {sp : Bytes} (hwf : StageWF stg) :
    stg.validate true sp = true ↔ SideOK stg sp ∧ NoSelfOverlap stg := by
  have hcl : ∀ a ∈ stg.outputs ++ stg.inputs, CleanRel a.path := fun a ha => by
    rcases List.mem_append.1 ha with h | h
    · exact hwf.cleanOut a h
    · exact hwf.cleanIn a h
  rw [validate_unfold]
  constructor
  · rintro ⟨hs, h5, h7⟩
    have hdisj : ∀ a ∈ stg.outputs, ∀ b ∈ stg.inputs, a.path ≠ b.path := fun a ha b hb e =>
      findArt_eq_none.1 (h5 a ha) b hb e.symm
    exact ⟨hs, hdisj, (noOwner_iff_noOverlap (hwf.nodup_all hdisj) hcl).1 fun a ha => (h7 a ha).2⟩
  · rintro ⟨hs, hdisj, hno⟩
    exact ⟨hs, fun a ha => findArt_eq_none.2 fun b hb e => hdisj a ha b hb e.symm, fun a ha =>
      ⟨(hcl a ha).isAbs, (noOwner_iff_noOverlap (hwf.nodup_all hdisj) hcl).2 hno a ha⟩⟩

/-- With the side conditions out of the way, validation is exactly absence of overlap: "no single
stage lists an artifact equal to or inside another of its own artifacts, and no stage is rejected
for an overlap that does not exist". -/
theorem validate_overlap_iff {stg : Stage} {sp : Bytes} (hwf : StageWF stg) (hside : SideOK stg sp) :
    stg.validate true sp = true ↔
      (∀ a ∈ stg.outputs, ∀ b ∈ stg.inputs, a.path ≠ b.path) ∧
      ∀ a ∈ stg.outputs ++ stg.inputs, ∀ b ∈ stg.outputs ++ stg.inputs, a ≠ b → ¬ Overlaps a b := by
  rw [validate_iff hwf]
  exact ⟨fun h => h.2, fun h => ⟨hside, h⟩⟩

/-- The statement with every hypothesis spelled out.  `_partial`: compared with the intended
statement ("wd/emptiness conditions hold, all paths `CleanRel` and `≠ stagePath`") it needs the
extra hypothesis `hdd`, because `Validate` rejects every path that merely *contains* the substring
".." (`strings.Contains(artPath, "..")`, stage.go:191), e.g. the clean relative path `a..b` —
see `validate_rejects_dotdot_substring`. -/
theorem validate_overlap_iff_partial (stg : Stage) (sp : Bytes)
    (hclO : ∀ a ∈ stg.outputs, CleanRel a.path) (hclI : ∀ a ∈ stg.inputs, CleanRel a.path)
    (hndO : (stg.outputs.map (·.path)).Nodup) (hndI : (stg.inputs.map (·.path)).Nodup)
    (hwd : Path.containsDotDot stg.wd = false ∧ Path.isAbs stg.wd = false)
    (hne : ¬ (stg.inputs = [] ∧ stg.outputs = [])) (hcmd : ¬ (stg.outputs = [] ∧ stg.cmd = []))
    (hsp : ∀ a ∈ stg.outputs ++ stg.inputs, a.path ≠ sp)
    (hdd : ∀ a ∈ stg.outputs ++ stg.inputs, Path.containsDotDot a.path = false) :
    stg.validate true sp = true ↔
      (∀ a ∈ stg.outputs, ∀ b ∈ stg.inputs, a.path ≠ b.path) ∧
      ∀ a ∈ stg.outputs ++ stg.inputs, ∀ b ∈ stg.outputs ++ stg.inputs, a ≠ b → ¬ Overlaps a b :=
  validate_overlap_iff ⟨hclO, hclI, hndO, hndI⟩ ⟨hwd.1, hwd.2, hne, hcmd, hsp, hdd⟩

/-- the direction "accepted ⇒ no overlap" does not need `SideOK` -/
theorem validate_no_overlap {stg : Stage} {sp : Bytes} (hwf : StageWF stg)
    (h : stg.validate true sp = true) : NoSelfOverlap stg := ((validate_iff hwf).1 h).2

/-- `CleanRel` need not be assumed for a stage that went through `stage.FromFile`: the paths were
`filepath.Clean`ed, and `Validate` rejects absolute paths, paths containing ".." and (because a
"." artifact is found as its own owner) the path ".". -/
theorem validate_cleanRel {stg : Stage} {sp : Bytes}
    (hclean : ∀ a ∈ stg.outputs ++ stg.inputs, ∃ q, a.path = Path.clean q)
    (h : stg.validate true sp = true) : ∀ a ∈ stg.outputs ++ stg.inputs, CleanRel a.path :=
  cleanRel_of_validate hclean h

theorem stageWF_of_fromFile {stg : Stage} {sp : Bytes} (hs : FromFileShape stg)
    (h : stg.validate true sp = true) : StageWF stg := hs.wf h

/-- the view `Validate` itself has: the consolidated map `allArtifacts` has one entry per path, and
in it distinct entries never overlap -/
theorem validate_allArtifacts {stg : Stage} {sp : Bytes} (hwf : StageWF stg)
    (h : stg.validate true sp = true) :
    ((stg.outputs ++ stg.inputs).map (·.path)).Nodup ∧
    ∀ a ∈ stg.outputs ++ stg.inputs, ∀ b ∈ stg.outputs ++ stg.inputs,
      Overlaps a b → a = b := by
  obtain ⟨_, hd, hno⟩ := (validate_iff hwf).1 h
  refine ⟨hwf.nodup_all hd, fun a ha b hb hov => ?_⟩
  exact Classical.byContradiction fun hne => hno a ha b hb hne hov

/-! ## 4. `Index.AddStage` (with the reverse check) -/

theorem addStage_iff {idx : Index} {sp : Bytes} {stg : Stage} {r : Index}
    (hidx : ∀ q ∈ idx, OutWF q.2) (hstg : OutWF stg) :
    addStage true true idx sp stg = .ok r ↔
      alookup idx sp = none ∧
      (∀ a ∈ stg.outputs, ∀ q ∈ idx, ∀ b ∈ q.2.outputs, ¬ Overlaps a b) ∧
      r = idx ++ [(sp, stg)] := addStage_ok_iff hidx hstg

/-- … in particular a stage is never rejected for an overlap that does not exist -/
theorem addStage_accepts {idx : Index} {sp : Bytes} {stg : Stage}
    (hidx : ∀ q ∈ idx, OutWF q.2) (hstg : OutWF stg) (hnew : alookup idx sp = none)
    (hno : ∀ a ∈ stg.outputs, ∀ q ∈ idx, ∀ b ∈ q.2.outputs, ¬ Overlaps a b) :
    addStage true true idx sp stg = .ok (idx ++ [(sp, stg)]) :=
  (addStage_iff hidx hstg).2 ⟨hnew, hno, rfl⟩

/-! ## 5. the index invariant -/

/-- characterisation of `index.FromFile` -/
theorem loadIndex_iff {l : List (Bytes × Stage)} {idx : Index} (hl : ∀ q ∈ l, OutWF q.2) :
    loadIndex true true l [] = .ok idx ↔
      idx = l ∧ (∀ q ∈ l, q.2.validate true q.1 = true) ∧ (l.map Prod.fst).Nodup ∧ IndexOK l := by
  rw [loadIndex_acc l [] idx (by simp) hl]
  simp [IndexOK]

/-- a loaded index never holds two outputs of different stages where one equals or lies inside the
other -/
theorem index_invariant {l : List (Bytes × Stage)} {idx : Index} (hl : ∀ q ∈ l, OutWF q.2)
    (h : loadIndex true true l [] = .ok idx) : IndexOK idx := by
  obtain ⟨rfl, _, _, hok⟩ := (loadIndex_iff hl).1 h
  exact hok

/-- … every stage in it validated, so within a stage there is no overlap either -/
theorem index_invariant_within {l : List (Bytes × Stage)} {idx : Index} (hl : ∀ q ∈ l, StageWF q.2)
    (h : loadIndex true true l [] = .ok idx) :
    ∀ q ∈ idx, SideOK q.2 q.1 ∧ NoSelfOverlap q.2 := by
  obtain ⟨rfl, hv, _, _⟩ := (loadIndex_iff fun q hq => (hl q hq).out).1 h
  exact fun q hq => (validate_iff (hl q hq)).1 (hv q hq)

/-- … and stage paths are distinct -/
theorem index_keys_nodup {l : List (Bytes × Stage)} {idx : Index} (hl : ∀ q ∈ l, OutWF q.2)
    (h : loadIndex true true l [] = .ok idx) : (idx.map Prod.fst).Nodup := by
  obtain ⟨rfl, _, hn, _⟩ := (loadIndex_iff hl).1 h
  exact hn

/-- all outputs of a loaded index, whichever stages they belong to: any two that overlap are the
same output of the same stage -/
theorem index_outputs_disjoint {l : List (Bytes × Stage)} {idx : Index} (hl : ∀ q ∈ l, StageWF q.2)
    (h : loadIndex true true l [] = .ok idx) :
    ∀ q1 ∈ idx, ∀ q2 ∈ idx, ∀ a ∈ q1.2.outputs, ∀ b ∈ q2.2.outputs,
      Overlaps a b → q1 = q2 ∧ a = b := by
  have hwithin := index_invariant_within hl h
  have hok := index_invariant (fun q hq => (hl q hq).out) h
  intro q1 h1 q2 h2 a ha b hb hov
  by_cases e : q1 = q2
  · subst e
    refine ⟨rfl, Classical.byContradiction fun hne => ?_⟩
    exact (hwithin q1 h1).2.2 a (List.mem_append_left _ ha) b (List.mem_append_left _ hb) hne hov
  · -- `NoOverlap` is not reflexive: `x ≠ y → NoOverlap x y` is, and is what core's lemma asks for
    exact absurd hov (List.Pairwise.forall_of_forall_of_flip
      (R := fun x y => x ≠ y → NoOverlap x y) (fun _ _ h => absurd rfl h)
      (hok.imp (S := fun x y => x ≠ y → NoOverlap x y) fun h _ => h)
      (hok.imp (S := fun x y => y ≠ x → NoOverlap y x) fun h _ => h.symm)
      h1 h2 e a ha b hb)

/-! ## 6. acceptance does not depend on the order of insertion -/

theorem NoOverlap_symm : ∀ {x y : Bytes × Stage}, NoOverlap x y → NoOverlap y x := NoOverlap.symm

theorem accept_perm_iff {l1 l2 : List (Bytes × Stage)} (hp : l1.Perm l2) (hl : ∀ q ∈ l1, OutWF q.2) :
    (∃ idx, loadIndex true true l1 [] = .ok idx) ↔ (∃ idx, loadIndex true true l2 [] = .ok idx) := by
  have key : ∀ {l1 l2 : List (Bytes × Stage)}, l1.Perm l2 → (∀ q ∈ l1, OutWF q.2) →
      (∃ idx, loadIndex true true l1 [] = .ok idx) → ∃ idx, loadIndex true true l2 [] = .ok idx := by
    rintro l1 l2 hp hl ⟨_, h⟩
    obtain ⟨-, hv, hn, hok⟩ := (loadIndex_iff hl).1 h
    exact ⟨l2, (loadIndex_iff fun q hq => hl q (hp.mem_iff.2 hq)).2 ⟨rfl,
      fun q hq => hv q (hp.mem_iff.2 hq), ((hp.map _).nodup_iff).1 hn,
      (hp.pairwise_iff NoOverlap.symm).1 hok⟩⟩
  exact ⟨key hp hl, key hp.symm fun q hq => hl q (hp.mem_iff.2 hq)⟩

theorem isOk_iff {α : Type} (e : Except Err α) : e.isOk = true ↔ ∃ a, e = .ok a := by
  cases e <;> simp [Except.isOk, Except.toBool]

/-- whether a set of stages is accepted does not depend on the order in which they are added
(the hypothesis "distinct stage paths" is not needed: duplicate paths are rejected in any order) -/
theorem accept_perm {l1 l2 : List (Bytes × Stage)} (hp : l1.Perm l2) (hl : ∀ q ∈ l1, OutWF q.2) :
    (loadIndex true true l1 []).isOk = (loadIndex true true l2 []).isOk := by
  rw [Bool.eq_iff_iff, isOk_iff, isOk_iff]
  exact accept_perm_iff hp hl

/-! ## 7. an index written by a successful `stage add` can be loaded again -/

/-- `dud stage add p₁ … pₙ` loads, validates and adds several stages before writing the index:
in the model that is `loadIndex` continued from the loaded index -/
theorem reload_ok_many {l news : List (Bytes × Stage)} {idx idx' : Index}
    (hl : ∀ q ∈ l, OutWF q.2) (hn : ∀ q ∈ news, OutWF q.2)
    (hload : loadIndex true true l [] = .ok idx)
    (hadd : loadIndex true true news idx = .ok idx') :
    ∀ l', l'.Perm idx' → ∃ idx'', loadIndex true true l' [] = .ok idx'' := by
  intro l' hp
  have hall : loadIndex true true (l ++ news) [] = .ok idx' := by
    rw [loadIndex_append, hload]; exact hadd
  have hwf : ∀ q ∈ l ++ news, OutWF q.2 := fun q hq => (List.mem_append.1 hq).elim (hl q) (hn q)
  obtain rfl := loadIndex_ok_eq _ _ _ _ _ hall
  exact (accept_perm_iff hp.symm hwf).1 ⟨_, hall⟩

theorem reload_ok {l : List (Bytes × Stage)} {idx idx' : Index} {sp : Bytes} {stg : Stage}
    (hl : ∀ q ∈ l, OutWF q.2) (hstg : OutWF stg)
    (hload : loadIndex true true l [] = .ok idx)
    (hadd : addStage true true idx sp stg = .ok idx')
    (hval : stg.validate true sp = true) :
    ∀ l', l'.Perm idx' → ∃ idx'', loadIndex true true l' [] = .ok idx'' :=
  reload_ok_many hl (news := [(sp, stg)]) (fun _ hq => List.mem_singleton.1 hq ▸ hstg) hload
    ((loadIndex_cons_unfold true true).2 ⟨hval, idx', hadd, rfl⟩)

/-- the same for the index file as dud writes it (any list of the same stages, e.g. sorted by stage
path), giving the loaded index explicitly -/
theorem reload_ok_eq {l : List (Bytes × Stage)} {idx idx' : Index} {sp : Bytes} {stg : Stage}
    (hl : ∀ q ∈ l, OutWF q.2) (hstg : OutWF stg)
    (hload : loadIndex true true l [] = .ok idx)
    (hadd : addStage true true idx sp stg = .ok idx')
    (hval : stg.validate true sp = true) (l' : List (Bytes × Stage)) (hp : l'.Perm idx') :
    loadIndex true true l' [] = .ok l' := by
  obtain ⟨idx'', h⟩ := reload_ok hl hstg hload hadd hval l' hp
  obtain rfl := loadIndex_ok_eq _ _ _ _ _ h
  exact h

/-! ### the same results assuming only what `stage.FromFile` establishes (`FromFileShape`)

`CleanRel` is then a consequence of validation instead of a hypothesis. -/

theorem outWF_of_loaded {l : List (Bytes × Stage)} {idx0 idx : Index}
    (hs : ∀ q ∈ l, FromFileShape q.2) (h : loadIndex true true l idx0 = .ok idx) :
    ∀ q ∈ l, StageWF q.2 :=
  fun q hq => (hs q hq).wf (loadIndex_ok_validates true true l idx0 idx h q hq)

theorem loadIndex_iff_fromFile {l : List (Bytes × Stage)} {idx : Index}
    (hs : ∀ q ∈ l, FromFileShape q.2) :
    loadIndex true true l [] = .ok idx ↔
      idx = l ∧ (∀ q ∈ l, q.2.validate true q.1 = true) ∧ (l.map Prod.fst).Nodup ∧ IndexOK l := by
  constructor
  · intro h
    exact (loadIndex_iff fun q hq => (outWF_of_loaded hs h q hq).out).1 h
  · intro h
    exact (loadIndex_iff fun q hq => ((hs q hq).wf (h.2.1 q hq)).out).2 h

theorem index_invariant_fromFile {l : List (Bytes × Stage)} {idx : Index}
    (hs : ∀ q ∈ l, FromFileShape q.2) (h : loadIndex true true l [] = .ok idx) :
    IndexOK idx ∧ (idx.map Prod.fst).Nodup ∧
    (∀ q ∈ idx, StageWF q.2 ∧ SideOK q.2 q.1 ∧ NoSelfOverlap q.2) ∧
    ∀ q1 ∈ idx, ∀ q2 ∈ idx, ∀ a ∈ q1.2.outputs, ∀ b ∈ q2.2.outputs,
      Overlaps a b → q1 = q2 ∧ a = b := by
  have hwf := outWF_of_loaded hs h
  have hout : ∀ q ∈ l, OutWF q.2 := fun q hq => (hwf q hq).out
  have hw := index_invariant_within hwf h
  have e : idx = l := ((loadIndex_iff hout).1 h).1
  refine ⟨index_invariant hout h, index_keys_nodup hout h, ?_, index_outputs_disjoint hwf h⟩
  intro q hq
  exact ⟨hwf q (e ▸ hq), hw q hq⟩

theorem accept_perm_fromFile {l1 l2 : List (Bytes × Stage)} (hp : l1.Perm l2)
    (hs : ∀ q ∈ l1, FromFileShape q.2) :
    (loadIndex true true l1 []).isOk = (loadIndex true true l2 []).isOk := by
  have hs2 : ∀ q ∈ l2, FromFileShape q.2 := fun q hq => hs q (hp.mem_iff.2 hq)
  rw [Bool.eq_iff_iff, isOk_iff, isOk_iff]
  constructor
  · rintro ⟨idx, h⟩
    exact (accept_perm_iff hp fun q hq => (outWF_of_loaded hs h q hq).out).1 ⟨idx, h⟩
  · rintro ⟨idx, h⟩
    exact (accept_perm_iff hp.symm fun q hq => (outWF_of_loaded hs2 h q hq).out).1 ⟨idx, h⟩

theorem reload_ok_fromFile {l news : List (Bytes × Stage)} {idx idx' : Index}
    (hl : ∀ q ∈ l, FromFileShape q.2) (hn : ∀ q ∈ news, FromFileShape q.2)
    (hload : loadIndex true true l [] = .ok idx)
    (hadd : loadIndex true true news idx = .ok idx') :
    ∀ l', l'.Perm idx' → loadIndex true true l' [] = .ok l' := by
  intro l' hp
  have h1 := fun q hq => (outWF_of_loaded hl hload q hq).out
  have h2 := fun q hq => (outWF_of_loaded hn hadd q hq).out
  obtain ⟨idx'', h⟩ := reload_ok_many h1 h2 hload hadd l' hp
  obtain rfl := loadIndex_ok_eq _ _ _ _ _ h
  exact h

/-! ## 8. negative witnesses: what the other value of each regenerated fact does -/

/-- so that outcomes of `addStage` / `loadIndex` on concrete data can be compared by `decide` -/
instance C10ex.exceptDecEq {ε α : Type} [DecidableEq ε] [DecidableEq α] : DecidableEq (Except ε α)
  | .ok a, .ok b => if h : a = b then isTrue (h ▸ rfl) else isFalse fun e => h (Except.ok.inj e)
  | .error a, .error b =>
    if h : a = b then isTrue (h ▸ rfl) else isFalse fun e => h (Except.error.inj e)
  | .ok _, .error _ => isFalse nofun
  | .error _, .ok _ => isFalse nofun

namespace C10ex

def p_a_b : Bytes := [0x61, 0x2F, 0x62]                               -- "a/b"
def p_a_b_c : Bytes := [0x61, 0x2F, 0x62, 0x2F, 0x63, 0x2E, 0x74, 0x78, 0x74]   -- "a/b/c.txt"
def p_b : Bytes := [0x62]                                             -- "b"
def p_x_b_f : Bytes := [0x78, 0x2F, 0x62, 0x2F, 0x66, 0x2E, 0x74, 0x78, 0x74]   -- "x/b/f.txt"
def p_x : Bytes := [0x78]                                             -- "x"
def p_x_y : Bytes := [0x78, 0x2F, 0x79, 0x2E, 0x74, 0x78, 0x74]       -- "x/y.txt"
def spD : Bytes := [0x64, 0x2E, 0x79]                                 -- "d.y"   (sorts first)
def spF : Bytes := [0x66, 0x2E, 0x79]                                 -- "f.y"

def dirAB : Art := { path := p_a_b, isDir := true }
def dirB : Art := { path := p_b, isDir := true }
/-- stage D: one directory output `x` -/
def stgD : Stage := { cmd := [0x63], outputs := [{ path := p_x, isDir := true }] }
/-- stage F: one file output `x/y.txt` -/
def stgF : Stage := { cmd := [0x63], outputs := [{ path := p_x_y }] }
end C10ex

open C10ex

/-- `wa = false` (shadowed loop variable): the directory output `a/b` is not found as owner of
`a/b/c.txt` although the file lies inside it … -/
theorem owner_lookup_missed :
    findDirOwner false p_a_b_c [dirAB] = none ∧ Inside { path := p_a_b_c } dirAB ∧
    CleanRel p_a_b_c ∧ CleanRel dirAB.path := by decide +kernel

/-- … while the accumulating walk finds it -/
theorem owner_lookup_found : findDirOwner true p_a_b_c [dirAB] = some dirAB := by decide +kernel

/-- `wa = false`: the directory output `b` is reported as owner of `x/b/f.txt` although that file
does not lie inside it … -/
theorem owner_lookup_spurious :
    findDirOwner false p_x_b_f [dirB] = some dirB ∧ ¬ Inside { path := p_x_b_f } dirB ∧
    CleanRel p_x_b_f ∧ CleanRel dirB.path := by decide +kernel

/-- … while the accumulating walk does not -/
theorem owner_lookup_not_spurious : findDirOwner true p_x_b_f [dirB] = none := by decide +kernel

/-- `rev = false` (even with the correct walk): adding F (file `x/y.txt`) then D (directory `x`) is
accepted, D then F is rejected -/
theorem add_order_dependent :
    loadIndex true false [(spF, stgF), (spD, stgD)] [] = .ok [(spF, stgF), (spD, stgD)] ∧
    loadIndex true false [(spD, stgD), (spF, stgF)] [] = .error .owned := by decide +kernel

/-- the same two stages step by step, through `addStage` itself -/
theorem add_order_dependent_addStage :
    addStage true false [(spF, stgF)] spD stgD = .ok [(spF, stgF), (spD, stgD)] ∧
    addStage true false [(spD, stgD)] spF stgF = .error .owned ∧
    stgD.validate true spD = true ∧ stgF.validate true spF = true := by decide +kernel

/-- `rev = false`: the index accepted above, written to the index file (sorted by stage path, D
first) and loaded by the next command, is rejected -/
theorem accepted_index_unloadable :
    addStage true false [(spF, stgF)] spD stgD = .ok [(spF, stgF), (spD, stgD)] ∧
    [(spD, stgD), (spF, stgF)].Perm [(spF, stgF), (spD, stgD)] ∧
    decide (spD < spF) = true ∧
    loadIndex true false [(spD, stgD), (spF, stgF)] [] = .error .owned := by
  refine ⟨by decide +kernel, List.Perm.swap _ _ _, by decide +kernel, by decide +kernel⟩

/-- with `rev = true` both orders are rejected: the overlap is seen from either side -/
theorem add_order_independent_witness :
    loadIndex true true [(spF, stgF), (spD, stgD)] [] = .error .owned ∧
    loadIndex true true [(spD, stgD), (spF, stgF)] [] = .error .owned := by decide +kernel

/-- completeness of the owner walk needs one entry per path: with two entries for `x`, the first
non-recursive, the (recursive) second one is never consulted -/
theorem findDirOwner_complete_needs_nodup :
    let arts : List Art := [{ path := p_x, isDir := true, noRec := true }, { path := p_x, isDir := true }]
    findDirOwner true [0x78, 0x2F, 0x61, 0x2F, 0x62] arts = none ∧
    Inside { path := [0x78, 0x2F, 0x61, 0x2F, 0x62] } { path := p_x, isDir := true } := by decide +kernel

/-- `Validate` rejects a clean relative path merely containing ".." as a substring (`a..b`): the
hypothesis `SideOK.noDotDot` of `validate_overlap_iff` cannot be dropped -/
theorem validate_rejects_dotdot_substring :
    let stg : Stage := { cmd := [0x63], outputs := [{ path := [0x61, 0x2E, 0x2E, 0x62] }] }
    CleanRel [0x61, 0x2E, 0x2E, 0x62] ∧ stg.validate true spD = false ∧ NoSelfOverlap stg ∧ StageWF stg := by
  refine ⟨by decide +kernel, by decide +kernel, ⟨by simp, ?_⟩,
    ⟨by decide +kernel, by simp, by decide +kernel, by decide +kernel⟩⟩
  intro a ha b hb hne
  simp at ha hb; subst ha; subst hb; exact absurd rfl hne

/-! ## 9. non-vacuity of the hypothesis bundles -/

example : OutWF stgD := ⟨by decide +kernel, by decide +kernel⟩
example : OutWF stgF := ⟨by decide +kernel, by decide +kernel⟩

/-- a two-stage index with nested (non-overlapping) directories and a disable-recursion directory,
accepted in both orders -/
def stgP : Stage :=
  { cmd := [0x63], inputs := [{ path := p_x_y, skip := true }],
    outputs := [{ path := p_a_b, isDir := true, noRec := true }] }
def stgQ : Stage := { cmd := [0x63], outputs := [{ path := p_a_b_c ++ [0x2F, 0x7A] }, { path := p_b, isDir := true }] }

theorem stgP_wf : StageWF stgP :=
  ⟨by decide +kernel, by decide +kernel, by decide +kernel, by decide +kernel⟩
theorem stgQ_wf : StageWF stgQ :=
  ⟨by decide +kernel, by decide +kernel, by decide +kernel, by decide +kernel⟩

example : FromFileShape stgP ∧ FromFileShape stgQ := by
  refine ⟨⟨?_, by decide +kernel, by decide +kernel⟩, ⟨?_, by decide +kernel, by decide +kernel⟩⟩
  · intro a ha; refine ⟨a.path, ?_⟩; simp [stgP] at ha; rcases ha with rfl | rfl <;> decide +kernel
  · intro a ha; refine ⟨a.path, ?_⟩; simp [stgQ] at ha; rcases ha with rfl | rfl <;> decide +kernel

example : SideOK stgP spD ∧ NoSelfOverlap stgP := (validate_iff stgP_wf).1 (by decide +kernel)
example : stgP.validate true spD = true ∧ stgQ.validate true spF = true := by decide +kernel

/-- the disable-recursion directory `a/b` does not own `a/b/c.txt/z` two levels down, so the two
stages coexist; hypotheses of `loadIndex_iff`, `index_invariant`, `accept_perm`, `reload_ok` hold -/
example : ∃ idx, loadIndex true true [(spD, stgP), (spF, stgQ)] [] = .ok idx ∧ IndexOK idx ∧
    (∀ q ∈ [(spD, stgP), (spF, stgQ)], StageWF q.2) := by
  have hwf : ∀ q ∈ [(spD, stgP), (spF, stgQ)], StageWF q.2 := by
    intro q hq; simp at hq; rcases hq with rfl | rfl
    · exact stgP_wf
    · exact stgQ_wf
  have h : loadIndex true true [(spD, stgP), (spF, stgQ)] [] = .ok [(spD, stgP), (spF, stgQ)] := by decide +kernel
  exact ⟨_, h, index_invariant (fun q hq => (hwf q hq).out) h, hwf⟩

example : (loadIndex true true [(spF, stgQ), (spD, stgP)] []).isOk = true := by
  rw [← accept_perm (l1 := [(spD, stgP), (spF, stgQ)]) (List.Perm.swap _ _ _)]
  · decide +kernel
  · intro q hq; simp at hq; rcases hq with rfl | rfl
    · exact stgP_wf.out
    · exact stgQ_wf.out

/-- `reload_ok` instantiated: load [P], add Q, reload in the other order -/
example : ∃ idx'', loadIndex true true [(spF, stgQ), (spD, stgP)] [] = .ok idx'' :=
  reload_ok (l := [(spD, stgP)]) (idx := [(spD, stgP)]) (sp := spF) (stg := stgQ)
    (by intro q hq; simp at hq; subst hq; exact stgP_wf.out) stgQ_wf.out (by decide +kernel) (by decide +kernel)
    (by decide +kernel) _ (List.Perm.swap _ _ _)

/-- `Inside` honours disable-recursion: one level below a non-recursive directory is inside, two
levels below is not; below a recursive directory everything is -/
example : Inside { path := p_a_b_c } { path := p_a_b, noRec := true } ∧
    ¬ Inside { path := p_a_b_c ++ [0x2F, 0x7A] } { path := p_a_b, noRec := true } ∧
    Inside { path := p_a_b_c ++ [0x2F, 0x7A] } { path := p_a_b } ∧
    ¬ Overlaps { path := p_a_b } { path := p_b } := by decide +kernel

end Dud

/-- The two regenerated facts the positive theorems of this file are about: the ancestor walk
accumulates the directory, and `AddStage` checks both directions. Reverting either repair in the
Go sources flips the fact and this obligation stops building. -/
theorem Dud.ownership_facts_obligation :
    Dud.Facts.ownerWalkAccumulates = true ∧ Dud.Facts.addStageChecksReverse = true := by decide

#print axioms Dud.cleanRelB_iff
#print axioms Dud.insideB_iff
#print axioms Dud.overlapsB_iff
#print axioms Dud.findDirOwner_sound
#print axioms Dud.findDirOwner_sound_any
#print axioms Dud.findDirOwner_complete
#print axioms Dud.findDirOwner_none_iff
#print axioms Dud.validate_iff
#print axioms Dud.validate_overlap_iff
#print axioms Dud.validate_allArtifacts
#print axioms Dud.addStage_iff
#print axioms Dud.addStage_accepts
#print axioms Dud.loadIndex_iff
#print axioms Dud.index_invariant
#print axioms Dud.index_invariant_within
#print axioms Dud.index_keys_nodup
#print axioms Dud.index_outputs_disjoint
#print axioms Dud.accept_perm_iff
#print axioms Dud.accept_perm
#print axioms Dud.reload_ok
#print axioms Dud.reload_ok_eq
#print axioms Dud.owner_lookup_missed
#print axioms Dud.owner_lookup_found
#print axioms Dud.owner_lookup_spurious
#print axioms Dud.owner_lookup_not_spurious
#print axioms Dud.add_order_dependent
#print axioms Dud.add_order_dependent_addStage
#print axioms Dud.accepted_index_unloadable
#print axioms Dud.add_order_independent_witness
#print axioms Dud.findDirOwner_complete_needs_nodup
#print axioms Dud.validate_rejects_dotdot_substring
#print axioms Dud.validate_overlap_iff_partial
#print axioms Dud.validate_no_overlap
#print axioms Dud.validate_cleanRel
#print axioms Dud.stageWF_of_fromFile
#print axioms Dud.reload_ok_many
#print axioms Dud.loadIndex_iff_fromFile
#print axioms Dud.index_invariant_fromFile
#print axioms Dud.accept_perm_fromFile
#print axioms Dud.reload_ok_fromFile
#print axioms Dud.inside_iff_path_prefix
#print axioms Dud.overlaps_symm
#print axioms Dud.NoOverlap_symm
#print axioms Dud.isOk_iff
#print axioms Dud.outWF_of_loaded
#print axioms Dud.stgP_wf
#print axioms Dud.stgQ_wf
#print axioms Dud.cleanRel_of_clean
#print axioms Dud.loadIndex_acc
#print axioms Dud.goodCompB_iff
#print axioms Dud.ownership_facts_obligation
