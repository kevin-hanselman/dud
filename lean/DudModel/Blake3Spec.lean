import DudModel.Basic
import DudModel.Blake3
/-!
# BLAKE3 as a total, list-based, recursive specification

Core-only.  `DudModel/Blake3.lean` is the executable BLAKE3 the driver uses; it is written with
`partial def`, `ByteArray` and `Id.run` loops, so nothing can be proved about it.  This file restates
the tree mode of the BLAKE3 paper as TOTAL functions over lists, in two layers:

* **Tree layer** (`Params`, `treeNode`, `treeCV`, `treeHash`, `hashSpec`).  The compression function
  is abstract: a chunk is turned into a chaining value (`chunkCV`) or, when it is the whole input,
  into the digest (`chunkRoot`); two chaining values are combined by `parentCV` / `parentRoot`.
  The input is cut into 1024-byte chunks (`splitChunks`; the empty input is ONE empty chunk) and the
  tree is the left-heavy one of the paper: one chunk is a leaf; `n ≥ 2` chunks are a parent of the
  tree over the first `leftLen n` chunks (largest power of two strictly below `n`) and the tree over
  the rest; ROOT only at the top node.
* **Block layer** (`BlockParams`, `chunkCVOf`, `chunkRootOf`, `BlockParams.toParams`).  A chunk is
  processed in 64-byte blocks over an abstract block compression; only the last block (which may be
  short, and is empty only for the empty input) is finalised with CHUNK_END (and ROOT).
* **Real instance** (`realBlockParams`, `realParams`, `hashSpecReal`): the parameters instantiated
  with `Blake3.compress` (re-used, not copied) — evaluated against the official test vectors and
  against `Blake3.hash` in `Props/C14blake3*.lean`.

All recursive functions are structurally recursive on a fuel argument that the public wrappers set
to the input length; the recursion equations of the paper are THEOREMS
(`treeNode_eq`, `splitChunks_eq`, `leftLen_eq`, …), proved once here, and the fuel never appears again.
-/
namespace Dud.Blake3Spec

/-! ## Tree layer -/

structure Params (CV Digest : Type) where
  /-- chaining value of a complete, non-root chunk with chunk counter `counter` -/
  chunkCV : (chunkBytes : Bytes) → (counter : Nat) → CV
  /-- output of a chunk that is the root (the whole input is at most 1024 bytes) -/
  chunkRoot : (chunkBytes : Bytes) → (counter : Nat) → Digest
  /-- chaining value of a non-root parent node -/
  parentCV : CV → CV → CV
  /-- output of the root parent node -/
  parentRoot : CV → CV → Digest

/-- A node whose compression has not been performed yet (the reference implementation's `Output`):
whether it is compressed to a chaining value or, with the ROOT flag, to the digest is decided by
whoever consumes it. -/
inductive Node (CV : Type) where
  | chunk (bytes : Bytes) (counter : Nat)
  | parent (l r : CV)

variable {CV Digest : Type}

def Node.cv (P : Params CV Digest) : Node CV → CV
  | .chunk b c => P.chunkCV b c
  | .parent l r => P.parentCV l r

def Node.root (P : Params CV Digest) : Node CV → Digest
  | .chunk b c => P.chunkRoot b c
  | .parent l r => P.parentRoot l r

/-- `leftLenFrom fuel p n`: double `p` while `2 * p < n` (the `while` loop of `Blake3.leftLen`). -/
def leftLenFrom : Nat → Nat → Nat → Nat
  | 0, p, _ => p
  | fuel + 1, p, n => if 2 * p < n then leftLenFrom fuel (2 * p) n else p

/-- The largest power of two strictly below `n` (for `n ≥ 2`): the number of chunks of the left
subtree (theorem `leftLen_eq`). -/
def leftLen (n : Nat) : Nat := leftLenFrom n 1 n

/-- The tree over the chunks `cs`, the first of which has chunk counter `c0`; `fuel + 1` must be at
least the number of chunks. -/
def treeNodeF (P : Params CV Digest) : Nat → Nat → List Bytes → Node CV
  | 0, c0, cs => .chunk (cs.headD []) c0
  | fuel + 1, c0, cs =>
    if cs.length ≤ 1 then .chunk (cs.headD []) c0
    else
      .parent ((treeNodeF P fuel c0 (cs.take (leftLen cs.length))).cv P)
        ((treeNodeF P fuel (c0 + leftLen cs.length) (cs.drop (leftLen cs.length))).cv P)

/-- The (uncompressed) top node of the tree over the chunks `cs` with counters `c0, c0+1, …`.
Recursion equation: `treeNode_eq`. -/
def treeNode (P : Params CV Digest) (c0 : Nat) (cs : List Bytes) : Node CV :=
  treeNodeF P cs.length c0 cs

def treeCV (P : Params CV Digest) (c0 : Nat) (cs : List Bytes) : CV := (treeNode P c0 cs).cv P

/-- Digest of the whole tree over the chunks `cs` (counters from 0, ROOT at the top node only). -/
def treeHash (P : Params CV Digest) (cs : List Bytes) : Digest := (treeNode P 0 cs).root P

/-- Cut the input into 1024-byte chunks; `fuel` must be at least the input length. -/
def splitChunksF : Nat → Bytes → List Bytes
  | 0, xs => [xs]
  | fuel + 1, xs =>
    if xs.length ≤ 1024 then [xs] else xs.take 1024 :: splitChunksF fuel (xs.drop 1024)

/-- The chunks of an input: all but the last have 1024 bytes, the last has 1..1024 bytes, except
that the empty input is one empty chunk.  Recursion equation: `splitChunks_eq`. -/
def splitChunks (xs : Bytes) : List Bytes := splitChunksF xs.length xs

/-- **The specification**: BLAKE3 of `input` over the abstract compression interface `P`. -/
def hashSpec (P : Params CV Digest) (input : Bytes) : Digest := treeHash P (splitChunks input)

theorem le_leftLenFrom (fuel p n : Nat) : p ≤ leftLenFrom fuel p n := by
  induction fuel generalizing p with
  | zero => simp [leftLenFrom]
  | succ fuel ih =>
    simp only [leftLenFrom]
    split
    · have := ih (2 * p); omega
    · omega

theorem leftLenFrom_lt (fuel p n : Nat) (h : p < n) : leftLenFrom fuel p n < n := by
  induction fuel generalizing p with
  | zero => simpa [leftLenFrom] using h
  | succ fuel ih =>
    simp only [leftLenFrom]
    split
    · exact ih (2 * p) (by assumption)
    · exact h

theorem leftLen_pos (n : Nat) : 0 < leftLen n := by
  have := le_leftLenFrom n 1 n
  unfold leftLen; omega

theorem leftLen_lt {n : Nat} (h : 2 ≤ n) : leftLen n < n :=
  leftLenFrom_lt n 1 n (by omega)

theorem leftLenFrom_pow {n k : Nat} (hlo : 2 ^ k < n) (hhi : n ≤ 2 ^ (k + 1)) :
    ∀ (fuel i : Nat), i ≤ k → k - i ≤ fuel → leftLenFrom fuel (2 ^ i) n = 2 ^ k := by
  intro fuel
  induction fuel with
  | zero =>
    intro i hi hf
    have : i = k := by omega
    subst this; rfl
  | succ fuel ih =>
    intro i hi hf
    simp only [leftLenFrom]
    split
    · rename_i h2
      have hik : i < k := by
        rcases Nat.lt_or_ge i k with h | h
        · exact h
        · have : i = k := by omega
          subst this
          rw [Nat.pow_succ] at hhi; omega
      have := ih (i + 1) hik (by omega)
      rw [Nat.pow_succ, Nat.mul_comm] at this
      exact this
    · rename_i h2
      rcases Nat.lt_or_ge i k with h | h
      · have hle : 2 ^ (i + 1) ≤ 2 ^ k := Nat.pow_le_pow_right (by decide) h
        rw [Nat.pow_succ] at hle; omega
      · have : i = k := by omega
        subst this; rfl

/-- `leftLen n` IS the largest power of two strictly below `n`: if `2^k < n ≤ 2^(k+1)` then
`leftLen n = 2^k`. -/
theorem leftLen_eq {n k : Nat} (hlo : 2 ^ k < n) (hhi : n ≤ 2 ^ (k + 1)) : leftLen n = 2 ^ k := by
  have hk : k < 2 ^ k := Nat.lt_two_pow_self
  exact leftLenFrom_pow hlo hhi n 0 (Nat.zero_le _) (by omega)

theorem exists_pow_interval : ∀ (n : Nat), 2 ≤ n → ∃ k, 2 ^ k < n ∧ n ≤ 2 ^ (k + 1) := by
  intro n
  induction n using Nat.strongRecOn with
  | _ n ih =>
    intro hn
    rcases Nat.lt_or_ge n 3 with h3 | h3
    · exact ⟨0, by omega, by omega⟩
    · -- m = ⌈n/2⌉ ≥ 2
      obtain ⟨k, hlo, hhi⟩ := ih ((n + 1) / 2) (by omega) (by omega)
      refine ⟨k + 1, ?_, ?_⟩
      · rw [Nat.pow_succ]; omega
      · rw [Nat.pow_succ]; omega

/-- `leftLen n` is a power of two, strictly below `n`, and at least half of `n`. -/
theorem leftLen_spec {n : Nat} (h : 2 ≤ n) :
    ∃ k, leftLen n = 2 ^ k ∧ leftLen n < n ∧ n ≤ 2 * leftLen n := by
  obtain ⟨k, hlo, hhi⟩ := exists_pow_interval n h
  refine ⟨k, leftLen_eq hlo hhi, ?_, ?_⟩
  · rw [leftLen_eq hlo hhi]; exact hlo
  · rw [leftLen_eq hlo hhi]; rw [Nat.pow_succ] at hhi; omega

theorem treeNodeF_fuel (P : Params CV Digest) :
    ∀ (f1 f2 c0 : Nat) (cs : List Bytes), cs.length ≤ f1 + 1 → cs.length ≤ f2 + 1 →
      treeNodeF P f1 c0 cs = treeNodeF P f2 c0 cs := by
  intro f1
  induction f1 with
  | zero =>
    intro f2 c0 cs h1 _
    cases f2 with
    | zero => rfl
    | succ f2 => simp only [treeNodeF, h1, if_true]
  | succ f1 ih =>
    intro f2 c0 cs h1 h2
    by_cases hl : cs.length ≤ 1
    · cases f2 with
      | zero => simp only [treeNodeF, hl, if_true]
      | succ f2 => simp only [treeNodeF, hl, if_true]
    · cases f2 with
      | zero => omega
      | succ f2 =>
        have hlt := leftLen_lt (n := cs.length) (by omega)
        have hpos := leftLen_pos cs.length
        simp only [treeNodeF, hl, if_false]
        rw [ih f2 c0 (cs.take (leftLen cs.length))
              (by simp only [List.length_take]; omega) (by simp only [List.length_take]; omega),
            ih f2 (c0 + leftLen cs.length) (cs.drop (leftLen cs.length))
              (by simp only [List.length_drop]; omega) (by simp only [List.length_drop]; omega)]

/-- **Recursion equation of the paper.**  One chunk (or, degenerately, none) is a chunk node; `n ≥ 2`
chunks are the parent of the subtree over the first `leftLen n` chunks and the subtree over the
rest (whose counters continue after the left part). -/
theorem treeNode_eq (P : Params CV Digest) (c0 : Nat) (cs : List Bytes) :
    treeNode P c0 cs =
      if cs.length ≤ 1 then .chunk (cs.headD []) c0
      else .parent (treeCV P c0 (cs.take (leftLen cs.length)))
            (treeCV P (c0 + leftLen cs.length) (cs.drop (leftLen cs.length))) := by
  unfold treeCV treeNode
  cases hlen : cs.length with
  | zero => simp [treeNodeF]
  | succ f =>
    by_cases hl : f + 1 ≤ 1
    · simp only [treeNodeF, hlen, hl, if_true]
    · have hlt := leftLen_lt (n := f + 1) (by omega)
      have hpos := leftLen_pos (f + 1)
      simp only [treeNodeF, hlen, hl, if_false]
      rw [treeNodeF_fuel P f (cs.take (leftLen (f + 1))).length c0 _
            (by simp only [List.length_take]; omega) (by omega),
          treeNodeF_fuel P f (cs.drop (leftLen (f + 1))).length _ _
            (by simp only [List.length_drop]; omega) (by omega)]

theorem treeNode_one (P : Params CV Digest) (c0 : Nat) (c : Bytes) :
    treeNode P c0 [c] = .chunk c c0 := by
  rw [treeNode_eq]; simp

theorem treeCV_one (P : Params CV Digest) (c0 : Nat) (c : Bytes) :
    treeCV P c0 [c] = P.chunkCV c c0 := by
  unfold treeCV; rw [treeNode_one]; rfl

theorem treeHash_one (P : Params CV Digest) (c : Bytes) : treeHash P [c] = P.chunkRoot c 0 := by
  unfold treeHash; rw [treeNode_one]; rfl

theorem treeNode_append (P : Params CV Digest) (c0 : Nat) {k : Nat} {l r : List Bytes}
    (hl : l.length = 2 ^ k) (hr1 : 1 ≤ r.length) (hr2 : r.length ≤ 2 ^ k) :
    treeNode P c0 (l ++ r) = .parent (treeCV P c0 l) (treeCV P (c0 + 2 ^ k) r) := by
  have hpos : 0 < 2 ^ k := Nat.two_pow_pos k
  have hlen : (l ++ r).length = 2 ^ k + r.length := by rw [List.length_append, hl]
  have hll : leftLen (l ++ r).length = 2 ^ k := by
    rw [hlen]; apply leftLen_eq
    · omega
    · rw [Nat.pow_succ]; omega
  rw [treeNode_eq, hll]
  have h2 : ¬ (l ++ r).length ≤ 1 := by omega
  simp only [h2, if_false]
  rw [← hl, List.take_left, List.drop_left]

theorem treeCV_split (P : Params CV Digest) (c0 : Nat) (cs : List Bytes) (h : 2 ≤ cs.length) :
    treeCV P c0 cs = P.parentCV (treeCV P c0 (cs.take (leftLen cs.length)))
      (treeCV P (c0 + leftLen cs.length) (cs.drop (leftLen cs.length))) := by
  have h2 : ¬ cs.length ≤ 1 := by omega
  conv => lhs; unfold treeCV; rw [treeNode_eq]
  simp only [h2, if_false, Node.cv]

theorem treeHash_split (P : Params CV Digest) (cs : List Bytes) (h : 2 ≤ cs.length) :
    treeHash P cs = P.parentRoot (treeCV P 0 (cs.take (leftLen cs.length)))
      (treeCV P (leftLen cs.length) (cs.drop (leftLen cs.length))) := by
  have h2 : ¬ cs.length ≤ 1 := by omega
  conv => lhs; unfold treeHash; rw [treeNode_eq]
  simp only [h2, if_false, Node.root, Nat.zero_add]

theorem splitChunksF_fuel :
    ∀ (f1 f2 : Nat) (xs : Bytes), xs.length ≤ f1 → xs.length ≤ f2 →
      splitChunksF f1 xs = splitChunksF f2 xs := by
  intro f1
  induction f1 with
  | zero =>
    intro f2 xs h1 _
    cases f2 with
    | zero => rfl
    | succ f2 =>
      have : xs.length ≤ 1024 := by omega
      simp only [splitChunksF, this, if_true]
  | succ f1 ih =>
    intro f2 xs h1 h2
    by_cases hl : xs.length ≤ 1024
    · cases f2 with
      | zero => simp only [splitChunksF, hl, if_true]
      | succ f2 => simp only [splitChunksF, hl, if_true]
    · cases f2 with
      | zero => omega
      | succ f2 =>
        simp only [splitChunksF, hl, if_false]
        rw [ih f2 (xs.drop 1024) (by simp only [List.length_drop]; omega)
              (by simp only [List.length_drop]; omega)]

theorem splitChunks_eq (xs : Bytes) :
    splitChunks xs =
      if xs.length ≤ 1024 then [xs] else xs.take 1024 :: splitChunks (xs.drop 1024) := by
  unfold splitChunks
  cases hlen : xs.length with
  | zero => simp [splitChunksF]
  | succ f =>
    by_cases hl : f + 1 ≤ 1024
    · simp only [splitChunksF, hlen, hl, if_true]
    · simp only [splitChunksF, hlen, hl, if_false]
      rw [splitChunksF_fuel f (xs.drop 1024).length _
            (by simp only [List.length_drop]; omega) (Nat.le_refl _)]

/-- The chunks concatenate to the input. -/
theorem splitChunks_flatten : ∀ (n : Nat) (xs : Bytes), xs.length ≤ n →
    (splitChunks xs).flatten = xs := by
  intro n
  induction n with
  | zero =>
    intro xs h
    rw [splitChunks_eq]; simp only [show xs.length ≤ 1024 by omega, if_true]; simp
  | succ n ih =>
    intro xs h
    rw [splitChunks_eq]
    split
    · simp
    · rw [List.flatten_cons, ih (xs.drop 1024) (by simp only [List.length_drop]; omega),
        List.take_append_drop]

theorem splitChunks_append (done : List Bytes) (cur : Bytes)
    (hfull : ∀ c ∈ done, c.length = 1024) (hcur : cur.length ≤ 1024)
    (hne : done ≠ [] → cur ≠ []) :
    splitChunks (done.flatten ++ cur) = done ++ [cur] := by
  induction done with
  | nil =>
    rw [splitChunks_eq]
    simp only [List.flatten_nil, List.nil_append, hcur, if_true]
  | cons c rest ih =>
    have hc : c.length = 1024 := hfull c (List.mem_cons_self ..)
    have hcurpos : 0 < cur.length := by
      have := hne (by simp)
      exact List.length_pos_iff.mpr this
    rw [splitChunks_eq]
    have hlen : ¬ ((c :: rest).flatten ++ cur).length ≤ 1024 := by
      simp only [List.flatten_cons, List.length_append, hc]; omega
    simp only [hlen, if_false]
    have hflat : (c :: rest).flatten ++ cur = c ++ (rest.flatten ++ cur) := by
      simp only [List.flatten_cons, List.append_assoc]
    rw [hflat, ← hc, List.take_left, List.drop_left,
      ih (fun x hx => hfull x (List.mem_cons_of_mem _ hx)) (fun _ => hne (by simp))]
    rfl

/-! ## Block layer: a chunk is a chain of 64-byte block compressions -/

/-- The abstract compression interface of the block layer.  The `Bool` is the CHUNK_START flag (the
block is the first of its chunk); `Nat` is the chunk counter. -/
structure BlockParams (CV Digest : Type) where
  /-- initial chaining value of every chunk (the key words) -/
  iv : CV
  /-- a full 64-byte block that is NOT the last of its chunk -/
  compressBlock : CV → (block : Bytes) → (counter : Nat) → (start : Bool) → CV
  /-- the last block of a non-root chunk (0..64 bytes, CHUNK_END) -/
  finalCV : CV → (block : Bytes) → (counter : Nat) → (start : Bool) → CV
  /-- the last block of the root chunk (CHUNK_END and ROOT) -/
  finalRoot : CV → (block : Bytes) → (counter : Nat) → (start : Bool) → Digest
  parentCV : CV → CV → CV
  parentRoot : CV → CV → Digest

/-- What is left of a chunk when all blocks but the last have been compressed: the chaining value,
whether the last block is also the first, and the last block itself. -/
structure ChunkTail (CV : Type) where
  cv : CV
  start : Bool
  last : Bytes

/-- One-shot, blockwise processing of a chunk: compress 64-byte blocks while MORE than 64 bytes
remain.  `fuel` must be at least the number of bytes. -/
def chunkTailF (B : BlockParams CV Digest) (ctr : Nat) : Nat → CV → Bool → Bytes → ChunkTail CV
  | 0, cv, start, bs => ⟨cv, start, bs⟩
  | fuel + 1, cv, start, bs =>
    if bs.length ≤ 64 then ⟨cv, start, bs⟩
    else chunkTailF B ctr fuel (B.compressBlock cv (bs.take 64) ctr start) false (bs.drop 64)

def chunkTail (B : BlockParams CV Digest) (ctr : Nat) (bs : Bytes) : ChunkTail CV :=
  chunkTailF B ctr bs.length B.iv true bs

/-- chaining value of a chunk, computed blockwise -/
def chunkCVOf (B : BlockParams CV Digest) (bs : Bytes) (ctr : Nat) : CV :=
  let t := chunkTail B ctr bs
  B.finalCV t.cv t.last ctr t.start

/-- root output of a chunk, computed blockwise -/
def chunkRootOf (B : BlockParams CV Digest) (bs : Bytes) (ctr : Nat) : Digest :=
  let t := chunkTail B ctr bs
  B.finalRoot t.cv t.last ctr t.start

def BlockParams.toParams (B : BlockParams CV Digest) : Params CV Digest where
  chunkCV := chunkCVOf B
  chunkRoot := chunkRootOf B
  parentCV := B.parentCV
  parentRoot := B.parentRoot

theorem chunkTailF_fuel (B : BlockParams CV Digest) (ctr : Nat) :
    ∀ (f1 f2 : Nat) (cv : CV) (start : Bool) (bs : Bytes), bs.length ≤ f1 → bs.length ≤ f2 →
      chunkTailF B ctr f1 cv start bs = chunkTailF B ctr f2 cv start bs := by
  intro f1
  induction f1 with
  | zero =>
    intro f2 cv start bs h1 _
    cases f2 with
    | zero => rfl
    | succ f2 =>
      have : bs.length ≤ 64 := by omega
      simp only [chunkTailF, this, if_true]
  | succ f1 ih =>
    intro f2 cv start bs h1 h2
    by_cases hl : bs.length ≤ 64
    · cases f2 with
      | zero => simp only [chunkTailF, hl, if_true]
      | succ f2 => simp only [chunkTailF, hl, if_true]
    · cases f2 with
      | zero => omega
      | succ f2 =>
        simp only [chunkTailF, hl, if_false]
        rw [ih f2 _ _ (bs.drop 64) (by simp only [List.length_drop]; omega)
              (by simp only [List.length_drop]; omega)]

theorem chunkTailF_eq (B : BlockParams CV Digest) (ctr : Nat) (cv : CV) (start : Bool) (bs : Bytes) :
    chunkTailF B ctr bs.length cv start bs =
      if bs.length ≤ 64 then ⟨cv, start, bs⟩
      else chunkTailF B ctr (bs.drop 64).length
            (B.compressBlock cv (bs.take 64) ctr start) false (bs.drop 64) := by
  cases hlen : bs.length with
  | zero => simp [chunkTailF]
  | succ f =>
    by_cases hl : f + 1 ≤ 64
    · simp only [chunkTailF, hlen, hl, if_true]
    · simp only [chunkTailF, hlen, hl, if_false]
      rw [chunkTailF_fuel B ctr f (bs.drop 64).length _ _ _
            (by simp only [List.length_drop]; omega) (Nat.le_refl _)]

theorem chunkTailF_blocks (B : BlockParams CV Digest) (ctr : Nat) (blocks : List Bytes) (last : Bytes)
    (hfull : ∀ b ∈ blocks, b.length = 64) (hlast : last.length ≤ 64) (hne : blocks ≠ [] → last ≠ [])
    (cv : CV) (start : Bool) :
    chunkTailF B ctr (blocks.flatten ++ last).length cv start (blocks.flatten ++ last) =
      ⟨(blocks.foldl (fun p b => (B.compressBlock p.1 b ctr p.2, false)) (cv, start)).1,
        (blocks.foldl (fun p b => (B.compressBlock p.1 b ctr p.2, false)) (cv, start)).2, last⟩ := by
  induction blocks generalizing cv start with
  | nil =>
    rw [chunkTailF_eq]
    simp only [List.flatten_nil, List.nil_append, hlast, if_true, List.foldl_nil]
  | cons b rest ih =>
    have hb : b.length = 64 := hfull b (List.mem_cons_self ..)
    have hpos : 0 < last.length := List.length_pos_iff.mpr (hne (by simp))
    have hflat : (b :: rest).flatten ++ last = b ++ (rest.flatten ++ last) := by
      simp only [List.flatten_cons, List.append_assoc]
    have hlen : ¬ (b ++ (rest.flatten ++ last)).length ≤ 64 := by
      simp only [List.length_append, hb]; omega
    rw [chunkTailF_eq, hflat, if_neg hlen, ← hb, List.take_left, List.drop_left,
      ih (fun x hx => hfull x (List.mem_cons_of_mem _ hx)) (fun _ => hne (by simp))]
    rfl

/-! ## The real compression function -/

open Blake3 in
/-- The 16 little-endian message words of a block of at most 64 bytes, zero padded. -/
def wordsOfBytes (bs : Bytes) : Array UInt32 :=
  (Array.range 16).map fun w =>
    let byte (k : Nat) : UInt32 := (bs.getD (4 * w + k) 0).toUInt32
    byte 0 ||| (byte 1 <<< 8) ||| (byte 2 <<< 16) ||| (byte 3 <<< 24)

/-- The first 32 output bytes: words 0..7, little endian. -/
def bytesOfWords (w : Array UInt32) : Bytes :=
  (List.range 8).flatMap fun (i : Nat) =>
    let x := w[i]!
    [x.toUInt8, (x >>> 8).toUInt8, (x >>> 16).toUInt8, (x >>> 24).toUInt8]

def startFlag (start : Bool) : UInt32 := if start then Blake3.CHUNK_START else 0

/-- Block-layer parameters of unkeyed BLAKE3 over `Blake3.compress`. -/
def realBlockParams : BlockParams (Array UInt32) Bytes where
  iv := Blake3.IV
  compressBlock := fun cv block ctr start =>
    (Blake3.compress cv (wordsOfBytes block) ctr.toUInt64 64 (startFlag start)).extract 0 8
  finalCV := fun cv block ctr start =>
    (Blake3.compress cv (wordsOfBytes block) ctr.toUInt64 block.length.toUInt32
      (startFlag start ||| Blake3.CHUNK_END)).extract 0 8
  finalRoot := fun cv block _ctr start =>
    bytesOfWords (Blake3.compress cv (wordsOfBytes block) 0 block.length.toUInt32
      (startFlag start ||| Blake3.CHUNK_END ||| Blake3.ROOT))
  parentCV := fun l r => (Blake3.compress Blake3.IV (l ++ r) 0 64 Blake3.PARENT).extract 0 8
  parentRoot := fun l r =>
    bytesOfWords (Blake3.compress Blake3.IV (l ++ r) 0 64 (Blake3.PARENT ||| Blake3.ROOT))

def realParams : Params (Array UInt32) Bytes := realBlockParams.toParams

/-- BLAKE3 (32-byte digest) of a byte list: the specification instantiated with the real
compression function. -/
def hashSpecReal (input : Bytes) : Bytes := hashSpec realParams input

def hexDigitL (n : UInt8) : Char :=
  if n < 10 then Char.ofNat (48 + n.toNat) else Char.ofNat (87 + n.toNat)

/-- lower-case hex of a byte list -/
def toHex (b : Bytes) : String :=
  String.ofList (b.flatMap fun (x : UInt8) => [hexDigitL (x >>> 4), hexDigitL (x &&& 15)])

/-- The input of the official test vectors: the bytes 0,1,…,250 repeated. -/
def testInput (n : Nat) : Bytes := (List.range n).map fun i => (i % 251).toUInt8

end Dud.Blake3Spec
